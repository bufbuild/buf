/-
  BufModel.Format — model for property C07 (formatting preserves meaning and comments, idempotent).

  The 2.4k-line AST printer (private/buf/bufformat/formatter.go) is NOT modelled.  What is modelled:

  (i)   the proto LEXER (protocompile parser/lexer.go: identifiers, numeric literals with the
        exponent-sign rule, string literals with escapes kept as raw text, single-rune symbols,
        `//` and `/* */` comments, whitespace), `sig` = significant tokens, `comments`;
  (ii)  the token-level rewrites the formatter performs on significant tokens (enumerated from
        formatter.go): empty statements dropped (writeNode EmptyDeclNode / writeFileTypes), message
        literal `<`…`>` printed as `{`…`}` (messageLiteralOpen/Close), the optional `,`/`;` after a
        message-literal field dropped (writeMessageLiteralElements), a missing `:` after a
        message-literal field name added (writeMessageFieldPrefix) — as roles assigned by a bracket
        context automaton (`annotate`) and an explicit inductive relation `Rewrites`.  All other
        tokens are printed with their raw text (writeRaw / identNode.Val): no literal is respelled;
  (ii') protocompile's COMMENT ATTRIBUTION (lexer.setPrevAndAddComments): every comment belongs to
        one significant token (or to EOF) as a leading or trailing comment: `decorate`.  The
        rewrites of (ii) on decorated tokens: `normD` (the trailing comment of a dropped separator
        moves to the token before it, or — when that token has a trailing comment already — in
        front of the token after it; a dropped token must not carry any other comment);
  (iii) file-level statements (`stmts`), their five classes and the header canonicalisation as
        coded in writeFileHeader: syntax/edition, package, imports, options, rest; imports sorted
        by (decoded file name, plain > public > weak, commented first) and an import elided when
        it follows an import of the same file and carries no comment on any of its tokens;
        options sorted built-ins
        before custom, then by printed name.  After the fix (sort.SliceStable) the sort is THE
        stable sort (`isort`); before the fix (sort.Slice) it was any sorted permutation
        (`SortedPermOf`).  `fmtModel` = (ii') ; (iii) on a whole decorated stream;
  (iv)  the executable checker `validFormat inp out` — a relation between the two texts
        (`validFormatFile`: the same on file contents, i.e. behind newLexer's discarding of a
        leading UTF-8 byte order mark);
  (v)   the normal form `isFormatted` (token level: nothing left to rewrite, header canonical;
        layout level: white space between tokens is one space or newline(s) + indentation).
-/
namespace BufModel.Format

abbrev Str := List Char

/-! ## (i) Lexer -/

inductive Kind
  | ident | num | str | sym | lineComment | blockComment | ws
  | bad      -- unterminated string / block comment (protocompile reports an error)
  | fuel     -- never produced when the fuel is the input length (theorem lexer_total)
  deriving DecidableEq, Repr

structure Token where
  kind : Kind
  text : Str
  deriving DecidableEq, Repr

def isWs (c : Char) : Bool := c = ' ' || c = '\t' || c = '\n' || c = '\r' || c = '\x0c' || c = '\x0b'
def isDigit (c : Char) : Bool := '0' ≤ c && c ≤ '9'
def isLetter (c : Char) : Bool := ('a' ≤ c && c ≤ 'z') || ('A' ≤ c && c ≤ 'Z') || c = '_'
def isIdentChar (c : Char) : Bool := isLetter c || isDigit c

/-- longest prefix satisfying `p`, and the rest -/
def spanP (p : Char → Bool) : Str → Str × Str
  | [] => ([], [])
  | c :: cs => if p c then let r := spanP p cs; (c :: r.1, r.2) else ([], c :: cs)

/-- protocompile readNumber: letters, digits, '.', '_' continue the token; '+'/'-' only right after
    'e'/'E'.  `sign` = a sign is allowed next. -/
def scanNum : Bool → Str → Str × Str
  | _, [] => ([], [])
  | sign, c :: cs =>
    if (c = '-' || c = '+') && !sign then ([], c :: cs)
    else if c = '.' || c = '_' || isIdentChar c || c = '-' || c = '+' then
      let r := scanNum (c = 'e' || c = 'E') cs; (c :: r.1, r.2)
    else ([], c :: cs)

/-- body of a string literal up to and including the closing quote `q`; a backslash takes the
    next character with it (`esc`); stops (unterminated, `false`) at an unescaped newline or at
    the end of input. -/
def scanStr (q : Char) : Bool → Str → (Str × Str) × Bool
  | _, [] => (([], []), false)
  | esc, c :: cs =>
    if esc then let r := scanStr q false cs; ((c :: r.1.1, r.1.2), r.2)
    else if c = q then (([c], cs), true)
    else if c = '\n' then (([], c :: cs), false)
    else let r := scanStr q (c = '\\') cs; ((c :: r.1.1, r.1.2), r.2)

/-- rest of a block comment up to and including "*/" (`true`), or everything (`false`);
    `star` = the previous character was '*'. -/
def scanBlock : Bool → Str → (Str × Str) × Bool
  | _, [] => (([], []), false)
  | star, c :: cs =>
    if star && c = '/' then (([c], cs), true)
    else let r := scanBlock (c = '*') cs; ((c :: r.1.1, r.1.2), r.2)

/-- One lexer step on a non-empty input `c :: cs`: the token (whose text starts with `c`) and the
    remaining input. -/
def step (c : Char) (cs : Str) : Token × Str :=
  if isWs c then let r := spanP isWs cs; (⟨.ws, c :: r.1⟩, r.2)
  else if isLetter c then let r := spanP isIdentChar cs; (⟨.ident, c :: r.1⟩, r.2)
  else if isDigit c then let r := scanNum false cs; (⟨.num, c :: r.1⟩, r.2)
  else if c = '.' then
    match cs with
    | d :: _ => if isDigit d then let r := scanNum false cs; (⟨.num, c :: r.1⟩, r.2) else (⟨.sym, [c]⟩, cs)
    | [] => (⟨.sym, [c]⟩, cs)
  else if c = '"' || c = '\'' then
    let r := scanStr c false cs; (⟨if r.2 then .str else .bad, c :: r.1.1⟩, r.1.2)
  else if c = '/' then
    match cs with
    | '/' :: ds => let r := spanP (fun x => x ≠ '\n') ds; (⟨.lineComment, c :: '/' :: r.1⟩, r.2)
    | '*' :: ds => let r := scanBlock false ds; (⟨if r.2 then .blockComment else .bad, c :: '*' :: r.1.1⟩, r.1.2)
    | _ => (⟨.sym, [c]⟩, cs)
  else (⟨.sym, [c]⟩, cs)

def lexAux : Nat → Str → List Token
  | _, [] => []
  | 0, s => [⟨.fuel, s⟩]
  | n + 1, c :: cs => (step c cs).1 :: lexAux n (step c cs).2

/-- The lexer: total, fuel = length of the input. -/
def lex (s : Str) : List Token := lexAux s.length s

def Token.isSig (t : Token) : Bool :=
  match t.kind with
  | .ws | .lineComment | .blockComment => false
  | _ => true

def Token.isComment (t : Token) : Bool :=
  match t.kind with
  | .lineComment | .blockComment => true
  | _ => false

/-- significant tokens: everything but whitespace and comments -/
def sig (ts : List Token) : List Token := ts.filter Token.isSig
def comments (ts : List Token) : List Token := ts.filter Token.isComment

def sym (s : String) : Token := ⟨.sym, s.toList⟩
def Token.is (t : Token) (s : String) : Bool := t.text = s.toList

/-! ## (ii) Token rewrites: roles assigned by a bracket-context automaton -/

inductive Role
  | keep
  | dropEmpty      -- `;` that is an empty statement
  | dropSep        -- optional `,` / `;` after a message-literal field
  | toOpenBrace    -- `<` opening a message literal, printed `{`
  | toCloseBrace   -- `>` closing a message literal, printed `}`
  | colonAfter     -- last token of a message-literal field name not followed by `:`; `:` is added
  deriving DecidableEq, Repr

inductive Frame
  | body                      -- `{ }` of a declaration
  | lit (angle : Bool) (inValue : Bool)   -- message literal; inValue = after a field name
  | litName                   -- `[ext.name]` / `[type.url/name]` in field-name position
  | arr                       -- `[ ]` list value inside a message literal
  | bracket                   -- `[ ]` compact options
  | paren
  deriving DecidableEq, Repr

structure AState where
  stack : List Frame := []
  stmtStart : Bool := true    -- at the start of a statement of the enclosing body / file
  prevEq : Bool := false      -- previous significant token was `=`
  deriving Repr

/-- after a value of the enclosing message literal ended -/
def valueDone : List Frame → List Frame
  | .lit a _ :: rest => .lit a false :: rest
  | st => st

def nextIsColon : List Token → Bool
  | t :: _ => t.is ":"
  | [] => false

/-- One automaton step: the role of token `t` (given the tokens after it) and the next state. -/
def roleOf (st : AState) (t : Token) (rest : List Token) : Role × AState :=
  match st.stack with
  | .lit angle inValue :: up =>
    if !inValue then
      if t.is "," || t.is ";" then (.dropSep, st)
      else if t.is "}" || t.is ">" then
        (if t.is ">" && angle then .toCloseBrace else .keep,
         { st with stack := valueDone up, stmtStart := false, prevEq := false })
      else if t.is "[" then (.keep, { st with stack := .litName :: st.stack })
      else if t.kind = .ident then
        (if nextIsColon rest then .keep else .colonAfter, { st with stack := .lit angle true :: up })
      else (.keep, st)
    else
      if t.is ":" || t.is "-" then (.keep, st)
      else if t.is "{" then (.keep, { st with stack := .lit false false :: st.stack })
      else if t.is "<" then (.toOpenBrace, { st with stack := .lit true false :: st.stack })
      else if t.is "[" then (.keep, { st with stack := .arr :: st.stack })
      else (.keep, { st with stack := .lit angle false :: up })
  | .litName :: up =>
    if t.is "]" then
      (if nextIsColon rest then .keep else .colonAfter,
       { st with stack := match up with | .lit a _ :: r => .lit a true :: r | u => u })
    else (.keep, st)
  | .arr :: up =>
    if t.is "{" then (.keep, { st with stack := .lit false false :: st.stack })
    else if t.is "<" then (.toOpenBrace, { st with stack := .lit true false :: st.stack })
    else if t.is "]" then (.keep, { st with stack := valueDone up })
    else (.keep, st)
  | .paren :: up =>
    if t.is ")" then (.keep, { st with stack := up }) else (.keep, st)
  | .bracket :: up =>
    if t.is "]" then (.keep, { st with stack := up, prevEq := false })
    else if t.is "=" then (.keep, { st with prevEq := true })
    else if t.is "{" && st.prevEq then (.keep, { st with stack := .lit false false :: st.stack, prevEq := false })
    else if t.is "(" then (.keep, { st with stack := .paren :: st.stack, prevEq := false })
    else (.keep, { st with prevEq := false })
  | _ =>  -- file level or a declaration body
    if t.is ";" then
      (if st.stmtStart then .dropEmpty else .keep, { st with stmtStart := true, prevEq := false })
    else if t.is "{" then
      if st.prevEq then (.keep, { st with stack := .lit false false :: st.stack, stmtStart := false, prevEq := false })
      else (.keep, { st with stack := .body :: st.stack, stmtStart := true, prevEq := false })
    else if t.is "}" then (.keep, { st with stack := st.stack.tail, stmtStart := true, prevEq := false })
    else if t.is "[" then (.keep, { st with stack := .bracket :: st.stack, stmtStart := false, prevEq := false })
    else if t.is "(" then (.keep, { st with stack := .paren :: st.stack, stmtStart := false, prevEq := false })
    else if t.is "=" then (.keep, { st with stmtStart := false, prevEq := true })
    else (.keep, { st with stmtStart := false, prevEq := false })

def annotateFrom : AState → List Token → List (Token × Role)
  | _, [] => []
  | st, t :: rest => let r := roleOf st t rest; (t, r.1) :: annotateFrom r.2 rest

/-- roles of the significant tokens of a file -/
def annotate (ts : List Token) : List (Token × Role) := annotateFrom {} ts

def normTok : Token × Role → List Token
  | (t, .keep) => [t]
  | (_, .dropEmpty) => []
  | (_, .dropSep) => []
  | (_, .toOpenBrace) => [sym "{"]
  | (_, .toCloseBrace) => [sym "}"]
  | (t, .colonAfter) => [t, sym ":"]

/-- the significant tokens after the body-level rewrites -/
def norm (ts : List Token) : List Token := (annotate ts).flatMap normTok

/-- the roles alone -/
def roles (ts : List Token) : List Role := (annotate ts).map (·.2)

/-- The documented body-level rewrites, as an explicit relation between role-annotated input
    tokens and output tokens. -/
inductive Rewrites : List (Token × Role) → List Token → Prop
  | nil : Rewrites [] []
  | keep (t) {l o} : Rewrites l o → Rewrites ((t, .keep) :: l) (t :: o)
  | dropEmpty (t) {l o} : t.is ";" → Rewrites l o → Rewrites ((t, .dropEmpty) :: l) o
  | dropSep (t) {l o} : (t.is "," ∨ t.is ";") → Rewrites l o → Rewrites ((t, .dropSep) :: l) o
  | openBrace (t) {l o} : t.is "<" → Rewrites l o → Rewrites ((t, .toOpenBrace) :: l) (sym "{" :: o)
  | closeBrace (t) {l o} : t.is ">" → Rewrites l o → Rewrites ((t, .toCloseBrace) :: l) (sym "}" :: o)
  | colonAfter (t) {l o} : Rewrites l o → Rewrites ((t, .colonAfter) :: l) (t :: sym ":" :: o)

/-! ## Significant tokens WITH their comments (protocompile lexer.setPrevAndAddComments)

  protocompile attributes every comment to exactly one significant token (or to the EOF token),
  as a LEADING or as a TRAILING comment.  `decorate` reproduces that attribution; the decorated
  stream is a loss-free re-presentation of (significant tokens, comments): theorems
  `decorate_toks`, `decorate_comments`. -/

/-- comment content up to the layout changes the formatter documents (`// x` ↔ `/* x */`,
    re-indentation of block comment lines): the words between the comment markers -/
def splitWords : Str → Str → List Str
  | [], cur => if cur.isEmpty then [] else [cur.reverse]
  | c :: cs, cur => if isWs c then (if cur.isEmpty then splitWords cs [] else cur.reverse :: splitWords cs []) else splitWords cs (c :: cur)

abbrev CKey := List Str

def commentKey (t : Token) : CKey :=
  let body := if t.kind = .lineComment then t.text.drop 2 else ((t.text.drop 2).reverse.drop 2).reverse
  splitWords body []

/-- a significant token with the comments attributed to it -/
structure DTok where
  tok : Token
  lead : List CKey := []
  trail : List CKey := []
  deriving DecidableEq, Repr

/-- the pseudo token protocompile appends at the end of the file; it owns the comments after the
    last real token.  (The lexer never produces a token with empty text: `lexer_total`.) -/
def eofTok : Token := ⟨.sym, []⟩

def newlines (s : Str) : Nat := (s.filter (· = '\n')).length

/-- a comment waiting for the next significant token -/
structure Pending where
  key : CKey
  start : Nat
  stop : Nat
  line : Bool

structure DState where
  prev : Option DTok := none    -- the last significant token; its trailing comment is not decided yet
  prevEnd : Nat := 0
  pend : List Pending := []
  line : Nat := 0

/-- does the first pending comment become THE trailing comment of the previous token?
    (as coded: at most one comment is donated) -/
def donates (hasPrev : Bool) (prevEnd : Nat) (pend : List Pending) (nStart : Nat) : Bool :=
  match hasPrev, pend with
  | true, c :: cs => nStart > prevEnd && c.start = prevEnd && (c.line || !cs.isEmpty || c.stop < nStart)
  | _, _ => false

/-- finish the previous token (0 or 1 tokens) and return the leading comments of the next one -/
def closePrev (st : DState) (nStart : Nat) : List DTok × List CKey :=
  match st.prev with
  | some p =>
    if donates true st.prevEnd st.pend nStart then
      ([{ p with trail := (st.pend.take 1).map (·.key) }], (st.pend.drop 1).map (·.key))
    else ([{ p with trail := [] }], st.pend.map (·.key))
  | none => ([], st.pend.map (·.key))

def decoAux : DState → List Token → List DTok
  | st, [] =>
    let nStart := if st.line = st.prevEnd then st.line + 1 else st.line   -- EOF pretends to be on its own line
    let r := closePrev st nStart
    r.1 ++ [{ tok := eofTok, lead := r.2 }]
  | st, t :: ts =>
    let nl := newlines t.text
    if t.kind = .ws then decoAux { st with line := st.line + nl } ts
    else if t.isComment then
      decoAux { st with pend := st.pend ++ [⟨commentKey t, st.line, st.line + nl, t.kind = .lineComment⟩], line := st.line + nl } ts
    else
      let r := closePrev st st.line
      r.1 ++ decoAux { prev := some { tok := t, lead := r.2 }, prevEnd := st.line + nl, pend := [], line := st.line + nl } ts

/-- significant tokens (plus the EOF token) with their comments -/
def decorate (ts : List Token) : List DTok := decoAux {} ts

def DTok.comments (d : DTok) : List CKey := d.lead ++ d.trail

/-- all comments of a decorated stream, in source order -/
def commentsOf (ds : List DTok) : List CKey := ds.flatMap DTok.comments

def toks (ds : List DTok) : List Token := ds.map (·.tok)

/-! ### body-level rewrites on decorated tokens -/

/-- the comments `cs` become the first leading comments of the next token (if there is one) -/
def giveLead (cs : List CKey) : List (DTok × Role) → Option (List (DTok × Role))
  | (n, r) :: rest => some (({ n with lead := cs ++ n.lead }, r) :: rest)
  | [] => none

/-- the trailing comment of a dropped message-literal separator moves to the token before it —
    the last token of the field value — when that token has no trailing comment of its own
    (formatter: writeMessageLiteralElements / setTrailingCommentsForValue); otherwise it is printed
    on its own line below the field and so leads the token after the separator
    (writeMessageLiteralElements: writeMultilineComments).  `x` = the token before the separator,
    the argument list starts with the separator. -/
def absorb (x : DTok × Role) : List (DTok × Role) → List (DTok × Role)
  | (s, .dropSep) :: rest =>
    if x.1.trail.isEmpty then
      ({ x.1 with trail := s.trail }, x.2) :: ({ s with trail := [] }, .dropSep) :: rest
    else
      match giveLead s.trail rest with
      | some rest' => x :: ({ s with trail := [] }, .dropSep) :: rest'
      | none => x :: (s, .dropSep) :: rest
  | acc => x :: acc

/-- the rule of the code BEFORE the repair (recorded finding
    `comment-dropped:trailing-comment-on-message-literal-separator-whose-value-has-one`): the
    separator's trailing comment was moved only to a value without a trailing comment, otherwise
    it was lost — `absorbOld` simply forgets it. -/
def absorbOld (x : DTok × Role) : List (DTok × Role) → List (DTok × Role)
  | (s, .dropSep) :: rest =>
    ({ x.1 with trail := if x.1.trail.isEmpty then s.trail else x.1.trail }, x.2) :: ({ s with trail := [] }, .dropSep) :: rest
  | acc => x :: acc

def moveSepTrail (l : List (DTok × Role)) : List (DTok × Role) := l.foldr absorb []

def normTokD : DTok × Role → List DTok
  | (d, .keep) => [d]
  | (_, .dropEmpty) => []
  | (_, .dropSep) => []
  | (d, .toOpenBrace) => [{ d with tok := sym "{" }]
  | (d, .toCloseBrace) => [{ d with tok := sym "}" }]
  | (d, .colonAfter) => [d, { tok := sym ":" }]   -- the comments of the name stay in front of the new `:`

/-- role-annotated decorated tokens, separator comments moved -/
def annotateD (ds : List DTok) : List (DTok × Role) := moveSepTrail (ds.zip (roles (toks ds)))

/-- a token that is dropped must not carry a comment (the formatter would lose it: recorded
    findings `comment-on-empty-statement`, `leading-comment-on-message-literal-separator`) -/
def dropsClean (l : List (DTok × Role)) : Bool :=
  l.all fun p => !(p.2 = .dropEmpty || p.2 = .dropSep) || (p.1.lead.isEmpty && p.1.trail.isEmpty)

/-- the decorated tokens after the body-level rewrites -/
def normD (ds : List DTok) : List DTok := (annotateD ds).flatMap normTokD

/-! ## (iii) File-level statements and header canonicalisation -/

def hexVal (c : Char) : Option Nat :=
  if '0' ≤ c ∧ c ≤ '9' then some (c.toNat - 48)
  else if 'a' ≤ c ∧ c ≤ 'f' then some (c.toNat - 87)
  else if 'A' ≤ c ∧ c ≤ 'F' then some (c.toNat - 55)
  else none

def utf8 (n : Nat) : List Nat :=
  if n < 0x80 then [n]
  else if n < 0x800 then [0xC0 + n / 64, 0x80 + n % 64]
  else if n < 0x10000 then [0xE0 + n / 4096, 0x80 + n / 64 % 64, 0x80 + n % 64]
  else [0xF0 + n / 262144, 0x80 + n / 4096 % 64, 0x80 + n / 64 % 64, 0x80 + n % 64]

def takeHex : Nat → Str → List Nat × Str
  | 0, s => ([], s)
  | _, [] => ([], [])
  | n + 1, c :: cs => match hexVal c with
    | some v => let r := takeHex n cs; (v :: r.1, r.2)
    | none => ([], c :: cs)

def takeOct : Nat → Str → List Nat × Str
  | 0, s => ([], s)
  | _, [] => ([], [])
  | n + 1, c :: cs => if '0' ≤ c ∧ c ≤ '7' then let r := takeOct n cs; ((c.toNat - 48) :: r.1, r.2) else ([], c :: cs)

def fromDigits (base : Nat) (ds : List Nat) : Nat := ds.foldl (fun a d => a * base + d) 0

/-- bytes denoted by the inside of a string literal (escapes as in protocompile readStringLiteral) -/
def decodeBody : Nat → Str → List Nat
  | 0, _ => []
  | _, [] => []
  | n + 1, c :: cs =>
    if c = '\\' then
      match cs with
      | [] => []
      | e :: es =>
        if e = 'x' || e = 'X' then let r := takeHex 2 es; fromDigits 16 r.1 :: decodeBody n r.2
        else if '0' ≤ e ∧ e ≤ '7' then let r := takeOct 3 cs; fromDigits 8 r.1 :: decodeBody n r.2
        else if e = 'u' then let r := takeHex 4 es; utf8 (fromDigits 16 r.1) ++ decodeBody n r.2
        else if e = 'U' then let r := takeHex 8 es; utf8 (fromDigits 16 r.1) ++ decodeBody n r.2
        else
          let b := if e = 'a' then 7 else if e = 'b' then 8 else if e = 'f' then 12 else if e = 'n' then 10
            else if e = 'r' then 13 else if e = 't' then 9 else if e = 'v' then 11 else e.toNat
          b :: decodeBody n es
    else utf8 c.toNat ++ decodeBody n cs

/-- value of one string-literal token (quotes stripped) -/
def decodeLit (text : Str) : List Nat :=
  let body := (text.drop 1).dropLast
  decodeBody body.length body

/-- a file-level statement (declaration): its decorated tokens -/
abbrev Stmt := List DTok

def stmtText (s : Stmt) : List Token := s.map (·.tok)

def firstIs (s : Stmt) (w : String) : Bool :=
  match s with
  | t :: _ => t.tok.is w
  | [] => false

/-- split the (normalised) tokens of a file into file-level statements: a statement ends at `;`
    at brace depth 0, or at the `}` that returns to depth 0 unless it is an `option` statement
    (whose message-literal value is followed by `;`).  `cur` = the current statement, reversed.
    Nothing is lost or duplicated: theorem `splitStmts_flatten`. -/
def splitStmts : List DTok → Nat → Stmt → List Stmt
  | [], _, cur => if cur.isEmpty then [] else [cur.reverse]
  | t :: ts, depth, cur =>
    let cur' := t :: cur
    if t.tok.is "{" then splitStmts ts (depth + 1) cur'
    else if t.tok.is "}" then
      if depth ≤ 1 && !(firstIs cur'.reverse "option") then cur'.reverse :: splitStmts ts 0 []
      else splitStmts ts (depth - 1) cur'
    else if t.tok.is ";" && depth = 0 then cur'.reverse :: splitStmts ts 0 []
    else splitStmts ts depth cur'

def stmts (ds : List DTok) : List Stmt := splitStmts ds 0 []

/-- the five classes of writeFileHeader -/
inductive Cls
  | syn | pkg | imp | opt | rest
  deriving DecidableEq, Repr

def cls (s : Stmt) : Cls :=
  if firstIs s "syntax" || firstIs s "edition" then .syn
  else if firstIs s "package" then .pkg
  else if firstIs s "import" then .imp
  else if firstIs s "option" then .opt
  else .rest

def ofCls (c : Cls) (ss : List Stmt) : List Stmt := ss.filter (cls · = c)

structure Header where
  syn : List Stmt := []        -- syntax / edition
  pkg : List Stmt := []        -- package statements (a second one does not parse)
  imports : List Stmt := []
  options : List Stmt := []
  rest : List Stmt := []       -- everything else, including the EOF token

/-- partition by class, keeping the order inside each class -/
def parseHeader (ss : List Stmt) : Header :=
  { syn := ofCls .syn ss, pkg := ofCls .pkg ss, imports := ofCls .imp ss, options := ofCls .opt ss,
    rest := ofCls .rest ss }

/-- lexicographic `<` on keys -/
def lexLt : List Nat → List Nat → Bool
  | _, [] => false
  | [], _ :: _ => true
  | a :: as, b :: bs => a < b || (a = b && lexLt as bs)

def insertBy {α} (lt : α → α → Bool) (x : α) : List α → List α
  | [] => [x]
  | y :: ys => if lt y x then y :: insertBy lt x ys else x :: y :: ys

/-- THE stable sort (sort.SliceStable): insertion from the right, an element goes before the
    first element that is not smaller — so earlier equal elements stay earlier. -/
def isort {α} (lt : α → α → Bool) (l : List α) : List α := l.foldr (insertBy lt) []

def Sorted {α} (lt : α → α → Bool) (l : List α) : Prop := l.Pairwise (fun a b => lt b a = false)

/-- what sort.Slice (unstable) may return: any sorted permutation -/
def SortedPermOf {α} (lt : α → α → Bool) (l out : List α) : Prop := out.Perm l ∧ Sorted lt out

-- imports
def strToks (s : Stmt) : List DTok := s.filter (·.tok.kind = .str)

def importName (s : Stmt) : List Nat := (strToks s).flatMap (fun t => decodeLit t.tok.text)

/-- importSortOrder: plain 3, public 2, weak 1 -/
def importOrder (s : Stmt) : Nat :=
  match s with
  | _ :: m :: _ => if m.tok.is "public" then 2 else if m.tok.is "weak" then 1 else 3
  | _ => 3

def DTok.hasComment (t : DTok) : Bool := !t.lead.isEmpty || !t.trail.isEmpty

/-- importHasComment BEFORE the repair (recorded finding
    `comment-dropped:comment-inside-concatenated-string`): comments on the keyword, the modifier,
    the semicolon, before the first or after the last part of the name — NOT between the parts of
    a concatenated name. -/
def importHasCommentOld (s : Stmt) : Bool :=
  let strs := strToks s
  let others := s.filter (·.tok.kind ≠ .str)
  others.any DTok.hasComment ||
    (match strs.head? with | some t => !t.lead.isEmpty | none => false) ||
    (match strs.getLast? with | some t => !t.trail.isEmpty | none => false)

/-- importHasComment (repaired): a comment on ANY token of the statement, the parts of a
    concatenated file name included. -/
def importHasComment (s : Stmt) : Bool := s.any DTok.hasComment

/-- sort key: (name, public > plain > weak as coded: larger order first, commented first) -/
def importKey (s : Stmt) : List Nat :=
  (importName s).map (· + 1) ++ [0, 3 - importOrder s, if importHasComment s then 0 else 1]

def ltImport (a b : Stmt) : Bool := lexLt (importKey a) (importKey b)

/-- duplicate-import elision as coded: skip an import that has the same file name as the import
    BEFORE it in the sorted list and carries no comment. -/
def elide : Option (List Nat) → List Stmt → List Stmt
  | _, [] => []
  | prev, x :: xs =>
    if prev = some (importName x) && !importHasComment x then elide (some (importName x)) xs
    else x :: elide (some (importName x)) xs

def canonImports (l : List Stmt) : List Stmt := elide none (isort ltImport l)

-- options
def optionNameToks : List Token → List Token
  | [] => []
  | t :: ts => if t.is "=" then [] else t :: optionNameToks ts

/-- stringForOptionName: the printed option name = the texts of the name tokens (between the
    `option` keyword and `=`) -/
def optionNameT (ts : List Token) : Str := (optionNameToks (ts.drop 1)).flatMap (·.text)

/-- built-ins before custom options (leading '('), then by name -/
def optionKeyT (ts : List Token) : List Nat :=
  let n := optionNameT ts
  (if n.head? = some '(' then 1 else 0) :: n.map Char.toNat

def optionName (s : Stmt) : Str := optionNameT (stmtText s)
def optionKey (s : Stmt) : List Nat := optionKeyT (stmtText s)

def ltOption (a b : Stmt) : Bool := lexLt (optionKey a) (optionKey b)

def canonOptions (l : List Stmt) : List Stmt := isort ltOption l

/-- header canonicalisation of writeFileHeader (fixed version: stable sorts) -/
def canon (h : Header) : Header :=
  { h with imports := canonImports h.imports, options := canonOptions h.options }

def Header.render (h : Header) : List Stmt :=
  h.syn ++ h.pkg ++ h.imports ++ h.options ++ h.rest

/-- The MODELLED token-level formatter: body rewrites, split into statements, hoist and sort the
    header, concatenate.  (The real printer additionally chooses the layout; it is not modelled.) -/
def fmtModel (ds : List DTok) : List DTok := (canon (parseHeader (stmts (normD ds)))).render.flatten

/-! ## (iv) The checker -/

def stmtComments (s : Stmt) : List CKey := commentsOf s

/-- `subtract ins outs`: remove every statement of `outs` once from `ins`; what is left over -/
def subtract : List Stmt → List Stmt → Option (List Stmt)
  | ins, [] => some ins
  | ins, o :: os => if o ∈ ins then subtract (ins.erase o) os else none

/-- the output imports are the input imports (tokens AND comments) in any order, minus elided
    ones; an elided import carries no comment at all and imports a file that a kept statement
    imports -/
def importsOK (ins outs : List Stmt) : Bool :=
  match subtract ins outs with
  | some elided => elided.all fun e => (stmtComments e).isEmpty && outs.any (fun k => importName k = importName e)
  | none => false

/-- the output options are a STABLE reordering of the input options: a permutation that keeps
    the relative order of the statements of every option name -/
def optionsOK (ins outs : List Stmt) : Bool :=
  outs.isPerm ins &&
    (ins.map optionKey).all fun k => outs.filter (optionKey · = k) == ins.filter (optionKey · = k)

/-- tokens after which the leading/trailing distinction of a comment is kept: the end of a
    declaration or of a body line — `;`, `{`, and a `}` that is not directly followed by `;` `,`
    `]` (such a `}` closes a message-literal VALUE in the middle of a declaration) -/
def isBoundary (t : Token) (next : List DTok) : Bool :=
  t.is ";" || t.is "{" ||
    (t.is "}" && !(match next with | n :: _ => n.tok.is ";" || n.tok.is "," || n.tok.is "]" | [] => false))

/-- Inside a declaration a comment between two tokens is the same comment whether protocompile
    calls it "trailing" for the left or "leading" for the right token (the formatter prints
    `x // c⏎ y` as `x /* c */ y`): it is moved to the leading comments of the right token —
    except after a boundary token and at the end of the statement. `carry` = comments handed on. -/
def gapNormAux : List CKey → List DTok → List DTok
  | _, [] => []
  | carry, d :: rest =>
    if isBoundary d.tok rest || rest.isEmpty then { d with lead := carry ++ d.lead } :: gapNormAux [] rest
    else { d with lead := carry ++ d.lead, trail := [] } :: gapNormAux d.trail rest

def gapNorm (s : Stmt) : Stmt := gapNormAux [] s

/-- the header relation the checker decides, on the statement lists of input and output -/
def headerOK (si so : List Stmt) : Bool :=
  ofCls .syn so == ofCls .syn si && ofCls .pkg so == ofCls .pkg si && ofCls .rest so == ofCls .rest si &&
    importsOK (ofCls .imp si) (ofCls .imp so) && optionsOK (ofCls .opt si) (ofCls .opt so)

/-- the checker on decorated streams -/
def validD (di dout : List DTok) : Bool :=
  dropsClean (annotateD di) && headerOK ((stmts (normD di)).map gapNorm) ((stmts dout).map gapNorm)

/-- the translation validator for one formatter run: the decorated significant-token stream of
    `out` (tokens with the comments attributed to them) is the one of `inp` after the body-level
    rewrites, with the file-level statements rearranged as `headerOK` allows. -/
def validFormat (inp out : Str) : Bool := validD (decorate (lex inp)) (decorate (lex out))

/-- protocompile `newLexer` (parser/lexer.go, `utf8Bom`): a UTF-8 byte order mark at the very
    beginning of a file is consumed before the first token is read; it is in no token, no comment
    and not in the AST the formatter prints from, so the output never has one.  (Anywhere else in
    a file U+FEFF is an invalid character: such a text does not parse and is never formatted.) -/
def bomChar : Char := Char.ofNat 0xFEFF

def stripBOM : Str → Str
  | [] => []
  | c :: cs => if c = bomChar then cs else c :: cs

/-- the translation validator on FILE CONTENTS: `validFormat` behind the byte-order-mark rule of
    the lexer.  This is what the driver runs (degenerate-file family: a file that is a byte order
    mark plus comments formats to just the comments). -/
def validFormatFile (inp out : Str) : Bool := validFormat (stripBOM inp) out

/-! ## (v) The normal form `isFormatted` -/

/-- layout: the text does not start with white space, ends with exactly one newline, and every
    white-space token is either one space or newlines (at most one blank line) followed by an
    indentation of spaces -/
def wsTokOK (s : Str) : Bool :=
  s = [' '] ||
    (let nl := s.takeWhile (· = '\n')
     let ind := s.dropWhile (· = '\n')
     (nl.length = 1 || nl.length = 2) && ind.all (· = ' ') && ind.length % 2 = 0)

def layoutOK : List Token → Bool
  | [] => true
  | [t] => t.kind = .ws && t.text = ['\n']
  | t :: u :: ts => (t.kind != .ws || wsTokOK t.text) && layoutOK (u :: ts)

def startsOK (ts : List Token) : Bool :=
  match ts with
  | t :: _ => t.kind != .ws
  | [] => true

/-- normal form on token level: no token the formatter would rewrite, header hoisted and sorted -/
def formattedD (ds : List DTok) : Bool :=
  (roles (toks ds)).all (· = .keep) &&
    (let ss := stmts ds; (canon (parseHeader ss)).render == ss)

def isFormatted (x : Str) : Bool :=
  let ts := lex x
  formattedD (decorate ts) && startsOK ts && layoutOK ts

end BufModel.Format
