import BufModel.Managed
import BufProofs.Lemmas.ListLemmas
/-
  C18 (managed mode): which rule wins.  The loops of override.go and field_option.go over the disable and
  override rules against descriptions that name the winning rule: the last matching override of an option
  (`lastOverride_eq`, `jsTarget_eq` / `jsSpec`), the disable rules that cover a field (`jsDisabledFor_eq`),
  and `stringOverrideFromConfig` — a value override resets, later prefix / suffix overrides blank the value —
  against `specSOO` / `strSpec` (`stringOverride_eq_spec`, `strTarget_eq_spec`).
-/
namespace BufProofs.ManagedLemmas
open BufModel.Managed

/-! ### the last matching rule wins -/

theorem foldl_last {α β : Type} (p : α → Bool) (g : α → β) (l : List α) (init : Option β) :
    l.foldl (fun acc r => if p r then some (g r) else acc) init =
      (((l.filter p).getLast?).map g).or init := by
  induction l generalizing init with
  | nil => simp
  | cons a as ih =>
    simp only [List.foldl_cons, ih]
    by_cases hp : p a = true
    · simp only [hp, if_true, List.filter_cons_of_pos]
      cases hl : (as.filter p) with
      | nil => simp
      | cons b bs =>
        have : (b :: bs).getLast? = some ((b :: bs).getLast (by simp)) := List.getLast?_eq_some_getLast (by simp)
        simp [this]
    · simp [hp]

theorem lastOverride_eq (cfg : Config) (f : File) (o : FileOption) :
    lastOverride cfg f o =
      (cfg.overrides.filter fun r => fileMatch f r.path r.module && r.fileOption = o).getLast? := by
  unfold lastOverride
  have := foldl_last (fun r : Override => fileMatch f r.path r.module && decide (r.fileOption = o)) id cfg.overrides none
  simpa using this

/-- some disable rule exempts jstype of this field: it is for jstype or for everything, matches
    the file, and names this field or no field. -/
def jsDisabledFor (cfg : Config) (f : File) (name : List Char) : Bool :=
  cfg.disables.any fun d =>
    (d.jstype || d.fileOption = .unspecified) && fileMatch f d.path d.module &&
      (d.fieldName = [] || d.fieldName = name)

/-- the value of the LAST override rule for jstype that matches the file and names this field
    or no field. -/
def jsSpec (cfg : Config) (f : File) (name : List Char) : Option Nat :=
  ((cfg.overrides.filter fun r => (r.jstype && fileMatch f r.path r.module) &&
      (r.fieldName = [] || r.fieldName = name)).getLast?).map (·.nval)

theorem jsTarget_eq (cfg : Config) (f : File) (name : List Char) :
    jsTarget cfg f name = jsSpec cfg f name := by
  unfold jsTarget jsOverrides jsSpec
  have := foldl_last (fun r : Override => decide (r.fieldName = []) || decide (r.fieldName = name)) (·.nval)
    (cfg.overrides.filter fun r => r.jstype && fileMatch f r.path r.module) none
  simp only [Bool.or_eq_true, decide_eq_true_eq] at this
  simp only [Bool.or_eq_true, decide_eq_true_eq, this, Option.or_none, List.filter_filter]
  congr 2
  apply List.filter_congr
  intro r _
  cases r.jstype <;> cases fileMatch f r.path r.module <;> simp

theorem jsDisabledFor_eq (cfg : Config) (f : File) (name : List Char) :
    jsDisabledFor cfg f name =
      ((jsDisables cfg f).any (fun r => r.fieldName = []) || (jsDisables cfg f).any (fun r => r.fieldName = name)) := by
  unfold jsDisabledFor jsDisables
  rw [List.any_filter, List.any_filter]
  induction cfg.disables with
  | nil => rfl
  | cons d ds ih =>
    simp only [List.any_cons, ih]
    cases d.jstype <;> cases fileMatch f d.path d.module <;> cases decide (d.fieldName = []) <;>
      cases decide (d.fieldName = name) <;> cases decide (d.fileOption = FileOption.unspecified) <;> simp

theorem jsTarget_nil (cfg : Config) (f : File) (name : List Char) (h : jsOverrides cfg f = []) :
    jsTarget cfg f name = none := by
  unfold jsTarget; rw [h]; rfl

/-! ### string options: `stringOverrideFromConfig` against a declarative description -/

/-- the elements after the last one satisfying `q` (the whole list if none does). -/
def afterLast {α : Type} (q : α → Bool) : List α → List α
  | [] => []
  | a :: as => if as.any q then afterLast q as else if q a then as else a :: as

theorem afterLast_snoc {α : Type} (q : α → Bool) (r : α) :
    ∀ l : List α, afterLast q (l ++ [r]) = if q r then [] else afterLast q l ++ [r]
  | [] => by
    by_cases h : q r = true <;> simp [afterLast, h]
  | a :: as => by
    have ih := afterLast_snoc q r as
    show afterLast q (a :: (as ++ [r])) = _
    unfold afterLast
    by_cases h : q r = true
    · simp only [h, ↓reduceIte] at ih ⊢
      simp [h, ih]
    · simp only [h, Bool.false_eq_true, ↓reduceIte] at ih ⊢
      have hany : (as ++ [r]).any q = as.any q := by simp [h]
      rw [hany, ih]
      by_cases h2 : as.any q = true
      · simp [h2]
      · simp only [h2, Bool.false_eq_true, ↓reduceIte]
        by_cases h3 : q a = true <;> simp [h3]

theorem filter_snoc {α : Type} (q : α → Bool) (l : List α) (r : α) :
    (l ++ [r]).filter q = if q r then l.filter q ++ [r] else l.filter q := by
  by_cases h : q r = true <;> simp [List.filter_append, h]

/-- `specSOO` on the list of rules that match the file. -/
def specOf (isV isP isS : Override → Bool) (d0 : SOO) (ms : List Override) : SOO :=
  let base : SOO := match (ms.filter isV).getLast? with
    | some r => ⟨r.sval, [], []⟩
    | none => d0
  let tail := afterLast isV ms
  let lp := (tail.filter isP).getLast?
  let ls := (tail.filter isS).getLast?
  ⟨if lp.isSome || ls.isSome then [] else base.value,
   (lp.map (·.sval)).getD base.pfx, (ls.map (·.sval)).getD base.suffix⟩

/-- The override options `stringOverrideFromConfig` arrives at, described by WHICH rules
    count rather than by the loop.  Among the override rules that match the file, in
    configuration order:
    * the last rule for the value option (if any) resets everything to its value; before it,
      nothing matters; without one the start is the default (`d0`);
    * after it, the last rule for the prefix option and the last rule for the suffix option
      (only where that companion option exists and is not disabled: `useP` / `useS`) give
      prefix and suffix, the other one being kept; as soon as one of them exists the value is
      blank (so the value function computes it from prefix/suffix). -/
def specSOO (f : File) (vOpt pOpt sOpt : FileOption) (useP useS : Bool) (d0 : SOO) (l : List Override) : SOO :=
  specOf (fun r => decide (r.fileOption = vOpt)) (fun r => useP && decide (r.fileOption = pOpt))
    (fun r => useS && decide (r.fileOption = sOpt)) d0 (l.filter fun r => fileMatch f r.path r.module)

theorem specOf_nil (isV isP isS : Override → Bool) (d0 : SOO) : specOf isV isP isS d0 [] = d0 := by
  cases d0; simp [specOf, afterLast]

theorem specSOO_nil (f : File) (vOpt pOpt sOpt : FileOption) (useP useS : Bool) (d0 : SOO) :
    specSOO f vOpt pOpt sOpt useP useS d0 [] = d0 := specOf_nil _ _ _ d0

theorem specOf_snoc (isV isP isS : Override → Bool) (d0 : SOO) (ms : List Override) (r : Override) :
    specOf isV isP isS d0 (ms ++ [r]) =
      if isV r then ⟨r.sval, [], []⟩
      else
        ⟨if isP r || isS r then [] else (specOf isV isP isS d0 ms).value,
         if isP r then r.sval else (specOf isV isP isS d0 ms).pfx,
         if isS r then r.sval else (specOf isV isP isS d0 ms).suffix⟩ := by
  unfold specOf
  cases hv : isV r <;> cases hp : isP r <;> cases hs : isS r <;>
    simp [afterLast_snoc, hv, hp, hs]

theorem specSOO_snoc (f : File) (vOpt pOpt sOpt : FileOption) (useP useS : Bool) (d0 : SOO)
    (hps : pOpt = sOpt → useP = false ∧ useS = false)
    (pre : List Override) (r : Override) :
    specSOO f vOpt pOpt sOpt useP useS d0 (pre ++ [r]) =
      sooStep f vOpt pOpt sOpt (!useP) (!useS) (specSOO f vOpt pOpt sOpt useP useS d0 pre) r := by
  unfold specSOO sooStep
  rw [filter_snoc]
  by_cases hm : fileMatch f r.path r.module = true
  · simp only [hm, ↓reduceIte, specOf_snoc, Bool.not_true, Bool.false_eq_true]
    by_cases hv : r.fileOption = vOpt
    · simp [hv]
    · simp only [hv, decide_false, Bool.false_eq_true, ↓reduceIte]
      by_cases hp : r.fileOption = pOpt
      · -- the prefix case of the code's `switch` shadows the suffix case: `hps` says the two never
        -- name the same option while either counts
        have hS : (useS && decide (pOpt = sOpt)) = false := by
          by_cases he : pOpt = sOpt
          · simp [(hps he).2]
          · simp [he]
        cases hu : useP <;> simp [hp, hS]
      · simp only [hp, decide_false, Bool.and_false, Bool.false_or, Bool.false_eq_true, ↓reduceIte]
        by_cases hs : r.fileOption = sOpt
        · cases hu : useS <;> simp [hs]
        · simp [hs]
  · simp only [hm, Bool.false_eq_true, ↓reduceIte, Bool.not_false]

theorem foldl_sooStep_spec (f : File) (vOpt pOpt sOpt : FileOption) (useP useS : Bool) (d0 : SOO)
    (hps : pOpt = sOpt → useP = false ∧ useS = false) :
    ∀ (l pre : List Override),
      l.foldl (sooStep f vOpt pOpt sOpt (!useP) (!useS)) (specSOO f vOpt pOpt sOpt useP useS d0 pre) =
        specSOO f vOpt pOpt sOpt useP useS d0 (pre ++ l)
  | [], pre => by simp
  | r :: l, pre => by
    simp only [List.foldl_cons]
    rw [← specSOO_snoc f vOpt pOpt sOpt useP useS d0 hps, foldl_sooStep_spec f vOpt pOpt sOpt useP useS d0 hps l]
    simp

theorem stringOverride_disabled {cfg : Config} {f : File} {d : SOO} {v p s : FileOption}
    (h : isFileOptionDisabled cfg f v = true) : stringOverride cfg f d v p s = SOO.empty := by
  unfold stringOverride; simp [h]

theorem StrOpt.companions_distinct (o : StrOpt) :
    o.prefixOpt = o.suffixOpt → o.prefixOpt = .unspecified ∧ o.suffixOpt = .unspecified := by
  cases o <;> simp [StrOpt.prefixOpt, StrOpt.suffixOpt]

/-- the prefix companion of string option `o` exists and is not disabled for the file. -/
def usePfx (cfg : Config) (f : File) (o : StrOpt) : Bool :=
  !(o.prefixOpt = .unspecified || isFileOptionDisabled cfg f o.prefixOpt)
def useSfx (cfg : Config) (f : File) (o : StrOpt) : Bool :=
  !(o.suffixOpt = .unspecified || isFileOptionDisabled cfg f o.suffixOpt)

/-- the override options for string option `o` of file `f`, declaratively (see `specSOO`);
    the start is the managed default with prefix / suffix blanked where unusable. -/
def strSpecSOO (cfg : Config) (f : File) (o : StrOpt) : SOO :=
  specSOO f o.valueOpt o.prefixOpt o.suffixOpt (usePfx cfg f o) (useSfx cfg f o)
    ⟨(o.defaultSOO f).value, if usePfx cfg f o then (o.defaultSOO f).pfx else [],
     if useSfx cfg f o then (o.defaultSOO f).suffix else []⟩ cfg.overrides

theorem stringOverride_eq_spec (cfg : Config) (f : File) (o : StrOpt)
    (hd : isFileOptionDisabled cfg f o.valueOpt = false) :
    stringOverride cfg f (o.defaultSOO f) o.valueOpt o.prefixOpt o.suffixOpt = strSpecSOO cfg f o := by
  unfold stringOverride strSpecSOO
  simp only [hd, Bool.false_eq_true, ↓reduceIte]
  have hps : o.prefixOpt = o.suffixOpt → usePfx cfg f o = false ∧ useSfx cfg f o = false := by
    intro he
    obtain ⟨h1, h2⟩ := StrOpt.companions_distinct o he
    unfold usePfx useSfx; simp [h1, h2]
  have hP : (decide (o.prefixOpt = .unspecified) || isFileOptionDisabled cfg f o.prefixOpt) = !usePfx cfg f o := by
    unfold usePfx; simp
  have hS : (decide (o.suffixOpt = .unspecified) || isFileOptionDisabled cfg f o.suffixOpt) = !useSfx cfg f o := by
    unfold useSfx; simp
  rw [hP, hS]
  have h0 := foldl_sooStep_spec f o.valueOpt o.prefixOpt o.suffixOpt (usePfx cfg f o) (useSfx cfg f o)
    ⟨(o.defaultSOO f).value, if usePfx cfg f o then (o.defaultSOO f).pfx else [],
     if useSfx cfg f o then (o.defaultSOO f).suffix else []⟩ hps cfg.overrides []
  rw [specSOO_nil] at h0
  simp only [List.nil_append] at h0
  rw [← h0]
  congr 2
  · cases usePfx cfg f o <;> simp
  · cases useSfx cfg f o <;> simp

/-- The value managed mode wants in string option `o` of file `f` (`none` = it leaves the
    option alone): nothing when a disable rule exempts the option, or when nothing at all is
    configured (all-blank override options), or when the computed value is empty; otherwise the
    explicit value of the winning value override, else the default formula applied to the
    winning prefix / suffix. -/
def strSpec (cfg : Config) (f : File) (o : StrOpt) : Option (List Char) :=
  if isFileOptionDisabled cfg f o.valueOpt then none
  else
    let s := strSpecSOO cfg f o
    if s = SOO.empty then none
    else
      let v := if s.value = [] then o.valueFunc f s else s.value
      if v = [] then none else some v

theorem strTarget_eq_spec (cfg : Config) (f : File) (o : StrOpt) : strTarget cfg f o = strSpec cfg f o := by
  unfold strTarget strSpec
  cases hd : isFileOptionDisabled cfg f o.valueOpt
  · rw [stringOverride_eq_spec cfg f o hd]; simp
  · rw [stringOverride_disabled hd]; simp

/-- an override rule concerns string option `o` of file `f`: it matches the file and is for the
    option itself or for its prefix / suffix companion. -/
def relevant (f : File) (o : StrOpt) (r : Override) : Bool :=
  fileMatch f r.path r.module &&
    (r.fileOption = o.valueOpt ||
     (r.fileOption = o.prefixOpt && o.prefixOpt ≠ .unspecified) ||
     (r.fileOption = o.suffixOpt && o.suffixOpt ≠ .unspecified))

theorem sooStep_irrelevant (cfg : Config) (f : File) (o : StrOpt) (acc : SOO) (r : Override)
    (hr : relevant f o r = false) :
    sooStep f o.valueOpt o.prefixOpt o.suffixOpt
      (o.prefixOpt = .unspecified || isFileOptionDisabled cfg f o.prefixOpt)
      (o.suffixOpt = .unspecified || isFileOptionDisabled cfg f o.suffixOpt) acc r = acc := by
  unfold sooStep
  unfold relevant at hr
  by_cases hm : fileMatch f r.path r.module = true
  · simp only [hm, Bool.true_and, Bool.or_eq_false_iff, Bool.and_eq_false_imp, decide_eq_true_eq,
      decide_eq_false_iff_not] at hr
    obtain ⟨⟨h1, h2⟩, h3⟩ := hr
    simp only [hm, Bool.not_true, Bool.false_eq_true, ↓reduceIte, h1]
    by_cases hp : r.fileOption = o.prefixOpt
    · have := h2 hp; simp at this; simp [hp, this]
    · simp only [hp, ↓reduceIte]
      by_cases hs : r.fileOption = o.suffixOpt
      · have := h3 hs; simp at this; simp [hs, this]
      · simp [hs]
  · simp [hm]

theorem foldl_irrelevant (cfg : Config) (f : File) (o : StrOpt) (post : List Override)
    (hpost : ∀ r ∈ post, relevant f o r = false) (acc : SOO) :
    post.foldl (sooStep f o.valueOpt o.prefixOpt o.suffixOpt
      (o.prefixOpt = .unspecified || isFileOptionDisabled cfg f o.prefixOpt)
      (o.suffixOpt = .unspecified || isFileOptionDisabled cfg f o.suffixOpt)) acc = acc :=
  (BufProofs.ListLemmas.foldl_rel Eq (fun _ => rfl) Eq.trans _ post
    (fun s r hr => (sooStep_irrelevant cfg f o s r (hpost r hr)).symm) acc).symm

theorem strSpec_ne_nil {cfg : Config} {f : File} {o : StrOpt} {v : List Char}
    (h : strSpec cfg f o = some v) : v ≠ [] := by
  unfold strSpec at h
  simp only [Option.ite_none_left_eq_some, Option.some.injEq] at h
  exact h.2.2.2 ▸ h.2.2.1

end BufProofs.ManagedLemmas
