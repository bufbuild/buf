import BufModel.Generate
import BufProofs.Lemmas.ImagePathsLemmas
import BufProofs.Props.C01
/-
  The request side of C17.  The walk of `addFileWithImports` is the walk of C11's model read through
  an embedding of image files, hence the shared DFS: the sub-image of a set of targets is exactly
  what they reach, for every image, and lists dependencies first on an ordered one.
  `ImagesToCodeGeneratorRequests` is one loop over the concatenated images, and the images of a
  strategy partition the targets: that is where exactly-once comes from.  Built images are ordered
  (C01).  The response side is in GenerateWriterLemmas.
-/
set_option linter.unusedSimpArgs false
namespace BufModel.Generate
open BufModel.Path BufModel.Bucket

theorem sortStrs_eq : ∀ l, sortStrs l = isortBy strLt l :=
  eq_isortBy _ (eq_insBy (ins := insertSorted) _ (fun _ => rfl) (fun _ _ _ => rfl)) rfl (fun _ _ => rfl)

theorem sortStrs_perm (l : List Str) : (sortStrs l).Perm l := sortStrs_eq l ▸ isortBy_perm _ l

theorem mem_sortStrs {x : Str} {l : List Str} : x ∈ sortStrs l ↔ x ∈ l :=
  (sortStrs_perm l).mem_iff

theorem nodup_sortStrs {l : List Str} : (sortStrs l).Nodup ↔ l.Nodup :=
  (sortStrs_perm l).nodup_iff

theorem dedup_eq : ∀ l : List Str, dedup l = BufModel.Graph.dedup l
  | [] => rfl
  | x :: xs => by rw [dedup, BufModel.Graph.dedup, dedup_eq xs]; split <;> rfl

theorem mem_dedup {x : Str} {l : List Str} : x ∈ dedup l ↔ x ∈ l :=
  dedup_eq l ▸ BufModel.Graph.mem_dedup

theorem nodup_dedup (l : List Str) : (dedup l).Nodup :=
  dedup_eq l ▸ BufModel.Targeting.dedup_nodup l

theorem getFile_eq (img : Image) (p : Str) : getFile img p = img.find? (fun f => f.path = p) :=
  BufProofs.ListLemmas.eq_find?_key (·.path) (fun _ => rfl) (fun _ _ _ => rfl) img p

theorem getFile_some {img : Image} {p : Str} {f : File} (h : getFile img p = some f) :
    f ∈ img ∧ f.path = p :=
  BufProofs.ListLemmas.find?_key_some (key := File.path) (getFile_eq img p ▸ h)

theorem getFile_of_mem_paths {img : Image} {p : Str} (h : p ∈ paths img) :
    ∃ f, getFile img p = some f := by
  rw [getFile_eq, ← Option.isSome_iff_exists, BufProofs.ListLemmas.find?_key_isSome (key := File.path)]
  exact h

theorem getFile_of_mem_nodup {img : Image} {f : File} (hn : (paths img).Nodup) (hf : f ∈ img) :
    getFile img f.path = some f :=
  getFile_eq img _ ▸ BufProofs.ListLemmas.find?_key_of_nodup (key := File.path) hn hf

theorem mem_paths_of_mem {img : List File} {f : File} (h : f ∈ img) : f.path ∈ paths img :=
  List.mem_map_of_mem h

theorem eq_of_mem_nodup_paths {img : List File} {f g : File} (hn : (paths img).Nodup)
    (hf : f ∈ img) (hg : g ∈ img) (hp : f.path = g.path) : f = g :=
  BufProofs.ListLemmas.eq_of_nodup_map File.path hn hf hg hp

/-! ### The walk

`visit` is the walk of C11's model (`ImagePaths.visit`, which ImagePathsLemmas shows to be the
shared `Graph.dfs` on paths), read through an embedding of C17 image files into C11 image files;
what is needed of the sub-image of a set of targets is read off `dfs_spec`. -/

@[simp] theorem mark_path (t : List Str) (f : File) : (mark t f).path = f.path := rfl
@[simp] theorem mark_deps (t : List Str) (f : File) : (mark t f).deps = f.deps := rfl
@[simp] theorem mark_isWKT (t : List Str) (f : File) : (mark t f).isWKT = f.isWKT := rfl
theorem mark_isImport (t : List Str) (f : File) : (mark t f).isImport = !(t.contains f.path) := rfl

/-- The step of the dependency loop inside `addFileWithImports`. -/
def depStep (img : Image) (t : List Str) (fuel : Nat) (st : DState) (d : Str) : DState :=
  match getFile img d with
  | some g => visit img t fuel g st
  | none => st

theorem visit_zero (img : Image) (t : List Str) (f : File) (st : DState) :
    visit img t 0 f st = st := rfl

theorem visit_succ (img : Image) (t : List Str) (fuel : Nat) (f : File) (st : DState) :
    visit img t (fuel + 1) f st =
      if f.path ∈ st.1 then st
      else ((f.deps.foldl (depStep img t fuel) (f.path :: st.1, st.2)).1,
            (f.deps.foldl (depStep img t fuel) (f.path :: st.1, st.2)).2 ++ [mark t f]) := rfl

/-- A C17 image file as a C11 image file; `isWKT` travels in the payload, so nothing is lost. -/
def toIP (f : File) : ImagePaths.File := ⟨f.path, f.isImport, f.deps, { payload := f.isWKT.toNat }⟩

theorem toIP_inj {f g : File} (h : toIP f = toIP g) : f = g := by
  obtain ⟨p, i, w, d⟩ := f
  obtain ⟨p', i', w', d'⟩ := g
  simp only [toIP, ImagePaths.File.mk.injEq, ImagePaths.XBits.mk.injEq, and_true] at h
  obtain ⟨rfl, rfl, rfl, hw⟩ := h
  have : w = w' := by cases w <;> cases w' <;> simp at hw ⊢
  rw [this]

/-- `image.GetFile` through the embedding. -/
def lookIP (img : Image) (p : Str) : Option ImagePaths.File := (getFile img p).map toIP

theorem lookIP_eq_some {img : Image} {p : Str} {f : ImagePaths.File} :
    lookIP img p = some f ↔ ∃ g, getFile img p = some g ∧ toIP g = f := by
  unfold lookIP
  cases getFile img p <;> simp

def stIP (st : DState) : ImagePaths.DState := (st.1, st.2.map toIP)

theorem visit_toIP (img : Image) (t : List Str) : ∀ (fuel : Nat) (f : File) (st : DState),
    stIP (visit img t fuel f st) = ImagePaths.visit (lookIP img) t fuel (toIP f) (stIP st) := by
  intro fuel
  induction fuel with
  | zero => intro f st; rfl
  | succ fuel ih =>
    intro f st
    -- the dependency loop commutes with the embedding, step by step
    have hfold := List.foldl_hom stIP (g₁ := depStep img t fuel)
      (g₂ := BufProofs.ImagePathsLemmas.depStep (lookIP img) t fuel) (l := f.deps) (init := (f.path :: st.1, st.2))
      fun s d => by
        unfold depStep BufProofs.ImagePathsLemmas.depStep lookIP
        cases getFile img d with
        | none => rfl
        | some g => exact (ih g s).symm
    rw [visit_succ, BufProofs.ImagePathsLemmas.visit_succ]
    show stIP (if f.path ∈ st.1 then st else _) = if f.path ∈ st.1 then stIP st else _
    split
    · rfl
    · rw [stIP, List.map_append]
      exact congrArg (fun s : ImagePaths.DState => (s.1, s.2 ++ [toIP (mark t f)])) hfold.symm

theorem imageWithOnlyPaths_toIP (img : Image) (t : List Str) :
    (imageWithOnlyPaths img t).map toIP =
      (ImagePaths.visitAll (lookIP img) t (img.length + 1) ((t.filterMap (getFile img)).map toIP) ([], [])).2 := by
  unfold imageWithOnlyPaths visitAll ImagePaths.visitAll
  rw [List.foldl_map]
  exact congrArg Prod.snd (List.foldl_hom stIP (init := ([], [])) fun s f => (visit_toIP img t _ f s).symm).symm

theorem paths_map_toIP (l : List File) : ImagePaths.paths (l.map toIP) = paths l := by
  simp [ImagePaths.paths, paths, toIP]

section Walk
open BufProofs.ImagePathsLemmas

theorem lookIP_ok (img : Image) : LookOK (lookIP img) := by
  intro p f hf
  obtain ⟨g, hg, rfl⟩ := lookIP_eq_some.mp hf
  exact (getFile_some hg).2

theorem lookIP_dom {img : Image} {p : Str} {f : ImagePaths.File} (hf : lookIP img p = some f) :
    p ∈ paths img := by
  obtain ⟨g, hg, _⟩ := lookIP_eq_some.mp hf
  exact (getFile_some hg).2 ▸ mem_paths_of_mem (getFile_some hg).1

theorem lookIP_path {img : Image} {p : Str} {g : File} (h : getFile img p = some g) :
    lookIP img g.path = some (toIP g) := by
  rw [(getFile_some h).2]
  exact lookIP_eq_some.mpr ⟨g, h, rfl⟩

theorem targets_src (img : Image) (t : List Str) :
    ∀ f ∈ (t.filterMap (getFile img)).map toIP, Src (lookIP img) f := by
  intro f hf
  obtain ⟨g, hg, rfl⟩ := List.mem_map.mp hf
  obtain ⟨p, _, hp⟩ := List.mem_filterMap.mp hg
  exact lookIP_path hp

/-- The sub-image built for a set of target paths, for EVERY image (the shared DFS does not fail
    on cycles, and `img.length + 1` is fuel enough): distinct paths, marked image files, exactly
    what the targets reach through the dependencies that are files of the image, and so closed
    under those dependencies. -/
theorem sub_spec (img : Image) (t : List Str) :
    (paths (imageWithOnlyPaths img t)).Nodup ∧
    (∀ h ∈ imageWithOnlyPaths img t, ∃ g ∈ img, h = mark t g) ∧
    (∀ q, q ∈ paths (imageWithOnlyPaths img t) ↔ ∃ p ∈ t, p ∈ paths img ∧ Conn (lookIP img) p q) ∧
    (∀ h ∈ imageWithOnlyPaths img t, ∀ d ∈ h.deps, d ∈ paths img → d ∈ paths (imageWithOnlyPaths img t)) := by
  obtain ⟨h1, h2, h3, h4⟩ := dfs_spec (t := t) (lookIP_ok img) (paths img) (fun _ _ => lookIP_dom)
    (img.length + 1) (by simp [paths]) _ (targets_src img t)
  simp only [← imageWithOnlyPaths_toIP, paths_map_toIP] at h1 h2 h3 h4
  refine ⟨h1, fun h hh => ?_, fun q => ?_, fun h hh d hd hdi => ?_⟩
  · obtain ⟨g, hg, he⟩ := h2 _ (List.mem_map_of_mem hh)
    obtain ⟨g0, hg0, rfl⟩ := lookIP_eq_some.mp hg
    exact ⟨g0, (getFile_some hg0).1, toIP_inj he⟩
  · rw [h3 q]
    constructor
    · rintro ⟨f, hf, hc⟩
      obtain ⟨g, hg, rfl⟩ := List.mem_map.mp hf
      obtain ⟨p, hp, hpg⟩ := List.mem_filterMap.mp hg
      obtain ⟨hgi, rfl⟩ := getFile_some hpg
      exact ⟨g.path, hp, mem_paths_of_mem hgi, hc⟩
    · rintro ⟨p, hp, hpi, hc⟩
      obtain ⟨g, hg⟩ := getFile_of_mem_paths hpi
      refine ⟨toIP g, List.mem_map_of_mem (List.mem_filterMap.mpr ⟨p, hp, hg⟩), ?_⟩
      show Conn _ g.path q
      rw [(getFile_some hg).2]
      exact hc
  · obtain ⟨g, hg⟩ := getFile_of_mem_paths hdi
    exact h4 _ (List.mem_map_of_mem hh) d hd (by simp [lookIP, hg])

theorem sub_nodup (img : Image) (t : List Str) : (paths (imageWithOnlyPaths img t)).Nodup :=
  (sub_spec img t).1

theorem sub_marked (img : Image) (t : List Str) :
    ∀ h ∈ imageWithOnlyPaths img t, ∃ g ∈ img, h = mark t g :=
  (sub_spec img t).2.1

theorem sub_target_mem (img : Image) (t : List Str) (p : Str) (hp : p ∈ t) (hpi : p ∈ paths img) :
    p ∈ paths (imageWithOnlyPaths img t) :=
  ((sub_spec img t).2.2.1 p).mpr ⟨p, hp, hpi, Conn.refl p⟩

theorem sub_closed (img : Image) (t : List Str) :
    ∀ h ∈ imageWithOnlyPaths img t, ∀ d ∈ h.deps, d ∈ paths img → d ∈ paths (imageWithOnlyPaths img t) :=
  (sub_spec img t).2.2.2

theorem sub_isImport {img : Image} {t : List Str} {x : File} (hx : x ∈ imageWithOnlyPaths img t) :
    x.isImport = !(t.contains x.path) := by
  obtain ⟨g, _, rfl⟩ := sub_marked img t x hx
  rfl

end Walk

/-! ### Counting `file_to_generate` -/

theorem reqFiles_nil (n : List Str) (ii iw : Bool) (used : List Str) :
    reqFiles n ii iw [] used = ([], [], used) := rfl

theorem reqFiles_cons (n : List Str) (ii iw : Bool) (f : File) (fs : List File) (used : List Str) :
    reqFiles n ii iw (f :: fs) used =
      (if (isFileToGenerate f used n ii iw).1
        then f.path :: (reqFiles n ii iw fs (isFileToGenerate f used n ii iw).2).1
        else (reqFiles n ii iw fs (isFileToGenerate f used n ii iw).2).1,
       (f, (isFileToGenerate f used n ii iw).1) :: (reqFiles n ii iw fs (isFileToGenerate f used n ii iw).2).2.1,
       (reqFiles n ii iw fs (isFileToGenerate f used n ii iw).2).2.2) := rfl

def eligible (ii iw w : Bool) : Bool := ii && (iw || !w)

theorem itg_eq (f : File) (used n : List Str) (ii iw : Bool) :
    isFileToGenerate f used n ii iw =
      if !f.isImport || (eligible ii iw f.isWKT && !used.contains f.path && !n.contains f.path)
        then (true, f.path :: used) else (false, used) := by
  unfold isFileToGenerate eligible
  by_cases h1 : f.isImport = true
  · by_cases h2 : ii = true
    · by_cases h3 : (!iw && f.isWKT) = true
      · simp only [Bool.and_eq_true, Bool.not_eq_true'] at h3
        simp [h1, h2, h3]
      · by_cases h4 : f.path ∈ used
        · simp [h1, h2, h3, h4]
        · by_cases h5 : f.path ∈ n
          · simp [h1, h2, h3, h4, h5]
          · simp only [Bool.and_eq_true, Bool.not_eq_true', not_and, Bool.not_eq_true] at h3
            cases hw : iw <;> simp [h1, h2, h3, h4, h5, hw]
    · simp [h1, h2]
  · simp [h1]

/-- A path that is a non-import somewhere (hence in `nonImportPaths`) is generated exactly by
    the files that carry it as a non-import. -/
theorem reqFiles_count_nonImp (n : List Str) (ii iw : Bool) (p : Str) (hp : p ∈ n) :
    ∀ (fs : List File) (used : List Str),
      (reqFiles n ii iw fs used).1.count p = (paths (nonImports fs)).count p := by
  intro fs
  induction fs with
  | nil => intro used; rfl
  | cons f fs ih =>
    intro used
    rw [reqFiles_cons]
    simp only
    by_cases hi : f.isImport = true
    · have hc : paths (nonImports (f :: fs)) = paths (nonImports fs) := by simp [nonImports, hi]
      rw [hc]
      by_cases hfp : f.path = p
      · rw [itg_eq]
        simp [ih, hi, hfp, hp]
      · cases hg : (isFileToGenerate f used n ii iw).1 <;> simp [ih, hfp]
    · have hi' : f.isImport = false := by simpa using hi
      have hc : paths (nonImports (f :: fs)) = f.path :: paths (nonImports fs) := by
        simp [nonImports, paths, hi']
      rw [itg_eq, hi', hc]
      simp only [Bool.not_false, Bool.true_or, if_true, List.count_cons, ih]

theorem reqFiles_append (n : List Str) (ii iw : Bool) : ∀ (a b : List File) (used : List Str),
    reqFiles n ii iw (a ++ b) used =
      ((reqFiles n ii iw a used).1 ++ (reqFiles n ii iw b (reqFiles n ii iw a used).2.2).1,
       (reqFiles n ii iw a used).2.1 ++ (reqFiles n ii iw b (reqFiles n ii iw a used).2.2).2.1,
       (reqFiles n ii iw b (reqFiles n ii iw a used).2.2).2.2)
  | [], _, _ => rfl
  | f :: a, b, used => by
    rw [List.cons_append, reqFiles_cons, reqFiles_append n ii iw a b, reqFiles_cons]
    cases (isFileToGenerate f used n ii iw).1 <;> rfl

/-- A path all of whose carriers are imports (of one WKT-ness) and which is a non-import nowhere
    is generated by its first carrier, if that is eligible and the path not yet used, and never
    again: the later carriers find it in `used`.  No distinctness of paths is needed. -/
theorem reqFiles_count_import (n : List Str) (ii iw : Bool) (p : Str) (w : Bool) (hpn : p ∉ n) :
    ∀ (fs : List File) (used : List Str),
      (∀ f ∈ fs, f.path = p → f.isImport = true ∧ f.isWKT = w) →
      (reqFiles n ii iw fs used).1.count p =
        if eligible ii iw w && !(used.contains p) && (paths fs).contains p then 1 else 0
  | [], used, _ => by simp [reqFiles_nil, paths]
  | f :: fs, used, hall => by
    have ih := reqFiles_count_import n ii iw p w hpn fs (isFileToGenerate f used n ii iw).2
      (fun g hg => hall g (List.mem_cons_of_mem _ hg))
    rw [reqFiles_cons]
    simp only
    by_cases hfp : f.path = p
    · obtain ⟨hi, hw⟩ := hall f List.mem_cons_self hfp
      have hnc : n.contains p = false := by simpa using hpn
      rw [itg_eq, hi, hw, hfp, hnc] at ih ⊢
      cases he : eligible ii iw w
      · simp [he] at ih ⊢
        exact ih
      · by_cases hu : p ∈ used
        · simp [he, hu, paths, hfp] at ih ⊢
          exact ih
        · simp [he, hu, paths, hfp] at ih ⊢
          exact ih
    · have hused : (isFileToGenerate f used n ii iw).2.contains p = used.contains p := by
        rw [itg_eq]
        split
        · simp [Ne.symm hfp]
        · rfl
      have hpc : (paths (f :: fs)).contains p = (paths fs).contains p := by
        simp [paths, Ne.symm hfp]
      rw [hused] at ih
      rw [hpc, ← ih]
      cases (isFileToGenerate f used n ii iw).1 <;> simp [hfp]

theorem allGenerated_cons (r : Request) (rs : List Request) :
    allGenerated (r :: rs) = r.toGenerate ++ allGenerated rs := by
  simp [allGenerated]

theorem reqs_cons (n : List Str) (ii iw : Bool) (img : Image) (rest : List Image) (used : List Str) :
    reqs n ii iw (img :: rest) used =
      { toGenerate := (reqFiles n ii iw img used).1, protoFiles := (reqFiles n ii iw img used).2.1,
        sourceFiles := (reqFiles n ii iw img used).1 } ::
        reqs n ii iw rest (reqFiles n ii iw img used).2.2 := rfl

/-- `ImagesToCodeGeneratorRequests` threads ONE `alreadyUsedPaths` through all images: the
    `file_to_generate` lists of the requests, concatenated, are the loop of
    `imageToCodeGeneratorRequest` run once over the concatenated images. -/
theorem allGenerated_reqs (n : List Str) (ii iw : Bool) : ∀ (imgs : List Image) (used : List Str),
    allGenerated (reqs n ii iw imgs used) = (reqFiles n ii iw imgs.flatten used).1
  | [], _ => rfl
  | img :: rest, used => by
    rw [reqs_cons, allGenerated_cons, List.flatten_cons, reqFiles_append, allGenerated_reqs n ii iw rest]

/-! ### ImageByDir -/

theorem mem_nonImports {img : Image} {f : File} : f ∈ nonImports img ↔ f ∈ img ∧ f.isImport = false := by
  simp [nonImports]

theorem mem_targetsInDir {img : Image} {d p : Str} :
    p ∈ targetsInDir img d ↔ ∃ g ∈ img, g.isImport = false ∧ dir g.path = d ∧ g.path = p := by
  unfold targetsInDir
  rw [mem_sortStrs]
  simp only [List.mem_map, List.mem_filter, mem_nonImports, decide_eq_true_eq, and_assoc]

theorem nodup_dirsOf (img : Image) : (dirsOf img).Nodup :=
  nodup_sortStrs.mpr (nodup_dedup _)

theorem mem_dirsOf {img : Image} {d : Str} :
    d ∈ dirsOf img ↔ ∃ g ∈ img, g.isImport = false ∧ dir g.path = d := by
  unfold dirsOf
  rw [mem_sortStrs, mem_dedup]
  simp only [List.mem_map, mem_nonImports, and_assoc]

theorem nodup_paths_nonImports {img : Image} (hn : (paths img).Nodup) : (paths (nonImports img)).Nodup :=
  hn.sublist (List.filter_sublist.map _)

theorem sub_nonImports_perm (img : Image) (t : List Str) (hnd : t.Nodup) (hsub : ∀ p ∈ t, p ∈ paths img) :
    (paths (nonImports (imageWithOnlyPaths img t))).Perm t := by
  refine (List.perm_ext_iff_of_nodup (nodup_paths_nonImports (sub_nodup img t)) hnd).mpr fun p => ⟨fun hp => ?_, fun hp => ?_⟩
  · obtain ⟨x, hx, rfl⟩ := List.mem_map.mp hp
    obtain ⟨hxs, hni⟩ := mem_nonImports.mp hx
    simpa [sub_isImport hxs] using hni
  · obtain ⟨x, hx, rfl⟩ := List.mem_map.mp (sub_target_mem img t p hp (hsub p hp))
    exact mem_paths_of_mem (mem_nonImports.mpr ⟨hx, by simpa [sub_isImport hx] using hp⟩)

/-! ### The images a plugin's requests are built from -/

def stratImages (img : Image) (cfg : PluginCfg) : List Image :=
  if cfg.strategyAll then [img] else imageByDir img

theorem pluginRequests_eq (img : Image) (cfg : PluginCfg) :
    pluginRequests img cfg =
      reqs (allNonImportPaths (stratImages img cfg)) cfg.includeImports cfg.includeWKT (stratImages img cfg) [] := rfl

theorem reqFiles_protoFiles (n : List Str) (ii iw : Bool) :
    ∀ (fs : List File) (used : List Str), (reqFiles n ii iw fs used).2.1.map (·.1) = fs := by
  intro fs
  induction fs with
  | nil => intro used; rfl
  | cons f fs ih => intro used; rw [reqFiles_cons]; simp [ih]

/-- `file_to_generate` is the paths of the flagged `proto_file`s. -/
theorem reqFiles_toGenerate (n : List Str) (ii iw : Bool) : ∀ (fs : List File) (used : List Str),
    (reqFiles n ii iw fs used).1 = ((reqFiles n ii iw fs used).2.1.filter (·.2)).map (·.1.path) := by
  intro fs
  induction fs with
  | nil => intro used; rfl
  | cons f fs ih =>
    intro used
    rw [reqFiles_cons]
    cases (isFileToGenerate f used n ii iw).1 <;> simp [ih]

theorem reqs_protoFiles (n : List Str) (ii iw : Bool) :
    ∀ (imgs : List Image) (used : List Str),
      (reqs n ii iw imgs used).map (fun r => r.protoFiles.map (·.1)) = imgs := by
  intro imgs
  induction imgs with
  | nil => intro used; rfl
  | cons img rest ih => intro used; rw [reqs_cons]; simp [ih, reqFiles_protoFiles]

theorem mem_stratImages {img : Image} {cfg : PluginCfg} {i : Image} (h : i ∈ stratImages img cfg) :
    i = img ∨ ∃ d, i = imageWithOnlyPaths img (targetsInDir img d) := by
  unfold stratImages at h
  split at h
  · exact Or.inl (by simpa using h)
  · obtain ⟨d, _, rfl⟩ := List.mem_map.mp h
    exact Or.inr ⟨d, rfl⟩

theorem stratImages_files (img : Image) (cfg : PluginCfg) :
    ∀ i ∈ stratImages img cfg, ∀ x ∈ i, ∃ g ∈ img, x.path = g.path ∧ x.isWKT = g.isWKT ∧ x.deps = g.deps := by
  intro i hi x hx
  rcases mem_stratImages hi with rfl | ⟨d, rfl⟩
  · exact ⟨x, hx, rfl, rfl, rfl⟩
  · obtain ⟨g, hg, rfl⟩ := sub_marked img _ x hx
    exact ⟨g, hg, rfl, rfl, rfl⟩

theorem stratImages_nodup (img : Image) (cfg : PluginCfg) (hn : (paths img).Nodup) :
    ∀ i ∈ stratImages img cfg, (paths i).Nodup := by
  intro i hi
  rcases mem_stratImages hi with rfl | ⟨d, rfl⟩
  · exact hn
  · exact sub_nodup img _

theorem stratImages_closed (img : Image) (cfg : PluginCfg) :
    ∀ i ∈ stratImages img cfg, ∀ x ∈ i, ∀ d ∈ x.deps, d ∈ paths img → d ∈ paths i := by
  intro i hi x hx d hd hdi
  rcases mem_stratImages hi with rfl | ⟨_, rfl⟩
  · exact hdi
  · exact sub_closed img _ x hx d hd hdi

theorem allNonImportPaths_eq (imgs : List Image) : allNonImportPaths imgs = paths (nonImports imgs.flatten) := by
  simp [allNonImportPaths, paths, nonImports, List.flatMap_def, List.filter_flatten, List.map_flatten,
    Function.comp_def]

/-- The strategy images PARTITION the targets: their non-import paths, all together, are the
    non-import paths of the image, each once. -/
theorem stratImages_partition (img : Image) (cfg : PluginCfg) (hn : (paths img).Nodup) :
    (allNonImportPaths (stratImages img cfg)).Perm (paths (nonImports img)) := by
  unfold stratImages allNonImportPaths
  split
  · simp [paths]
  · unfold imageByDir
    rw [List.flatMap_map]
    -- grouping the targets by directory is a permutation, and each group is what its sub-image marks
    have hgroup := (BufProofs.ListLemmas.flatMap_filter_perm (fun f : File => dir f.path) (dirsOf img)
      (nonImports img) (nodup_dirsOf img) (fun f hf => mem_dirsOf.mpr
        ⟨f, (mem_nonImports.mp hf).1, (mem_nonImports.mp hf).2, rfl⟩)).map (·.path)
    rw [List.map_flatMap] at hgroup
    refine (BufProofs.ListLemmas.flatMap_perm_congr fun d _ => ?_).trans hgroup
    have ht : (targetsInDir img d).Perm (((nonImports img).filter fun f => dir f.path = d).map (·.path)) :=
      sortStrs_perm _
    refine (sub_nonImports_perm img _ (ht.nodup_iff.mpr ?_) fun p hp => ?_).trans ht
    · exact hn.sublist ((List.filter_sublist.trans List.filter_sublist).map _)
    · obtain ⟨g, hg, _, _, rfl⟩ := mem_targetsInDir.mp hp
      exact mem_paths_of_mem hg

theorem target_in_stratImage (img : Image) (cfg : PluginCfg) (hn : (paths img).Nodup) (f : File) (hf : f ∈ img)
    (hni : f.isImport = false) : ∃ i ∈ stratImages img cfg, f.path ∈ paths i := by
  obtain ⟨i, hi, hp⟩ := List.mem_flatMap.mp ((stratImages_partition img cfg hn).mem_iff.mpr
    (mem_paths_of_mem (mem_nonImports.mpr ⟨hf, hni⟩)))
  obtain ⟨x, hx, hxp⟩ := List.mem_map.mp hp
  exact ⟨i, hi, hxp ▸ mem_paths_of_mem (mem_nonImports.mp hx).1⟩

theorem stratImages_import_not_nonImp (img : Image) (cfg : PluginCfg) (hn : (paths img).Nodup)
    (g : File) (hg : g ∈ img) (hi : g.isImport = true) :
    g.path ∉ allNonImportPaths (stratImages img cfg) := by
  intro hmem
  obtain ⟨g', hg', hp⟩ := List.mem_map.mp ((stratImages_partition img cfg hn).mem_iff.mp hmem)
  obtain ⟨hgi, hni⟩ := mem_nonImports.mp hg'
  rw [eq_of_mem_nodup_paths hn hgi hg hp, hi] at hni
  cases hni

theorem stratImages_import (img : Image) (cfg : PluginCfg) (hn : (paths img).Nodup)
    (g : File) (hg : g ∈ img) (hi : g.isImport = true) :
    ∀ i ∈ stratImages img cfg, ∀ x ∈ i, x.path = g.path → x.isImport = true ∧ x.isWKT = g.isWKT := by
  intro i hii x hx hp
  obtain ⟨g', hg', hpg, hw, _⟩ := stratImages_files img cfg i hii x hx
  rw [hw, eq_of_mem_nodup_paths hn hg' hg (hpg ▸ hp)]
  refine ⟨?_, rfl⟩
  cases hxi : x.isImport
  · exact absurd (List.mem_flatMap.mpr ⟨i, hii, hp ▸ mem_paths_of_mem (mem_nonImports.mpr ⟨hx, hxi⟩)⟩)
      (stratImages_import_not_nonImp img cfg hn g hg hi)
  · rfl

theorem stratImages_paths_sub (img : Image) (cfg : PluginCfg) :
    ∀ i ∈ stratImages img cfg, ∀ p ∈ paths i, p ∈ paths img := by
  intro i hi p hp
  obtain ⟨x, hx, rfl⟩ := List.mem_map.mp hp
  obtain ⟨g, hg, hpg, _, _⟩ := stratImages_files img cfg i hi x hx
  rw [hpg]; exact mem_paths_of_mem hg

theorem import_generated_count (img : Image) (cfg : PluginCfg) (hn : (paths img).Nodup)
    (g : File) (hg : g ∈ img) (hi : g.isImport = true) :
    (allGenerated (pluginRequests img cfg)).count g.path =
      if eligible cfg.includeImports cfg.includeWKT g.isWKT &&
          (stratImages img cfg).any (fun i => (paths i).contains g.path) then 1 else 0 := by
  rw [pluginRequests_eq, allGenerated_reqs,
    reqFiles_count_import _ _ _ g.path g.isWKT (stratImages_import_not_nonImp img cfg hn g hg hi) _ []
      (fun x hx => by
        obtain ⟨i, hi', hxi⟩ := List.mem_flatten.mp hx
        exact stratImages_import img cfg hn g hg hi i hi' x hxi)]
  have : (paths (stratImages img cfg).flatten).contains g.path =
      (stratImages img cfg).any (fun i => (paths i).contains g.path) := by
    rw [Bool.eq_iff_iff]
    simp only [List.contains_iff_mem, List.any_eq_true, paths, List.map_flatten, List.mem_flatten]
    simp only [List.mem_map (f := List.map _)]
    exact ⟨fun ⟨_, ⟨i, hi, rfl⟩, h⟩ => ⟨i, hi, h⟩, fun ⟨i, hi, h⟩ => ⟨_, ⟨i, hi, rfl⟩, h⟩⟩
  rw [this]
  simp

theorem request_files_mem_stratImages (img : Image) (cfg : PluginCfg) (r : Request)
    (hr : r ∈ pluginRequests img cfg) : r.protoFiles.map (·.1) ∈ stratImages img cfg := by
  rw [pluginRequests_eq] at hr
  have := reqs_protoFiles (allNonImportPaths (stratImages img cfg)) cfg.includeImports cfg.includeWKT
    (stratImages img cfg) []
  rw [← this]
  exact List.mem_map.mpr ⟨r, hr, rfl⟩

/-! ### Dependency order -/

/-- Every file's dependencies that are files of `img` occur earlier in the list `L`. -/
def DepsBefore (img : Image) (L : List File) : Prop :=
  ∀ pre h post, L = pre ++ h :: post → ∀ d ∈ h.deps, d ∈ paths img → d ∈ paths pre

/-- The input image is ordered: distinct paths, dependencies first. -/
def Ordered (img : Image) : Prop := (paths img).Nodup ∧ DepsBefore img img

def rank (img : Image) (p : Str) : Nat := (paths img).idxOf p

theorem ordered_rank {img : Image} (ho : Ordered img) {f : File} (hf : f ∈ img) {d : Str}
    (hd : d ∈ f.deps) (hdi : d ∈ paths img) : rank img d < rank img f.path := by
  obtain ⟨pre, post, e⟩ := List.append_of_mem hf
  have hdp := ho.2 pre f post e d hd hdi
  have hnd := ho.1
  rw [e] at hnd
  simp only [paths, List.map_append, List.map_cons] at hnd
  have hfp : f.path ∉ List.map (·.path) pre := by
    intro hm
    have := (List.nodup_append.mp hnd).2.2 _ hm f.path (by simp)
    exact this rfl
  unfold rank
  rw [e]
  simp only [paths, List.map_append, List.map_cons, List.idxOf_append]
  rw [if_pos (by simpa [paths] using hdp), if_neg hfp, List.idxOf_cons_self]
  have := List.idxOf_lt_length_of_mem (by simpa [paths] using hdp : d ∈ List.map (·.path) pre)
  omega

section Walk
open BufProofs.ImagePathsLemmas BufModel.Graph

/-- An edge of the graph the walk runs on: a file of the image and one of its dependencies that
    the image holds. -/
theorem succOf_edge {img : Image} {x d : Str} {cs : List Str} (hs : succOf (lookIP img) x = some cs)
    (hd : d ∈ cs) : ∃ f ∈ img, f.path = x ∧ d ∈ f.deps ∧ d ∈ paths img := by
  obtain ⟨f', hf', rfl⟩ := succOf_eq_some.mp hs
  obtain ⟨g, hg, rfl⟩ := lookIP_eq_some.mp hf'
  obtain ⟨hdd, hsome⟩ := List.mem_filter.mp hd
  obtain ⟨gd, hgd⟩ := Option.isSome_iff_exists.mp (by simpa using hsome)
  exact ⟨g, (getFile_some hg).1, (getFile_some hg).2, hdd, lookIP_dom hgd⟩

/-- On an ordered image that graph only leads to earlier files: it has no cycle. -/
theorem reach_rank {img : Image} (ho : Ordered img) {a b : Str}
    (h : Graph.Reach (succOf (lookIP img)) a b) : rank img b ≤ rank img a := by
  induction h with
  | refl => exact Nat.le_refl _
  | step _ hs hc ih =>
    obtain ⟨f, hf, rfl, hd, hdi⟩ := succOf_edge hs hc
    exact Nat.le_trans (Nat.le_of_lt (ordered_rank ho hf hd hdi)) ih

/-- On an ordered image the sub-image lists dependencies first: the post-order of the shared DFS
    on a graph without cycles is topological. -/
theorem sub_depsBefore (img : Image) (t : List Str) (ho : Ordered img) :
    DepsBefore img (imageWithOnlyPaths img t) := by
  have hl := lookIP_ok img
  obtain ⟨vis, ps, hrun, hsim, hsome⟩ := visitAll_run (t := t) hl (paths img) (fun _ _ => lookIP_dom)
    (img.length + 1) (by simp [paths]) _ (targets_src img t)
  have htopo := dfsRoots_isTopo hrun (fun r _ x _ cs d hs hd hback => by
    obtain ⟨f, hf, rfl, hdd, hdi⟩ := succOf_edge hs hd
    exact absurd (reach_rank ho hback) (Nat.not_le.mpr (ordered_rank ho hf hdd hdi)))
  have hps : ps = paths (imageWithOnlyPaths img t) := by
    have h1 := congrArg ImagePaths.paths (imageWithOnlyPaths_toIP img t)
    rw [hsim, paths_emit hl hsome, paths_map_toIP] at h1
    exact h1.symm
  intro pre h post e d hd hdi
  obtain ⟨cs, hs, hc⟩ := isTopo_sound _ ps [] htopo (paths pre) h.path (paths post) (by
    rw [hps, e]; simp [paths])
  obtain ⟨g, hg, rfl⟩ := sub_marked img t h (e ▸ List.mem_append_right _ List.mem_cons_self)
  obtain ⟨f', hf', rfl⟩ := succOf_eq_some.mp hs
  rw [show (mark t g).path = g.path from rfl, lookIP_path (getFile_of_mem_nodup ho.1 hg)] at hf'
  cases hf'
  obtain ⟨gd, hgd⟩ := getFile_of_mem_paths hdi
  simpa using hc d (List.mem_filter.mpr ⟨hd, by simp [lookIP, hgd]⟩)

end Walk

theorem stratImages_depsBefore (img : Image) (cfg : PluginCfg) (ho : Ordered img) :
    ∀ i ∈ stratImages img cfg, DepsBefore img i := by
  intro i hi
  rcases mem_stratImages hi with rfl | ⟨d, rfl⟩
  · exact ho.2
  · exact sub_depsBefore img _ ho

theorem reqFiles_gen_sub (n : List Str) (ii iw : Bool) :
    ∀ (fs : List File) (used : List Str), ∀ p ∈ (reqFiles n ii iw fs used).1, p ∈ paths fs := by
  intro fs used p hp
  rw [reqFiles_toGenerate] at hp
  obtain ⟨x, hx, rfl⟩ := List.mem_map.mp hp
  rw [← reqFiles_protoFiles n ii iw fs used]
  exact mem_paths_of_mem (List.mem_map_of_mem (List.mem_filter.mp hx).1)

theorem reqs_mem (n : List Str) (ii iw : Bool) :
    ∀ (imgs : List Image) (used : List Str), ∀ r ∈ reqs n ii iw imgs used,
      ∃ i ∈ imgs, ∃ u, r.toGenerate = (reqFiles n ii iw i u).1 ∧
        r.protoFiles = (reqFiles n ii iw i u).2.1 ∧ r.sourceFiles = (reqFiles n ii iw i u).1 := by
  intro imgs
  induction imgs with
  | nil => intro used r hr; simp [reqs] at hr
  | cons i rest ih =>
    intro used r hr
    rw [reqs_cons] at hr
    rcases List.mem_cons.mp hr with rfl | hr
    · exact ⟨i, by simp, used, rfl, rfl, rfl⟩
    · obtain ⟨j, hj, u, h⟩ := ih _ r hr
      exact ⟨j, List.mem_cons_of_mem _ hj, u, h⟩

theorem reqFiles_flag (n : List Str) (ii iw : Bool) :
    ∀ (fs : List File) (used : List Str), (paths fs).Nodup →
      ∀ x ∈ (reqFiles n ii iw fs used).2.1, (x.2 = true ↔ x.1.path ∈ (reqFiles n ii iw fs used).1) := by
  intro fs used hnd x hx
  rw [← reqFiles_protoFiles n ii iw fs used, paths, List.map_map] at hnd
  rw [reqFiles_toGenerate]
  refine ⟨fun h => List.mem_map.mpr ⟨x, List.mem_filter.mpr ⟨hx, h⟩, rfl⟩, fun h => ?_⟩
  -- a flagged entry with the path of `x` is `x`: the paths are distinct
  obtain ⟨y, hy, hyp⟩ := List.mem_map.mp h
  obtain ⟨hy, hy2⟩ := List.mem_filter.mp hy
  rw [← BufProofs.ListLemmas.eq_of_nodup_map _ hnd hy hx hyp]
  exact hy2

/-- Transitive dependency through files of the image. -/
inductive Reach (img : Image) : Str → Str → Prop
  | refl (p : Str) : Reach img p p
  | step {p q d : Str} : Reach img p q → (∃ f ∈ img, f.path = q ∧ d ∈ f.deps) → d ∈ paths img → Reach img p d

/-- A list of image files (up to the import mark) that is closed under the dependencies the image
    holds contains everything its members reach. -/
theorem closed_under_deps {img : Image} {L : List File} (hn : (paths img).Nodup)
    (hL : ∀ x ∈ L, ∀ d ∈ x.deps, d ∈ paths img → d ∈ paths L)
    (hm : ∀ x ∈ L, ∃ g ∈ img, x.path = g.path ∧ x.isWKT = g.isWKT ∧ x.deps = g.deps)
    {p q : Str} (hr : Reach img p q) (hp : p ∈ paths L) : q ∈ paths L := by
  induction hr with
  | refl => exact hp
  | step _ hdep hdi ih =>
    obtain ⟨f, hf, hfq, hd⟩ := hdep
    obtain ⟨x, hx, hxp⟩ := List.mem_map.mp ih
    obtain ⟨g, hg, hgp, _, hgd⟩ := hm x hx
    obtain rfl : g = f := eq_of_mem_nodup_paths hn hg hf (by rw [← hgp, hxp, hfq])
    exact hL x hx _ (hgd ▸ hd) hdi

/-! ### A decidable check of `Ordered` (for the non-vacuity examples) -/

def depsBeforeB (img : Image) : List Str → List File → Bool
  | _, [] => true
  | pre, h :: rest =>
    h.deps.all (fun d => !(paths img).contains d || pre.contains d) &&
      depsBeforeB img (pre ++ [h.path]) rest

theorem depsBeforeB_sound (img : Image) :
    ∀ (L : List File) (pre0 : List File), depsBeforeB img (paths pre0) L = true →
      ∀ pre h post, L = pre ++ h :: post → ∀ d ∈ h.deps, d ∈ paths img → d ∈ paths (pre0 ++ pre) := by
  intro L
  induction L with
  | nil => intro pre0 _ pre h post e; cases pre <;> simp at e
  | cons x xs ih =>
    intro pre0 hb pre h post e d hd hdi
    simp only [depsBeforeB, Bool.and_eq_true, List.all_eq_true] at hb
    cases pre with
    | nil =>
      simp only [List.nil_append, List.cons.injEq] at e
      obtain ⟨rfl, _⟩ := e
      have := hb.1 d hd
      simp only [Bool.or_eq_true, Bool.not_eq_true', List.contains_iff_mem] at this
      rcases this with h1 | h1
      · have : (paths img).contains d = true := by simpa using hdi
        rw [this] at h1; cases h1
      · simpa using h1
    | cons y ys =>
      simp only [List.cons_append, List.cons.injEq] at e
      obtain ⟨rfl, e⟩ := e
      have hb2 : depsBeforeB img (paths (pre0 ++ [x])) xs = true := by
        simpa [paths] using hb.2
      have := ih (pre0 ++ [x]) hb2 ys h post e d hd hdi
      simpa [paths] using this

def orderedB (img : Image) : Bool := decide ((paths img).Nodup) && depsBeforeB img [] img

theorem orderedB_sound {img : Image} (h : orderedB img = true) : Ordered img := by
  simp only [orderedB, Bool.and_eq_true, decide_eq_true_eq] at h
  refine ⟨h.1, ?_⟩
  intro pre x post e d hd hdi
  have := depsBeforeB_sound img img [] (by simpa [paths] using h.2) pre x post e d hd hdi
  simpa using this

/-! ### Built images are ordered (connection to C01) -/

/-- The image `buf generate` receives from the build (`BufModel.Targeting.buildImage`, property
    C01) seen as a C17 image: the dependencies of a file are what the compiler says it imports,
    `isWKT` is `datawkt.Exists` (a parameter `w`). -/
def ofBuilt (c : BufModel.Targeting.Compiler) (w : Str → Bool) (img : List BufModel.Targeting.ImgFile) : Image :=
  img.map fun f => ⟨f.path, f.isImport, w f.path, c.imports f.path⟩

theorem paths_ofBuilt (c : BufModel.Targeting.Compiler) (w : Str → Bool) (img : List BufModel.Targeting.ImgFile) :
    paths (ofBuilt c w img) = img.map (·.path) := by
  unfold paths ofBuilt; simp

/-- Every image the build can produce is `Ordered`: C01's `image_nodup` and
    `image_topological`. -/
theorem ordered_of_buildImage (t : BufModel.Targeting.TWS) (c : BufModel.Targeting.Compiler)
    (perm : List Str → List Str) (img : List BufModel.Targeting.ImgFile)
    (h : BufModel.Targeting.buildImage t c perm = .ok img) (w : Str → Bool) :
    Ordered (ofBuilt c w img) := by
  constructor
  · rw [paths_ofBuilt]; exact BufProofs.C01.image_nodup t c perm img h
  · intro pre x post e d hd _
    unfold ofBuilt at e
    obtain ⟨l1, l2', hl, hpre, hrest⟩ := List.map_eq_append_iff.mp e
    obtain ⟨f, l2, hl2, hx, _⟩ := List.map_eq_cons_iff.mp hrest
    subst hl2
    have := BufProofs.C01.image_topological t c perm img h l1 f l2 hl d (by rw [← hx] at hd; exact hd)
    rw [← hpre]
    simpa [paths] using this

end BufModel.Generate
