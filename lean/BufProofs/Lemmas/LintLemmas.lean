import BufModel.Lint
import BufProofs.Lemmas.CaseLemmas
import BufProofs.Lemmas.LintRpcKey
/-
  C05 — the lint model rule by rule: the syntactic condition `good` excludes the coded predicate
  `bad` (through the grammar lemmas of CaseLemmas), hence a rule whose Clean condition holds
  reports nothing; nested messages are all visited.  Also the literal workspaces that the examples of
  Props/C05 evaluate.
-/
namespace BufModel.Lint
open BufModel.Case

/-! ### generic list facts -/

theorem filter_eq_nil_of_forall {α} (l : List α) (p : α → Bool) (h : ∀ x ∈ l, p x = false) :
    l.filter p = [] :=
  List.filter_eq_nil_iff.mpr fun x hx => by simp [h x hx]

/-! ### strings -/

theorem joinSep_singleton (sep : Char) : ∀ ls, joinSep [sep] ls = joinBy sep ls :=
  eq_joinBy sep rfl (fun _ => rfl) (fun x y xs => by simp [joinSep])

theorem splitDots_ne_nil (s : Str) : splitDots s ≠ [] :=
  splitDots_eq s ▸ splitBy_ne_nil '.' s

theorem joinSep_splitDots (s : Str) : joinSep ['.'] (splitDots s) = s := by
  rw [joinSep_singleton, splitDots_eq, joinBy_splitBy]

theorem pkgLowerSnake_fix (pkg : Str) (h : (splitDots pkg).all isLowerSnakeIdent = true) :
    pkgLowerSnake pkg = pkg := by
  unfold pkgLowerSnake
  rw [BufProofs.ListLemmas.map_id_of_forall _ _ fun s hs => lowerSnakeIdent_fix s (List.all_eq_true.mp h s hs), joinSep_splitDots]

/-! ### per-element rules: good ⇒ not bad -/

/-- The heart of `clean_no_annotations` for the per-element rules: the syntactic condition
    `good` excludes the coded violation predicate `bad` — for the naming rules this is where the
    grammar lemmas are used. -/
theorem good_not_bad (r : Rule) (er : ElemRule) (h : elemRule r = some er) (o : Options) (e : er.α)
    (hg : er.good o e = true) : er.bad o e = false := by
  cases r <;> simp only [elemRule, Option.some.injEq, reduceCtorEq] at h <;> subst h <;>
    simp only [goodComment] at hg ⊢
  -- the naming rules: the grammar makes the name a fixpoint of the conversion
  case ENUM_PASCAL_CASE | RPC_PASCAL_CASE | SERVICE_PASCAL_CASE | ENUM_VALUE_UPPER_SNAKE_CASE | FILE_LOWER_SNAKE_CASE =>
    simp [hg, pascalIdent_fix, lowerSnakeIdent_fix, upperSnakeIdent_fix]
  -- `good` is "exempt, or the condition"
  case COMMENT_FIELD | COMMENT_MESSAGE | COMMENT_ONEOF | FIELD_LOWER_SNAKE_CASE | MESSAGE_PASCAL_CASE
      | ONEOF_LOWER_SNAKE_CASE | PACKAGE_LOWER_SNAKE_CASE | PACKAGE_VERSION_SUFFIX =>
    simp only [Bool.or_eq_true] at hg
    rcases hg with hg | hg <;> simp [hg, pascalIdent_fix, lowerSnakeIdent_fix, pkgLowerSnake_fix]
  case ENUM_FIRST_VALUE_ZERO => split <;> simp_all
  case ENUM_ZERO_VALUE_SUFFIX =>
    simp only [Bool.or_eq_true] at hg
    rcases hg with hg | hg
    · have : (e.2.snd.number == 0) = false := by simpa using hg
      simp [this]
    · simp [hg]
  case PACKAGE_DIRECTORY_MATCH =>
    simp only [Bool.or_eq_true] at hg
    rcases hg with hg | hg
    · simp [hg]
    · have : fileDir e = replaceDots e.pkg := by simpa using hg
      simp [this]
  -- the rest: `good` is the negation of `bad`
  all_goals simp_all

/-! ### per-element rules: clean ⇒ nothing flagged -/

theorem flagged_nil_of_good (er : ElemRule) (r : Rule) (h : elemRule r = some er) (o : Options) (f : File)
    (hg : (er.els f).all (er.good o) = true) : er.flagged o f = [] := by
  unfold ElemRule.flagged
  rw [filter_eq_nil_of_forall _ _ (fun x hx => good_not_bad r er h o x (List.all_eq_true.mp hg x hx))]
  rfl

theorem runRule_elem (o : Options) (w : Schema) (r : Rule) (er : ElemRule) (h : elemRule r = some er) :
    runRule o w r = (nonImport w).flatMap fun f => (er.flagged o f).map (ann r f) := by
  unfold runRule; rw [h]

theorem runRule_global (o : Options) (w : Schema) (r : Rule) (h : elemRule r = none) :
    runRule o w r = globalRule o w r := by
  unfold runRule; rw [h]

theorem cleanRule_elem (o : Options) (w : Schema) (r : Rule) (er : ElemRule) (h : elemRule r = some er) :
    cleanRule o w r = (nonImport w).all fun f => (er.els f).all (er.good o) := by
  unfold cleanRule; rw [h]

theorem cleanRule_global (o : Options) (w : Schema) (r : Rule) (h : elemRule r = none) :
    cleanRule o w r = globalClean o w r := by
  unfold cleanRule; rw [h]

/-! ### grouping rules -/

theorem dedup_of_all_eq (a : Str) : ∀ xs : List Str, (∀ x ∈ xs, x = a) → dedup xs = [] ∨ dedup xs = [a]
  | [], _ => Or.inl rfl
  | x :: rest, h => by
    have hx : x = a := h x (by simp)
    subst hx
    have ih := dedup_of_all_eq x rest (fun y hy => h y (by simp [hy]))
    have hd : dedup (x :: rest) = if (dedup rest).contains x then dedup rest else x :: dedup rest := rfl
    rw [hd]
    rcases ih with ih | ih
    · rw [ih]; simp
    · rw [ih]; simp

theorem dedup_length_le_one (xs : List Str) (h : ∀ x ∈ xs, ∀ y ∈ xs, x = y) : (dedup xs).length ≤ 1 := by
  cases xs with
  | nil => simp [dedup]
  | cons a t =>
    rcases dedup_of_all_eq a (a :: t) (fun x hx => h x hx a (by simp)) with e | e <;> rw [e] <;> simp

theorem groupClean_iff (files : List File) (key val : File → Str) :
    groupClean files key val = true ↔ ∀ g ∈ files, ∀ g' ∈ files, key g = key g' → val g = val g' := by
  unfold groupClean
  simp only [List.all_eq_true, Bool.or_eq_true, Bool.not_eq_true', beq_eq_false_iff_ne, beq_iff_eq]
  constructor
  · intro h g hg g' hg' e
    rcases h g hg g' hg' with hne | he
    · exact absurd e hne
    · exact he
  · intro h g hg g' hg'
    by_cases e : key g = key g'
    · exact Or.inr (h g hg g' hg' e)
    · exact Or.inl e

theorem groupRule_nil (r : Rule) (files : List File) (key val : File → Str) (loc : File → List Nat)
    (h : groupClean files key val = true) : groupRule r files key val loc = [] := by
  unfold groupRule
  apply List.flatMap_eq_nil_iff.mpr
  intro k _
  -- the values of one group are all equal, so they dedup to at most one
  rw [if_neg (Nat.not_lt.mpr (dedup_length_le_one _ fun x hx y hy => ?_))]
  obtain ⟨f, hf, rfl⟩ := List.mem_map.mp hx
  obtain ⟨g, hg, rfl⟩ := List.mem_map.mp hy
  simp only [List.mem_filter, beq_iff_eq] at hf hg
  exact (groupClean_iff files key val).mp h f hf.1 g hg.1 (hf.2.trans hg.2.symm)

theorem globalRule_nil (o : Options) (w : Schema) (r : Rule) (h : globalClean o w r = true) :
    globalRule o w r = [] := by
  cases r <;> simp only [globalRule, globalClean] at h ⊢ <;>
    first
      | exact groupRule_nil _ _ _ _ _ h
      | exact List.isEmpty_iff.mp h
      | exact rpcUniqueCoded_nil o w (List.isEmpty_iff.mp h)
      | rfl

theorem runRule_nil_of_clean (o : Options) (w : Schema) (r : Rule) (h : cleanRule o w r = true) :
    runRule o w r = [] := by
  cases he : elemRule r with
  | none =>
    rw [runRule_global o w r he]
    exact globalRule_nil o w r (by rw [cleanRule_global o w r he] at h; exact h)
  | some er =>
    rw [runRule_elem o w r er he]
    rw [cleanRule_elem o w r er he] at h
    apply List.flatMap_eq_nil_iff.mpr
    intro f hf
    rw [flagged_nil_of_good er r he o f (List.all_eq_true.mp h f hf)]
    rfl

theorem clean_no_annotations_aux {o : Options} {rules : List Rule} {w : Schema}
    (h : cleanB o rules w = true) : lint o rules w = [] := by
  unfold lint
  apply List.flatMap_eq_nil_iff.mpr
  intro r hr
  exact runRule_nil_of_clean o w r (List.all_eq_true.mp h r hr)

/-! ### imports are skipped -/

theorem mem_nonImport {w : Schema} {f : File} (h : f ∈ nonImport w) : f ∈ w ∧ f.isImport = false := by
  unfold nonImport at h
  simpa using h

/-! ### nested visiting -/

/-- `Nested x m`: x is m itself or a message nested in m at any depth. -/
inductive Nested : Message → Message → Prop where
  | refl (m : Message) : Nested m m
  | step {x m' m : Message} : m' ∈ m.msgs → Nested x m' → Nested x m

theorem visitMsg_self (p : List Nat) (m : Message) : (p, m) ∈ visitMsg p m := by
  cases m; simp [visitMsg]

theorem visitMsgs_mem (p : List Nat) (tag : Nat) : ∀ (ms : List Message) (i : Nat) (m : Message), m ∈ ms →
    ∃ j, ∀ y ∈ visitMsg (p ++ [tag, j]) m, y ∈ visitMsgs p tag i ms
  | [], _, _, h => by simp at h
  | m0 :: rest, i, m, h => by
    simp only [List.mem_cons] at h
    rcases h with rfl | h
    · exact ⟨i, fun y hy => by simp [visitMsgs, hy]⟩
    · obtain ⟨j, hj⟩ := visitMsgs_mem p tag rest (i + 1) m h
      exact ⟨j, fun y hy => by simp [visitMsgs, hj y hy]⟩

theorem visitMsg_children (p : List Nat) (m : Message) :
    ∀ y ∈ visitMsgs p 3 0 m.msgs, y ∈ visitMsg p m := by
  cases m; intro y hy; simp [visitMsg, Message.msgs] at *; exact Or.inr hy

theorem visit_nested {x m : Message} (h : Nested x m) : ∀ p, ∃ q, (q, x) ∈ visitMsg p m := by
  induction h with
  | refl => exact fun p => ⟨p, visitMsg_self p _⟩
  | step hm _ ih =>
    intro p
    obtain ⟨j, hj⟩ := visitMsgs_mem p 3 _ 0 _ hm
    obtain ⟨q, hq⟩ := ih (p ++ [3, j])
    exact ⟨q, visitMsg_children p _ _ (hj _ hq)⟩

theorem mem_indexFrom {α} : ∀ (l : List α) (i : Nat) (x : α), x ∈ l → ∃ j, (j, x) ∈ indexFrom i l
  | [], _, _, h => by simp at h
  | a :: t, i, x, h => by
    simp only [List.mem_cons] at h
    rcases h with rfl | h
    · exact ⟨i, by simp [indexFrom]⟩
    · obtain ⟨j, hj⟩ := mem_indexFrom t (i + 1) x h
      exact ⟨j, by simp [indexFrom, hj]⟩

/-! ### a visited bad element is reported -/

theorem mem_runRule_of_bad (o : Options) (w : Schema) (r : Rule) (er : ElemRule)
    (he : elemRule r = some er) (f : File) (hf : f ∈ w) (hni : f.isImport = false)
    (e : er.α) (hmem : e ∈ er.els f) (hbad : er.bad o e = true) :
    ann r f (er.loc e) ∈ runRule o w r := by
  rw [runRule_elem o w r er he]
  simp only [List.mem_flatMap, List.mem_map, ElemRule.flagged, List.mem_filter, nonImport, Bool.not_eq_true']
  exact ⟨f, ⟨hf, hni⟩, _, ⟨e, ⟨hmem, hbad⟩, rfl⟩, rfl⟩

/-! ### example workspaces used by the non-vacuity examples of Props/C05 -/

def setImport (f : File) (i : Nat) (imp : Import) : File := { f with imports := f.imports.set i imp }

def exDep : File :=
  { path := "Dep/Bad.proto".toList, pkg := "Dep_pkg".toList, isImport := true,
    msgs := [.mk "bad_message".toList [] false [⟨"BadField".toList, [], true, false, false, none⟩] [] [] [] []] }

def exEnum : Enum :=
  { name := "Color".toList, comment := " A color.\n".toList,
    values := [⟨"COLOR_UNSPECIFIED".toList, " Zero.\n".toList, 0⟩, ⟨"COLOR_RED".toList, " Red.\n".toList, 1⟩] }

def exInner : Message :=
  .mk "Inner".toList " Inner.\n".toList false [⟨"id".toList, " Id.\n".toList, false, false, false, none⟩] [] [] [exEnum] []

def exOuter : Message :=
  .mk "Outer".toList " Outer.\n".toList false
    [⟨"foo_bar".toList, " Foo.\n".toList, false, false, false, none⟩] [] [] [] [exInner]

def exReq (n : String) : Message := .mk n.toList " Msg.\n".toList false [] [] [] [] []

def exFile : File :=
  { path := "acme/foo/v1/types.proto".toList, pkg := "acme.foo.v1".toList,
    imports := [⟨"Dep/Bad.proto".toList, false, false, false⟩],
    langOpts := [none, none, none, none, none, none, none],
    msgs := [exOuter, exReq "GetFooRequest", exReq "GetFooResponse"],
    svcs := [⟨"FooService".toList, " Svc.\n".toList,
      [⟨"GetFoo".toList, " Get.\n".toList, "acme.foo.v1.GetFooRequest".toList, "acme.foo.v1.GetFooResponse".toList, false, false⟩]⟩] }

def exWs : Schema := [exFile, exDep]

def exPlantPublic : Schema := [setImport exFile 0 ⟨"Dep/Bad.proto".toList, true, false, false⟩, exDep]
def exPlantWeak : Schema := [setImport exFile 0 ⟨"Dep/Bad.proto".toList, false, true, false⟩, exDep]

def exEnumBad : Enum := { exEnum with name := "color".toList }
def exInnerBad : Message :=
  .mk "Inner".toList " Inner.\n".toList false [⟨"id".toList, " Id.\n".toList, false, false, false, none⟩] [] [] [exEnumBad] []
def exOuterBad : Message :=
  .mk "Outer".toList " Outer.\n".toList false
    [⟨"foo_bar".toList, " Foo.\n".toList, false, false, false, none⟩] [] [] [] [exInnerBad]
def exPlantEnumName : Schema :=
  [{ exFile with msgs := [exOuterBad, exReq "GetFooRequest", exReq "GetFooResponse"] }, exDep]

/-! a proto2-style file with every KIND of field: plain, oneof member, map field (+ synthetic
    entry message), group field (+ its nested message, which owns the comment), an extension
    nested in a message and two file-level extensions -/

def fld (n c : String) : Field := ⟨n.toList, c.toList, false, false, false, none⟩

def exEntry : Message :=
  .mk "CountsEntry".toList [] true [fld "key" "", fld "value" ""] [] [] [] []

def exGroupBody : Message :=
  .mk "Result".toList " The result group.\n".toList false [fld "url" " Url.\n"] [] [] [] []

def exKindsMsg : Message :=
  .mk "Holder".toList " Holder.\n".toList false
    [fld "id" " Id.\n",
     ⟨"result".toList, [], false, true, false, none⟩,          -- group field: no comment of its own
     fld "counts" " Counts.\n",                                 -- map field
     ⟨"a".toList, " A.\n".toList, false, false, false, some 0⟩, -- oneof members
     ⟨"b".toList, " B.\n".toList, false, false, false, some 0⟩]
    [⟨"choice".toList, " Choice.\n".toList, false⟩]
    [fld "nested_ext" " Nested extension.\n"]
    []
    [exGroupBody, exEntry]

def exKindsFile (fileExts : List Field) : File :=
  { path := "acme/foo/v1/kinds.proto".toList, pkg := "acme.foo.v1".toList,
    langOpts := [none, none, none, none, none, none, none],
    msgs := [exKindsMsg], exts := fileExts }

def exKinds : Schema :=
  [exKindsFile [fld "file_ext" " File-level extension.\n", fld "other_ext" " Another.\n"], exDep]

/-- the SECOND file-level extension loses its comment -/
def exKindsPlantFileExtComment : Schema :=
  [exKindsFile [fld "file_ext" " File-level extension.\n", fld "other_ext" ""], exDep]

/-- the FIRST file-level extension gets a camelCase name -/
def exKindsPlantFileExtName : Schema :=
  [exKindsFile [fld "fileExt" " File-level extension.\n", fld "other_ext" " Another.\n"], exDep]

end BufModel.Lint
