import BufProofs.Lemmas.ConfigLemmas
import BufProofs.Lemmas.ListLemmas
/-
  C16, check configurations (the common part of a lint and a breaking section): what success of
  `readCheck` means, that every configuration it returns is well-formed (`WFCheck`), and that a
  well-formed configuration is read back from what the writer emits for it — from the module's own
  directory and, hoisted, from the top of the file.
-/
namespace BufModel.Config
open BufModel.Path

/-! ### re-basing lists of paths: write (join) then read (rel) -/

def rebase (d : Key) (ks : List Key) : List P := ks.map fun k => P.ok (d ++ k)

theorem isDisabled_eq_false {d : Key} {ps : List P} :
    isDisabled d ps = some false ↔ ∀ p ∈ ps, ∃ k, p.nv = some k ∧ k ≠ d := by
  induction ps with
  | nil => simp [isDisabled]
  | cons p rest ih =>
    rw [List.forall_mem_cons, ← ih, isDisabled]
    rcases p.nv with _ | k
    · simp
    · by_cases hk : k = d <;> simp [hk]

theorem isDisabled_rebase (d : Key) (ks : List Key) (h : [] ∉ ks) : isDisabled d (rebase d ks) = some false := by
  refine isDisabled_eq_false.mpr fun p hp => ?_
  obtain ⟨k, hk, rfl⟩ := List.mem_map.mp hp
  exact ⟨_, rfl, fun e => h (List.append_right_eq_self.mp e ▸ hk)⟩

theorem relPaths_rebase (d : Key) (r : Bool) (ks : List Key) : relPaths d r (rebase d ks) = some ks := by
  induction ks with
  | nil => rfl
  | cons k rest ih =>
    simp only [rebase, List.map_cons, relPaths, P.nv, isPrefixOf_self_append, if_true]
    have : relPaths d r (List.map (fun k => P.ok (d ++ k)) rest) = some rest := ih
    rw [this, drop_append_self]

def rebaseIO (d : Key) (io : List (Str × List Key)) : List (Str × List P) :=
  io.map fun (id, ks) => (id, ks.map fun k => P.ok (d ++ k))

theorem relIgnoreOnly_eq (d : Key) (r : Bool) (io : List (Str × List P)) :
    relIgnoreOnly d r io =
      (io.mapM fun e => (relPaths d r e.2).map (e.1, ·)).map (·.filter fun e => e.2 ≠ []) := by
  induction io with
  | nil => rfl
  | cons e rest ih =>
    obtain ⟨id, ps⟩ := e
    rw [relIgnoreOnly, ih, List.mapM_cons]
    generalize List.mapM (m := Option) _ rest = o
    cases relPaths d r ps with
    | none => rfl
    | some ks =>
      cases o with
      | none => rfl
      | some out => by_cases hk : ks = [] <;> simp [hk]

theorem relIgnoreOnly_rebase (d : Key) (r : Bool) (io : List (Str × List Key))
    (h : ∀ e ∈ io, e.2 ≠ []) : relIgnoreOnly d r (rebaseIO d io) = some io := by
  rw [relIgnoreOnly_eq, rebaseIO, BufProofs.ListLemmas.mapM_map_some _ _ id io fun ⟨i, ks⟩ _ => by
    show (relPaths d r (rebase d ks)).map _ = _
    rw [relPaths_rebase]; rfl, List.map_id]
  exact congrArg some (List.filter_eq_self.mpr fun e he => by simpa using h e he)

/-! ### well-formed check configurations are read back from what the writer emits -/

/-- What every CheckConfig produced by a reader satisfies. -/
structure WFCheck (c : Check) : Prop where
  dis : c.disabled = true → c = Check.disabledCfg
  use : Sorted strLt c.use
  except : Sorted strLt c.except
  ignore : WFKeys c.ignore
  noRoot : [] ∉ c.ignore
  ignoreOnly : ∀ e ∈ c.ignoreOnly, e.2 ≠ [] ∧ WFKeys e.2

theorem checkIgnoreOnly_eq_mapM (io : List (Str × List Key)) :
    checkIgnoreOnly io = io.mapM fun e => (normCheckKeys (sortU keyLt e.2)).map (e.1, ·) := by
  induction io with
  | nil => rfl
  | cons e rest ih =>
    obtain ⟨id, ks⟩ := e
    rw [checkIgnoreOnly, ih, List.mapM_cons]
    generalize List.mapM (m := Option) _ rest = o
    cases normCheckKeys (sortU keyLt ks) <;> cases o <;> rfl

theorem checkIgnoreOnly_self (io : List (Str × List Key)) (h : ∀ e ∈ io, WFKeys e.2) :
    checkIgnoreOnly io = some io := by
  have := BufProofs.ListLemmas.mapM_map_some id (fun e => (normCheckKeys (sortU keyLt e.2)).map (e.1, ·)) id io
    fun e he => by rw [id, normCheckKeys_sortU_self _ (h e he).sorted (h e he).anti]; rfl
  rwa [List.map_id, ← checkIgnoreOnly_eq_mapM] at this

theorem newEnabledCheck_self (c : Check) (h : WFCheck c) (hd : c.disabled = false) :
    newEnabledCheck c.use c.except c.ignore c.ignoreOnly c.disableBuiltin = some c := by
  unfold newEnabledCheck
  rw [normCheckKeys_sortU_self _ h.ignore.sorted h.ignore.anti,
      checkIgnoreOnly_self _ (fun e he => (h.ignoreOnly e he).2),
      sortU_eq_self _ h.use, sortU_eq_self _ h.except]
  cases c; simp_all

/-- A section written for the module at `d' ++ d`, read from `d'`: the constructor of enabled
    configurations applied to the keys below `d'`.  `d = []` is the module's own section, `d' = []`
    the section hoisted to the top of the file. -/
theorem readCheck_written (c : Check) (d' d : Key) (r : Bool) (hd : c.disabled = false) (hnr : [] ∉ c.ignore)
    (hne : ∀ e ∈ c.ignoreOnly, e.2 ≠ []) :
    readCheck (extCheckOf c (d' ++ d)) d' r =
      newEnabledCheck c.use c.except (c.ignore.map (d ++ ·))
        (c.ignoreOnly.map fun e => (e.1, e.2.map (d ++ ·))) c.disableBuiltin := by
  have e1 : (extCheckOf c (d' ++ d)).ignore = rebase d' (c.ignore.map (d ++ ·)) := by
    simp [extCheckOf, hd, rebase, List.append_assoc]
  have e2 : (extCheckOf c (d' ++ d)).ignoreOnly =
      rebaseIO d' (c.ignoreOnly.map fun e => (e.1, e.2.map (d ++ ·))) := by
    simp [extCheckOf, rebaseIO, List.append_assoc]
  unfold readCheck
  rw [e1, e2, isDisabled_rebase d' _ (by simpa using fun h => absurd h hnr), relPaths_rebase,
    relIgnoreOnly_rebase d' r _ (by
      intro e he
      obtain ⟨e0, he0, rfl⟩ := List.mem_map.mp he
      simpa using hne e0 he0)]
  rfl

/-- `r = true`: the section on its module; `r = false`: the section hoisted to the top of the file. -/
theorem readCheck_extCheckOf (c : Check) (d : Key) (r : Bool) (h : WFCheck c) :
    readCheck (extCheckOf c d) d r = some c := by
  cases hd : c.disabled with
  | true =>
    obtain rfl := h.dis hd
    simp [readCheck, extCheckOf, Check.disabledCfg, isDisabled, P.nv]
  | false =>
    have := readCheck_written c d [] r hd h.noRoot (fun e he => (h.ignoreOnly e he).1)
    simp only [List.append_nil, List.nil_append, List.map_id'] at this
    rw [this]
    exact newEnabledCheck_self c h hd

theorem newEnabledCheck_isSome (u x : List Str) (ig : List Key) (io : List (Str × List Key)) (b : Bool)
    (h1 : antichain ig = true) (h2 : ∀ e ∈ io, antichain e.2 = true) :
    (newEnabledCheck u x ig io b).isSome = true := by
  have hio : (checkIgnoreOnly io).isSome = true := by
    induction io with
    | nil => rfl
    | cons e rest ih =>
      obtain ⟨out, hout⟩ := Option.isSome_iff_exists.mp (ih fun x hx => h2 x (List.mem_cons_of_mem _ hx))
      simp [checkIgnoreOnly, normCheckKeys, antichain_sortU _ (h2 e List.mem_cons_self), hout]
  obtain ⟨out, hout⟩ := Option.isSome_iff_exists.mp hio
  simp [newEnabledCheck, normCheckKeys, antichain_sortU _ h1, hout]

theorem readCheck_top_isSome (c : Check) (d : Key) (h : WFCheck c) :
    (readCheck (extCheckOf c d) [] false).isSome = true := by
  cases hd : c.disabled with
  | true =>
    obtain rfl := h.dis hd
    by_cases hd0 : d = []
    · subst hd0; simp [readCheck, extCheckOf, Check.disabledCfg, isDisabled, P.nv]
    · simp [readCheck, extCheckOf, Check.disabledCfg, isDisabled, P.nv, hd0, relPaths, relIgnoreOnly,
        newEnabledCheck, checkIgnoreOnly, normCheckKeys, sortU, insertU, antichain]
  | false =>
    have := readCheck_written c [] d false hd h.noRoot (fun e he => (h.ignoreOnly e he).1)
    rw [List.nil_append] at this
    rw [this]
    refine newEnabledCheck_isSome _ _ _ _ _ (by rw [antichain_map_append]; exact h.ignore.anti) fun e he => ?_
    obtain ⟨e0, he0, rfl⟩ := List.mem_map.mp he
    rw [antichain_map_append]
    exact (h.ignoreOnly e0 he0).2.anti

/-! ### every check configuration produced by a reader is well-formed -/

theorem relPaths_mem (d : Key) (r : Bool) : ∀ (ps : List P) (ks : List Key), relPaths d r ps = some ks →
    ∀ k ∈ ks, ∃ p ∈ ps, p.nv = some (d ++ k) := by
  intro ps
  induction ps with
  | nil => intro ks h; obtain rfl := Option.some.inj h; exact fun _ hk => nomatch hk
  | cons p rest ih =>
    intro ks h
    unfold relPaths at h
    rcases hp : p.nv with _ | k0 <;> simp only [hp, reduceCtorEq] at h
    have lift : ∀ ks', relPaths d r rest = some ks' → ∀ k ∈ ks', ∃ p' ∈ p :: rest, p'.nv = some (d ++ k) :=
      fun ks' h' k hk => by
        obtain ⟨p', hp', x⟩ := ih ks' h' k hk
        exact ⟨p', List.mem_cons_of_mem _ hp', x⟩
    split at h
    · rename_i hpre
      rcases hr : relPaths d r rest with _ | ks' <;> simp only [hr, reduceCtorEq, Option.some.injEq] at h
      subst h
      intro k hk
      rcases List.mem_cons.mp hk with rfl | hk
      · exact ⟨p, List.mem_cons_self, by rw [hp, append_drop_of_prefix hpre]⟩
      · exact lift ks' hr k hk
    · split at h
      · cases h
      · exact lift ks h

theorem isDisabled_false (d : Key) (ps : List P) (h : isDisabled d ps = some false) : ∀ p ∈ ps, p.nv ≠ some d :=
  fun p hp e =>
    let ⟨_, hk, hne⟩ := isDisabled_eq_false.mp h p hp
    hne (Option.some.inj (hk.symm.trans e))

theorem relPaths_noRoot (d : Key) (r : Bool) (ps : List P) (ks : List Key)
    (hdis : isDisabled d ps = some false) (hrel : relPaths d r ps = some ks) : [] ∉ ks := by
  intro hm
  obtain ⟨p, hp, hnv⟩ := relPaths_mem d r ps ks hrel [] hm
  exact isDisabled_false d ps hdis p hp (by rw [hnv, List.append_nil])

theorem relIgnoreOnly_mem (d : Key) (r : Bool) (io : List (Str × List P)) (out : List (Str × List Key))
    (h : relIgnoreOnly d r io = some out) :
    ∀ e ∈ out, e.2 ≠ [] ∧ ∃ ps, (e.1, ps) ∈ io ∧ relPaths d r ps = some e.2 := by
  rw [relIgnoreOnly_eq] at h
  obtain ⟨l, hl, rfl⟩ := Option.map_eq_some_iff.mp h
  intro e he
  obtain ⟨hel, hne⟩ := List.mem_filter.mp he
  obtain ⟨x, hx, hxe⟩ := (BufProofs.ListLemmas.mapM_some hl).2.1 e hel
  obtain ⟨ks, hk, rfl⟩ := Option.map_eq_some_iff.mp hxe
  exact ⟨by simpa using hne, x.2, hx, hk⟩

theorem checkIgnoreOnly_mem (io out : List (Str × List Key)) (h : checkIgnoreOnly io = some out) :
    ∀ e ∈ out, ∃ ks, (e.1, ks) ∈ io ∧ normCheckKeys (sortU keyLt ks) = some e.2 := by
  intro e he
  obtain ⟨x, hx, hxe⟩ := (BufProofs.ListLemmas.mapM_some (checkIgnoreOnly_eq_mapM io ▸ h)).2.1 e he
  obtain ⟨ks', hk, rfl⟩ := Option.map_eq_some_iff.mp hxe
  exact ⟨x.2, hx, hk⟩

theorem checkIgnoreOnly_wf (io out : List (Str × List Key)) (hne : ∀ e ∈ io, e.2 ≠ [])
    (h : checkIgnoreOnly io = some out) : ∀ e ∈ out, e.2 ≠ [] ∧ WFKeys e.2 := by
  intro e he
  obtain ⟨ks, hm, h1⟩ := checkIgnoreOnly_mem io out h e he
  refine ⟨?_, wfKeys_of_normCheck_sortU h1⟩
  rw [(normCheckKeys_some h1).2]
  exact sortU_ne_nil _ _ (sortU_ne_nil _ _ (hne _ hm))

theorem wfCheck_disabled : WFCheck Check.disabledCfg := by
  refine ⟨fun _ => rfl, ?_, ?_, ⟨?_, ?_⟩, ?_, ?_⟩ <;> simp [Check.disabledCfg, Sorted, antichain]

theorem readCheck_some {e : ExtCheck} {d : Key} {r : Bool} {c : Check} (h : readCheck e d r = some c) :
    c = Check.disabledCfg ∨ ∃ ig io ig' io',
      isDisabled d e.ignore = some false ∧ relPaths d r e.ignore = some ig ∧
      relIgnoreOnly d r e.ignoreOnly = some io ∧ normCheckKeys (sortU keyLt ig) = some ig' ∧
      checkIgnoreOnly io = some io' ∧
      c = ⟨false, sortU strLt e.use, sortU strLt e.except, ig', io', e.disableBuiltin⟩ := by
  unfold readCheck at h
  cases hdis : isDisabled d e.ignore with
  | none => simp [hdis] at h
  | some b =>
    cases b with
    | true => simp [hdis] at h; exact .inl h.symm
    | false =>
      simp only [hdis] at h
      cases h1 : relPaths d r e.ignore with
      | none => simp [h1] at h
      | some ig =>
        cases h2 : relIgnoreOnly d r e.ignoreOnly with
        | none => simp [h1, h2] at h
        | some io =>
          simp only [h1, h2] at h
          unfold newEnabledCheck at h
          cases h3 : normCheckKeys (sortU keyLt ig) with
          | none => simp [h3] at h
          | some ig' =>
            cases h4 : checkIgnoreOnly io with
            | none => simp [h3, h4] at h
            | some io' =>
              simp only [h3, h4, Option.some.injEq] at h
              exact .inr ⟨ig, io, ig', io', rfl, rfl, rfl, h3, h4, h.symm⟩

theorem readCheck_wf (e : ExtCheck) (d : Key) (r : Bool) (c : Check) (h : readCheck e d r = some c) : WFCheck c := by
  rcases readCheck_some h with rfl | ⟨ig, io, ig', io', hdis, h1, h2, h3, h4, rfl⟩
  · exact wfCheck_disabled
  · refine ⟨by simp, sorted_sortU strLt_total.trans _, sorted_sortU strLt_total.trans _,
      wfKeys_of_normCheck_sortU h3, ?_, checkIgnoreOnly_wf io io' (fun e he => (relIgnoreOnly_mem d r _ _ h2 e he).1) h4⟩
    show [] ∉ ig'
    rw [(normCheckKeys_some h3).2]
    exact fun hm => relPaths_noRoot d r _ _ hdis h1 (mem_sortU_imp _ _ _ (mem_sortU_imp _ _ _ hm))

/-! ### lint / breaking -/

def WFLint (l : Lint) : Prop := WFCheck l.chk

def WFBreaking (b : Breaking) : Prop := WFCheck b.chk

theorem readLint_chk {v2 : Bool} {e : ExtLint} {d : Key} {r : Bool} {l : Lint}
    (h : readLint v2 e d r = some l) : readCheck e.chk d r = some l.chk := by
  unfold readLint at h
  cases hc : readCheck e.chk d r with
  | none => simp [hc] at h
  | some c => simp only [hc, Option.some.injEq] at h; subst h; rfl

theorem readBreaking_chk {e : ExtBreaking} {d : Key} {r : Bool} {b : Breaking}
    (h : readBreaking e d r = some b) : readCheck e.chk d r = some b.chk := by
  unfold readBreaking at h
  cases hc : readCheck e.chk d r with
  | none => simp [hc] at h
  | some c => simp only [hc, Option.some.injEq] at h; subst h; rfl

theorem readLint_wf {v2 : Bool} {e : ExtLint} {d : Key} {r : Bool} {l : Lint} (h : readLint v2 e d r = some l) :
    WFLint l := readCheck_wf _ _ _ _ (readLint_chk h)

theorem readBreaking_wf {e : ExtBreaking} {d : Key} {r : Bool} {b : Breaking} (h : readBreaking e d r = some b) :
    WFBreaking b := readCheck_wf _ _ _ _ (readBreaking_chk h)

theorem readLint_extLintOf (v2 : Bool) (l : Lint) (d : Key) (r : Bool) (h : WFLint l) :
    readLint v2 (extLintOf v2 l d) d r = some l := by
  unfold readLint
  show (match readCheck (extCheckOf l.chk d) d r with | some c => _ | none => none) = _
  rw [readCheck_extCheckOf _ _ _ h]
  cases v2 <;> simp [extLintOfWith]

theorem readBreaking_extBreakingOf (b : Breaking) (d : Key) (r : Bool) (h : WFBreaking b) :
    readBreaking (extBreakingOf b d) d r = some b := by
  unfold readBreaking
  show (match readCheck (extCheckOf b.chk d) d r with | some c => _ | none => none) = _
  rw [readCheck_extCheckOf _ _ _ h]
  simp [extBreakingOfWith]

theorem readLint_top_isSome (l : Lint) (d : Key) (h : WFLint l) :
    (readLint true (extLintOf true l d) [] false).isSome = true := by
  unfold readLint
  show (match readCheck (extCheckOf l.chk d) [] false with | some c => _ | none => none).isSome = true
  obtain ⟨c, hc⟩ := Option.isSome_iff_exists.mp (readCheck_top_isSome l.chk d h)
  rw [hc]; rfl

theorem readBreaking_top_isSome (b : Breaking) (d : Key) (h : WFBreaking b) :
    (readBreaking (extBreakingOf b d) [] false).isSome = true := by
  unfold readBreaking
  show (match readCheck (extCheckOf b.chk d) [] false with | some c => _ | none => none).isSome = true
  obtain ⟨c, hc⟩ := Option.isSome_iff_exists.mp (readCheck_top_isSome b.chk d h)
  rw [hc]; rfl

end BufModel.Config
