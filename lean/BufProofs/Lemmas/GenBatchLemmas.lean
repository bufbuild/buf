import BufModel.GenBatch
import BufProofs.Lemmas.GenerateLemmas
import BufProofs.Lemmas.SplitLemmas
/-
  Helper lemmas for the batching key of `buf generate` (C12, per-plugin type filters):
  `fmt.Sprintf("%v", []string)` is injective on lists of non-empty names without blanks (it is
  `joinBy ' '`, which `splitBy ' '` reads back), the
  representative of a plugin has the plugin's own key.
-/
namespace BufModel.GenBatch
open BufModel.Path BufModel.Generate

/-- A name that `%v` renders unambiguously: not empty, no blank.  Every name that can denote an
    element or a package of an image is one (protobuf identifiers and dots). -/
def OkName (s : Str) : Prop := s ≠ [] ∧ ' ' ∉ s

theorem joinSp_eq : ∀ l, joinSp l = joinBy ' ' l :=
  eq_joinBy ' ' rfl (fun _ => rfl) (fun _ _ _ => rfl)

/-- `%v` can be read back: a list of names without blanks is the split of its rendering at the
    blanks — the empty list excepted, which renders like `[""]`, not a list of renderable names. -/
theorem joinSp_injective (a b : List Str) (ha : ∀ s ∈ a, OkName s) (hb : ∀ s ∈ b, OkName s)
    (h : joinSp a = joinSp b) : a = b := by
  have hsplit : ∀ l : List Str, (∀ s ∈ l, OkName s) →
      (if l = [] then [[]] else l) = splitBy ' ' (joinSp l) := by
    intro l hl
    split
    · rename_i e; subst e; rfl
    · rename_i e; rw [joinSp_eq, splitBy_joinBy ' ' l e (fun s hs => (hl s hs).2)]
  have hab := (hsplit a ha).trans ((congrArg (splitBy ' ') h).trans (hsplit b hb).symm)
  have hne : ∀ l : List Str, (∀ s ∈ l, OkName s) → l ≠ [[]] := fun l hl e =>
    (hl [] (e ▸ List.mem_cons_self)).1 rfl
  by_cases ea : a = [] <;> by_cases eb : b = [] <;> simp only [ea, eb, if_true, if_false] at hab
  · rw [ea, eb]
  · exact absurd hab.symm (hne b hb)
  · exact absurd hab (hne a ha)
  · exact hab

theorem render_inj (a b : List Str) (ha : ∀ s ∈ a, OkName s) (hb : ∀ s ∈ b, OkName s)
    (h : render a = render b) : a = b := by
  unfold render at h
  simp only [List.cons.injEq, true_and] at h
  exact joinSp_injective a b ha hb (List.append_cancel_right h)

/-- the names of a plugin configuration are renderable -/
def NamesOK (p : PCfg) : Prop := (∀ s ∈ p.types, OkName s) ∧ (∀ s ∈ p.excludes, OkName s)

theorem key_inj (p q : PCfg) (hp : NamesOK p) (hq : NamesOK q) (h : key p = key q) :
    p.types.Perm q.types ∧ p.excludes.Perm q.excludes ∧ p.strategyAll = q.strategyAll ∧ p.remote = q.remote := by
  unfold key at h
  simp only [Key.mk.injEq] at h
  obtain ⟨h1, h2, h3, h4⟩ := h
  have ht := render_inj _ _ (fun s hs => hp.1 s (mem_sortStrs.mp hs)) (fun s hs => hq.1 s (mem_sortStrs.mp hs)) h1
  have he := render_inj _ _ (fun s hs => hp.2 s (mem_sortStrs.mp hs)) (fun s hs => hq.2 s (mem_sortStrs.mp hs)) h2
  refine ⟨?_, ?_, h3, h4⟩
  · exact (sortStrs_perm p.types).symm.trans (ht ▸ sortStrs_perm q.types)
  · exact (sortStrs_perm p.excludes).symm.trans (he ▸ sortStrs_perm q.excludes)

theorem repWith_spec {κ : Type} [DecidableEq κ] (k : PCfg → κ) (ps : List PCfg) (p : PCfg) :
    k (repWith k ps p) = k p ∧ (repWith k ps p ∈ ps ∨ repWith k ps p = p) := by
  unfold repWith
  cases hf : ps.find? (fun q => decide (k q = k p)) with
  | none => exact ⟨rfl, Or.inr rfl⟩
  | some r =>
    have h1 := List.find?_some hf
    have h2 := List.mem_of_find?_eq_some hf
    simp only [decide_eq_true_eq] at h1
    exact ⟨h1, Or.inl h2⟩

end BufModel.GenBatch
