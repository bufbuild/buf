import BufModel.Path
import BufProofs.Lemmas.SplitLemmas
/-
  The path model on keys.  A key is a list of proper components, `renderKey` its canonical string.
  Validation accepts exactly the rendered keys (`validate_ok_iff`), and on rendered keys every path
  function is the list operation: `join` appends, `dir` drops the last component, `rel` and
  `stripComponents` drop a prefix, `equalsOrContainsPath` is the prefix relation.  Then the names
  of archive entries (`unmapArchivePath` yields a rendered key), the walk-up loop of
  `MapHasEqualOrContainingPath`, which two models write out, and `clean` never returning "".
-/
namespace BufModel.Path

theorem splitSlash_eq : ∀ s, splitSlash s = splitBy '/' s :=
  eq_splitBy '/' rfl (fun c cs l ls e => by simp [splitSlash, e])

theorem joinSlash_eq : ∀ ns, joinSlash ns = joinBy '/' ns :=
  eq_joinBy '/' rfl (fun _ => rfl) (fun _ _ _ => rfl)

theorem splitSlash_ne_nil (s : Str) : splitSlash s ≠ [] :=
  splitSlash_eq s ▸ splitBy_ne_nil '/' s

theorem splitSlash_no_slash (s : Str) : ∀ c ∈ splitSlash s, '/' ∉ c :=
  splitSlash_eq s ▸ not_mem_of_mem_splitBy '/' s

def AllProper (ns : List Comp) : Prop := ∀ n ∈ ns, Proper n

theorem splitSlash_cons_slash (cs : Str) : splitSlash ('/' :: cs) = [] :: splitSlash cs := by
  simp [splitSlash]

theorem splitSlash_cons_ne (c : Char) (cs : Str) (h : c ≠ '/') (hd : Comp) (tl : List Comp)
    (heq : splitSlash cs = hd :: tl) : splitSlash (c :: cs) = (c :: hd) :: tl := by
  rw [splitSlash]; simp [h, heq]

theorem splitSlash_comp (c : Comp) (h : '/' ∉ c) : splitSlash c = [c] :=
  (splitSlash_eq c).trans (splitBy_of_not_mem '/' h)

theorem splitSlash_append_slash (c : Comp) (h : '/' ∉ c) (rest : Str) :
    splitSlash (c ++ '/' :: rest) = c :: splitSlash rest := by
  rw [splitSlash_eq, splitSlash_eq, splitBy_append_sep '/' h]

theorem splitSlash_joinSlash (ns : List Comp) (hne : ns ≠ []) (h : ∀ n ∈ ns, '/' ∉ n) :
    splitSlash (joinSlash ns) = ns := by
  rw [splitSlash_eq, joinSlash_eq, splitBy_joinBy '/' ns hne h]

/-! ### Shape of `reduce` -/

/-- Invariant of the (reversed) reduction stack: proper names on top of `k` leading "..",
    and no ".." at all when rooted. -/
def StackOK (rooted : Bool) (st : List Comp) : Prop :=
  ∃ (k : Nat) (names : List Comp), st = names ++ List.replicate k dotdot ∧ AllProper names ∧
    (rooted = true → k = 0)

theorem proper_ne_dotdot {c : Comp} (h : Proper c) : c ≠ dotdot := h.2.2.1

theorem allProper_nil : AllProper [] := by intro _ h; cases h

theorem allProper_cons {n : Comp} {ns : List Comp} : AllProper (n :: ns) ↔ Proper n ∧ AllProper ns := by
  unfold AllProper; simp

theorem allProper_append {a b : List Comp} : AllProper (a ++ b) ↔ AllProper a ∧ AllProper b := by
  unfold AllProper; simp; constructor
  · intro h; exact ⟨fun n hn => h n (Or.inl hn), fun n hn => h n (Or.inr hn)⟩
  · intro h n hn; rcases hn with hn | hn; exact h.1 n hn; exact h.2 n hn

theorem dotdot_ne_nil : dotdot ≠ [] := by decide
theorem dotdot_ne_dot : dotdot ≠ dot := by decide

theorem reduceStep_ok (rooted : Bool) (st : List Comp) (c : Comp) (hc : '/' ∉ c)
    (h : StackOK rooted st) : StackOK rooted (reduceStep rooted st c) := by
  obtain ⟨k, names, rfl, hp, hr⟩ := h
  unfold reduceStep
  by_cases h1 : c = []
  · rw [if_pos h1]; exact ⟨k, names, rfl, hp, hr⟩
  rw [if_neg h1]
  by_cases h2 : c = dot
  · rw [if_pos h2]; exact ⟨k, names, rfl, hp, hr⟩
  rw [if_neg h2]
  by_cases h3 : c = dotdot
  · rw [if_pos h3]
    cases names with
    | nil =>
      cases k with
      | zero =>
        cases rooted with
        | true => exact ⟨0, [], rfl, allProper_nil, fun _ => rfl⟩
        | false => exact ⟨1, [], rfl, allProper_nil, by simp⟩
      | succ k =>
        refine ⟨k + 2, [], ?_, allProper_nil, ?_⟩
        · simp [List.replicate_succ]
        · intro hr'; have := hr hr'; omega
    | cons n ns =>
      have hn : n ≠ dotdot := proper_ne_dotdot (hp n (by simp))
      simp only [List.cons_append, if_neg hn]
      exact ⟨k, ns, rfl, fun x hx => hp x (by simp [hx]), hr⟩
  · rw [if_neg h3]
    refine ⟨k, c :: names, by simp, ?_, hr⟩
    intro x hx
    simp at hx
    rcases hx with rfl | hx
    · exact ⟨h1, h2, h3, hc⟩
    · exact hp x hx

theorem foldl_reduceStep_ok (rooted : Bool) (cs : List Comp) (hcs : ∀ c ∈ cs, '/' ∉ c)
    (st : List Comp) (h : StackOK rooted st) : StackOK rooted (cs.foldl (reduceStep rooted) st) := by
  induction cs generalizing st with
  | nil => simpa
  | cons c cs ih =>
    simp only [List.foldl]
    exact ih (fun x hx => hcs x (by simp [hx])) _ (reduceStep_ok rooted st c (hcs c (by simp)) h)

theorem reduce_shape (rooted : Bool) (cs : List Comp) (hcs : ∀ c ∈ cs, '/' ∉ c) :
    ∃ (k : Nat) (names : List Comp), reduce rooted cs = List.replicate k dotdot ++ names ∧
      AllProper names ∧ (rooted = true → k = 0) := by
  have := foldl_reduceStep_ok rooted cs hcs [] ⟨0, [], rfl, allProper_nil, fun _ => rfl⟩
  obtain ⟨k, names, heq, hp, hr⟩ := this
  refine ⟨k, names.reverse, ?_, ?_, hr⟩
  · unfold reduce; rw [heq]; simp
  · intro x hx; exact hp x (by simpa using hx)

theorem isAbs_cons_slash (s : Str) : isAbs ('/' :: s) = true := by simp [isAbs]

theorem joinSlash_cons_cons (a b : Comp) (rest : List Comp) :
    joinSlash (a :: b :: rest) = a ++ '/' :: joinSlash (b :: rest) := rfl

/-! ### Keys: rendering proper-name lists and how the path functions act on them -/

theorem proper_no_slash {c : Comp} (h : Proper c) : '/' ∉ c := h.2.2.2
theorem proper_ne_nil {c : Comp} (h : Proper c) : c ≠ [] := h.1

theorem foldl_reduceStep_plain (rooted : Bool) (cs : List Comp)
    (h : ∀ c ∈ cs, Proper c ∨ c = dot ∨ c = []) (st : List Comp) :
    cs.foldl (reduceStep rooted) st = (cs.filter (fun c => decide (Proper c))).reverse ++ st := by
  induction cs generalizing st with
  | nil => simp
  | cons c cs ih =>
    simp only [List.foldl]
    rw [ih (fun x hx => h x (by simp [hx]))]
    rcases h c (by simp) with hp | hd | he
    · have : reduceStep rooted st c = c :: st := by
        unfold reduceStep
        rw [if_neg hp.1, if_neg hp.2.1, if_neg hp.2.2.1]
      rw [this]; simp [List.filter, hp]
    · subst hd
      have : reduceStep rooted st dot = st := by
        unfold reduceStep; rw [if_neg (by decide), if_pos rfl]
      have hnp : ¬ Proper dot := fun h => h.2.1 rfl
      rw [this]; simp [List.filter, hnp]
    · subst he
      have : reduceStep rooted st [] = st := by unfold reduceStep; rw [if_pos rfl]
      have hnp : ¬ Proper ([] : Comp) := fun h => h.1 rfl
      rw [this]; simp [List.filter, hnp]

theorem reduce_plain (rooted : Bool) (cs : List Comp) (h : ∀ c ∈ cs, Proper c ∨ c = dot ∨ c = []) :
    reduce rooted cs = cs.filter (fun c => decide (Proper c)) := by
  unfold reduce; rw [foldl_reduceStep_plain rooted cs h]; simp

theorem filter_proper_of_allProper {ns : List Comp} (h : AllProper ns) :
    ns.filter (fun c => decide (Proper c)) = ns := by
  apply List.filter_eq_self.mpr
  intro a ha; simpa using h a ha

theorem joinSlash_head_of_proper {n : Comp} {ns : List Comp} (h : Proper n) :
    ∃ c t, joinSlash (n :: ns) = c :: t ∧ c ≠ '/' := by
  cases n with
  | nil => exact absurd rfl h.1
  | cons c t =>
    have hc : c ≠ '/' := by
      intro e; apply h.2.2.2; simp [e]
    cases ns with
    | nil => exact ⟨c, t, rfl, hc⟩
    | cons m ms => exact ⟨c, _, rfl, hc⟩

theorem isAbs_renderKey {ns : Key} (h : AllProper ns) : isAbs (renderKey ns) = false := by
  cases ns with
  | nil => decide
  | cons n rest =>
    obtain ⟨c, t, heq, hc⟩ := joinSlash_head_of_proper (ns := rest) (h n (by simp))
    simp [renderKey, render, heq, isAbs, hc]

theorem renderKey_cons (n : Comp) (ns : List Comp) : renderKey (n :: ns) = joinSlash (n :: ns) := by
  simp [renderKey, render]

theorem renderKey_nil : renderKey [] = dot := by simp [renderKey, render]

theorem splitSlash_renderKey_cons {n : Comp} {ns : List Comp} (h : AllProper (n :: ns)) :
    splitSlash (renderKey (n :: ns)) = n :: ns := by
  rw [renderKey_cons]
  exact splitSlash_joinSlash _ (by simp) (fun x hx => proper_no_slash (h x hx))

/-- Only proper names, "." and empty components: nothing for `reduce` to cancel. -/
def PlainPath (s : Str) : Prop := ∀ c ∈ splitSlash s, Proper c ∨ c = dot ∨ c = []

theorem splitSlash_renderKey_plain {k : Key} (h : AllProper k) : PlainPath (renderKey k) := by
  unfold PlainPath
  cases k with
  | nil => intro c hc; have : c = dot := by simpa [renderKey_nil, dot, splitSlash] using hc
           exact Or.inr (Or.inl this)
  | cons n ns => rw [splitSlash_renderKey_cons h]; intro c hc; exact Or.inl (h c hc)

theorem filter_splitSlash_renderKey {k : Key} (h : AllProper k) :
    (splitSlash (renderKey k)).filter (fun c => decide (Proper c)) = k := by
  cases k with
  | nil => decide
  | cons n ns => rw [splitSlash_renderKey_cons h]; exact filter_proper_of_allProper h

theorem renderKey_inj {a b : Key} (ha : AllProper a) (hb : AllProper b)
    (h : renderKey a = renderKey b) : a = b := by
  rw [← filter_splitSlash_renderKey ha, h, filter_splitSlash_renderKey hb]

theorem splitSlash_append (x y : Str) :
    splitSlash (x ++ '/' :: y) = splitSlash x ++ splitSlash y := by
  rw [splitSlash_eq, splitSlash_eq, splitSlash_eq, splitBy_append]

theorem clean_plain {s : Str} (h : PlainPath s) :
    clean s = render (isAbs s) ((splitSlash s).filter fun c => decide (Proper c)) := by
  unfold clean; rw [reduce_plain _ _ h]

theorem PlainPath.slash {x y : Str} (hx : PlainPath x) (hy : PlainPath y) : PlainPath (x ++ '/' :: y) := by
  intro c hc
  rw [splitSlash_append] at hc
  exact (List.mem_append.mp hc).elim (hx c) (hy c)

theorem plain_nil : PlainPath [] := by intro c hc; simp [splitSlash] at hc; exact Or.inr (Or.inr hc)

theorem filter_splitSlash_nil : (splitSlash []).filter (fun c => decide (Proper c)) = [] := by decide

theorem clean_renderKey {ns : Key} (h : AllProper ns) : clean (renderKey ns) = renderKey ns := by
  rw [clean_plain (splitSlash_renderKey_plain h), isAbs_renderKey h, filter_splitSlash_renderKey h]
  rfl

theorem renderKey_ne_nil {k : Key} (h : AllProper k) : renderKey k ≠ [] := by
  cases k with
  | nil => decide
  | cons n ns =>
    obtain ⟨c, t, heq, _⟩ := joinSlash_head_of_proper (ns := ns) (h n (by simp))
    rw [renderKey_cons, heq]; simp

theorem isAbs_append_of_renderKey {k : Key} (h : AllProper k) (rest : Str) :
    isAbs (renderKey k ++ rest) = false := by
  cases k with
  | nil => simp [renderKey_nil, dot, isAbs]
  | cons n ns =>
    obtain ⟨c, t, heq, hc⟩ := joinSlash_head_of_proper (ns := ns) (h n (by simp))
    rw [renderKey_cons, heq]; simp [isAbs, hc]

theorem join_keys {a b : Key} (ha : AllProper a) (hb : AllProper b) :
    join [renderKey a, renderKey b] = renderKey (a ++ b) := by
  unfold join
  simp only [List.filter, renderKey_ne_nil ha, renderKey_ne_nil hb, ne_eq, not_false_eq_true, decide_true]
  show clean (renderKey a ++ '/' :: renderKey b) = _
  rw [clean_plain ((splitSlash_renderKey_plain ha).slash (splitSlash_renderKey_plain hb)),
    isAbs_append_of_renderKey ha, splitSlash_append, List.filter_append, filter_splitSlash_renderKey ha,
    filter_splitSlash_renderKey hb]
  rfl

/-! ### dir / equalsOrContainsPath / rel on keys -/

theorem joinSlash_append_singleton_nil (ns : List Comp) (hne : ns ≠ []) :
    joinSlash (ns ++ [[]]) = joinSlash ns ++ ['/'] := by
  induction ns with
  | nil => exact absurd rfl hne
  | cons n rest ih =>
    cases rest with
    | nil => simp [joinSlash]
    | cons r rs =>
      have := ih (by simp)
      simp only [List.cons_append, joinSlash] at this ⊢
      rw [this]; simp

theorem dir_renderKey_snoc {ns : Key} {n : Comp} (h : AllProper (ns ++ [n])) :
    dir (renderKey (ns ++ [n])) = renderKey ns := by
  have hns : AllProper ns := (allProper_append.mp h).1
  have hsplit : splitSlash (renderKey (ns ++ [n])) = ns ++ [n] := by
    cases ns with
    | nil => exact splitSlash_renderKey_cons (n := n) (ns := []) h
    | cons m ms => exact splitSlash_renderKey_cons (n := m) (ns := ms ++ [n]) h
  have hdir : splitDir (renderKey (ns ++ [n])) = joinSlash (ns ++ [[]]) := by
    unfold splitDir; rw [hsplit]
    cases hh : ns ++ [n] with
    | nil => simp at hh
    | cons x xs => simp only; rw [← hh, List.dropLast_concat]
  rw [dir, hdir]
  cases ns with
  | nil => decide
  | cons m ms =>
    rw [joinSlash_append_singleton_nil _ (by simp), ← renderKey_cons,
      clean_plain ((splitSlash_renderKey_plain hns).slash plain_nil), isAbs_append_of_renderKey hns,
      splitSlash_append, List.filter_append, filter_splitSlash_renderKey hns, filter_splitSlash_nil,
      List.append_nil]
    rfl

theorem renderKey_ne_dot {k : Key} (h : AllProper k) (hne : k ≠ []) : renderKey k ≠ dot := by
  intro e
  have := renderKey_inj h allProper_nil (by rw [e, renderKey_nil])
  exact hne this

theorem list_snoc_induction {α : Type} {P : List α → Prop} (hnil : P [])
    (hsnoc : ∀ l a, P l → P (l ++ [a])) : ∀ l, P l := by
  have : ∀ l : List α, P l.reverse := by
    intro l
    induction l with
    | nil => simpa
    | cons a t ih => rw [List.reverse_cons]; exact hsnoc _ _ ih
  intro l; simpa using this l.reverse

theorem ecpLoop_keys {a : Key} (ha : AllProper a) (hane : a ≠ []) :
    ∀ (b : Key), AllProper b → ∀ fuel, b.length < fuel →
      (ecpLoop (renderKey a) fuel (renderKey b) = true ↔ a <+: b) := by
  intro b
  induction b using list_snoc_induction with
  | hnil =>
    intro _ fuel hf
    cases fuel with
    | zero => omega
    | succ f =>
      simp [ecpLoop, renderKey_nil]
      exact hane
  | hsnoc b' n ih =>
    intro hb fuel hf
    have hb' : AllProper b' := (allProper_append.mp hb).1
    cases fuel with
    | zero => omega
    | succ f =>
      have hnd : renderKey (b' ++ [n]) ≠ dot := renderKey_ne_dot hb (by simp)
      rw [ecpLoop, if_neg hnd]
      by_cases heq : renderKey a = renderKey (b' ++ [n])
      · rw [if_pos heq]
        have := renderKey_inj ha hb heq
        simp [this]
      · rw [if_neg heq, dir_renderKey_snoc hb]
        have hlen : b'.length < f := by simp at hf; omega
        rw [ih hb' f hlen, List.prefix_concat_iff]
        exact (or_iff_right fun h => heq (by rw [h])).symm

theorem length_renderKey_ge {k : Key} (h : AllProper k) : k.length ≤ (renderKey k).length := by
  induction k with
  | nil => simp
  | cons n ns ih =>
    have hn : n ≠ [] := proper_ne_nil (h n (by simp))
    have hl : 1 ≤ n.length := by
      cases n with
      | nil => exact absurd rfl hn
      | cons _ _ => simp
    cases ns with
    | nil => simp [renderKey, render, joinSlash]; exact hl
    | cons m ms =>
      have := ih (fun x hx => h x (by simp [hx]))
      simp only [renderKey_cons, joinSlash, List.length_append, List.length_cons] at this ⊢
      omega

theorem ecp_keys {a b : Key} (ha : AllProper a) (hb : AllProper b) :
    equalsOrContainsPath (renderKey a) (renderKey b) = true ↔ a <+: b := by
  unfold equalsOrContainsPath
  by_cases hane : a = []
  · subst hane; simp [renderKey_nil]
  · rw [if_neg (renderKey_ne_dot ha hane)]
    exact ecpLoop_keys ha hane b hb _ (by have := length_renderKey_ge hb; omega)

theorem cleanComps_renderKey {k : Key} (h : AllProper k) : cleanComps (renderKey k) = k := by
  cases k with
  | nil => decide
  | cons n ns =>
    unfold cleanComps
    rw [if_neg (renderKey_ne_dot h (by simp)), isAbs_renderKey h]
    simp only [Bool.false_eq_true, if_false]
    rw [splitSlash_renderKey_cons h]
    apply List.filter_eq_self.mpr
    intro c hc
    simpa using proper_ne_nil (h c hc)

theorem stripCommon_prefix (p k : List Comp) : stripCommon p (p ++ k) = ([], k) := by
  induction p with
  | nil => cases k <;> simp [stripCommon]
  | cons x xs ih => simp [stripCommon, ih]

theorem rel_keys {p k : Key} (hp : AllProper p) (hk : AllProper k) :
    rel (renderKey p) (renderKey (p ++ k)) = some (renderKey k) := by
  have hpk : AllProper (p ++ k) := allProper_append.mpr ⟨hp, hk⟩
  unfold rel
  simp only [clean_renderKey hp, clean_renderKey hpk]
  by_cases hk0 : k = []
  · subst hk0; simp [renderKey_nil]
  · have hne : renderKey p ≠ renderKey (p ++ k) := by
      intro e
      have := renderKey_inj hp hpk e
      have : p.length = (p ++ k).length := by rw [← this]
      simp at this; exact hk0 this
    rw [if_neg hne, isAbs_renderKey hp, isAbs_renderKey hpk]
    simp only [bne_self_eq_false, Bool.false_eq_true, if_false]
    rw [cleanComps_renderKey hp, cleanComps_renderKey hpk, stripCommon_prefix]
    simp [renderKey, render, hk0]

/-! ### Validation accepts exactly-rendered keys -/

theorem dotdot_not_proper : ¬ Proper dotdot := fun h => h.2.2.1 rfl

theorem renderKey_not_jump {k : Key} (h : AllProper k) :
    renderKey k ≠ dotdot ∧ jumpPrefix.isPrefixOf (renderKey k) = false := by
  cases k with
  | nil => decide
  | cons n ns =>
    -- the first component of the rendering is `n`, and `n` is not ".."
    have key : ∀ rest, splitSlash (renderKey (n :: ns)) ≠ dotdot :: rest := fun rest e => by
      rw [splitSlash_renderKey_cons h] at e
      exact dotdot_not_proper ((List.cons.inj e).1 ▸ h n List.mem_cons_self)
    refine ⟨fun e => key [] (by rw [e]; decide), ?_⟩
    cases hj : jumpPrefix.isPrefixOf (renderKey (n :: ns)) with
    | false => rfl
    | true =>
      obtain ⟨t, ht⟩ := List.isPrefixOf_iff_prefix.mp hj
      exact absurd (by rw [← ht]; exact splitSlash_append dotdot t) (key (splitSlash t))

theorem clean_rel {s : Str} (h : isAbs s = false) :
    clean s = renderKey (reduce false (splitSlash s)) := by
  unfold clean renderKey; rw [h]

theorem validate_ok_iff (s p : Str) :
    normalizeAndValidate s = .ok p ↔
      isAbs s = false ∧ AllProper (reduce false (splitSlash s)) ∧
        p = renderKey (reduce false (splitSlash s)) := by
  have mpr : isAbs s = false → AllProper (reduce false (splitSlash s)) →
      normalizeAndValidate s = .ok (renderKey (reduce false (splitSlash s))) := by
    intro hs hp
    obtain ⟨h1, h2⟩ := renderKey_not_jump hp
    simp [normalizeAndValidate, clean_rel hs, isAbs_renderKey hp, h1, h2]
  constructor
  · intro h
    cases hs : isAbs s with
    | true =>
      have : isAbs (clean s) = true := by unfold clean render; rw [hs]; rfl
      simp [normalizeAndValidate, this] at h
    | false =>
      obtain ⟨k, names, heq, hp, _⟩ := reduce_shape false (splitSlash s) (splitSlash_no_slash s)
      cases k with
      | zero =>
        rw [List.replicate_zero, List.nil_append] at heq
        rw [← heq] at hp
        rw [mpr hs hp] at h
        exact ⟨rfl, hp, (Except.ok.inj h).symm⟩
      | succ k =>
        -- a surviving ".." makes the cleaned path ".." or "../…"
        have hj : (clean s = dotdot || jumpPrefix.isPrefixOf (clean s)) = true := by
          rw [clean_rel hs, heq, List.replicate_succ, List.cons_append]
          cases List.replicate k dotdot ++ names with
          | nil => decide
          | cons r rs => simp [renderKey, render, joinSlash_cons_cons, dotdot, jumpPrefix, List.isPrefixOf]
        unfold normalizeAndValidate at h
        simp only [hj, if_true] at h
        split at h <;> cases h
  · rintro ⟨hs, hp, rfl⟩
    exact mpr hs hp

theorem validate_sound (s p : Str) (h : normalizeAndValidate s = .ok p) :
    ∃ ns : Key, AllProper ns ∧ p = renderKey ns :=
  ⟨_, ((validate_ok_iff s p).mp h).2⟩

theorem validate_cases (s : Str) :
    (∃ e, normalizeAndValidate s = .error e) ∨
      ∃ k : Key, AllProper k ∧ normalizeAndValidate s = .ok (renderKey k) := by
  cases hv : normalizeAndValidate s with
  | error e => exact Or.inl ⟨e, rfl⟩
  | ok p => obtain ⟨k, hk, rfl⟩ := validate_sound s p hv; exact Or.inr ⟨k, hk, rfl⟩

theorem validate_renderKey {k : Key} (h : AllProper k) :
    normalizeAndValidate (renderKey k) = .ok (renderKey k) := by
  unfold normalizeAndValidate
  simp only [clean_renderKey h, isAbs_renderKey h]
  obtain ⟨h1, h2⟩ := renderKey_not_jump h
  simp [h1, h2]

theorem validatePath_renderKey {k : Key} (h : AllProper k) (hne : k ≠ []) :
    validatePath (renderKey k) = .ok (renderKey k) := by
  unfold validatePath
  rw [validate_renderKey h]
  simp [renderKey_ne_dot h hne]

theorem validatePath_cases (s : Str) :
    (∃ e, normalizeAndValidate s = .error e ∧ validatePath s = .error e) ∨
    (normalizeAndValidate s = .ok dot ∧ validatePath s = .error .root) ∨
    (∃ k : Key, AllProper k ∧ k ≠ [] ∧ normalizeAndValidate s = .ok (renderKey k) ∧
      validatePath s = .ok (renderKey k)) := by
  unfold validatePath
  cases hv : normalizeAndValidate s with
  | error e => exact Or.inl ⟨e, rfl, rfl⟩
  | ok p =>
    obtain ⟨k, hk, hp⟩ := validate_sound s p hv
    subst hp
    by_cases hd : renderKey k = dot
    · rw [hd]; exact Or.inr (Or.inl ⟨rfl, by simp⟩)
    · refine Or.inr (Or.inr ⟨k, hk, ?_, rfl, by simp [hd]⟩)
      intro e; subst e; exact hd renderKey_nil

theorem validatePath_sound (s p : Str) (h : validatePath s = .ok p) :
    ∃ k : Key, AllProper k ∧ k ≠ [] ∧ p = renderKey k ∧ normalizeAndValidate s = .ok p := by
  rcases validatePath_cases s with ⟨e, _, h'⟩ | ⟨_, h'⟩ | ⟨k, hk, hne, hnv, h'⟩ <;> rw [h'] at h <;> cases h
  exact ⟨k, hk, hne, rfl, hnv⟩

/-! ### Archive entry names -/

theorem join_comps {k : Key} (h : AllProper k) (hne : k ≠ []) : join k = renderKey k := by
  unfold join
  have hf : k.filter (fun x => decide (x ≠ [])) = k := by
    apply List.filter_eq_self.mpr
    intro c hc; simpa using proper_ne_nil (h c hc)
  rw [hf]
  cases k with
  | nil => exact absurd rfl hne
  | cons n ns =>
    simp only
    rw [← renderKey_cons, clean_renderKey h]

theorem components_renderKey {k : Key} (h : AllProper k) (hne : k ≠ []) : components (renderKey k) = k := by
  cases k with
  | nil => exact absurd rfl hne
  | cons n ns =>
    unfold components
    have h1 : renderKey (n :: ns) ≠ ['/'] := by
      intro e
      have := isAbs_renderKey h
      rw [e] at this; simp [isAbs] at this
    rw [if_neg h1, isAbs_renderKey h]
    simp only [Bool.false_eq_true, if_false]
    exact splitSlash_renderKey_cons h

theorem allProper_drop {k : Key} (h : AllProper k) (n : Nat) : AllProper (k.drop n) :=
  fun x hx => h x (List.mem_of_mem_drop hx)

theorem stripComponents_key {k : Key} (h : AllProper k) (hne : k ≠ []) (n : Nat) :
    stripComponents (renderKey k) n =
      if n = 0 ∨ n < k.length then some (renderKey (k.drop n)) else none := by
  unfold stripComponents
  by_cases hn : n = 0
  · subst hn; simp
  · rw [if_neg hn, components_renderKey h hne]
    by_cases hlen : k.length ≤ n
    · simp only [if_pos hlen]; rw [if_neg (by omega)]
    · simp only [if_neg hlen]; rw [if_pos (by omega)]
      rw [join_comps (allProper_drop h n) (fun e => hlen (List.drop_eq_nil_iff.mp e))]

theorem stripComponents_renderKey {k : Key} (h : AllProper k) (hne : k ≠ []) (n : Nat) (p : Str)
    (hs : stripComponents (renderKey k) n = some p) :
    ∃ k' : Key, AllProper k' ∧ k' ≠ [] ∧ p = renderKey k' ∧ k' = k.drop n := by
  rw [stripComponents_key h hne] at hs
  split at hs
  · rename_i hc
    refine ⟨k.drop n, allProper_drop h n, fun e => ?_, (Option.some.inj hs).symm, rfl⟩
    have := List.drop_eq_nil_iff.mp e
    rcases hc with rfl | hc
    · exact hne (List.length_eq_zero_iff.mp (by omega))
    · omega
  · cases hs

theorem unmapArchivePath_sound (name : Str) (n : Nat) (f : Str → Bool) (p : Str)
    (h : unmapArchivePath name n f = .ok (some p)) :
    ∃ kf k : Key, AllProper kf ∧ normalizeAndValidate name = .ok (renderKey kf) ∧
      AllProper k ∧ k ≠ [] ∧ p = renderKey k ∧ k = kf.drop n := by
  unfold unmapArchivePath at h
  split at h
  · cases h
  · rcases validate_cases name with ⟨e, hv⟩ | ⟨kf, hkf, hv⟩
    · rw [hv] at h; cases h
    · rw [hv] at h
      simp only at h
      split at h
      · cases h
      · rename_i hnd
        cases hs : stripComponents (renderKey kf) n with
        | none => rw [hs] at h; cases h
        | some q =>
          rw [hs] at h
          simp only at h
          split at h
          · cases h
            obtain ⟨k', h1, h2, h3, h4⟩ :=
              stripComponents_renderKey hkf (fun e => hnd (by rw [e, renderKey_nil])) n _ hs
            exact ⟨kf, k', hkf, hv, h1, h2, h3, h4⟩
          · cases h

/-! ### a set of paths asked the same way (`normalpath.MapHasEqualOrContainingPath`)

The models write the walk-up loop out with their own membership test; whatever satisfies its two equations
asks `ecpLoop` of every entry. -/

theorem upLoop_eq_any {m : List Str} {mem : Str → Prop} [DecidablePred mem] (hmem : ∀ c, mem c ↔ c ∈ m)
    {loop : Nat → Str → Bool} (h0 : ∀ c, loop 0 c = false)
    (hs : ∀ n c, loop (n + 1) c = if c = dot then false else if mem c then true else loop n (dir c)) :
    ∀ (fuel : Nat) (cur : Str), loop fuel cur = m.any (fun v => ecpLoop v fuel cur)
  | 0, cur => by simp [h0, ecpLoop]
  | fuel + 1, cur => by
    rw [hs]
    by_cases h1 : cur = dot
    · simp [h1, ecpLoop]
    · rw [if_neg h1]
      by_cases h2 : mem cur
      · rw [if_pos h2]
        exact (List.any_eq_true.mpr ⟨cur, (hmem cur).mp h2, by simp [ecpLoop, h1]⟩).symm
      · rw [if_neg h2, upLoop_eq_any hmem h0 hs fuel (dir cur)]
        have hne : ∀ v ∈ m, v ≠ cur := fun v hv hvc => h2 ((hmem cur).mpr (hvc ▸ hv))
        rw [Bool.eq_iff_iff, List.any_eq_true, List.any_eq_true]
        exact ⟨fun ⟨v, hv, hl⟩ => ⟨v, hv, by simp [ecpLoop, h1, hne v hv, hl]⟩,
          fun ⟨v, hv, hl⟩ => ⟨v, hv, by simpa [ecpLoop, h1, hne v hv] using hl⟩⟩

theorem mapHas_iff_of {m : List Str} {mem : Str → Prop} [DecidablePred mem] (hmem : ∀ c, mem c ↔ c ∈ m)
    {loop : Nat → Str → Bool} (h0 : ∀ c, loop 0 c = false)
    (hs : ∀ n c, loop (n + 1) c = if c = dot then false else if mem c then true else loop n (dir c))
    {has : Bool} {path : Str}
    (hh : has = if m = [] then false else if mem dot then true else loop (path.length + 2) path) :
    has = true ↔ ∃ v ∈ m, equalsOrContainsPath v path = true := by
  rw [hh]
  by_cases h0' : m = []
  · subst h0'; simp
  · rw [if_neg h0']
    by_cases h1 : mem dot
    · rw [if_pos h1]
      exact ⟨fun _ => ⟨dot, (hmem dot).mp h1, by simp [equalsOrContainsPath]⟩, fun _ => rfl⟩
    · rw [if_neg h1, upLoop_eq_any hmem h0 hs, List.any_eq_true]
      have hne : ∀ v ∈ m, v ≠ dot := fun v hv hvc => h1 ((hmem dot).mpr (hvc ▸ hv))
      exact ⟨fun ⟨v, hv, hl⟩ => ⟨v, hv, by simp [equalsOrContainsPath, hne v hv, hl]⟩,
        fun ⟨v, hv, hl⟩ => ⟨v, hv, by simpa [equalsOrContainsPath, hne v hv] using hl⟩⟩

/-! ### `filepath.Clean` never returns the empty string -/

theorem joinSlash_head_ne_nil {c : Comp} {cs : List Comp} (h : c ≠ []) : joinSlash (c :: cs) ≠ [] := by
  cases cs with
  | nil => exact h
  | cons d ds =>
    rw [joinSlash_cons_cons]
    intro hc
    cases c with
    | nil => exact h rfl
    | cons x xs => simp at hc

theorem clean_ne_nil (s : Str) : clean s ≠ [] := by
  unfold clean render
  obtain ⟨k, names, heq, hp, _⟩ := reduce_shape (isAbs s) (splitSlash s) (splitSlash_no_slash s)
  split
  · simp
  · split
    · decide
    · rename_i hne
      rw [heq] at hne ⊢
      cases k with
      | zero =>
        simp only [List.replicate_zero, List.nil_append] at hne ⊢
        cases names with
        | nil => exact absurd rfl hne
        | cons n ns => exact joinSlash_head_ne_nil (hp n (by simp)).1
      | succ k =>
        simp only [List.replicate_succ, List.cons_append]
        exact joinSlash_head_ne_nil dotdot_ne_nil

end BufModel.Path
