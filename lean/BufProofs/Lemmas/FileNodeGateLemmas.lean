import BufModel.FileNodeGate
import BufProofs.Lemmas.PathLemmas
import BufProofs.Lemmas.ManifestLemmas
/-
  The bufcas path gate `fileNodeGate` has the verdict of its error-reporting form and of C08's
  `validateNodePath`; manifest texts built from (digest, path) lines, on which `parseManifest` is
  `parseLines` of the lines followed by `newManifest`.
-/
namespace BufModel.FileNodeGate
open BufModel.Path BufModel.Manifest

theorem fileNodeGate_iff (p : Str) :
    fileNodeGate p = true ↔ (p ≠ [] ∧ normalizeAndValidate p = .ok p) ∧ '\n' ∉ p := by
  simp only [fileNodeGate, Bool.and_eq_true, decide_eq_true_eq, Bool.not_eq_true',
    decide_eq_false_iff_not]

theorem fileNodeGate_iff_gateE (p : Str) : fileNodeGate p = true ↔ fileNodeGateE p = .ok () := by
  unfold fileNodeGate fileNodeGateE
  by_cases h0 : p = []
  · simp [h0]
  · simp only [h0, ne_eq, not_false_eq_true, decide_true, Bool.true_and, if_false]
    cases hv : normalizeAndValidate p with
    | error e => simp
    | ok n =>
      by_cases hn : p = n
      · subst hn
        by_cases hl : '\n' ∈ p
        · simp [hl]
        · simp [hl]
      · have : ¬ (Except.ok n : Except PErr Str) = Except.ok p := fun e => hn (Except.ok.inj e).symm
        simp [hn, this]

/-- C08's model of `validateFileNodeParameters` and the gate have the same verdict. -/
theorem fileNodeGate_iff_validateNodePath (p : Str) :
    fileNodeGate p = true ↔ validateNodePath p = .ok () := by
  rw [validateNodePath_ok_iff]
  unfold fileNodeGate validateNodePathOld
  by_cases h0 : p = []
  · simp [h0]
  · simp only [h0, ne_eq, not_false_eq_true, decide_true, Bool.true_and, if_false]
    cases hv : normalizeAndValidate p with
    | error e => simp
    | ok n =>
      by_cases hn : p = n
      · subst hn; simp
      · have : ¬ (Except.ok n : Except PErr Str) = Except.ok p := fun e => hn (Except.ok.inj e).symm
        simp [hn, this]

theorem validateNodePath_error_of_gate_false {p : Str} (h : fileNodeGate p = false) :
    ∃ e, validateNodePath p = .error e := by
  cases hv : validateNodePath p with
  | error e => exact ⟨e, rfl⟩
  | ok u =>
    cases u
    have := (fileNodeGate_iff_validateNodePath p).mpr hv
    rw [h] at this; cases this

/-- one manifest line `digest[SP][SP]path` -/
def nodeLine (x : Digest × Str) : Str := digestString x.1 ++ ' ' :: ' ' :: x.2

/-- the manifest text of a non-empty list of lines, as `ParseManifest` expects it -/
def linesText (ls : List (Digest × Str)) : Str := joinC '\n' (ls.map nodeLine) ++ ['\n']

def lineNode (x : Digest × Str) : FileNode := ⟨x.2, x.1⟩

theorem parseFileNode_nodeLine (x : Digest × Str) :
    parseFileNode (nodeLine x) = newFileNode x.2 x.1 :=
  parseFileNode_fileNodeString_eq (lineNode x)

theorem parseFileNode_nodeLine_ok {x : Digest × Str} (h : fileNodeGate x.2 = true) :
    parseFileNode (nodeLine x) = .ok (lineNode x) := by
  rw [parseFileNode_nodeLine]
  exact newFileNode_ok _ ((fileNodeGate_iff_validateNodePath _).mp h)

theorem parseFileNode_nodeLine_error {x : Digest × Str} (h : fileNodeGate x.2 = false) :
    ∃ e, parseFileNode (nodeLine x) = .error e := by
  rw [parseFileNode_nodeLine]
  obtain ⟨e, he⟩ := validateNodePath_error_of_gate_false h
  exact ⟨e, by simp [newFileNode, he]⟩

theorem parseLines_nodeLines_ok (ls : List (Digest × Str)) (h : ∀ x ∈ ls, fileNodeGate x.2 = true) :
    parseLines parseFileNode (ls.map nodeLine) = .ok (ls.map lineNode) := by
  have := parseLines_map parseFileNode (ls.map lineNode)
    (List.forall_mem_map.mpr fun x hx => parseFileNode_nodeLine_ok (h x hx))
  rwa [List.map_map] at this

theorem parseLines_nodeLines_error (ls : List (Digest × Str)) (h : ∃ x ∈ ls, fileNodeGate x.2 = false) :
    ∃ e, parseLines parseFileNode (ls.map nodeLine) = .error e := by
  induction ls with
  | nil => obtain ⟨x, hx, _⟩ := h; cases hx
  | cons x xs ih =>
    simp only [List.map_cons, parseLines]
    cases hg : fileNodeGate x.2 with
    | false =>
      obtain ⟨e, he⟩ := parseFileNode_nodeLine_error hg
      exact ⟨e, by rw [he]⟩
    | true =>
      rw [parseFileNode_nodeLine_ok hg]
      obtain ⟨y, hy, hyg⟩ := h
      rcases List.mem_cons.mp hy with rfl | hy'
      · rw [hg] at hyg; cases hyg
      · obtain ⟨e, he⟩ := ih ⟨y, hy', hyg⟩
        exact ⟨e, by rw [he]⟩

theorem linesText_eq (ls : List (Digest × Str)) (hne : ls ≠ []) :
    linesText ls = manifestString (ls.map lineNode) := by
  rw [manifestString_eq_join _ (by simpa using hne), List.map_map]; rfl

theorem parseManifest_linesText (ls : List (Digest × Str)) (hne : ls ≠ [])
    (hnl : ∀ x ∈ ls, '\n' ∉ x.2) :
    parseManifest (linesText ls) =
      match parseLines parseFileNode (ls.map nodeLine) with
      | .error e => .error e
      | .ok nodes => newManifest nodes := by
  rw [linesText_eq ls hne, parseManifest_manifestString_eq _ (List.forall_mem_map.mpr hnl), List.map_map]; rfl

theorem map_path_lineNode (ls : List (Digest × Str)) :
    (ls.map lineNode).map (·.path) = ls.map (·.2) := by
  induction ls with
  | nil => rfl
  | cons x xs ih => simp [lineNode]

end BufModel.FileNodeGate
