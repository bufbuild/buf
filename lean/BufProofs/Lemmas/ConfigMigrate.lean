import BufProofs.Lemmas.ConfigRange
/-
  C16, migration (path level): workspace-level ownership of files before and after
  `buf config migrate`, through the v2 file the migrator writes and the v2 reader reads back.
-/
namespace BufModel.Config
open BufModel.Path

/-! ### mapping a bucket on a joined prefix = mapping twice -/

theorem stripPrefix_eq_some {d f p : Key} : stripPrefix d f = some p ↔ f = d ++ p := by
  unfold stripPrefix
  constructor
  · intro h
    obtain ⟨hp, h⟩ := Option.ite_none_right_eq_some.mp h
    rw [← Option.some.inj h, append_drop_of_prefix hp]
  · rintro rfl
    rw [if_pos (isPrefixOf_self_append d p), drop_append_self]

theorem stripPrefix_append (d r f : Key) :
    stripPrefix (d ++ r) f = (stripPrefix d f).bind (stripPrefix r) := by
  refine Option.ext fun p => ?_
  rw [stripPrefix_eq_some, Option.bind_eq_some_iff]
  constructor
  · rintro rfl
    exact ⟨r ++ p, stripPrefix_eq_some.mpr (List.append_assoc d r p), stripPrefix_eq_some.mpr rfl⟩
  · rintro ⟨g, hg, hp⟩
    rw [stripPrefix_eq_some.mp hg, stripPrefix_eq_some.mp hp, List.append_assoc]

theorem stripPrefix_nil (f : Key) : stripPrefix [] f = some f :=
  stripPrefix_eq_some.mpr rfl

/-! ### owners before = owners after, module by module -/

/-- One migrated root: the v2 module `dir/root` knows `f` exactly when the v1 module knew it
    through that root, under the same root-relative path. -/
theorem ownersOf_migrated_root (d : Key) (n : Str) (r : Root) (l : Lint) (b : Breaking) (f : Key) :
    ownersOf ⟨d ++ r.root, n, [⟨[], r.includes, r.excludes⟩], l, b⟩ f =
      match stripPrefix d f with
      | none => []
      | some g =>
        match stripPrefix r.root g with
        | none => []
        | some p => if rootAccepts r.includes r.excludes p then [(d ++ r.root, [], p)] else [] := by
  unfold ownersOf
  simp only [stripPrefix_append]
  cases hd : stripPrefix d f with
  | none => rfl
  | some g =>
    simp only [Option.bind_some]
    cases hr : stripPrefix r.root g with
    | none => rfl
    | some p =>
      simp only [List.filterMap_cons, List.filterMap_nil, stripPrefix_nil]
      split <;> simp_all

theorem ownersOf_migrateModule (trL : Lint → Lint) (trB : Breaking → Breaking) (m : Module) (f : Key) :
    owners (migrateModule trL trB m) f = (ownersOf m f).map migratedOwner := by
  unfold owners migrateModule
  rw [List.flatMap_map]
  simp only [ownersOf_migrated_root]
  unfold ownersOf
  cases hd : stripPrefix m.dirPath f with
  | none => simp
  | some g =>
    simp only
    generalize m.roots = rs
    induction rs with
    | nil => rfl
    | cons r rs ih =>
      simp only [List.flatMap_cons, List.filterMap_cons, ih]
      cases hr : stripPrefix r.root g with
      | none => simp
      | some p =>
        by_cases ha : rootAccepts r.includes r.excludes p = true
        · simp [ha, migratedOwner]
        · simp [ha]

/-- Before the migrated modules are sorted: the owners keep their order, and nothing is assumed of the
    workspace. -/
theorem owners_migrateWorkspace (trL : Lint → Lint) (trB : Breaking → Breaking) (ws : List Module) (f : Key) :
    owners (migrateWorkspace trL trB ws) f = (owners ws f).map migratedOwner := by
  unfold migrateWorkspace owners
  rw [List.flatMap_assoc, List.map_flatMap]
  exact congrArg (List.flatMap · ws) (funext fun m => ownersOf_migrateModule trL trB m f)

theorem owners_perm {l l' : List Module} (h : l.Perm l') (f : Key) : (owners l f).Perm (owners l' f) :=
  List.Perm.flatMap_right _ h

/-! ### the migrated file is well-formed, hence survives its own write + read -/

/-- What the v1/v1beta1 reader guarantees for a root (`readV1_roots_wf`, ConfigV1): includes/excludes as
    a v2 module may carry them. -/
def WFRootsV1 (m : Module) : Prop := ∀ r ∈ m.roots, WFRootV2 r.includes r.excludes

theorem migrateModule_wf (trL : Lint → Lint) (trB : Breaking → Breaking) (m : Module)
    (hr : WFRootsV1 m) (hl : WFLint (trL m.lint)) (hb : WFBreaking (trB m.breaking)) :
    ∀ m' ∈ migrateModule trL trB m, WFModuleV2 m' := by
  intro m' hm'
  unfold migrateModule at hm'
  obtain ⟨r, hrm, rfl⟩ := List.mem_map.mp hm'
  exact ⟨⟨r.includes, r.excludes, rfl, hr r hrm⟩, hl, hb⟩

theorem migrateWorkspace_wf (trL : Lint → Lint) (trB : Breaking → Breaking) (ws : List Module)
    (hr : ∀ m ∈ ws, WFRootsV1 m) (hl : ∀ m ∈ ws, WFLint (trL m.lint))
    (hb : ∀ m ∈ ws, WFBreaking (trB m.breaking)) :
    ∀ m' ∈ migrateWorkspace trL trB ws, WFModuleV2 m' := by
  intro m' hm'
  unfold migrateWorkspace at hm'
  obtain ⟨m, hm, hmm⟩ := List.mem_flatMap.mp hm'
  exact migrateModule_wf trL trB m (hr m hm) (hl m hm) (hb m hm) m' hmm

theorem migrateFile_modules_perm {trL : Lint → Lint} {trB : Breaking → Breaking} {ws : List Module}
    {deps : List Dep} {c : BufYAML} (h : migrateFile trL trB ws deps = some c) :
    c.modules.Perm (migrateWorkspace trL trB ws) := by
  obtain ⟨-, -, -, rfl⟩ := newBufYAML_eq_some.mp h
  exact sortStable_perm moduleLt _

/-- Through the file that is written.  Assumed (`hr`, `hl`, `hb`): the roots are as the v1 reader produces
    them (`readV1_roots_wf`), and the translated lint/breaking configs are well-formed (the translation
    itself is not modelled). -/
theorem migrate_workspace_owners (trL : Lint → Lint) (trB : Breaking → Breaking) (ws : List Module)
    (deps : List Dep) (c : BufYAML)
    (hr : ∀ m ∈ ws, WFRootsV1 m) (hl : ∀ m ∈ ws, WFLint (trL m.lint))
    (hb : ∀ m ∈ ws, WFBreaking (trB m.breaking))
    (h : migrateFile trL trB ws deps = some c) :
    readV2 (writeV2 c) = some c ∧
      ∀ f, (owners c.modules f).Perm ((owners ws f).map migratedOwner) := by
  have hwf : WFFileV2 c :=
    newBufYAML_wf _ [] deps c (migrateWorkspace_wf trL trB ws hr hl hb) (by intro p hp; cases hp) h
  refine ⟨readV2_writeV2 c hwf, fun f => ?_⟩
  rw [← owners_migrateWorkspace trL trB ws f]
  exact owners_perm (migrateFile_modules_perm h) f

/-! ### the "switched off" flag of lint / breaking survives the migration (after the fix) -/

theorem equivCheck_disabled (tr : Check → Check) (htr : ∀ x, x.disabled = false → (tr x).disabled = false)
    (c : Check) : (equivCheck tr c).disabled = c.disabled := by
  unfold equivCheck
  cases hd : c.disabled with
  | true => simp [Check.disabledCfg]
  | false => simpa using htr c hd

theorem equivCheck_wf (tr : Check → Check) (c : Check)
    (h : c.disabled = false → WFCheck (tr c)) : WFCheck (equivCheck tr c) := by
  unfold equivCheck
  cases hd : c.disabled with
  | true => simpa using wfCheck_disabled
  | false => simpa using h hd

def offFlags (m : Module) : Key × Bool × Bool := (m.dirPath, m.lint.chk.disabled, m.breaking.chk.disabled)

theorem mem_migrateWorkspace {trL : Lint → Lint} {trB : Breaking → Breaking} {ws : List Module} {m' : Module} :
    m' ∈ migrateWorkspace trL trB ws ↔
      ∃ m ∈ ws, ∃ r ∈ m.roots,
        m' = ⟨m.dirPath ++ r.root, if m.roots.length > 1 then [] else m.name,
              [⟨[], r.includes, r.excludes⟩], trL m.lint, trB m.breaking⟩ := by
  unfold migrateWorkspace migrateModule
  constructor
  · intro h
    obtain ⟨m, hm, hmm⟩ := List.mem_flatMap.mp h
    obtain ⟨r, hr, rfl⟩ := List.mem_map.mp hmm
    exact ⟨m, hm, r, hr, rfl⟩
  · rintro ⟨m, hm, r, hr, rfl⟩
    exact List.mem_flatMap.mpr ⟨m, hm, List.mem_map.mpr ⟨r, hr, rfl⟩⟩

theorem migrate_workspace_disabled (trL trB : Check → Check) (ws : List Module) (deps : List Dep) (c : BufYAML)
    (hL : ∀ x, x.disabled = false → (trL x).disabled = false)
    (hB : ∀ x, x.disabled = false → (trB x).disabled = false)
    (hr : ∀ m ∈ ws, WFRootsV1 m)
    (hl : ∀ m ∈ ws, m.lint.chk.disabled = false → WFCheck (trL m.lint.chk))
    (hb : ∀ m ∈ ws, m.breaking.chk.disabled = false → WFCheck (trB m.breaking.chk))
    (h : migrateFile (equivLint trL) (equivBreaking trB) ws deps = some c) :
    readV2 (writeV2 c) = some c ∧
      (∀ m' ∈ c.modules, ∃ m ∈ ws, ∃ r ∈ m.roots,
          offFlags m' = (m.dirPath ++ r.root, m.lint.chk.disabled, m.breaking.chk.disabled)) ∧
      (∀ m ∈ ws, ∀ r ∈ m.roots, ∃ m' ∈ c.modules,
          offFlags m' = (m.dirPath ++ r.root, m.lint.chk.disabled, m.breaking.chk.disabled)) := by
  have hrt := (migrate_workspace_owners (equivLint trL) (equivBreaking trB) ws deps c hr
    (fun m hm => equivCheck_wf trL m.lint.chk (hl m hm))
    (fun m hm => equivCheck_wf trB m.breaking.chk (hb m hm)) h).1
  have hp := migrateFile_modules_perm h
  refine ⟨hrt, ?_, ?_⟩
  · intro m' hm'
    obtain ⟨m, hm, r, hrm, rfl⟩ := mem_migrateWorkspace.mp (hp.mem_iff.mp hm')
    refine ⟨m, hm, r, hrm, ?_⟩
    simp only [offFlags, equivLint, equivBreaking, equivCheck_disabled trL hL, equivCheck_disabled trB hB]
  · intro m hm r hrm
    refine ⟨_, hp.mem_iff.mpr (mem_migrateWorkspace.mpr ⟨m, hm, r, hrm, rfl⟩), ?_⟩
    simp only [offFlags, equivLint, equivBreaking, equivCheck_disabled trL hL, equivCheck_disabled trB hB]

/-! ### an owner triple spells its file -/

theorem mem_ownersOf {m : Module} {f : Key} {o : Key × Key × Key} (h : o ∈ ownersOf m f) :
    o.1 = m.dirPath ∧ (∃ r ∈ m.roots, r.root = o.2.1 ∧ rootAccepts r.includes r.excludes o.2.2 = true) ∧
      f = o.1 ++ o.2.1 ++ o.2.2 := by
  unfold ownersOf at h
  cases hd : stripPrefix m.dirPath f with
  | none => simp [hd] at h
  | some g =>
    simp only [hd, List.mem_filterMap] at h
    obtain ⟨r, hr, hro⟩ := h
    cases hp : stripPrefix r.root g with
    | none => simp [hp] at hro
    | some p =>
      simp only [hp] at hro
      split at hro
      · rename_i hacc
        injection hro with hro
        subst hro
        refine ⟨rfl, ⟨r, hr, rfl, hacc⟩, ?_⟩
        rw [stripPrefix_eq_some.mp hd, stripPrefix_eq_some.mp hp, List.append_assoc]
      · cases hro

/-- A file is never attributed to a path outside its owner. -/
theorem owners_spell {ms : List Module} {f : Key} {o : Key × Key × Key} (h : o ∈ owners ms f) :
    f = o.1 ++ o.2.1 ++ o.2.2 ∧ ∃ m ∈ ms, m.dirPath = o.1 := by
  unfold owners at h
  obtain ⟨m, hm, hmo⟩ := List.mem_flatMap.mp h
  obtain ⟨h1, _, h3⟩ := mem_ownersOf hmo
  exact ⟨h3, m, hm, h1.symm⟩

end BufModel.Config
