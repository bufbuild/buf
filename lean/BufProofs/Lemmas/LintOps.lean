import BufProofs.Lemmas.LintPlant
/-
  C05 — the PLANTING OPERATORS on declarations (they mirror the operator families of
  harness/cmd/c05/plant.go), each group of declarations as an instance of `Kind` (LintPlant).

  Naming: `op*` builds the transformer; `<group>Kind` is the group as the rules see it, with the
  table `<group>Rows` — per rule that reads the group, what it demands of one declaration — as
  its `rows` (`readers` / `mem_readers`: they cover every rule that `dep`
  says reads the group); `op*_planting` says that the operator rewrites one element of the kind and
  gives the frame lemmas for the rules outside it (`op*_cross`: the rules that read the group through
  another iteration helper).  `Kind.frame` / `Kind.plant` then give the frame lemma and the exact
  annotation list for every operator; the per-rule exactness theorems are in BufProofs/Props/C05.lean.

  After the declaration groups: operators on the file header (`fileLocalGood`, `KeepsDecls`,
  `frame_fileOp_elem` / `_global`; imports as a `Kind`, the syntax line), the names the grammars reject
  (`NotPascal`, `NotLowerSnake`, `NotUpperSnake`), and the operators under the names Props/C05 states them with.
-/
namespace BufModel.Lint
open BufModel.Case

theorem bne_of_ne {s t : Str} (h : t ≠ s) : (s != t) = true := by
  simp only [bne_iff_ne, ne_eq]
  exact fun e => h e.symm

/-- a comment without any line (deleted comment) is never a valid leading comment -/
theorem validLeadingComment_nil (ex : List Str) : validLeadingComment ex [] = false := by
  unfold validLeadingComment
  have h1 : splitLines [] = [[]] := rfl
  have h2 : trimSpace [] = [] := rfl
  simp [h1, h2]

/-! ### what each rule demands of one declaration

  One table per group of declarations: per rule that reads the group, its Clean condition restricted
  to ONE declaration, as a function of what the rule can read of it (the `view` of the group's `Kind`). -/

/-- the four value rules: of ALL values of the enum, so that an operator may restructure the value list -/
def enumRows : Demands Enum :=
  [(.COMMENT_ENUM, fun o e => goodComment o e.comment),
   (.ENUM_FIRST_VALUE_ZERO, fun _ e => match e.values with | v :: _ => v.number == 0 | [] => true),
   (.ENUM_NO_ALLOW_ALIAS, fun _ e => !e.allowAlias),
   (.ENUM_PASCAL_CASE, fun _ e => isPascalIdent e.name),
   (.COMMENT_ENUM_VALUE, fun o e => e.values.all fun v => goodComment o v.comment),
   (.ENUM_VALUE_PREFIX, fun _ e => e.values.all fun v => hasPrefix (toUpperSnakeCase false e.name ++ ['_']) v.name),
   (.ENUM_VALUE_UPPER_SNAKE_CASE, fun _ e => e.values.all fun v => isUpperSnakeIdent v.name),
   (.ENUM_ZERO_VALUE_SUFFIX, fun o e => e.values.all fun v => v.number != 0 || hasSuffix o.zeroSuffix v.name)]

/-- of (name of the enum, value); the rules on the enum declaration read the group without a demand on a value -/
def valueRows : Demands (Str × EnumValue) :=
  [(.COMMENT_ENUM, fun _ _ => true), (.ENUM_FIRST_VALUE_ZERO, fun _ _ => true), (.ENUM_NO_ALLOW_ALIAS, fun _ _ => true),
   (.ENUM_PASCAL_CASE, fun _ _ => true),
   (.COMMENT_ENUM_VALUE, fun o v => goodComment o v.2.comment),
   (.ENUM_VALUE_PREFIX, fun _ v => hasPrefix (toUpperSnakeCase false v.1 ++ ['_']) v.2.name),
   (.ENUM_VALUE_UPPER_SNAKE_CASE, fun _ v => isUpperSnakeIdent v.2.name),
   (.ENUM_ZERO_VALUE_SUFFIX, fun o v => v.2.number != 0 || hasSuffix o.zeroSuffix v.2.name)]

/-- of (name, comment, map-entry flag) -/
def msgRows : Demands (Str × Str × Bool) :=
  [(.COMMENT_MESSAGE, fun o v => v.2.2 || goodComment o v.2.1), (.MESSAGE_PASCAL_CASE, fun _ v => v.2.2 || isPascalIdent v.1)]

/-- of (parent is a map entry, field) -/
def fieldRows : Demands (Bool × Field) :=
  [(.COMMENT_FIELD, fun o v => v.1 || v.2.group || goodComment o v.2.comment),
   (.FIELD_LOWER_SNAKE_CASE, fun _ v => v.1 || isLowerSnakeIdent v.2.name),
   (.FIELD_NO_DESCRIPTOR, fun _ v => (trimUnderscores v.2.name).map toLower != "descriptor".toList),
   (.FIELD_NOT_REQUIRED, fun _ v => !v.2.required)]

/-- of (synthetic oneof of a proto3 optional, oneof) -/
def oneofRows : Demands (Bool × Oneof) :=
  [(.COMMENT_ONEOF, fun o v => v.2.synthetic || goodComment o v.2.comment),
   (.ONEOF_LOWER_SNAKE_CASE, fun _ v => isLowerSnakeIdent v.2.name || v.1)]

/-- of (name of the service, RPC) -/
def rpcRows : Demands (Str × Rpc) :=
  [(.COMMENT_RPC, fun o v => goodComment o v.2.comment),
   (.RPC_NO_CLIENT_STREAMING, fun _ v => !v.2.clientStreaming),
   (.RPC_NO_SERVER_STREAMING, fun _ v => !v.2.serverStreaming),
   (.RPC_PASCAL_CASE, fun _ v => isPascalIdent v.2.name),
   (.RPC_REQUEST_STANDARD_NAME, fun o v => !stdNameBad o true ⟨v.1, [], []⟩ v.2),
   (.RPC_RESPONSE_STANDARD_NAME, fun o v => !stdNameBad o false ⟨v.1, [], []⟩ v.2),
   (.RPC_REQUEST_RESPONSE_UNIQUE, fun _ _ => true)]

/-- the STANDARD_NAME rules: of every RPC of the service, under that service name -/
def svcRows : Demands Service :=
  [(.COMMENT_SERVICE, fun o s => goodComment o s.comment),
   (.SERVICE_PASCAL_CASE, fun _ s => isPascalIdent s.name),
   (.SERVICE_SUFFIX, fun o s => hasSuffix o.svcSuffix s.name),
   (.RPC_REQUEST_STANDARD_NAME, fun o s => s.rpcs.all fun m => !stdNameBad o true ⟨s.name, [], []⟩ m),
   (.RPC_RESPONSE_STANDARD_NAME, fun o s => s.rpcs.all fun m => !stdNameBad o false ⟨s.name, [], []⟩ m)]

def readers : Grp → List Rule
  | .enum => enumRows.map (·.1)
  | .msg => msgRows.map (·.1)
  | .field => fieldRows.map (·.1)
  | .oneof => oneofRows.map (·.1)
  | .svc => svcRows.map (·.1)
  | .rpc => rpcRows.map (·.1)

/-- the tables are complete: a rule that reads a group (`dep`) has a row in the group's table -/
theorem mem_readers (r : Rule) : ∀ G ∈ dep r, r ∈ readers G := by
  cases r <;> decide

/-- the rules that do not read group `G` cannot see a transformer that touches only `G` -/
theorem frame_other (o : Options) (w : Schema) (fp : Str) (T : Tr) (G : Grp) (hT : ∀ G', G' ≠ G → T.isId G')
    (r : Rule) (hd : r ∉ readers G) (hc : cleanRule o w r = true) : cleanRule o (plantFile fp (mapFile T) w) r = true :=
  frame_deep o w fp T r (fun G' hG => hT G' (fun e => hd (e ▸ mem_readers r G' hG))) hc

/-! ### enum declarations -/

/-- rewrite the enum declaration at source path `p0` -/
def opEnum (p0 : List Nat) (g : Enum → Enum) : Tr := { enum := fun p e => if p = p0 then g e else e }

theorem opEnum_isId (p0 : List Nat) (g : Enum → Enum) (G : Grp) (h : G ≠ .enum) : (opEnum p0 g).isId G := by
  cases G <;> first | exact absurd rfl h | exact ⟨rfl, rfl, rfl⟩ | exact ⟨rfl, rfl⟩ | exact rfl

theorem opEnum_enumFull (p0 : List Nat) (g : Enum → Enum) (p : List Nat) (e : Enum) :
    (opEnum p0 g).enumFull p e = if p = p0 then g e else e := by
  simp [Tr.enumFull, opEnum, mapIdxFrom_id]

/-- enum declarations; the four value rules read them through `fileEnumValues` -/
def enumKind : Kind (List Nat × Enum) Enum where
  els := fileEnums
  key := (·.1)
  view x := x.2
  rows := enumRows
  cross r := r = .COMMENT_ENUM_VALUE ∨ r = .ENUM_VALUE_PREFIX ∨ r = .ENUM_VALUE_UPPER_SNAKE_CASE ∨
    r = .ENUM_ZERO_VALUE_SUFFIX
  nodup := fileEnums_nodup
  spec r hd := by
    simp [enumRows] at hd
    rcases hd with rfl | rfl | rfl | rfl | rfl | rfl | rfl | rfl <;>
      first | exact .inr ⟨_, _, _, rfl, fun _ _ => rfl⟩ | exact .inl (by simp)

/-- rewriting an enum declaration, seen by the value rules -/
theorem opEnum_cross (o : Options) (w : Schema) (f : File) (hf : FileAt w f) (p0 : List Nat) (e0 : Enum)
    (he0 : (p0, e0) ∈ fileEnums f) (g : Enum → Enum) (r : Rule) (hx : enumKind.cross r)
    (hkeep : enumRows.of r o e0 = true → enumRows.of r o (g e0) = true)
    (hc : cleanRule o w r = true) : cleanRule o (plantFile f.path (mapFile (opEnum p0 g)) w) r = true := by
  have hpv : ∀ bad loc good, elemRule r = some ⟨List Nat × Enum × EnumValue, fileEnumValues, bad, loc, good⟩ →
      (∀ p p' e v, good o (p, e, v) = good o (p', e, v)) →
      (∀ e, enumRows.of r o e = e.values.all fun v => good o ([], e, v)) →
      cleanRule o (plantFile f.path (mapFile (opEnum p0 g)) w) r = true := by
    intro bad loc good he hpath hall
    refine frame_values o w r _ _ _ he hpath f hf _ (fun qe hqe hq => ?_) hc
    rw [opEnum_enumFull]
    split
    · next hp =>
      obtain rfl : qe = (p0, e0) := BufProofs.ListLemmas.eq_of_nodup_map (·.1) (fileEnums_nodup f) hqe he0 hp
      exact List.all_eq_true.mp (hall _ ▸ hkeep (hall _ ▸ List.all_eq_true.mpr hq))
    · exact hq
  rcases hx with rfl | rfl | rfl | rfl <;> exact hpv _ _ _ rfl (fun _ _ _ _ => rfl) (fun _ => rfl)

theorem opEnum_planting (f : File) (p0 : List Nat) (e0 : Enum) (h0 : (p0, e0) ∈ fileEnums f) (g : Enum → Enum) :
    enumKind.Planting (mapFile (opEnum p0 g)) f (tauEnum (opEnum p0 g)) (p0, e0) (g e0) where
  mem := h0
  here := (opEnum_enumFull ..).trans (if_pos rfl)
  isImport _ := rfl
  map := fileEnums_map _ f
  off x _ (hne : x.1 ≠ p0) := (opEnum_enumFull ..).trans (if_neg hne)
  others o w r _ := frame_other o w _ _ .enum (opEnum_isId p0 g) r
  crossF o w r hf := opEnum_cross o w f hf p0 e0 h0 g r

theorem tauEnum_opEnum (p0 : List Nat) (g : Enum → Enum) (e0 : Enum) : tauEnum (opEnum p0 g) (p0, e0) = (p0, g e0) :=
  congrArg (Prod.mk p0) ((opEnum_enumFull ..).trans (if_pos rfl))

/-! ### enum values -/

/-- rewrite the enum value at source path `q0` (= enum path ++ [2, i]) -/
def opValue (q0 : List Nat) (g : EnumValue → EnumValue) : Tr := { value := fun q v => if q = q0 then g v else v }

theorem opValue_isId (q0 : List Nat) (g : EnumValue → EnumValue) (G : Grp) (h : G ≠ .enum) : (opValue q0 g).isId G := by
  cases G <;> first | exact absurd rfl h | exact ⟨rfl, rfl, rfl⟩ | exact ⟨rfl, rfl⟩ | exact rfl

theorem fileEnumValues_mem {f : File} {x : List Nat × Enum × EnumValue} (h : x ∈ fileEnumValues f) :
    ∃ p i, x.1 = p ++ [2, i] ∧ (p, x.2.1) ∈ fileEnums f ∧ (i, x.2.2) ∈ indexed x.2.1.values := by
  unfold fileEnumValues at h
  obtain ⟨qe, hqe, hx⟩ := List.mem_flatMap.mp h
  obtain ⟨iv, hiv, rfl⟩ := List.mem_map.mp hx
  exact ⟨qe.1, iv.1, rfl, hqe, hiv⟩

/-- rewriting the value at `q0` by a `g` that keeps numbers keeps the number of the enum's first
    value (what ENUM_FIRST_VALUE_ZERO reads) -/
theorem mapIdxFrom_value_head (q0 : List Nat) (g : EnumValue → EnumValue) (hnum : ∀ v, (g v).number = v.number)
    (p : List Nat) : ∀ (i : Nat) (l : List EnumValue),
    ((mapIdxFrom (fun j => (opValue q0 g).value (p ++ [2, j])) i l).head?.map (·.number)) = l.head?.map (·.number)
  | _, [] => rfl
  | i, a :: t => by
    simp only [mapIdxFrom, List.head?_cons, Option.map_some, opValue]
    split
    · rw [hnum]
    · rfl

/-- enum values; the four rules on the enum declaration read the group too -/
def valueKind : Kind (List Nat × Enum × EnumValue) (Str × EnumValue) where
  els := fileEnumValues
  key := (·.1)
  view x := (x.2.1.name, x.2.2)
  rows := valueRows
  cross r := r = .COMMENT_ENUM ∨ r = .ENUM_FIRST_VALUE_ZERO ∨ r = .ENUM_NO_ALLOW_ALIAS ∨ r = .ENUM_PASCAL_CASE
  nodup := fileEnumValues_nodup
  spec r hd := by
    simp [valueRows] at hd
    rcases hd with rfl | rfl | rfl | rfl | rfl | rfl | rfl | rfl <;>
      first | exact .inr ⟨_, _, _, rfl, fun _ _ => rfl⟩ | exact .inl (by simp)

/-- rewriting a value (keeping its number), seen by the rules on the enum declaration -/
theorem opValue_cross (o : Options) (w : Schema) (f : File) (hf : FileAt w f) (q0 : List Nat) (g : EnumValue → EnumValue)
    (hnum : ∀ v, (g v).number = v.number) (r : Rule) (hx : valueKind.cross r) (hc : cleanRule o w r = true) :
    cleanRule o (plantFile f.path (mapFile (opValue q0 g)) w) r = true := by
  rcases hx with rfl | rfl | rfl | rfl
  case inr.inl =>
    refine frame_via_map o w _ _ _ _ _ rfl f hf _ (fun _ => rfl) _ (fileEnums_map _ f) (fun x _ h => ?_) hc
    obtain ⟨p, n, c, al, vs⟩ := x
    cases vs with
    | nil => rfl
    | cons a t =>
      simp only [tauEnum, Tr.enumFull, opValue, mapIdxFrom] at h ⊢
      split
      · rw [hnum]; exact h
      · exact h
  all_goals
    exact frame_via_map o w _ _ _ _ _ rfl f hf _ (fun _ => rfl) _ (fileEnums_map _ f)
      (fun x _ h => by simpa [tauEnum, Tr.enumFull, opValue] using h) hc

/-- the map law holds because `opValue` leaves the enum declarations alone -/
theorem opValue_planting (f : File) (q0 : List Nat) (e0 : Enum) (v0 : EnumValue) (h0 : (q0, e0, v0) ∈ fileEnumValues f)
    (g : EnumValue → EnumValue) (hnum : ∀ v, (g v).number = v.number) :
    valueKind.Planting (mapFile (opValue q0 g)) f (tauValue (opValue q0 g)) (q0, e0, v0) (e0.name, g v0) where
  mem := h0
  here := congrArg (Prod.mk e0.name) (if_pos rfl)
  isImport _ := rfl
  map := fileEnumValues_map_value _ rfl f
  off x _ (hne : x.1 ≠ q0) := congrArg (Prod.mk x.2.1.name) (if_neg hne)
  others o w r _ := frame_other o w _ _ .enum (opValue_isId q0 g) r
  crossF o w r hf hx _ := opValue_cross o w f hf q0 g hnum r hx

/-! ### messages -/

/-- rewrite name and comment of the message at source path `p0` -/
def opMsg (p0 : List Nat) (gn gc : Str → Str) : Tr :=
  { msgName := fun p s => if p = p0 then gn s else s, msgComment := fun p s => if p = p0 then gc s else s }

theorem opMsg_isId (p0 : List Nat) (gn gc : Str → Str) (G : Grp) (h : G ≠ .msg) : (opMsg p0 gn gc).isId G := by
  cases G <;> first | exact absurd rfl h | exact ⟨rfl, rfl, rfl⟩ | exact ⟨rfl, rfl⟩ | exact rfl

def msgKind : Kind (List Nat × Message) (Str × Str × Bool) where
  els := fileMsgs
  key := (·.1)
  view x := (x.2.name, x.2.comment, x.2.mapEntry)
  rows := msgRows
  cross _ := False
  nodup := fileMsgs_nodup
  spec r hd := by
    simp [msgRows] at hd
    rcases hd with rfl | rfl <;> exact .inr ⟨_, _, _, rfl, fun _ _ => rfl⟩

theorem opMsg_planting (f : File) (p0 : List Nat) (m0 : Message) (h0 : (p0, m0) ∈ fileMsgs f) (gn gc : Str → Str) :
    msgKind.Planting (mapFile (opMsg p0 gn gc)) f (tauMsg (opMsg p0 gn gc)) (p0, m0)
      (gn m0.name, gc m0.comment, m0.mapEntry) where
  mem := h0
  here := by simp only [msgKind, tauMsg, mapMsg_name, mapMsg_comment, mapMsg_mapEntry, opMsg, if_pos]
  isImport _ := rfl
  map := fileMsgs_map _ f
  off x _ (hne : x.1 ≠ p0) := by
    simp only [msgKind, tauMsg, mapMsg_name, mapMsg_comment, mapMsg_mapEntry, opMsg, if_neg hne]
  others o w r _ := frame_other o w _ _ .msg (opMsg_isId p0 gn gc) r
  crossF _ _ _ _ hx := hx.elim

/-! ### fields and extensions -/

/-- rewrite name, comment and `required` label of the field / extension at source path `q0` -/
def opField (q0 : List Nat) (gn gc : Str → Str) (gr : Bool → Bool) : Tr :=
  { fieldName := fun q s => if q = q0 then gn s else s, fieldComment := fun q s => if q = q0 then gc s else s,
    fieldRequired := fun q b => if q = q0 then gr b else b }

theorem opField_isId (q0 : List Nat) (gn gc : Str → Str) (gr : Bool → Bool) (G : Grp) (h : G ≠ .field) :
    (opField q0 gn gc gr).isId G := by
  cases G <;> first | exact absurd rfl h | exact ⟨rfl, rfl, rfl⟩ | exact ⟨rfl, rfl⟩ | exact rfl

def fieldWith (fd : Field) (gn gc : Str → Str) (gr : Bool → Bool) : Field :=
  { fd with name := gn fd.name, comment := gc fd.comment, required := gr fd.required }

theorem tauField_opField (q0 : List Nat) (gn gc : Str → Str) (gr : Bool → Bool)
    (x : List Nat × Option Message × Field) :
    (tauField (opField q0 gn gc gr) x).2.2 = if x.1 = q0 then fieldWith x.2.2 gn gc gr else x.2.2 := by
  simp only [tauField, Tr.field, opField, fieldWith]
  split <;> rfl

def fieldKind : Kind (List Nat × Option Message × Field) (Bool × Field) where
  els := fileFields
  key := (·.1)
  view x := (isMapEntryParent x.2.1, x.2.2)
  rows := fieldRows
  cross _ := False
  nodup := fileFields_nodup
  spec r hd := by
    simp [fieldRows] at hd
    rcases hd with rfl | rfl | rfl | rfl <;> exact .inr ⟨_, _, _, rfl, fun _ _ => rfl⟩

theorem opField_planting (f : File) (q0 : List Nat) (pm0 : Option Message) (fd0 : Field)
    (h0 : (q0, pm0, fd0) ∈ fileFields f) (gn gc : Str → Str) (gr : Bool → Bool) :
    fieldKind.Planting (mapFile (opField q0 gn gc gr)) f (tauField (opField q0 gn gc gr)) (q0, pm0, fd0)
      (isMapEntryParent pm0, fieldWith fd0 gn gc gr) where
  mem := h0
  here := Prod.ext (isMapEntryParent_map ..) ((tauField_opField ..).trans (if_pos rfl))
  isImport _ := rfl
  map := fileFields_map _ f
  off x _ (hne : x.1 ≠ q0) := Prod.ext (isMapEntryParent_map ..) ((tauField_opField ..).trans (if_neg hne))
  others o w r _ := frame_other o w _ _ .field (opField_isId q0 gn gc gr) r
  crossF _ _ _ _ hx := hx.elim

/-! ### oneofs -/

def opOneof (q0 : List Nat) (g : Oneof → Oneof) : Tr := { oneof := fun q x => if q = q0 then g x else x }

theorem opOneof_isId (q0 : List Nat) (g : Oneof → Oneof) (G : Grp) (h : G ≠ .oneof) : (opOneof q0 g).isId G := by
  cases G <;> first | exact absurd rfl h | exact ⟨rfl, rfl, rfl⟩ | exact ⟨rfl, rfl⟩ | exact rfl

def oneofKind : Kind (List Nat × Message × Nat × Oneof) (Bool × Oneof) where
  els := fileOneofs
  key := (·.1)
  view x := (oneofIsP3Optional x.2.1 x.2.2.1, x.2.2.2)
  rows := oneofRows
  cross _ := False
  nodup := fileOneofs_nodup
  spec r hd := by
    simp [oneofRows] at hd
    rcases hd with rfl | rfl <;> exact .inr ⟨_, _, _, rfl, fun _ _ => rfl⟩

theorem opOneof_planting (f : File) (q0 : List Nat) (m0 : Message) (i0 : Nat) (oo0 : Oneof)
    (h0 : (q0, m0, i0, oo0) ∈ fileOneofs f) (g : Oneof → Oneof) :
    oneofKind.Planting (mapFile (opOneof q0 g)) f (tauOneof (opOneof q0 g)) (q0, m0, i0, oo0)
      (oneofIsP3Optional m0 i0, g oo0) where
  mem := h0
  here := Prod.ext (oneofIsP3Optional_map ..) (if_pos rfl)
  isImport _ := rfl
  map := fileOneofs_map _ f
  off x _ (hne : x.1 ≠ q0) := Prod.ext (oneofIsP3Optional_map ..) (if_neg hne)
  others o w r _ := frame_other o w _ _ .oneof (opOneof_isId q0 g) r
  crossF _ _ _ _ hx := hx.elim

/-! ### services and RPCs -/

def opSvc (p0 : List Nat) (gn gc : Str → Str) : Tr :=
  { svcName := fun p s => if p = p0 then gn s else s, svcComment := fun p s => if p = p0 then gc s else s }

theorem opSvc_isId (p0 : List Nat) (gn gc : Str → Str) (G : Grp) (h : G ≠ .svc) : (opSvc p0 gn gc).isId G := by
  cases G <;> first | exact absurd rfl h | exact ⟨rfl, rfl, rfl⟩ | exact ⟨rfl, rfl⟩ | exact rfl

def svcWith (s : Service) (gn gc : Str → Str) : Service := { s with name := gn s.name, comment := gc s.comment }

theorem stdNameBad_congr (o : Options) (b : Bool) (s s' : Service) (m : Rpc) (h : s'.name = s.name) :
    stdNameBad o b s' m = stdNameBad o b s m := by
  unfold stdNameBad; rw [h]

theorem stdNameBad_congr_pascal (o : Options) (b : Bool) (s s' : Service) (m : Rpc)
    (h : toPascalCase s'.name = toPascalCase s.name) : stdNameBad o b s' m = stdNameBad o b s m := by
  unfold stdNameBad; rw [h]

theorem stdNameBad_congr_rpc (o : Options) (b : Bool) (s : Service) (m m' : Rpc)
    (hn : toPascalCase m'.name = toPascalCase m.name) (hi : m'.inType = m.inType) (ho : m'.outType = m.outType) :
    stdNameBad o b s m' = stdNameBad o b s m := by
  unfold stdNameBad; rw [hn, hi, ho]

theorem fileRpcs_mem {f : File} {x : List Nat × Service × Rpc} (h : x ∈ fileRpcs f) :
    ∃ p i, x.1 = p ++ [2, i] ∧ (p, x.2.1) ∈ fileSvcs f ∧ (i, x.2.2) ∈ indexed x.2.1.rpcs := by
  unfold fileRpcs at h
  obtain ⟨ps, hps, hx⟩ := List.mem_flatMap.mp h
  obtain ⟨im, him, rfl⟩ := List.mem_map.mp hx
  exact ⟨ps.1, im.1, rfl, hps, him⟩

theorem mapSvc_opSvc (p0 : List Nat) (gn gc : Str → Str) (p : List Nat) (s : Service) :
    mapSvc (opSvc p0 gn gc) p s = if p = p0 then svcWith s gn gc else s := by
  simp only [mapSvc, opSvc, svcWith, mapIdxFrom_id]
  split <;> rfl

/-- RPCs; RPC_REQUEST_RESPONSE_UNIQUE reads them through the method table -/
def rpcKind : Kind (List Nat × Service × Rpc) (Str × Rpc) where
  els := fileRpcs
  key := (·.1)
  view x := (x.2.1.name, x.2.2)
  rows := rpcRows
  cross r := r = .RPC_REQUEST_RESPONSE_UNIQUE
  nodup := fileRpcs_nodup
  spec r hd := by
    simp [rpcRows] at hd
    rcases hd with rfl | rfl | rfl | rfl | rfl | rfl | rfl <;>
      first | exact .inl rfl | exact .inr ⟨_, _, _, rfl, fun _ _ => rfl⟩

/-- services; the two STANDARD_NAME rules read the service name through `fileRpcs` -/
def svcKind : Kind (List Nat × Service) Service where
  els := fileSvcs
  key := (·.1)
  view x := x.2
  rows := svcRows
  cross r := r = .RPC_REQUEST_STANDARD_NAME ∨ r = .RPC_RESPONSE_STANDARD_NAME
  nodup := fileSvcs_nodup
  spec r hd := by
    simp [svcRows] at hd
    rcases hd with rfl | rfl | rfl | rfl | rfl <;>
      first | exact .inl (.inl rfl) | exact .inl (.inr rfl) | exact .inr ⟨_, _, _, rfl, fun _ _ => rfl⟩

/-- in a file that is Clean for a STANDARD_NAME rule every RPC of every service is fine -/
theorem svcRows_of_clean (o : Options) (w : Schema) (f : File) (hf : FileAt w f) (p : List Nat) (s : Service)
    (hps : (p, s) ∈ fileSvcs f) (r : Rule) (hx : svcKind.cross r) (hc : cleanRule o w r = true) :
    svcRows.of r o s = true := by
  have hall : ∀ x ∈ fileRpcs f, rpcRows.of r o (x.2.1.name, x.2.2) = true := by
    rcases hx with rfl | rfl
    all_goals
      rw [cleanRule_elem o w _ _ rfl] at hc
      exact List.all_eq_true.mp (List.all_eq_true.mp hc f hf.nonImport)
  have : (s.rpcs.all fun m => rpcRows.of r o (s.name, m)) = true := List.all_eq_true.mpr fun m hm => by
    obtain ⟨j, hj⟩ := mem_indexFrom s.rpcs 0 m hm
    exact hall (p ++ [2, j], s, m) (by
      unfold fileRpcs; exact List.mem_flatMap.mpr ⟨(p, s), hps, List.mem_map.mpr ⟨(j, m), hj, rfl⟩⟩)
  rcases hx with rfl | rfl <;> exact this

/-- renaming a service, seen by the RPC rules that read the service name -/
theorem opSvc_cross (o : Options) (w : Schema) (f : File) (hf : FileAt w f) (p0 : List Nat) (s0 : Service)
    (h0 : (p0, s0) ∈ fileSvcs f) (gn gc : Str → Str) (r : Rule) (hx : svcKind.cross r)
    (hkeep : svcRows.of r o s0 = true → svcRows.of r o (svcWith s0 gn gc) = true)
    (hc : cleanRule o w r = true) : cleanRule o (plantFile f.path (mapFile (opSvc p0 gn gc)) w) r = true := by
  have hnew : ((svcWith s0 gn gc).rpcs.all fun m => rpcRows.of r o ((svcWith s0 gn gc).name, m)) = true := by
    have := hkeep (svcRows_of_clean o w f hf p0 s0 h0 r hx hc)
    rcases hx with rfl | rfl <;> exact this
  refine rpcKind.frame_elementwise o w f hf (h := mapFile (opSvc p0 gn gc)) (fun _ => rfl) (fileRpcs_map _ f) r
    (by rcases hx with rfl | rfl <;> simp [rpcKind, rpcRows]) (by rcases hx with rfl | rfl <;> simp [rpcKind])
    (fun x hx' hgx => ?_) hc
  obtain ⟨p, i, hq, hps, him⟩ := fileRpcs_mem hx'
  obtain ⟨q, s, m⟩ := x
  subst hq
  simp only [rpcKind, tauRpc, dropLast2, mapSvc_opSvc] at hgx ⊢
  show rpcRows.of r o ((if p = p0 then svcWith s gn gc else s).name, m) = true
  split
  · next hp =>
    subst hp
    obtain rfl := (Prod.mk.inj (BufProofs.ListLemmas.eq_of_nodup_map (·.1) (fileSvcs_nodup f) hps h0 rfl)).2
    exact List.all_eq_true.mp hnew m (mem_indexFrom_val 0 _ _ him)
  · exact hgx

theorem opSvc_planting (f : File) (p0 : List Nat) (s0 : Service) (h0 : (p0, s0) ∈ fileSvcs f) (gn gc : Str → Str) :
    svcKind.Planting (mapFile (opSvc p0 gn gc)) f (tauSvc (opSvc p0 gn gc)) (p0, s0) (svcWith s0 gn gc) where
  mem := h0
  here := (mapSvc_opSvc ..).trans (if_pos rfl)
  isImport _ := rfl
  map := fileSvcs_map _ f
  off x _ (hne : x.1 ≠ p0) := (mapSvc_opSvc ..).trans (if_neg hne)
  others o w r _ := frame_other o w _ _ .svc (opSvc_isId p0 gn gc) r
  crossF o w r hf := opSvc_cross o w f hf p0 s0 h0 gn gc r

theorem tauSvc_opSvc (p0 : List Nat) (gn gc : Str → Str) (s0 : Service) :
    tauSvc (opSvc p0 gn gc) (p0, s0) = (p0, svcWith s0 gn gc) :=
  congrArg (Prod.mk p0) ((mapSvc_opSvc ..).trans (if_pos rfl))

def opRpc (q0 : List Nat) (g : Rpc → Rpc) : Tr := { rpc := fun q m => if q = q0 then g m else m }

theorem opRpc_isId (q0 : List Nat) (g : Rpc → Rpc) (G : Grp) (h : G ≠ .rpc) : (opRpc q0 g).isId G := by
  cases G <;> first | exact absurd rfl h | exact ⟨rfl, rfl, rfl⟩ | exact ⟨rfl, rfl⟩ | exact rfl

theorem mapSvc_opRpc_name (q0 : List Nat) (g : Rpc → Rpc) (p : List Nat) (s : Service) :
    (mapSvc (opRpc q0 g) p s).name = s.name := rfl

theorem opRpc_point (f : File) (q0 : List Nat) (s0 : Service) (m0 : Rpc) (h0 : (q0, s0, m0) ∈ fileRpcs f)
    (g : Rpc → Rpc) : rpcKind.PointOp (mapFile (opRpc q0 g)) f (tauRpc (opRpc q0 g)) (q0, s0, m0) (s0.name, g m0) where
  mem := h0
  here := congrArg (Prod.mk s0.name) (if_pos rfl)
  isImport _ := rfl
  map := fileRpcs_map _ f
  off x _ (hne : x.1 ≠ q0) := congrArg (Prod.mk x.2.1.name) (if_neg hne)

theorem rpcTable_plant (w : Schema) (fp : Str) (h : File → File) (hI : ∀ g, (h g).isImport = g.isImport)
    (hr : ∀ g ∈ nonImport w, g.path = fp → fileRpcRows (h g) = fileRpcRows g) :
    rpcTable (plantFile fp h w) = rpcTable w := by
  rw [rpcTable_eq, rpcTable_eq]
  unfold plantFile
  rw [nonImport_map _ (sel_isImport fp h hI), List.flatMap_map]
  apply BufProofs.ListLemmas.flatMap_congr
  intro g hg
  unfold sel
  split
  · next hp => exact hr g hg (by simpa using hp)
  · rfl

/-- rewriting an RPC that keeps its request and response type, seen by RPC_REQUEST_RESPONSE_UNIQUE -/
theorem opRpc_cross (o : Options) (w : Schema) (f : File) (hf : FileAt w f) (q0 : List Nat) (s0 : Service)
    (m0 : Rpc) (h0 : (q0, s0, m0) ∈ fileRpcs f) (g : Rpc → Rpc)
    (hio : (g m0).inType = m0.inType ∧ (g m0).outType = m0.outType)
    (hc : cleanRule o w .RPC_REQUEST_RESPONSE_UNIQUE = true) :
    cleanRule o (plantFile f.path (mapFile (opRpc q0 g)) w) .RPC_REQUEST_RESPONSE_UNIQUE = true := by
  have ht : rpcTable (plantFile f.path (mapFile (opRpc q0 g)) w) = rpcTable w := by
    apply rpcTable_plant w f.path (mapFile (opRpc q0 g)) (fun _ => rfl)
    intro f' hf' hp
    obtain rfl : f' = f := hf.unique f' (mem_nonImport hf').1 hp
    unfold fileRpcRows
    rw [fileRpcs_map, List.map_map]
    apply List.map_congr_left
    intro x hx
    simp only [Function.comp, tauRpc, opRpc]
    split
    · next hq =>
      obtain rfl := BufProofs.ListLemmas.eq_of_nodup_map (·.1) (fileRpcs_nodup f') hx h0 hq
      simp only [hio.1, hio.2]
      rfl
    · rfl
  rw [cleanRule_global o _ _ rfl] at hc ⊢
  simp only [globalClean, rpcUnique] at hc ⊢
  rw [ht]; exact hc

theorem opRpc_planting (f : File) (q0 : List Nat) (s0 : Service) (m0 : Rpc) (h0 : (q0, s0, m0) ∈ fileRpcs f)
    (g : Rpc → Rpc) (hio : (g m0).inType = m0.inType ∧ (g m0).outType = m0.outType) :
    rpcKind.Planting (mapFile (opRpc q0 g)) f (tauRpc (opRpc q0 g)) (q0, s0, m0) (s0.name, g m0) where
  toPointOp := opRpc_point f q0 s0 m0 h0 g
  others o w r _ := frame_other o w _ _ .rpc (opRpc_isId q0 g) r
  crossF o w r hf hx _ hc := by
    obtain rfl : r = .RPC_REQUEST_RESPONSE_UNIQUE := hx
    exact opRpc_cross o w f hf q0 s0 m0 h0 g hio hc

/-! ### file-level operators (imports, syntax, options, package, path) -/

/-- what each file / import rule demands of ONE file -/
def fileLocalGood (r : Rule) (o : Options) (f : File) : Bool :=
  match elemRule r with
  | some er => (er.els f).all (er.good o)
  | none => true

/-- `h` rewrites the file header only: the four declaration lists stay. -/
structure KeepsDecls (h : File → File) : Prop where
  enums : ∀ f, (h f).enums = f.enums
  msgs : ∀ f, (h f).msgs = f.msgs
  svcs : ∀ f, (h f).svcs = f.svcs
  exts : ∀ f, (h f).exts = f.exts

theorem KeepsDecls.fileRpcs {h : File → File} (k : KeepsDecls h) (f : File) : fileRpcs (h f) = fileRpcs f := by
  simp only [Lint.fileRpcs, fileSvcs, k.svcs]

/-- the rules on the file header and on imports -/
def isFileRule : Rule → Bool
  | .FILE_LOWER_SNAKE_CASE | .IMPORT_NO_PUBLIC | .IMPORT_NO_WEAK | .IMPORT_USED | .PACKAGE_DEFINED
  | .PACKAGE_DIRECTORY_MATCH | .PACKAGE_LOWER_SNAKE_CASE | .PACKAGE_VERSION_SUFFIX | .SYNTAX_SPECIFIED => true
  | _ => false

/-- the rules on the file header and on imports aside, every iteration helper is a function of
    the four declaration lists of the file -/
theorem els_of_keepsDecls {h : File → File} (kd : KeepsDecls h) (r : Rule) (er : ElemRule) (he : elemRule r = some er)
    (hfr : isFileRule r = false) (f : File) : er.els (h f) = er.els f := by
  cases r <;> simp only [elemRule, Option.some.injEq, reduceCtorEq] at he <;> subst he <;>
    first
      | exact absurd hfr (by decide)
      | simp only [fileEnumValues, fileEnums, fileFields, fileOneofs, Lint.fileRpcs, fileSvcs, fileMsgs,
          kd.enums, kd.msgs, kd.svcs, kd.exts]

/-- **Frame lemma, header rewriting, per-element rules.**  A rewriting of the file header keeps
    every declaration rule Clean outright, and a file / import rule Clean when its demand on that
    one file survives. -/
theorem frame_fileOp_elem (o : Options) (w : Schema) (f : File) (hf : FileAt w f) (h : File → File)
    (hI : ∀ g, (h g).isImport = g.isImport) (kd : KeepsDecls h) (r : Rule) (er : ElemRule)
    (he : elemRule r = some er)
    (hkeep : isFileRule r = true → fileLocalGood r o f = true → fileLocalGood r o (h f) = true)
    (hc : cleanRule o w r = true) : cleanRule o (plantFile f.path h w) r = true := by
  apply cleanRule_elem_plant o w r er he f.path h hI _ hc
  intro f' hf' hp hg
  obtain rfl : f' = f := hf.unique f' (mem_nonImport hf').1 hp
  cases hfr : isFileRule r
  · rw [els_of_keepsDecls kd r er he hfr]; exact hg
  · have := hkeep hfr (by unfold fileLocalGood; rw [he]; exact hg)
    unfold fileLocalGood at this; rw [he] at this; exact this

theorem fileRpcRows_of_keeps (h : File → File) (kd : KeepsDecls h) (hp : ∀ f, (h f).path = f.path) (f : File) :
    fileRpcRows (h f) = fileRpcRows f := by
  unfold fileRpcRows; rw [kd.fileRpcs, hp]

/-- **Frame lemma, header rewriting, multi-file rules**: a rewriting that keeps path, package,
    import flag, import PATHS, and the option the rule compares, cannot be seen by any
    multi-file rule. -/
theorem frame_fileOp_global (o : Options) (w : Schema) (fp : Str) (h : File → File) (k : KeepsHdr h)
    (kd : KeepsDecls h) (r : Rule) (he : elemRule r = none)
    (hopts : ∀ i, optIndex r = some i → ∀ f, optVal (h f) i = optVal f i)
    (hc : cleanRule o w r = true) : cleanRule o (plantFile fp h w) r = true := by
  rw [cleanRule_global_plant o w r he fp h k hopts (fun _ => fileRpcRows_of_keeps h kd k.path)]
  exact hc

/-- rewrite the import statement number `i0` -/
def opImport (i0 : Nat) (g : Import → Import) (f : File) : File :=
  { f with imports := mapIdxFrom (fun j imp => if j = i0 then g imp else imp) 0 f.imports }

theorem mapIdxFrom_paths (i0 : Nat) (g : Import → Import) (hp : ∀ imp, (g imp).path = imp.path) :
    ∀ (i : Nat) (l : List Import),
      (mapIdxFrom (fun j imp => if j = i0 then g imp else imp) i l).map (·.path) = l.map (·.path)
  | _, [] => rfl
  | i, a :: t => by
    simp only [mapIdxFrom, List.map_cons, mapIdxFrom_paths i0 g hp (i + 1) t]
    split
    · rw [hp]
    · rfl

theorem keepsHdr_opImport (i0 : Nat) (g : Import → Import) (hp : ∀ imp, (g imp).path = imp.path) :
    KeepsHdr (opImport i0 g) :=
  ⟨fun _ => rfl, fun _ => rfl, fun _ => rfl, fun f => mapIdxFrom_paths i0 g hp 0 f.imports⟩

theorem keepsDecls_opImport (i0 : Nat) (g : Import → Import) : KeepsDecls (opImport i0 g) :=
  ⟨fun _ => rfl, fun _ => rfl, fun _ => rfl, fun _ => rfl⟩

theorem indexed_imports_nodup (f : File) : ((indexed f.imports).map (fun x => [x.1])).Nodup :=
  nodup_indexed_map (fun i => [i]) (fun _ _ e => (List.cons.inj e).1) f.imports

def importRows : Demands Import :=
  [(.IMPORT_NO_PUBLIC, fun _ imp => !imp.isPublic), (.IMPORT_NO_WEAK, fun _ _ => true), (.IMPORT_USED, fun _ imp => !imp.isUnused)]

theorem indexed_opImport (i0 : Nat) (g : Import → Import) (f : File) :
    indexed (opImport i0 g f).imports =
      (indexed f.imports).map (fun jx => (jx.1, if jx.1 = i0 then g jx.2 else jx.2)) :=
  indexed_mapIdxFrom _ f.imports

/-- import statements, identified by their index -/
def importKind : Kind (Nat × Import) Import where
  els f := indexed f.imports
  key x := [x.1]
  view x := x.2
  rows := importRows
  cross _ := False
  nodup := indexed_imports_nodup
  spec r hd := by
    simp [importRows] at hd
    rcases hd with rfl | rfl | rfl <;> exact .inr ⟨_, _, _, rfl, fun _ _ => rfl⟩

/-- rewriting one import statement (its path is kept): only an import rule can see it -/
theorem opImport_planting (f : File) (i0 : Nat) (imp0 : Import) (h0 : (i0, imp0) ∈ indexed f.imports)
    (g : Import → Import) (hp : ∀ imp, (g imp).path = imp.path) :
    importKind.Planting (opImport i0 g) f (fun jx => (jx.1, if jx.1 = i0 then g jx.2 else jx.2)) (i0, imp0) (g imp0) where
  mem := h0
  here := if_pos rfl
  isImport _ := rfl
  map := indexed_opImport i0 g f
  off x _ hne := if_neg fun e => hne (congrArg (fun i => [i]) e)
  crossF _ _ _ _ hx := hx.elim
  others o w r hf hd hc := by
    cases he : elemRule r with
    | none =>
      exact frame_fileOp_global o w f.path (opImport i0 g) (keepsHdr_opImport i0 g hp) (keepsDecls_opImport i0 g) r he
        (fun _ _ _ => rfl) hc
    | some er =>
      refine frame_fileOp_elem o w f hf (opImport i0 g) (fun _ => rfl) (keepsDecls_opImport i0 g) r er he (fun hfr => ?_) hc
      -- the other rules on the file header do not read the import statements
      simp [importKind, importRows] at hd
      cases r <;> simp [isFileRule] at hfr <;> simp at hd <;> simp only [fileLocalGood, elemRule] <;> exact id

theorem keepsHdr_of_rfl (h : File → File) (h1 : ∀ f, (h f).path = f.path) (h2 : ∀ f, (h f).pkg = f.pkg)
    (h3 : ∀ f, (h f).isImport = f.isImport) (h4 : ∀ f, (h f).imports = f.imports) : KeepsHdr h :=
  ⟨h1, h2, h3, fun f => by rw [h4]⟩

/-- the file without its `syntax = …;` line -/
def noSyntax (f : File) : File := { f with syntaxUnspecified := true }

theorem frame_unsetSyntax (o : Options) (w : Schema) (f : File) (hf : FileAt w f) (r : Rule)
    (hne : r ≠ .SYNTAX_SPECIFIED) (hc : cleanRule o w r = true) :
    cleanRule o (plantFile f.path noSyntax w) r = true := by
  cases he : elemRule r with
  | none =>
    exact frame_fileOp_global o w f.path noSyntax
      (keepsHdr_of_rfl _ (fun _ => rfl) (fun _ => rfl) (fun _ => rfl) (fun _ => rfl))
      ⟨fun _ => rfl, fun _ => rfl, fun _ => rfl, fun _ => rfl⟩ r he (fun _ _ _ => rfl) hc
  | some er =>
    apply frame_fileOp_elem o w f hf noSyntax (fun _ => rfl)
      ⟨fun _ => rfl, fun _ => rfl, fun _ => rfl, fun _ => rfl⟩ r er he _ hc
    intro hfr
    -- the other rules on the file header do not read the syntax line
    cases r <;> simp [isFileRule] at hfr hne <;> simp only [fileLocalGood, elemRule]
    all_goals exact id

/-! ### names that the grammar theorems reject -/

/-- contains a delimiter (underscore, '.', '-', space …) or starts with a lower-case letter -/
def NotPascal (s : Str) : Prop := (∃ c ∈ s, isDelimiter c = true) ∨ (∃ c cs, s = c :: cs ∧ isLower c = true)

/-- contains an upper-case letter -/
def NotLowerSnake (s : Str) : Prop := ∃ c ∈ s, isUpper c = true

/-- contains a lower-case letter -/
def NotUpperSnake (s : Str) : Prop := ∃ c ∈ s, isLower c = true

theorem notPascal_bad {s : Str} (h : NotPascal s) : (s != toPascalCase s) = true := by
  apply bne_of_ne
  rcases h with ⟨c, hc, hd⟩ | ⟨c, cs, rfl, hl⟩
  · exact toPascalCase_ne_of_delim s c hc hd
  · exact toPascalCase_ne_of_lower_first c cs hl

theorem notLowerSnake_bad {s : Str} (h : NotLowerSnake s) : (s != toLowerSnakeCase false s) = true := by
  obtain ⟨c, hc, hu⟩ := h
  exact bne_of_ne (toLowerSnakeCase_ne_of_upper false s c hc hu)

theorem notUpperSnake_bad {s : Str} (h : NotUpperSnake s) : (s != toUpperSnakeCase false s) = true := by
  obtain ⟨c, hc, hl⟩ := h
  exact bne_of_ne (toUpperSnakeCase_ne_of_lower false s c hc hl)

/-! ### the planting operators (public names) -/

/-- rewrite the declarations of the file `fp` -/
def plantDecl (fp : Str) (T : Tr) (w : Schema) : Schema := plantFile fp (mapFile T) w

def renameEnum (fp : Str) (p0 : List Nat) (nn : Str) : Schema → Schema :=
  plantDecl fp (opEnum p0 fun e => { e with name := nn })
def setEnumComment (fp : Str) (p0 : List Nat) (c : Str) : Schema → Schema :=
  plantDecl fp (opEnum p0 fun e => { e with comment := c })
/-- `option allow_alias = true;` plus the alias values it needs -/
def addAllowAlias (fp : Str) (p0 : List Nat) (extra : List EnumValue) : Schema → Schema :=
  plantDecl fp (opEnum p0 fun e => { e with allowAlias := true, values := e.values ++ extra })
/-- exchange the first two values of an enum -/
def swapFirst (e : Enum) : Enum :=
  match e.values with
  | a :: b :: rest => { e with values := b :: a :: rest }
  | _ => e
def swapFirstValues (fp : Str) (p0 : List Nat) : Schema → Schema := plantDecl fp (opEnum p0 swapFirst)
def renameValue (fp : Str) (q0 : List Nat) (nn : Str) : Schema → Schema :=
  plantDecl fp (opValue q0 fun v => { v with name := nn })
def setValueComment (fp : Str) (q0 : List Nat) (c : Str) : Schema → Schema :=
  plantDecl fp (opValue q0 fun v => { v with comment := c })
def renameMessage (fp : Str) (p0 : List Nat) (nn : Str) : Schema → Schema :=
  plantDecl fp (opMsg p0 (fun _ => nn) id)
def setMessageComment (fp : Str) (p0 : List Nat) (c : Str) : Schema → Schema :=
  plantDecl fp (opMsg p0 id (fun _ => c))
def renameField (fp : Str) (q0 : List Nat) (nn : Str) : Schema → Schema :=
  plantDecl fp (opField q0 (fun _ => nn) id id)
def setFieldComment (fp : Str) (q0 : List Nat) (c : Str) : Schema → Schema :=
  plantDecl fp (opField q0 id (fun _ => c) id)
def setFieldRequired (fp : Str) (q0 : List Nat) : Schema → Schema :=
  plantDecl fp (opField q0 id id (fun _ => true))
def renameOneof (fp : Str) (q0 : List Nat) (nn : Str) : Schema → Schema :=
  plantDecl fp (opOneof q0 fun x => { x with name := nn })
def setOneofComment (fp : Str) (q0 : List Nat) (c : Str) : Schema → Schema :=
  plantDecl fp (opOneof q0 fun x => { x with comment := c })
def renameService (fp : Str) (p0 : List Nat) (nn : Str) : Schema → Schema :=
  plantDecl fp (opSvc p0 (fun _ => nn) id)
def setServiceComment (fp : Str) (p0 : List Nat) (c : Str) : Schema → Schema :=
  plantDecl fp (opSvc p0 id (fun _ => c))
def renameRpc (fp : Str) (q0 : List Nat) (nn : Str) : Schema → Schema :=
  plantDecl fp (opRpc q0 fun m => { m with name := nn })
def setRpcComment (fp : Str) (q0 : List Nat) (c : Str) : Schema → Schema :=
  plantDecl fp (opRpc q0 fun m => { m with comment := c })
def setClientStreaming (fp : Str) (q0 : List Nat) : Schema → Schema :=
  plantDecl fp (opRpc q0 fun m => { m with clientStreaming := true })
def setServerStreaming (fp : Str) (q0 : List Nat) : Schema → Schema :=
  plantDecl fp (opRpc q0 fun m => { m with serverStreaming := true })
def setRequestType (fp : Str) (q0 : List Nat) (t : Str) : Schema → Schema :=
  plantDecl fp (opRpc q0 fun m => { m with inType := t })
def setResponseType (fp : Str) (q0 : List Nat) (t : Str) : Schema → Schema :=
  plantDecl fp (opRpc q0 fun m => { m with outType := t })
def setImportPublic (fp : Str) (i0 : Nat) : Schema → Schema :=
  plantFile fp (opImport i0 fun imp => { imp with isPublic := true })
def setImportWeak (fp : Str) (i0 : Nat) : Schema → Schema :=
  plantFile fp (opImport i0 fun imp => { imp with isWeak := true })
/-- nothing of the imported file is used any more -/
def setImportUnused (fp : Str) (i0 : Nat) : Schema → Schema :=
  plantFile fp (opImport i0 fun imp => { imp with isUnused := true })
/-- delete the `syntax = …;` line -/
def unsetSyntax (fp : Str) : Schema → Schema := plantFile fp noSyntax

end BufModel.Lint
