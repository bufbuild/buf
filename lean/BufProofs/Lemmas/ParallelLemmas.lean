import BufModel.Parallel
/-
  C02, BufModel.Parallel (thread.Parallelize): the verdict loop `verdictGo` in closed form — an
  error already seen stays, otherwise the run fails iff some job fails — and `sort_canonical`: the
  sorted list of results does not depend on the order in which the jobs arrived.
-/
namespace BufModel.Parallel

theorem verdictGo_true (c : Bool) (jobs : List JobSlot) : verdictGo c true jobs = true := by
  induction jobs with
  | nil => rfl
  | cons j rest ih =>
    unfold verdictGo
    split
    · rfl
    · simpa using ih

theorem verdictGo_false (c : Bool) (jobs : List JobSlot) :
    verdictGo c false jobs = jobs.any (·.fails) := by
  induction jobs with
  | nil => rfl
  | cons j rest ih =>
    unfold verdictGo
    simp only [Bool.and_false, Bool.false_eq_true, if_false, Bool.false_or, List.any_cons]
    cases hf : j.fails with
    | true => simp [verdictGo_true]
    | false => simpa using ih

theorem sort_canonical {α : Type} (le : α → α → Bool)
    (trans : ∀ a b c : α, le a b → le b c → le a c)
    (total : ∀ a b : α, le a b || le b a)
    (antisymm : ∀ a b : α, le a b → le b a → a = b)
    (l₁ l₂ : List α) (h : l₁.Perm l₂) : l₁.mergeSort le = l₂.mergeSort le := by
  apply List.Perm.eq_of_pairwise (le := fun a b => le a b = true)
  · intro a b _ _ hab hba; exact antisymm a b hab hba
  · exact List.pairwise_mergeSort trans total l₁
  · exact List.pairwise_mergeSort trans total l₂
  · exact (List.mergeSort_perm l₁ le).trans (h.trans (List.mergeSort_perm l₂ le).symm)


end BufModel.Parallel
