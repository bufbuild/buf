import BufProofs.Lemmas.ConfigRange
/-
  C16: the string-level tie.  The struct-level model carries a path as
  `P = empty | bad | ok components`; the implementation carries strings, joins them with
  normalpath.Join on write and validates / re-bases them with NormalizeAndValidate / Rel on
  read.  This file proves that the component-list operations of the model ARE those string
  functions (BufModel.Path) on every path that can occur, and that a written buf.yaml v2 /
  buf.work.yaml document read back THROUGH ITS STRINGS is the document the struct-level round
  trip theorem talks about.
-/
namespace BufModel.Config
open BufModel.Path

instance (ns : List Comp) : Decidable (AllProper ns) := by unfold AllProper; infer_instance

/-! ### one path -/

theorem normP_renderKey {k : Key} (h : AllProper k) : normP (renderKey k) = .ok k := by
  unfold normP
  rw [if_neg (renderKey_ne_nil h), validate_renderKey h]
  simp only [cleanComps_renderKey h]

/-- What the writers emit — `normalpath.Join(dir, rel)` of two rendered keys — is read back by
    `NormalizeAndValidate` as the concatenated key: the model's `P.ok (dir ++ k)`. -/
theorem normP_join {d k : Key} (hd : AllProper d) (hk : AllProper k) :
    normP (join [renderKey d, renderKey k]) = .ok (d ++ k) := by
  rw [join_keys hd hk]
  exact normP_renderKey (allProper_append.mpr ⟨hd, hk⟩)

theorem normP_ok {s : Str} {k : Key} (h : normP s = .ok k) :
    AllProper k ∧ s ≠ [] ∧ normalizeAndValidate s = .ok (renderKey k) := by
  unfold normP at h
  split at h
  · cases h
  · rename_i hs
    split at h
    · rename_i p hp
      injection h with h
      obtain ⟨ns, hns, rfl⟩ := validate_sound s p hp
      rw [cleanComps_renderKey hns] at h
      subst h
      exact ⟨hns, hs, hp⟩
    · cases h

theorem rel_renderKey {d p : Key} (hd : AllProper d) (hp : AllProper p) (hpre : d.isPrefixOf p = true) :
    rel (renderKey d) (renderKey p) = some (renderKey (p.drop d.length)) := by
  obtain ⟨t, rfl⟩ := List.isPrefixOf_iff_prefix.mp hpre
  have ht : AllProper t := (allProper_append.mp hp).2
  rw [drop_append_self]
  exact rel_keys hd ht

theorem ecp_renderKey {d p : Key} (hd : AllProper d) (hp : AllProper p) :
    equalsOrContainsPath (renderKey d) (renderKey p) = d.isPrefixOf p := by
  cases h : d.isPrefixOf p with
  | true => exact (ecp_keys hd hp).mpr (List.isPrefixOf_iff_prefix.mp h)
  | false =>
    cases h' : equalsOrContainsPath (renderKey d) (renderKey p) with
    | false => rfl
    | true =>
      have := List.isPrefixOf_iff_prefix.mpr ((ecp_keys hd hp).mp h')
      rw [h] at this; cases this

theorem render_written {d k : Key} (hd : AllProper d) (hk : AllProper k) :
    (P.ok (d ++ k)).render = join [renderKey d, renderKey k] := (join_keys hd hk).symm

/-- Paths that carry only proper names (what `normP` produces). -/
def ProperP : P → Prop
  | .ok k => AllProper k
  | _ => True

/-- Paths the writers emit: a definite proper key. -/
def GoodP (p : P) : Prop := ∃ k, p = .ok k ∧ AllProper k

theorem properP_normP (s : Str) : ProperP (normP s) := by
  cases h : normP s with
  | ok k => exact (normP_ok h).1
  | empty => trivial
  | bad => trivial

theorem reparse_good {p : P} (h : GoodP p) : reparse p = p := by
  obtain ⟨k, rfl, hk⟩ := h
  exact normP_renderKey hk

theorem properP_nv {p : P} {k : Key} (hp : ProperP p) (h : p.nv = some k) : AllProper k := by
  cases p with
  | ok k' => simp [P.nv] at h; subst h; exact hp
  | empty => simp [P.nv] at h; subst h; exact allProper_nil
  | bad => simp [P.nv] at h

theorem properP_strict {p : P} {k : Key} (hp : ProperP p) (h : p.strict = some k) : AllProper k := by
  cases p with
  | ok k' => simp [P.strict] at h; subst h; exact hp
  | empty => simp [P.strict] at h
  | bad => simp [P.strict] at h

/-! ### predicates over all paths of an external document / all keys of a configuration -/

def ExtCheck.AllP (Q : P → Prop) (c : ExtCheck) : Prop :=
  (∀ p ∈ c.ignore, Q p) ∧ ∀ e ∈ c.ignoreOnly, ∀ p ∈ e.2, Q p

def ExtModule.AllP (Q : P → Prop) (m : ExtModule) : Prop :=
  Q m.path ∧ (∀ p ∈ m.includes, Q p) ∧ (∀ p ∈ m.excludes, Q p) ∧ m.lint.chk.AllP Q ∧ m.breaking.chk.AllP Q

def ExtV2.AllP (Q : P → Prop) (e : ExtV2) : Prop :=
  (∀ m ∈ e.modules, m.AllP Q) ∧ e.lint.chk.AllP Q ∧ e.breaking.chk.AllP Q

def Check.Proper (c : Check) : Prop :=
  (∀ k ∈ c.ignore, AllProper k) ∧ ∀ e ∈ c.ignoreOnly, ∀ k ∈ e.2, AllProper k

def Module.Proper (m : Module) : Prop :=
  AllProper m.dirPath ∧
  (∀ r ∈ m.roots, AllProper r.root ∧ (∀ k ∈ r.includes, AllProper k) ∧ ∀ k ∈ r.excludes, AllProper k) ∧
  m.lint.chk.Proper ∧ m.breaking.chk.Proper

def BufYAML.Proper (c : BufYAML) : Prop := ∀ m ∈ c.modules, m.Proper

theorem extCheck_zero_allP (Q : P → Prop) : ExtCheck.zero.AllP Q :=
  ⟨(by intro p hp; simp [ExtCheck.zero] at hp), (by intro e he; simp [ExtCheck.zero] at he)⟩

/-! ### `mapP f` is the identity where `f` fixes every path -/

theorem ExtCheck.mapP_id {f : P → P} {Q : P → Prop} (hf : ∀ p, Q p → f p = p) (c : ExtCheck) (h : c.AllP Q) :
    c.mapP f = c := by
  unfold ExtCheck.mapP
  rw [BufProofs.ListLemmas.map_id_of_forall f _ fun p hp => hf p (h.1 p hp)]
  have : (c.ignoreOnly.map fun e => (e.1, e.2.map f)) = c.ignoreOnly := by
    apply BufProofs.ListLemmas.map_id_of_forall
    intro e he
    rw [BufProofs.ListLemmas.map_id_of_forall f _ fun p hp => hf p (h.2 e he p hp)]
  rw [this]

theorem ExtModule.mapP_id {f : P → P} {Q : P → Prop} (hf : ∀ p, Q p → f p = p) (m : ExtModule) (h : m.AllP Q) :
    m.mapP f = m := by
  obtain ⟨h1, h2, h3, h4, h5⟩ := h
  unfold ExtModule.mapP ExtLint.mapP ExtBreaking.mapP
  rw [hf _ h1, BufProofs.ListLemmas.map_id_of_forall f _ fun p hp => hf p (h2 p hp),
    BufProofs.ListLemmas.map_id_of_forall f _ fun p hp => hf p (h3 p hp), ExtCheck.mapP_id hf _ h4, ExtCheck.mapP_id hf _ h5]

theorem ExtV2.mapP_id {f : P → P} {Q : P → Prop} (hf : ∀ p, Q p → f p = p) (e : ExtV2) (h : e.AllP Q) :
    e.mapP f = e := by
  obtain ⟨h1, h2, h3⟩ := h
  unfold ExtV2.mapP ExtLint.mapP ExtBreaking.mapP
  rw [BufProofs.ListLemmas.map_id_of_forall _ _ (fun m hm => ExtModule.mapP_id hf m (h1 m hm)), ExtCheck.mapP_id hf _ h2,
    ExtCheck.mapP_id hf _ h3]

/-! ### the writer emits good paths -/

theorem extCheckOf_good (c : Check) (d : Key) (hd : AllProper d) (hc : c.Proper) :
    (extCheckOf c d).AllP GoodP := by
  unfold extCheckOf
  constructor
  · intro p hp
    simp only at hp
    split at hp
    · simp only [List.mem_singleton] at hp; subst hp; exact ⟨d, rfl, hd⟩
    · obtain ⟨k, hk, rfl⟩ := List.mem_map.mp hp
      exact ⟨d ++ k, rfl, allProper_append.mpr ⟨hd, hc.1 k hk⟩⟩
  · intro e he p hp
    simp only at he
    obtain ⟨e0, he0, rfl⟩ := List.mem_map.mp he
    simp only at hp
    obtain ⟨k, hk, rfl⟩ := List.mem_map.mp hp
    exact ⟨d ++ k, rfl, allProper_append.mpr ⟨hd, hc.2 e0 he0 k hk⟩⟩

theorem extModuleOf_good (m : Module) (hm : m.Proper) : (extModuleOfWith extCheckOf m).AllP GoodP := by
  obtain ⟨hd, hr, hl, hb⟩ := hm
  unfold extModuleOfWith
  have hroot : (∀ k ∈ (m.roots.headD ⟨[], [], []⟩).includes, AllProper k) ∧
      ∀ k ∈ (m.roots.headD ⟨[], [], []⟩).excludes, AllProper k := by
    cases hrs : m.roots with
    | nil => simp
    | cons r rs =>
      have := hr r (by rw [hrs]; simp)
      exact ⟨this.2.1, this.2.2⟩
  refine ⟨⟨m.dirPath, rfl, hd⟩, ?_, ?_, extCheckOf_good _ _ hd hl, extCheckOf_good _ _ hd hb⟩
  · intro p hp
    obtain ⟨k, hk, rfl⟩ := List.mem_map.mp hp
    exact ⟨_, rfl, allProper_append.mpr ⟨hd, hroot.1 k hk⟩⟩
  · intro p hp
    obtain ⟨k, hk, rfl⟩ := List.mem_map.mp hp
    exact ⟨_, rfl, allProper_append.mpr ⟨hd, hroot.2 k hk⟩⟩

theorem headD_mem_or {α : Type} (l : List α) (d : α) : l.headD d = d ∨ l.headD d ∈ l := by
  cases l <;> simp

/-- Hoisting, clearing and collapsing only move sections around. -/
theorem writeV2_allP (Q : P → Prop) (c : BufYAML) (h : ∀ m ∈ wMods c, m.AllP Q) : (writeV2 c).AllP Q := by
  have hL : (wTopL c).chk.AllP Q := by
    unfold wTopL
    split
    · rcases headD_mem_or ((wMods c).map (·.lint)) ExtLint.zero with e | e
      · rw [e]; exact extCheck_zero_allP _
      · obtain ⟨m, hm, hml⟩ := List.mem_map.mp e
        rw [← hml]; exact (h m hm).2.2.2.1
    · exact extCheck_zero_allP _
  have hB : (wTopB c).chk.AllP Q := by
    unfold wTopB
    split
    · rcases headD_mem_or ((wMods c).map (·.breaking)) ExtBreaking.zero with e | e
      · rw [e]; exact extCheck_zero_allP _
      · obtain ⟨m, hm, hml⟩ := List.mem_map.mp e
        rw [← hml]; exact (h m hm).2.2.2.2
    · exact extCheck_zero_allP _
  have hM : ∀ m ∈ wMods' c, m.AllP Q := by
    unfold wMods'
    split
    · intro m hm
      obtain ⟨m0, hm0, rfl⟩ := List.mem_map.mp hm
      exact ⟨(h m0 hm0).1, (h m0 hm0).2.1, (h m0 hm0).2.2.1, extCheck_zero_allP _, extCheck_zero_allP _⟩
    · exact h
  obtain ⟨e1, e2, -, -, e3⟩ := writeV2_parts c
  refine ⟨fun m hm => ?_, e1 ▸ hL, e2 ▸ hB⟩
  rcases e3 with ⟨e, -⟩ | ⟨e, -⟩
  · rw [e] at hm; cases hm
  · exact hM m (e ▸ hm)

theorem writeV2_good (c : BufYAML) (hc : c.Proper) : (writeV2 c).AllP GoodP :=
  writeV2_allP GoodP c fun m hm => by
    obtain ⟨m0, hm0, rfl⟩ := List.mem_map.mp hm
    exact extModuleOf_good m0 (hc m0 hm0)

/-! ### the reader produces proper keys from proper paths -/

theorem relPaths_proper (d : Key) (r : Bool) (ps : List P) (ks : List Key)
    (hp : ∀ p ∈ ps, ProperP p) (h : relPaths d r ps = some ks) : ∀ k ∈ ks, AllProper k := by
  intro k hk
  obtain ⟨p, hpm, hnv⟩ := relPaths_mem d r ps ks h k hk
  exact (allProper_append.mp (properP_nv (hp p hpm) hnv)).2

theorem readCheck_proper {e : ExtCheck} {d : Key} {r : Bool} {c : Check}
    (he : e.AllP ProperP) (h : readCheck e d r = some c) : c.Proper := by
  rcases readCheck_some h with rfl | ⟨ig, io, ig', io', -, hig, hio, hig', hio', rfl⟩
  · exact ⟨(fun k hk => nomatch hk), (fun e he => nomatch he)⟩
  · constructor
    · intro k hk
      rw [show (_ : Check).ignore = ig' from rfl, (normCheckKeys_some hig').2] at hk
      exact relPaths_proper d r _ _ he.1 hig k (mem_sortU_imp _ _ _ (mem_sortU_imp _ _ _ hk))
    · intro x hx k hk
      obtain ⟨ks, hm, h1⟩ := checkIgnoreOnly_mem io io' hio' x hx
      obtain ⟨-, ps, hps, hr⟩ := relIgnoreOnly_mem d r _ _ hio _ hm
      rw [(normCheckKeys_some h1).2] at hk
      exact relPaths_proper d r ps _ (he.2 _ hps) hr k (mem_sortU_imp _ _ _ (mem_sortU_imp _ _ _ hk))

theorem readLint_proper {v2 : Bool} {e : ExtLint} {d : Key} {r : Bool} {l : Lint}
    (he : e.chk.AllP ProperP) (h : readLint v2 e d r = some l) : l.chk.Proper :=
  readCheck_proper he (readLint_chk h)

theorem readBreaking_proper {e : ExtBreaking} {d : Key} {r : Bool} {b : Breaking}
    (he : e.chk.AllP ProperP) (h : readBreaking e d r = some b) : b.chk.Proper :=
  readCheck_proper he (readBreaking_chk h)

theorem normCheckPaths_proper {ps : List P} {s : List Key} (hp : ∀ p ∈ ps, ProperP p)
    (h : normCheckPaths ps = some s) : ∀ k ∈ s, AllProper k := by
  obtain ⟨ks, hk, -, rfl⟩ := normCheckPaths_some h
  intro k hks
  obtain ⟨p, hpm, hpk⟩ := (BufProofs.ListLemmas.mapM_some hk).2.1 k (mem_sortU_imp _ _ _ hks)
  exact properP_strict (hp p hpm) hpk

theorem readModuleV2_proper (defL : ExtLint) (defB : ExtBreaking) (em : ExtModule) (m : Module)
    (hdl : defL.chk.AllP ProperP) (hdb : defB.chk.AllP ProperP) (hem : em.AllP ProperP)
    (h : readModuleV2 defL defB em = some m) : m.Proper := by
  obtain ⟨hp1, hp2, hp3, hp4, hp5⟩ := hem
  obtain ⟨d, name, S, relIncs, relExcl, ex, lint, brk, hd, -, hS, hri, hre, hg, hl, hb, rfl⟩ :=
    readModuleV2_some h
  have hSP := normCheckPaths_proper hp2 hS
  have hrelI : ∀ k ∈ relIncs, AllProper k := by
    intro k hk
    obtain ⟨i, hi, hik⟩ := (BufProofs.ListLemmas.mapM_some hri).2.1 k hk
    exact (allProper_append.mp ((relInclude_eq_some.mp hik).1 ▸ hSP i hi)).2
  have hrelE : ∀ k ∈ relExcl, AllProper k := by
    intro k hk
    obtain ⟨p, hpm, hpk⟩ := (BufProofs.ListLemmas.mapM_some hre).2.1 k hk
    exact (allProper_append.mp (properP_nv (hp3 p hpm) (relExclude_eq_some.mp hpk).1)).2
  refine ⟨properP_nv hp1 hd, ?_, readLint_proper (by split <;> assumption) hl,
    readBreaking_proper (by split <;> assumption) hb⟩
  intro r hr
  obtain rfl := List.mem_singleton.mp hr
  refine ⟨allProper_nil, fun k hk => hrelI k (mem_sortU_imp _ _ _ hk), fun k hk => ?_⟩
  obtain ⟨q, hq, hqk⟩ := (getRootToExcludes_wf hg _ (List.mem_singleton.mpr rfl)).2 k (mem_sortU_imp _ _ _ hk)
  obtain ⟨k', hk', rfl⟩ := List.mem_map.mp hq
  obtain rfl : k' = k := Option.some.inj hqk
  exact hrelE k' hk'

theorem readV2_proper (e : ExtV2) (c : BufYAML) (he : e.AllP ProperP) (h : readV2 e = some c) :
    c.Proper := by
  obtain ⟨ms, modules, plugins, deps, hms, hmods, -, h⟩ := readV2_some h
  obtain ⟨-, -, -, rfl⟩ := newBufYAML_eq_some.mp h
  have hmsP : ∀ m ∈ ms, m.AllP ProperP := by
    rcases hms with rfl | rfl
    · exact he.1
    · intro m hm
      obtain rfl := List.mem_singleton.mp hm
      exact ⟨allProper_nil, nofun, nofun, extCheck_zero_allP _, extCheck_zero_allP _⟩
  intro m hm
  obtain ⟨em, hem, hemm⟩ := (BufProofs.ListLemmas.mapM_some hmods).2.1 m ((mem_sortStable moduleLt _ _).mp hm)
  exact readModuleV2_proper _ _ em m he.2.1 he.2.2 (hmsP em hem) hemm

/-! ### the round trip through strings -/

/-- `P.render` of a written path is the string the Go writer emits (`normalpath.Join(dir, rel)`, by
    `render_written`), `normP` what the Go reader does with it (NormalizeAndValidate): the struct-level
    round trip is the round trip of the string-level document. -/
theorem readV2_writeV2_strings (e : ExtV2) (c : BufYAML) (he : e.AllP ProperP) (h : readV2 e = some c) :
    (writeV2 c).mapP reparse = writeV2 c ∧ readV2 ((writeV2 c).mapP reparse) = some c := by
  have hgood := writeV2_good c (readV2_proper e c he h)
  have hid : (writeV2 c).mapP reparse = writeV2 c := ExtV2.mapP_id (fun _ => reparse_good) _ hgood
  exact ⟨hid, by rw [hid]; exact readV2_writeV2 c (readV2_wf e c h)⟩

theorem readWork_writeWork_strings (ps : List P) (ds : List Key) (hp : ∀ p ∈ ps, ProperP p)
    (h : readWork ps = some ds) :
    (writeWork ds).map reparse = writeWork ds ∧ readWork ((writeWork ds).map reparse) = some ds := by
  have hds : ∀ k ∈ ds, AllProper k := by
    obtain ⟨-, ks, hk, -, -, rfl⟩ := readWork_eq_some.mp h
    intro k hkm
    obtain ⟨p, hpm, hpk⟩ := (BufProofs.ListLemmas.mapM_some hk).2.1 k (mem_sortU_imp _ _ _ hkm)
    exact properP_nv (hp p hpm) hpk
  have hid : (writeWork ds).map reparse = writeWork ds := by
    apply BufProofs.ListLemmas.map_id_of_forall
    intro p hpm
    unfold writeWork at hpm
    obtain ⟨k, hk, rfl⟩ := List.mem_map.mp hpm
    exact reparse_good ⟨k, rfl, hds k hk⟩
  exact ⟨hid, by rw [hid]; exact readWork_rt ps ds h⟩

end BufModel.Config
