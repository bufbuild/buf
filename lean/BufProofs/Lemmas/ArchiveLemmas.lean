import BufModel.Archive
import BufModel.Reader
import BufProofs.Lemmas.SortLemmas
import BufProofs.Lemmas.PathLemmas
import BufProofs.Lemmas.BucketLemmas
/-
  Lemmas about the archive model: Tar lists exactly what the walk lists (the per-object `Get`
  of WalkReadObjects returns the walked content — Walk/Get coherence).  Extraction: whether an
  entry aborts the loop and where it is written (`Reader.entryTarget`) depend on the entry alone,
  so the loop is `putList` of what the entries before the first failing one write
  (`extractInto_eq`); for the archive of a bucket that list is the stripped, matching objects.
-/
namespace BufModel.Archive
open BufModel.Path BufModel.Bucket BufModel.Reader

theorem rGet_dot_not_ok (e : BExpr) (bs : Bases) (c : Content) : rGet e bs dot ≠ .ok c := by
  intro h
  obtain ⟨k, hk, hne, hnv⟩ := rGet_ok_key e bs h
  exact hne (renderKey_inj_of_validate hk allProper_nil hnv (by decide))

theorem rGet_listed (e : BExpr) (he : e.WF) (bs : Bases) (hbs : BasesOK bs)
    (objs : List (Str × Content)) (hw : rWalk e bs [] = .ok objs) {kv : Str × Content} (hkv : kv ∈ objs)
    (hne : kv.1 ≠ dot) : rGet e bs kv.1 = .ok kv.2 := by
  have hc := rWalk_all_lists e he bs hbs objs hw
  obtain ⟨kk, hkk, hk⟩ := hc.rendered kv hkv
  have hkne : kk ≠ [] := fun e0 => hne (by rw [hk, e0, renderKey_nil])
  rw [hk, rGet_key e he bs hkk hkne]
  exact ((hc.mem_iff kk kv.2 hkk).mp (by rw [← hk]; exact hkv)).2

/-- Reading back a walked list succeeds only if the walk did not report the view root "." (whose
    `Get` fails), and then returns the walked list itself. -/
theorem readObjects_walked (e : BExpr) (he : e.WF) (bs : Bases) (hbs : BasesOK bs)
    (objs : List (Str × Content)) (hw : rWalk e bs [] = .ok objs) (out : List (Str × Content))
    (hr : readObjects e bs objs = .ok out) : out = objs ∧ ∀ c, (dot, c) ∉ objs := by
  have hroot : ∀ c, (dot, c) ∉ objs := fun c hin => by
    obtain ⟨c', hg⟩ := readObjects_ok_get e bs objs out hr (dot, c) hin
    exact rGet_dot_not_ok e bs c' hg
  have := readObjects_eq e bs objs fun kv hkv =>
    rGet_listed e he bs hbs objs hw hkv (fun e0 => hroot kv.2 (by rw [← e0]; exact hkv))
  exact ⟨Except.ok.inj (hr.symm.trans this), hroot⟩

theorem tarOf_eq_walk (e : BExpr) (he : e.WF) (bs : Bases) (hbs : BasesOK bs)
    (objs : List (Str × Content)) (hw : rWalk e bs [] = .ok objs) (hroot : ∀ c, (dot, c) ∉ objs) :
    tarOf e bs = .ok (entriesOf objs) := by
  simp only [tarOf, hw, readObjects_eq e bs objs fun kv hkv =>
    rGet_listed e he bs hbs objs hw hkv (fun e0 => hroot kv.2 (by rw [← e0]; exact hkv))]

theorem tarOf_ok (e : BExpr) (he : e.WF) (bs : Bases) (hbs : BasesOK bs) (a : Archive)
    (h : tarOf e bs = .ok a) :
    ∃ objs, rWalk e bs [] = .ok objs ∧ KeysValid objs ∧ NodupKeys objs ∧ a = entriesOf objs := by
  obtain ⟨objs, hw, h1⟩ := bind_ok h
  obtain ⟨objs', hr, h2⟩ := bind_ok h1
  obtain ⟨rfl, hroot⟩ := readObjects_walked e he bs hbs objs hw objs' hr
  have hc := rWalk_all_lists e he bs hbs objs' hw
  exact ⟨objs', hw, keysValid_of_rendered hc.rendered hroot, hc.nodup, (Except.ok.inj h2).symm⟩

theorem tarOfMem_eq (m : Mem) (hv : KeysValid m) (hn : NodupKeys m) : tarOfMem m = .ok (entriesOf m) := by
  have hroot : ∀ c, (dot, c) ∉ m := by
    intro c hin
    obtain ⟨k, hk, hne, hk1⟩ := hv _ hin
    exact renderKey_ne_dot hk hne hk1.symm
  exact tarOf_eq_walk (.base 0) trivial [m] (basesOK_single hv hn) m (walk_all_mem m []) hroot

/-! ### Extraction: Untar and Unzip on one entry -/

/-- Untar and Unzip treat one entry alike, up to the order of their tests and the size limit
    (Untar only). -/
theorem extractEntry_eq (fmt : Fmt) (n : Nat) (f : Str → Bool) (mx : Nat) (m : Mem) (e : Entry) :
    extractEntry fmt n f mx m e =
      match unmapArchivePath e.name n f with
      | .error er => .error er
      | .ok none => .ok m
      | .ok (some p) =>
        if e.isRegular && !isApple fmt e then
          if fmt = .tar && (mx ≠ 0 && decide (e.content.utf8ByteSize > mx)) then .error .other
          else memPut m p e.content
        else .ok m := by
  cases fmt <;> unfold extractEntry <;> simp only
  all_goals
    cases unmapArchivePath e.name n f with
    | error er => rfl
    | ok o =>
      cases o with
      | none => rfl
      | some p => cases e.isRegular <;> cases isApple _ e <;> simp

theorem unmapArchivePath_key {kk : Key} (hkk : AllProper kk) (hne : kk ≠ []) (n : Nat) (f : Str → Bool) :
    unmapArchivePath (renderKey kk) n f =
      .ok (match stripComponents (renderKey kk) n with
        | some p => if f p then some p else none
        | none => none) := by
  unfold unmapArchivePath
  rw [if_neg (renderKey_ne_nil hkk), validate_renderKey hkk]
  simp only
  rw [if_neg (renderKey_ne_dot hkk hne)]
  cases stripComponents (renderKey kk) n with
  | none => rfl
  | some p => simp only; cases f p <;> rfl

/-! ### Extraction: what one entry writes, and the loop as a sequence of puts -/

theorem validatePath_unmapped {name : Str} {n : Nat} {f : Str → Bool} {p : Str}
    (h : unmapArchivePath name n f = .ok (some p)) : validatePath p = .ok p := by
  obtain ⟨_, k, _, _, hk, hne, hp, _⟩ := unmapArchivePath_sound name n f p h
  rw [hp, validatePath_renderKey hk hne]

theorem memPut_unmapped (name : Str) (n : Nat) (f : Str → Bool) (p : Str)
    (h : unmapArchivePath name n f = .ok (some p)) (m : Mem) (c : Content) :
    memPut m p c = .ok ((p, c) :: m.erase p) := by
  unfold memPut; rw [validatePath_unmapped h]

theorem putKey_unmapped {name : Str} {n : Nat} {f : Str → Bool} {p : Str}
    (h : unmapArchivePath name n f = .ok (some p)) : putKey p = some p := by
  unfold putKey; rw [validatePath_unmapped h]

/-- `entryTarget` without the case split on the format (cf. `extractEntry_eq`). -/
theorem entryTarget_eq (fmt : Fmt) (strip : Nat) (matcher : Str → Bool) (e : Entry) :
    entryTarget fmt strip matcher e =
      match unmapArchivePath e.name strip matcher with
      | .ok (some p) => if e.isRegular && !isApple fmt e then putKey p else none
      | _ => none := by
  cases fmt <;> unfold entryTarget <;> simp only
  all_goals
    cases unmapArchivePath e.name strip matcher with
    | error er => rfl
    | ok o =>
      cases o with
      | none => rfl
      | some p => cases e.isRegular <;> cases isApple _ e <;> simp

/-- Whether an entry aborts the extraction does not depend on the bucket. -/
def entryErr (fmt : Fmt) (n : Nat) (f : Str → Bool) (mx : Nat) (e : Entry) : Option PErr :=
  match extractEntry fmt n f mx [] e with
  | .error er => some er
  | .ok _ => none

theorem entryTarget_eq_some (fmt : Fmt) (n : Nat) (f : Str → Bool) (e : Entry) (p : Str) :
    entryTarget fmt n f e = some p ↔
      e.isRegular = true ∧ isApple fmt e = false ∧ unmapArchivePath e.name n f = .ok (some p) := by
  rw [entryTarget_eq]
  cases hu : unmapArchivePath e.name n f with
  | error er => simp
  | ok o =>
    cases o with
    | none => simp
    | some q =>
      cases e.isRegular <;> cases isApple fmt e <;> simp [putKey_unmapped hu]

/-- One entry: an error that only the entry decides, or a put at the entry's target. -/
theorem extractEntry_eq_put (fmt : Fmt) (n : Nat) (f : Str → Bool) (mx : Nat) (m : Mem) (e : Entry) :
    extractEntry fmt n f mx m e =
      match entryErr fmt n f mx e with
      | some er => .error er
      | none => .ok (match entryTarget fmt n f e with | some p => (p, e.content) :: m.erase p | none => m) := by
  unfold entryErr
  rw [extractEntry_eq, extractEntry_eq, entryTarget_eq]
  cases hu : unmapArchivePath e.name n f with
  | error er => rfl
  | ok o =>
    cases o with
    | none => rfl
    | some q =>
      have hq : putKey q = some q := putKey_unmapped hu
      simp only [memPut_unmapped e.name n f q hu, hq]
      split
      · split <;> rfl
      · rfl

theorem entryErr_eq_some {fmt : Fmt} {n : Nat} {f : Str → Bool} {mx : Nat} {e : Entry} {er : PErr} (m : Mem) :
    entryErr fmt n f mx e = some er ↔ extractEntry fmt n f mx m e = .error er := by
  rw [extractEntry_eq_put]
  cases entryErr fmt n f mx e <;> simp

def written (fmt : Fmt) (n : Nat) (f : Str → Bool) (a : Archive) : List (Str × Content) :=
  a.filterMap fun e => (entryTarget fmt n f e).map (·, e.content)

theorem mem_written {fmt : Fmt} {n : Nat} {f : Str → Bool} {a : Archive} {kv : Str × Content} :
    kv ∈ written fmt n f a ↔ ∃ e ∈ a, entryTarget fmt n f e = some kv.1 ∧ kv.2 = e.content := by
  simp only [written, List.mem_filterMap, Option.map_eq_some_iff]
  constructor
  · rintro ⟨e, he, p, hp, rfl⟩; exact ⟨e, he, hp, rfl⟩
  · rintro ⟨e, he, hp, hc⟩; exact ⟨e, he, kv.1, hp, by rw [← hc]⟩

/-- The loop: the first entry that fails aborts; the bucket is the one it started from with
    everything the entries before that one write put into it, in order. -/
theorem extractInto_eq (fmt : Fmt) (n : Nat) (f : Str → Bool) (mx : Nat) (a : Archive) (m : Mem) :
    extractInto fmt n f mx a m =
      (a.findSome? (entryErr fmt n f mx),
        putList m (written fmt n f (a.takeWhile fun e => (entryErr fmt n f mx e).isNone))) := by
  induction a generalizing m with
  | nil => rfl
  | cons e rest ih =>
    rw [extractInto, extractEntry_eq_put]
    cases he : entryErr fmt n f mx e with
    | some er => simp [List.findSome?, List.takeWhile, he, written, putList]
    | none =>
      simp only [ih, List.findSome?, List.takeWhile, he, Option.isNone_none, written, List.filterMap_cons]
      cases entryTarget fmt n f e <;> rfl

theorem extractInto_ok {fmt : Fmt} {n : Nat} {f : Str → Bool} {mx : Nat} {a : Archive} {m m' : Mem}
    (h : extractInto fmt n f mx a m = (none, m')) : m' = putList m (written fmt n f a) := by
  rw [extractInto_eq] at h
  obtain ⟨h1, rfl⟩ := Prod.mk.inj h
  have := List.takeWhile_append_of_pos (p := fun e => (entryErr fmt n f mx e).isNone) (l₂ := [])
    (fun e he => by rw [List.findSome?_eq_none_iff.mp h1 e he]; rfl)
  rw [List.append_nil, List.takeWhile_nil, List.append_nil] at this
  rw [this]

theorem stripComponents_zero (s : Str) : stripComponents s 0 = some s := by
  simp [stripComponents]

theorem entryErr_zero {fmt : Fmt} {n : Nat} {f : Str → Bool} {e : Entry} {r : Option Str}
    (h : unmapArchivePath e.name n f = .ok r) : entryErr fmt n f 0 e = none := by
  unfold entryErr
  rw [extractEntry_eq, h]
  cases r with
  | none => rfl
  | some p =>
    simp only [memPut_unmapped e.name n f p h]
    cases e.isRegular && !isApple fmt e <;> simp

theorem entryTarget_obj (fmt : Fmt) (n : Nat) (f : Str → Bool) {kk : Key} (hkk : AllProper kk) (hne : kk ≠ [])
    (c : Content) (hap : applePrefix.isPrefixOf (base (renderKey kk)) = false) :
    entryTarget fmt n f { name := renderKey kk, content := c, kind := .reg } =
      match stripComponents (renderKey kk) n with
      | some p => if f p then some p else none
      | none => none := by
  have ha : isApple fmt { name := renderKey kk, content := c, kind := .reg } = false := by
    cases fmt <;> simpa [isApple] using hap
  refine Option.ext fun p => ?_
  rw [entryTarget_eq_some, unmapArchivePath_key hkk hne n f]
  simp [Entry.isRegular, ha]

theorem written_entriesOf (fmt : Fmt) (n : Nat) (f : Str → Bool) (objs : List (Str × Content))
    (hv : KeysValid objs) (hna : NoApple objs) : written fmt n f (entriesOf objs) = stripObjs n f objs := by
  induction objs with
  | nil => rfl
  | cons kv rest ih =>
    obtain ⟨q, c⟩ := kv
    obtain ⟨kk, hkk, hne, hq⟩ := hv (q, c) List.mem_cons_self
    have hap := hna (q, c) List.mem_cons_self
    have ih' := ih (fun x hx => hv x (List.mem_cons_of_mem _ hx)) (fun x hx => hna x (List.mem_cons_of_mem _ hx))
    simp only at hq hap
    subst hq
    simp only [written, entriesOf, stripObjs, List.map_cons, List.filterMap_cons,
      entryTarget_obj fmt n f hkk hne c hap] at ih' ⊢
    rw [ih']
    cases stripComponents (renderKey kk) n with
    | none => rfl
    | some p => simp only; cases f p <;> rfl

/-- Extracting the archive of a list of well-named objects (no "._" names) into the empty bucket
    never fails and yields the stripped, matching objects, a later one winning — for Untar and
    Unzip alike. -/
theorem extract_entriesOf_empty (fmt : Fmt) (n : Nat) (f : Str → Bool) (objs : List (Str × Content))
    (hv : KeysValid objs) (hna : NoApple objs) :
    ∃ m', extractInto fmt n f 0 (entriesOf objs) [] = (none, m') ∧
      ∀ k : Str, Mem.find m' k = Mem.find (stripObjs n f objs).reverse k := by
  have hok : extractInto fmt n f 0 (entriesOf objs) [] = (none, (extractInto fmt n f 0 (entriesOf objs) []).2) := by
    refine Prod.ext ?_ rfl
    rw [extractInto_eq]
    refine List.findSome?_eq_none_iff.mpr fun e he => ?_
    obtain ⟨kv, hkv, rfl⟩ := List.mem_map.mp he
    obtain ⟨kk, hkk, hne, hq⟩ := hv kv hkv
    exact entryErr_zero (by simp only [hq]; exact unmapArchivePath_key hkk hne n f)
  refine ⟨_, hok, fun k => ?_⟩
  rw [extractInto_ok hok, find_putList, written_entriesOf fmt n f objs hv hna]
  cases Mem.find (stripObjs n f objs).reverse k <;> rfl

theorem stripObjs_zero_all (objs : List (Str × Content)) : stripObjs 0 (fun _ => true) objs = objs := by
  induction objs with
  | nil => rfl
  | cons o rest ih =>
    simp only [stripObjs, List.filterMap, stripComponents_zero, if_true] at ih ⊢
    rw [ih]

theorem mem_stripObjs (n : Nat) (f : Str → Bool) (m : Mem) (hv : KeysValid m) (p : Str) (c : Content) :
    (p, c) ∈ stripObjs n f m ↔
      ∃ kk : Key, AllProper kk ∧ kk ≠ [] ∧ (renderKey kk, c) ∈ m ∧ (n = 0 ∨ n < kk.length) ∧
        p = renderKey (kk.drop n) ∧ f p = true := by
  unfold stripObjs
  rw [List.mem_filterMap]
  constructor
  · rintro ⟨kv, hkv, hfx⟩
    obtain ⟨kk, hkk, hne, hk⟩ := hv kv hkv
    rw [hk, stripComponents_key hkk hne] at hfx
    by_cases hc : n = 0 ∨ n < kk.length
    · rw [if_pos hc] at hfx
      simp only at hfx
      by_cases hf : f (renderKey (kk.drop n)) = true
      · rw [if_pos hf] at hfx
        injection hfx with hfx; injection hfx with h1 h2
        refine ⟨kk, hkk, hne, ?_, hc, h1.symm, by rw [← h1]; exact hf⟩
        rw [← h2, ← hk]; exact hkv
      · rw [if_neg hf] at hfx; cases hfx
    · rw [if_neg hc] at hfx; cases hfx
  · rintro ⟨kk, hkk, hne, hin, hc, hp, hf⟩
    refine ⟨(renderKey kk, c), hin, ?_⟩
    simp only
    rw [stripComponents_key hkk hne, if_pos hc]
    simp only
    rw [← hp, if_pos hf]

/-- On objects that all live below one directory chain `p`, strip-components `p.length` is what
    a prefix view at `p` does to the paths it lists. -/
theorem stripObjs_eq_unmapAll (p : Key) (hp : AllProper p) (m : Mem)
    (hall : ∀ kv ∈ m, ∃ kk : Key, AllProper kk ∧ kk ≠ [] ∧ kv.1 = renderKey (p ++ kk)) :
    unmapAll (renderKey p) m = .ok (stripObjs p.length (fun _ => true) m) := by
  induction m with
  | nil => rfl
  | cons o rest ih =>
    obtain ⟨q, c⟩ := o
    obtain ⟨kk, hkk, hne, hq⟩ := hall (q, c) List.mem_cons_self
    simp only at hq
    subst hq
    have hpk : AllProper (p ++ kk) := allProper_append.mpr ⟨hp, hkk⟩
    have hlen : p.length < (p ++ kk).length := by
      have := List.length_pos_iff.mpr hne
      rw [List.length_append]; omega
    simp only [unmapAll, stripObjs, List.filterMap_cons, unmapPrefix_key hp hpk, List.prefix_append, if_true,
      stripComponents_key hpk (List.append_ne_nil_of_right_ne_nil p hne), if_pos (Or.inr hlen), List.drop_left]
    rw [ih fun kv hkv => hall kv (List.mem_cons_of_mem _ hkv)]
    rfl

theorem stripObjs_prefix (p : Key) (hp : AllProper p) (m : Mem) (hv : KeysValid m) (hn : NodupKeys m)
    (hall : ∀ kv ∈ m, ∃ kk : Key, AllProper kk ∧ kk ≠ [] ∧ kv.1 = renderKey (p ++ kk)) :
    NodupKeys (stripObjs p.length (fun _ => true) m) ∧
      ∀ kk : Key, AllProper kk → kk ≠ [] →
        Mem.find (stripObjs p.length (fun _ => true) m) (renderKey kk) = Mem.find m (renderKey (p ++ kk)) := by
  obtain ⟨_, hno, hmem⟩ := unmapAll_spec p hp m _ hv.rendered (stripObjs_eq_unmapAll p hp m hall)
  exact ⟨hno hn, fun kk hkk _ => find_eq_of_mem_iff (hno hn) hn fun c => hmem kk c hkk⟩

/-! ### Sorted walk order changes nothing but the order -/

theorem sortMem_eq : ∀ m, sortMem m = isortBy (fun y x => !strLe x.1 y.1) m :=
  eq_isortBy _ (eq_insBy_not (ins := insertMem) (fun _ => rfl) (fun _ _ _ => rfl)) rfl (fun _ _ => rfl)

theorem sortMem_perm (m : Mem) : (sortMem m).Perm m := sortMem_eq m ▸ isortBy_perm _ m

theorem keysValid_sortMem {m : Mem} (h : KeysValid m) : KeysValid (sortMem m) :=
  fun kv hkv => h kv ((sortMem_perm m).mem_iff.mp hkv)

theorem nodupKeys_sortMem {m : Mem} (h : NodupKeys m) : NodupKeys (sortMem m) := by
  unfold NodupKeys at *
  exact ((sortMem_perm m).map _).nodup_iff.mpr h

theorem find_sortMem {m : Mem} (h : NodupKeys m) (k : Str) : Mem.find (sortMem m) k = Mem.find m k :=
  find_perm h (sortMem_perm m) k

theorem get_map_sortMem (bs : Bases) (i : Nat) : Bases.get (bs.map sortMem) i = sortMem (bs.get i) := by
  unfold Bases.get
  rw [List.getD_eq_getElem?_getD, List.getD_eq_getElem?_getD, List.getElem?_map]
  cases bs[i]? <;> rfl

theorem basesOK_sorted {bs : Bases} (h : BasesOK bs) : BasesOK (bs.map sortMem) := by
  intro i
  rw [get_map_sortMem]
  exact ⟨keysValid_sortMem (h i).1, nodupKeys_sortMem (h i).2⟩

theorem rGet_sorted (e : BExpr) (bs : Bases) (hbs : BasesOK bs) (s : Str) :
    rGet e (bs.map sortMem) s = rGet e bs s := by
  induction e generalizing s with
  | base i =>
    simp only [rGet, memGet, get_map_sortMem]
    cases validatePath s with
    | error e => rfl
    | ok p => simp only [find_sortMem (hbs i).2]
  | pre p b ih => simp only [rGet, ih]
  | filt f b ih => simp only [rGet, ih]
  | multi a b iha ihb => simp only [rGet, iha, ihb]
  | overlay a b iha ihb => simp only [rGet, iha, ihb]
  | strip b ih => simp only [rGet, ih]

end BufModel.Archive
