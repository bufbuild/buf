import BufProofs.Lemmas.BreakingLemmas
/-
  Per-rule implication lemmas behind the category hierarchy FILE ⇒ PACKAGE ⇒ WIRE_JSON ⇒ WIRE:
  whenever a rule that belongs only to a laxer category reports something, one of its
  `implies` rules (all members of the stricter category, checked by `decide` on the regenerated
  tables in Props/C04.lean) reports something too.  At the end: `typeNameAt`, the comparison of type
  names that the WIRE_JSON and the WIRE type rule share, behind the order of the type rules per field.
-/
namespace BufProofs.Breaking
open BufModel.Schema BufModel.Breaking

/-! ### flattening keeps the file context -/

theorem flatMsg_ctx (file : String) (locs : List SPath) (pkg : QName) :
    ∀ (m : Msg) (pre : QName) (path : SPath) (ml : Option SPath) (x : FlatMsg),
      x ∈ flatMsg file locs pkg pre path ml m → x.file = file ∧ x.pkg = pkg ∧ x.locs = locs :=
  flatMsg_rec (fun _ _ _ _ _ => ⟨rfl, rfl, rfl⟩) fun _ _ _ _ _ _ _ _ _ h => h

theorem flatMsgs_ctx (file : String) (locs : List SPath) (pkg : QName) :
    ∀ (ms : List Msg) (pre : QName) (path : SPath) (pf : List Field) (i : Nat) (x : FlatMsg),
      x ∈ flatMsgs file locs pkg pre path pf i ms → x.file = file ∧ x.pkg = pkg ∧ x.locs = locs :=
  fun _ _ _ _ _ x hx => by
    obtain ⟨_, m, _, hx⟩ := mem_flatMsgs.1 hx
    exact flatMsg_ctx file locs pkg m _ _ _ x hx

theorem mem_flatMsgs_ctx {f : File} {m : FlatMsg} (h : m ∈ f.flatMsgs) :
    m.file = f.path ∧ m.pkg = f.pkg ∧ m.locs = f.locs := by
  obtain ⟨_, m0, _, hx⟩ := mem_topMsgs.1 h
  exact flatMsg_ctx f.path f.locs f.pkg m0 _ _ _ m hx

theorem mem_flatEnums_ctx {f : File} {e : FlatEnum} (h : e ∈ f.flatEnums) :
    e.file = f.path ∧ e.pkg = f.pkg := by
  unfold File.flatEnums at h
  rcases ListLemmas.mem_map_append_flatMap_map.1 h with ⟨_, _, rfl⟩ | ⟨_, _, _, _, rfl⟩ <;> exact ⟨rfl, rfl⟩

theorem mem_flatExts_ctx {f : File} {e : FlatExt} (h : e ∈ f.flatExts) :
    e.file = f.path ∧ e.pkg = f.pkg := by
  unfold File.flatExts at h
  rcases ListLemmas.mem_map_append_flatMap_map.1 h with ⟨_, _, rfl⟩ | ⟨_, _, _, _, rfl⟩ <;> exact ⟨rfl, rfl⟩

theorem mem_flatSvcs_ctx {f : File} {s : FlatSvc} (h : s ∈ f.flatSvcs) :
    s.file = f.path ∧ s.pkg = f.pkg := by
  unfold File.flatSvcs at h
  obtain ⟨p, _, rfl⟩ := List.mem_map.1 h; exact ⟨rfl, rfl⟩

theorem flatMap_ne_nil_elim {α : Type} (xs : List α) (g : α → List Ann) (h : xs.flatMap g ≠ []) :
    ∃ x ∈ xs, g x ≠ [] := by
  by_cases hall : ∀ x ∈ xs, g x = []
  · exact absurd (List.flatMap_eq_nil_iff.2 hall) h
  · obtain ⟨x, hx⟩ := Classical.not_forall.1 hall
    obtain ⟨h1, h2⟩ := Classical.not_imp.1 hx
    exact ⟨x, h1, h2⟩

/-! ### generic shape of "element of a previous file went missing from its package" -/

/-- The case split that PACKAGE_*_NO_DELETE ⇒ FILE_NO_DELETE ∨ *_NO_DELETE ∨ FILE_SAME_PACKAGE starts
    from.  `pf` is the previous file holding the element: its path is gone from `cur`
    (FILE_NO_DELETE reports), or a current file `cf` has it (and FILE_SAME_PACKAGE reports if the
    package differs). -/
theorem file_cases (cur prev : Schema) (pf : File) (hpf : pf ∈ prev) :
    ruleFileNoDelete cur prev ≠ [] ∨
    (∃ cf, Paired File.path cur prev cf pf ∧ (cf.pkg ≠ pf.pkg → ruleFileSamePackage cur prev ≠ [])) := by
  cases hf : cur.find? (fun c => decide (c.path = pf.path)) with
  | none =>
    exact .inl (List.ne_nil_of_mem (mem_pairwise_missing File.path hpf
      (fun c hc => by simpa using List.find?_eq_none.1 hf c hc) List.mem_cons_self))
  | some cf =>
    refine .inr ⟨cf, ⟨hpf, hf⟩, fun hne => ?_⟩
    have : pf.pkg ≠ cf.pkg := fun h => hne h.symm
    exact List.ne_nil_of_mem (a := annAt "FILE_SAME_PACKAGE" cf.path cf.locs [[2]] cf.path)
      (filePairs_on.mem ⟨hpf, hf⟩ (by simp [this]))

/-! ### PACKAGE_*_NO_DELETE -/

/-- The common argument of the four PACKAGE_*_NO_DELETE rules.  `elems f` are the elements of one kind
    of a file (all of them in the file's package, `hctx`), paired inside a file by `key`.  A previous
    element `pe` without a current counterpart of the same package and key: its file is gone, or the
    file is there with another package, or it is there with the same package and then lacks `pe`. -/
theorem package_element_cases {α κ : Type} [DecidableEq κ] (cur prev : Schema) (elems : File → List α)
    (pkg : α → QName) (key : α → κ) (onMissing : File → α → List Ann)
    (hctx : ∀ f, ∀ e ∈ elems f, pkg e = f.pkg) {pe : α} (hpe : pe ∈ prev.flatMap elems)
    (hgone : ∀ ce ∈ cur.flatMap elems, ¬ (pkg ce = pkg pe ∧ key ce = key pe))
    (hne : ∀ c, onMissing c pe ≠ []) :
    ruleFileNoDelete cur prev ≠ [] ∨
    filePairs cur prev (fun c p => pairwise key (elems c) (elems p) (onMissing c) (fun _ _ => [])) ≠ [] ∨
    ruleFileSamePackage cur prev ≠ [] := by
  obtain ⟨pf, hpf, hpein⟩ := List.mem_flatMap.1 hpe
  rcases file_cases cur prev pf hpf with hdel | ⟨cf, hcf, hsame⟩
  · exact Or.inl hdel
  · by_cases hp : cf.pkg = pf.pkg
    · obtain ⟨a, ha⟩ := List.exists_mem_of_ne_nil _ (hne cf)
      refine .inr (.inl (List.ne_nil_of_mem (filePairs_on.mem hcf (mem_pairwise_missing key hpein ?_ ha))))
      intro ce hce hk
      exact hgone ce (List.mem_flatMap.2 ⟨cf, hcf.mem, hce⟩)
        ⟨by rw [hctx cf ce hce, hp, hctx pf pe hpein], hk⟩
    · exact Or.inr (Or.inr (hsame hp))

theorem package_enum_implied (cur prev : Schema) (h : rulePackageEnumNoDelete cur prev ≠ []) :
    ruleFileNoDelete cur prev ≠ [] ∨ ruleEnumNoDelete cur prev ≠ [] ∨ ruleFileSamePackage cur prev ≠ [] := by
  unfold rulePackageEnumNoDelete at h
  obtain ⟨pe, hpe, hne⟩ := flatMap_ne_nil_elim _ _ h
  by_cases hpk : pe.pkg ∈ cur.map File.pkg
  · rw [if_pos hpk] at hne
    cases hfind : (allEnums cur).find? (fun ce => decide (ce.pkg = pe.pkg ∧ ce.nested = pe.nested)) with
    | some _ => rw [hfind] at hne; exact absurd rfl hne
    | none =>
      exact package_element_cases cur prev File.flatEnums FlatEnum.pkg FlatEnum.nested
        (fun c pe => [deletedAnn "ENUM_NO_DELETE" c pe.nested]) (fun _ _ he => (mem_flatEnums_ctx he).2) hpe
        (fun ce hce hc => by simpa [hc] using List.find?_eq_none.1 hfind ce hce) (fun _ => by simp)
  · rw [if_neg hpk] at hne; exact absurd rfl hne

theorem package_extension_implied (cur prev : Schema) (h : rulePackageExtensionNoDelete cur prev ≠ []) :
    ruleFileNoDelete cur prev ≠ [] ∨ ruleExtensionNoDelete cur prev ≠ [] ∨ ruleFileSamePackage cur prev ≠ [] := by
  unfold rulePackageExtensionNoDelete at h
  obtain ⟨pe, hpe, hne⟩ := flatMap_ne_nil_elim _ _ h
  by_cases hpk : pe.pkg ∈ cur.map File.pkg
  · rw [if_pos hpk] at hne
    cases hfind : (allExts cur).find? (fun ce => decide (ce.pkg = pe.pkg ∧ ce.nested = pe.nested)) with
    | some _ => rw [hfind] at hne; exact absurd rfl hne
    | none =>
      exact package_element_cases cur prev File.flatExts FlatExt.pkg FlatExt.nested
        (fun c pe => [deletedAnn "EXTENSION_NO_DELETE" c pe.nested]) (fun _ _ he => (mem_flatExts_ctx he).2) hpe
        (fun ce hce hc => by simpa [hc] using List.find?_eq_none.1 hfind ce hce) (fun _ => by simp)
  · rw [if_neg hpk] at hne; exact absurd rfl hne

theorem package_message_implied (cur prev : Schema) (h : rulePackageMessageNoDelete cur prev ≠ []) :
    ruleFileNoDelete cur prev ≠ [] ∨ ruleMessageNoDelete cur prev ≠ [] ∨ ruleFileSamePackage cur prev ≠ [] := by
  unfold rulePackageMessageNoDelete at h
  obtain ⟨pm, hpm, hne⟩ := flatMap_ne_nil_elim _ _ h
  by_cases hpk : pm.pkg ∈ cur.map File.pkg
  · rw [if_pos hpk] at hne
    simp only at hne
    cases hfind : ((allMsgs cur).filter (fun cm => decide (cm.pkg = pm.pkg))).find?
        (fun cm => decide (cm.nested = pm.nested)) with
    | some _ => rw [hfind] at hne; exact absurd rfl hne
    | none =>
      exact package_element_cases cur prev File.flatMsgs FlatMsg.pkg FlatMsg.nested
        (fun c pm => [deletedAnn "MESSAGE_NO_DELETE" c pm.nested]) (fun _ _ he => (mem_flatMsgs_ctx he).2.1) hpm
        (fun cm hcm hc => by
          simpa [hc.2] using List.find?_eq_none.1 hfind cm (List.mem_filter.2 ⟨hcm, by simp [hc.1]⟩))
        (fun _ => by simp)
  · rw [if_neg hpk] at hne; exact absurd rfl hne

theorem package_service_implied (cur prev : Schema) (h : rulePackageServiceNoDelete cur prev ≠ []) :
    ruleFileNoDelete cur prev ≠ [] ∨ ruleServiceNoDelete cur prev ≠ [] ∨ ruleFileSamePackage cur prev ≠ [] := by
  unfold rulePackageServiceNoDelete at h
  obtain ⟨ps, hps, hne⟩ := flatMap_ne_nil_elim _ _ h
  by_cases hpk : ps.pkg ∈ cur.map File.pkg
  · rw [if_pos hpk] at hne
    cases hfind : (allSvcs cur).find? (fun cs => decide (cs.pkg = ps.pkg ∧ cs.svc.name = ps.svc.name)) with
    | some _ => rw [hfind] at hne; exact absurd rfl hne
    | none =>
      exact package_element_cases cur prev File.flatSvcs FlatSvc.pkg (fun s => s.svc.name)
        (fun c _ => [⟨"SERVICE_NO_DELETE", c.path, []⟩]) (fun _ _ he => (mem_flatSvcs_ctx he).2) hps
        (fun cs hcs hc => by simpa [hc] using List.find?_eq_none.1 hfind cs hcs) (fun _ => by simp)
  · rw [if_neg hpk] at hne; exact absurd rfl hne

theorem package_implied (cur prev : Schema) (h : rulePackageNoDelete cur prev ≠ []) :
    ruleFileNoDelete cur prev ≠ [] ∨ ruleFileSamePackage cur prev ≠ [] := by
  unfold rulePackageNoDelete at h
  obtain ⟨pf, hpf, hne⟩ := flatMap_ne_nil_elim _ _ h
  by_cases hpk : pf.pkg ∈ cur.map File.pkg
  · rw [if_pos hpk] at hne; exact absurd rfl hne
  · rcases file_cases cur prev pf hpf with hdel | ⟨cf, hcf, hsame⟩
    · exact Or.inl hdel
    · right
      apply hsame
      intro hp
      exact hpk (hp ▸ List.mem_map_of_mem hcf.mem)

/-! ### message / enum / field pair rules -/

theorem flatMap_ne_nil_mono {α : Type} (xs : List α) (g₁ g₂ : α → List Ann)
    (hg : ∀ x, g₁ x ≠ [] → g₂ x ≠ []) (h : xs.flatMap g₁ ≠ []) : xs.flatMap g₂ ≠ [] := by
  intro h2
  apply h
  rw [List.flatMap_eq_nil_iff] at h2 ⊢
  intro x hx
  by_cases hx1 : g₁ x = []
  · exact hx1
  · exact absurd (h2 x hx) (hg x hx1)

/-- FIELD_NO_DELETE_UNLESS_{NAME,NUMBER}_RESERVED ⇒ FIELD_NO_DELETE -/
theorem field_no_delete_implied (r : String) (a b : Bool) (cur prev : Schema)
    (h : fieldNoDelete r a b cur prev ≠ []) : fieldNoDelete "FIELD_NO_DELETE" false false cur prev ≠ [] := by
  refine msgPairs_on.mono (fun c p _ => flatMap_ne_nil_mono _ _ _ fun pf hx => ?_) h
  by_cases hn : c.info.hasNumber pf.number = true
  · simp [hn] at hx
  · simp [hn]

/-- ENUM_VALUE_NO_DELETE_UNLESS_{NAME,NUMBER}_RESERVED ⇒ ENUM_VALUE_NO_DELETE -/
theorem enum_value_no_delete_implied (r : String) (a b : Bool) (cur prev : Schema)
    (h : enumValueNoDelete r a b cur prev ≠ []) :
    enumValueNoDelete "ENUM_VALUE_NO_DELETE" false false cur prev ≠ [] := by
  refine enumPairs_on.mono (fun c p _ => flatMap_ne_nil_mono _ _ _ fun pv hx => ?_) h
  by_cases hn : c.enum.hasNumber pv.number = true
  · simp [hn] at hx
  · simp [hn]

/-- protoreflect fact assumed of every current field: `Kind()` equals the declared `Type()` except
    that a delimited-encoded message reports GroupKind -/
def kindOk (f : Field) : Prop := f.kind = f.ty ∨ (f.ty = .message ∧ f.kind = .group)

def IsCurField (cur : Schema) (c : FlatField) : Prop :=
  c ∈ extFields cur ∨ ∃ m ∈ allMsgs cur, c ∈ msgFields m

def KindsOK (cur : Schema) : Prop := ∀ c, IsCurField cur c → kindOk c.field

theorem FieldVisited.isCur {cur prev : Schema} {c p : FlatField} (hv : FieldVisited cur prev c p) :
    IsCurField cur c := by
  rcases hv with ⟨cm, _, hm, hv⟩ | hv
  · exact .inr ⟨cm, hm.mem, hv.mem⟩
  · exact .inl hv.mem

/-- a coarser grouping of cardinalities differs ⇒ a finer one differs -/
theorem card_implied (r₁ r₂ : String) (g₁ g₂ : Card → Nat)
    (hg : ∀ a b, g₁ a ≠ g₁ b → g₂ a ≠ g₂ b) (cur prev : Schema)
    (h : cardRule r₁ g₁ cur prev ≠ []) : cardRule r₂ g₂ cur prev ≠ [] := by
  refine fieldPairs_on.mono (fun c p _ hx => ?_) h
  by_cases hm : (p.field.inMapEntry && c.field.inMapEntry) = true
  · simp [hm] at hx
  · simp only [hm] at hx ⊢
    by_cases hne : g₁ p.field.card ≠ g₁ c.field.card
    · simp [hg _ _ hne]
    · simp [hne] at hx

theorem enumWireCompatible_rule_irrelevant (r₁ r₂ : String) (cur prev : Schema) (c p : FlatField)
    (h : enumWireCompatible r₁ cur prev c p ≠ []) : enumWireCompatible r₂ cur prev c p ≠ [] := by
  unfold enumWireCompatible at h ⊢
  split at h
  · next pe ce h1 h2 =>
    by_cases hn : pe.enum.name ≠ ce.enum.name
    · simp [hn]
    · simp only [hn, if_false] at h ⊢
      by_cases hs : (!enumIsSubset ce.enum pe.enum) = true
      · simp [hs]
      · simp [hs] at h
  · exact absurd rfl h

/-- What the two wire type rules do once the groups of the kinds agree: compare the type names of enum,
    group and message fields.  `k` is the kind the rule reads — the resolved kind of the current field
    for WIRE_JSON, its declared type for WIRE. -/
def typeNameAt (r : String) (k : Kind) (cur prev : Schema) (c p : FlatField) : List Ann :=
  if k = .enum then
    if p.field.typeName ≠ c.field.typeName then enumWireCompatible r cur prev c p else []
  else if k = .group ∨ k = .message then
    if p.field.typeName ≠ c.field.typeName then [changedTypeNameAnn r c] else []
  else []

theorem enumWireCompatible_about_field (r : String) (cur prev : Schema) (c p : FlatField) :
    ∀ a ∈ enumWireCompatible r cur prev c p, a = changedTypeNameAnn r c := by
  intro a ha
  unfold enumWireCompatible at ha
  split at ha
  · split at ha
    · simpa using ha
    · split at ha
      · simpa using ha
      · simp at ha
  · simp at ha

variable {r : String} {k : Kind} {cur prev : Schema} {c p : FlatField}

theorem typeNameAt_about : ∀ a ∈ typeNameAt r k cur prev c p, a = changedTypeNameAnn r c := by
  intro a ha
  unfold typeNameAt at ha
  split at ha
  · split at ha
    · exact enumWireCompatible_about_field r cur prev c p a ha
    · cases ha
  · split at ha
    · split at ha
      · simpa using ha
      · cases ha
    · cases ha

theorem typeNameAt_ne_nil (h : typeNameAt r k cur prev c p ≠ []) :
    (k = .enum ∨ k = .group ∨ k = .message) ∧ p.field.typeName ≠ c.field.typeName := by
  unfold typeNameAt at h
  split at h
  · next he => exact ⟨.inl he, fun ht => h (by simp [ht])⟩
  · split at h
    · next hg => exact ⟨.inr hg, fun ht => h (by simp [ht])⟩
    · exact absurd rfl h

/-- for a compiled field the declared type and the resolved kind lead to the same comparison, and the rule id
    does not matter for whether anything is said -/
theorem typeNameAt_kind {r' : String} (hok : kindOk c.field) (h : typeNameAt r c.field.ty cur prev c p ≠ []) :
    typeNameAt r' c.field.kind cur prev c p ≠ [] := by
  obtain ⟨hk, ht⟩ := typeNameAt_ne_nil h
  unfold typeNameAt at h ⊢
  rcases hok with h1 | ⟨h1, h2⟩
  · rw [h1]
    rcases hk with he | hg
    · rw [if_pos he, if_pos ht] at h ⊢
      exact enumWireCompatible_rule_irrelevant _ _ cur prev c p h
    · have : c.field.ty ≠ .enum := by rcases hg with h | h <;> rw [h] <;> decide
      simp [this, hg, ht]
  · simp [h2, ht]

end BufProofs.Breaking
