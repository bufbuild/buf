import BufModel.Bucket
import BufProofs.Lemmas.PathLemmas
/-
  Lemmas about the bucket model: the memory bucket and layered views refine a finite map from
  keys (lists of proper components) to contents.  The memory bucket is an association list of
  rendered keys, each at most once (`KeysValid`, `NodupKeys`), and every write keeps that.  A put
  or delete through a view is the memory bucket's operation at `viewPath`; operations through a
  view rooted at prefix key `P` only ever touch keys that extend `P`.  A composite read bucket `e`
  denotes the map `e.look bs` (defined on keys, by recursion on `e`): `rGet` on a proper key is
  `look`, a successful `rWalk` lists exactly `look` under the prefix, and a view's `vGet` is
  `rGet` of the linear composite `ofLayers`.  At the end `keyOf` (a path as a key) and `putList`:
  what a successful run of puts leaves behind, read with "the last put wins".
-/
namespace BufModel.Bucket
open BufModel.Path

/-- Key-annotated layers: the prefix of a `pre` layer is a key. -/
inductive KLayer where
  | pre (k : Key)
  | filt (m : Matcher)

def KLayer.toLayer : KLayer → Layer
  | .pre k => .pre (renderKey k)
  | .filt m => .filt m

/-- The key prefix under which a view (layers outermost first) is rooted in its base bucket. -/
def fullKey : List KLayer → Key
  | [] => []
  | .pre k :: ls => fullKey ls ++ k
  | .filt _ :: ls => fullKey ls

def KLayersOK : List KLayer → Prop
  | [] => True
  | .pre k :: ls => AllProper k ∧ KLayersOK ls
  | .filt _ :: ls => KLayersOK ls

theorem fullKey_proper {ls : List KLayer} (h : KLayersOK ls) : AllProper (fullKey ls) := by
  induction ls with
  | nil => exact allProper_nil
  | cons l ls ih =>
    cases l with
    | pre k => exact allProper_append.mpr ⟨ih h.2, h.1⟩
    | filt m => exact ih h

/-- The model chains its steps as `match x with | .error e => .error e | .ok a => f a`; a chain
    that succeeded took its first step. The first step has the one type of buckets and walk
    results, not any type: only then does the elaborator identify this `match` with the model's. -/
theorem bind_ok {β : Type} {x : Except PErr (List (Str × Content))}
    {f : List (Str × Content) → Except PErr β} {b : β}
    (h : (match x with | .error e => Except.error e | .ok a => f a) = .ok b) : ∃ a, x = .ok a ∧ f a = .ok b := by
  cases x with
  | error e => cases h
  | ok a => exact ⟨a, rfl, h⟩

/-! ### find / erase on association lists -/

theorem find_cons_eq (k : Str) (v : Content) (m : Mem) : Mem.find ((k, v) :: m) k = some v := by
  simp [Mem.find]

theorem find_cons_ne (k k' : Str) (v : Content) (m : Mem) (h : k ≠ k') :
    Mem.find ((k, v) :: m) k' = Mem.find m k' := by
  simp [Mem.find, h]

theorem find_filter (m : Mem) (p : Str → Bool) (k : Str) :
    Mem.find (m.filter fun kv => p kv.1) k = if p k then Mem.find m k else none := by
  induction m with
  | nil => simp [Mem.find]
  | cons kv rest ih =>
    obtain ⟨a, b⟩ := kv
    by_cases hak : a = k
    · subst hak; cases hpa : p a <;> simp [List.filter, hpa, Mem.find, ih]
    · cases hpa : p a <;> simp [List.filter, hpa, Mem.find, hak, ih]

theorem find_erase_eq (m : Mem) (k : Str) : Mem.find (m.erase k) k = none := by
  have := find_filter m (fun s => decide (s ≠ k)) k
  simpa [Mem.erase] using this

theorem find_erase_ne (m : Mem) (k k' : Str) (h : k ≠ k') : Mem.find (m.erase k) k' = Mem.find m k' := by
  have := find_filter m (fun s => decide (s ≠ k)) k'
  simpa [Mem.erase, Ne.symm h] using this

theorem find_put_erase (m : Mem) (p q : Str) (c : Content) :
    Mem.find ((p, c) :: m.erase p) q = if p = q then some c else Mem.find m q := by
  by_cases h : p = q
  · subst h; simp [find_cons_eq]
  · rw [find_cons_ne _ _ _ _ h, find_erase_ne _ _ _ h]; simp [h]

theorem find_some_mem {m : Mem} {k : Str} {c : Content} (h : Mem.find m k = some c) : (k, c) ∈ m := by
  induction m with
  | nil => simp [Mem.find] at h
  | cons kv rest ih =>
    obtain ⟨a, b⟩ := kv
    by_cases hak : a = k
    · subst hak; simp [Mem.find] at h; subst h; simp
    · rw [find_cons_ne _ _ _ _ hak] at h; exact List.mem_cons_of_mem _ (ih h)

theorem find_put_key {k k' : Key} (hk : AllProper k) (hk' : AllProper k') (m : Mem) (c : Content) :
    Mem.find ((renderKey k, c) :: m.erase (renderKey k)) (renderKey k') =
      if k' = k then some c else m.find (renderKey k') := by
  rw [find_put_erase]
  by_cases he : k' = k
  · subst he; simp
  · rw [if_neg he, if_neg (fun e => he (renderKey_inj hk hk' e).symm)]

theorem find_erase_key {k k' : Key} (hk : AllProper k) (hk' : AllProper k') (m : Mem) :
    Mem.find (m.erase (renderKey k)) (renderKey k') = if k' = k then none else m.find (renderKey k') := by
  by_cases he : k' = k
  · subst he; rw [find_erase_eq]; simp
  · rw [find_erase_ne _ _ _ (fun e => he (renderKey_inj hk hk' e).symm), if_neg he]

theorem find_deleteAll_key {k k' : Key} (hk : AllProper k) (hk' : AllProper k') (m : Mem) :
    Mem.find (m.filter fun kv => !equalsOrContainsPath (renderKey k) kv.1) (renderKey k') =
      if k <+: k' then none else m.find (renderKey k') := by
  rw [find_filter m (fun s => !equalsOrContainsPath (renderKey k) s)]
  by_cases hp : k <+: k'
  · simp [(ecp_keys hk hk').mpr hp, hp]
  · simp [mt (ecp_keys hk hk').mp hp, hp]

theorem renderKey_inj_of_validate {a b : Key} (ha : AllProper a) (hb : AllProper b) {s : Str}
    (h1 : normalizeAndValidate s = .ok (renderKey a)) (h2 : normalizeAndValidate s = .ok (renderKey b)) :
    a = b := by
  rw [h1] at h2; injection h2 with e; exact renderKey_inj ha hb e

theorem mapFullPath_of_validate {p kq : Key} (hp : AllProper p) (hkq : AllProper kq) {path : Str}
    (hnv : normalizeAndValidate path = .ok (renderKey kq)) :
    mapFullPath (renderKey p) path = if kq = [] then .error .root else .ok (renderKey (p ++ kq)) := by
  unfold mapFullPath
  rw [hnv]
  by_cases hne : kq = []
  · subst hne; simp [renderKey_nil]
  · simp only [if_neg (renderKey_ne_dot hkq hne), if_neg hne, join_keys hp hkq]

/-! ### Writes through a view

A put or delete through a view is the memory bucket's operation at `viewPath`: the path after
`MapPath` of every prefix layer and the base bucket's own validation. -/

def viewPath : List Layer → Str → Except PErr Str
  | [], path => validatePath path
  | .pre p :: ls, path =>
    match mapFullPath p path with
    | .error e => .error e
    | .ok full => viewPath ls full
  | .filt _ :: _, _ => .error .other

theorem vPut_eq (ls : List Layer) (m : Mem) (path : Str) (c : Content) :
    vPut ls m path c =
      (match viewPath ls path with
        | .error e => .error e
        | .ok p => .ok ((p, c) :: m.erase p)) := by
  induction ls generalizing path with
  | nil => rfl
  | cons l ls ih =>
    cases l with
    | pre p =>
      simp only [vPut, viewPath]
      cases mapFullPath p path with
      | error e => rfl
      | ok full => exact ih full
    | filt f => rfl

theorem vDelete_eq (ls : List Layer) (m : Mem) (path : Str) :
    vDelete ls m path =
      (match viewPath ls path with
        | .error e => .error e
        | .ok p => match m.find p with
          | some _ => .ok (m.erase p)
          | none => .error .notExist) := by
  induction ls generalizing path with
  | nil => rfl
  | cons l ls ih =>
    cases l with
    | pre p =>
      simp only [vDelete, viewPath]
      cases mapFullPath p path with
      | error e => rfl
      | ok full => exact ih full
    | filt f => rfl

theorem viewPath_ok (ls : List Layer) {path p : Str} (h : viewPath ls path = .ok p) :
    ∃ k : Key, AllProper k ∧ k ≠ [] ∧ p = renderKey k := by
  induction ls generalizing path with
  | nil =>
    obtain ⟨k, hk, hne, hp, _⟩ := validatePath_sound path p h
    exact ⟨k, hk, hne, hp⟩
  | cons l ls ih =>
    cases l with
    | pre q =>
      simp only [viewPath] at h
      cases hf : mapFullPath q path with
      | error e => rw [hf] at h; cases h
      | ok full => rw [hf] at h; exact ih h
    | filt f => cases h

theorem viewPath_key (ls : List KLayer) (hls : KLayersOK ls) {path p : Str}
    (h : viewPath (ls.map KLayer.toLayer) path = .ok p) :
    ∃ kq : Key, AllProper kq ∧ kq ≠ [] ∧ normalizeAndValidate path = .ok (renderKey kq) ∧
      p = renderKey (fullKey ls ++ kq) := by
  induction ls generalizing path with
  | nil =>
    obtain ⟨k, hk, hne, hp, hnv⟩ := validatePath_sound path p h
    exact ⟨k, hk, hne, by rw [hnv, hp], hp⟩
  | cons l ls ih =>
    cases l with
    | pre k =>
      rcases validate_cases path with ⟨e, hv⟩ | ⟨kq, hkq, hv⟩
      · simp [List.map, KLayer.toLayer, viewPath, mapFullPath, hv] at h
      · simp only [List.map, KLayer.toLayer, viewPath, mapFullPath_of_validate hls.1 hkq hv] at h
        by_cases hne : kq = []
        · simp [hne] at h
        · simp only [if_neg hne] at h
          obtain ⟨kq', hkq', _, hnv', rfl⟩ := ih hls.2 h
          have hkk : AllProper (k ++ kq) := allProper_append.mpr ⟨hls.1, hkq⟩
          obtain rfl := renderKey_inj_of_validate hkk hkq' (validate_renderKey hkk) hnv'
          exact ⟨kq, hkq, hne, hv, by rw [fullKey, List.append_assoc]⟩
    | filt f => cases h

theorem vPut_ok {ls : List Layer} {m m' : Mem} {path : Str} {c : Content} (h : vPut ls m path c = .ok m') :
    ∃ p, viewPath ls path = .ok p ∧ m' = (p, c) :: m.erase p := by
  rw [vPut_eq] at h
  cases hp : viewPath ls path with
  | error e => rw [hp] at h; cases h
  | ok p => rw [hp] at h; exact ⟨p, rfl, (Except.ok.inj h).symm⟩

theorem vDelete_ok {ls : List Layer} {m m' : Mem} {path : Str} (h : vDelete ls m path = .ok m') :
    ∃ p, viewPath ls path = .ok p ∧ m' = m.erase p := by
  rw [vDelete_eq] at h
  cases hp : viewPath ls path with
  | error e => rw [hp] at h; cases h
  | ok p =>
    rw [hp] at h
    cases hf : m.find p with
    | none => simp only [hf] at h; cases h
    | some c0 => simp only [hf] at h; exact ⟨p, rfl, (Except.ok.inj h).symm⟩

theorem vDeleteAll_spec (ls : List KLayer) (hls : KLayersOK ls) (m m' : Mem) (pfx : Str)
    (h : vDeleteAll (ls.map KLayer.toLayer) m pfx = .ok m') :
    ∃ kq : Key, AllProper kq ∧ normalizeAndValidate pfx = .ok (renderKey kq) ∧
      m' = m.filter (fun kv => !equalsOrContainsPath (renderKey (fullKey ls ++ kq)) kv.1) := by
  induction ls generalizing pfx with
  | nil =>
    rcases validate_cases pfx with ⟨e, hv⟩ | ⟨kq, hkq, hv⟩
    · simp only [List.map, vDeleteAll, memDeleteAll, validatePrefix, hv] at h; cases h
    · simp only [List.map, vDeleteAll, memDeleteAll, validatePrefix, hv] at h
      exact ⟨kq, hkq, hv, (Except.ok.inj h).symm⟩
  | cons l ls ih =>
    cases l with
    | pre k =>
      rcases validate_cases pfx with ⟨e, hv⟩ | ⟨kq, hkq, hv⟩
      · simp only [List.map, KLayer.toLayer, vDeleteAll, hv] at h; cases h
      · simp only [List.map, KLayer.toLayer, vDeleteAll, hv, join_keys hls.1 hkq] at h
        obtain ⟨kq', hkq', hnv', rfl⟩ := ih hls.2 _ h
        have hkk : AllProper (k ++ kq) := allProper_append.mpr ⟨hls.1, hkq⟩
        obtain rfl := renderKey_inj_of_validate hkk hkq' (validate_renderKey hkk) hnv'
        exact ⟨kq, hkq, hv, by rw [fullKey, List.append_assoc]⟩
    | filt f => cases h

/-! ### Invariants of the memory bucket -/

def KeysValid (m : Mem) : Prop :=
  ∀ kv ∈ m, ∃ k : Key, AllProper k ∧ k ≠ [] ∧ kv.1 = renderKey k

theorem keysValid_nil : KeysValid [] := by intro kv h; cases h

theorem keysValid_filter {m : Mem} (h : KeysValid m) (f : Str × Content → Bool) : KeysValid (m.filter f) := by
  intro kv hkv; exact h kv (List.mem_filter.mp hkv).1

theorem keysValid_erase {m : Mem} (h : KeysValid m) (p : Str) : KeysValid (m.erase p) :=
  keysValid_filter h _

theorem keysValid_cons {m : Mem} (h : KeysValid m) {k : Key} (hk : AllProper k) (hne : k ≠ []) (c : Content) :
    KeysValid ((renderKey k, c) :: m) := by
  intro kv hkv
  rcases List.mem_cons.mp hkv with e | hm
  · subst e; exact ⟨k, hk, hne, rfl⟩
  · exact h kv hm

def NodupKeys (m : Mem) : Prop := (m.map (·.1)).Nodup

theorem nodupKeys_cons {kv : Str × Content} {m : Mem} :
    NodupKeys (kv :: m) ↔ kv.1 ∉ m.map (·.1) ∧ NodupKeys m := by
  simp only [NodupKeys, List.map_cons, List.nodup_cons]

theorem nodupKeys_filter {m : Mem} (h : NodupKeys m) (f : Str × Content → Bool) : NodupKeys (m.filter f) := by
  unfold NodupKeys at *
  exact List.Nodup.sublist (List.Sublist.map _ List.filter_sublist) h

theorem not_mem_keys_erase (m : Mem) (p : Str) : p ∉ (m.erase p).map (·.1) := by
  intro h
  obtain ⟨kv, hkv, he⟩ := List.mem_map.mp h
  have := (List.mem_filter.mp hkv).2
  simp at this; exact this he

theorem nodupKeys_put {m : Mem} (h : NodupKeys m) (p : Str) (c : Content) :
    NodupKeys ((p, c) :: m.erase p) :=
  nodupKeys_cons.mpr ⟨not_mem_keys_erase m p, nodupKeys_filter h _⟩

theorem find_none_of_not_mem_keys {m : Mem} {k : Str} (h : k ∉ m.map (·.1)) : Mem.find m k = none := by
  cases hf : Mem.find m k with
  | none => rfl
  | some c => exact absurd (List.mem_map.mpr ⟨(k, c), find_some_mem hf, rfl⟩) h

theorem mem_iff_find {m : Mem} (hn : NodupKeys m) (k : Str) (c : Content) :
    (k, c) ∈ m ↔ Mem.find m k = some c := by
  refine ⟨fun hmem => ?_, find_some_mem⟩
  induction m with
  | nil => cases hmem
  | cons kv rest ih =>
    obtain ⟨a, b⟩ := kv
    obtain ⟨hnot, hn'⟩ := nodupKeys_cons.mp hn
    rcases List.mem_cons.mp hmem with e | hr
    · injection e with e1 e2; subst e1; subst e2; exact find_cons_eq _ _ _
    · rw [find_cons_ne _ _ _ _ (fun e => hnot (by subst e; exact List.mem_map.mpr ⟨(a, c), hr, rfl⟩))]
      exact ih hn' hr

def KeysRendered (objs : List (Str × Content)) : Prop :=
  ∀ qc ∈ objs, ∃ kk : Key, AllProper kk ∧ qc.1 = renderKey kk

theorem KeysValid.rendered {m : Mem} (h : KeysValid m) : KeysRendered m := by
  intro qc hqc
  obtain ⟨k, hk, _, e⟩ := h qc hqc
  exact ⟨k, hk, e⟩

theorem unmapPrefix_key {p k : Key} (hp : AllProper p) (hk : AllProper k) :
    unmapPrefix (renderKey p) (renderKey k) =
      .ok (if p <+: k then some (renderKey (k.drop p.length)) else none) := by
  unfold unmapPrefix
  by_cases h : p <+: k
  · obtain ⟨r, rfl⟩ := h
    simp [(ecp_keys hp hk).mpr (List.prefix_append p r), rel_keys hp (allProper_append.mp hk).2]
  · simp [mt (ecp_keys hp hk).mp h, h]

theorem unmapAll_spec (p : Key) (hp : AllProper p) (objs out : List (Str × Content))
    (hobjs : KeysRendered objs) (h : unmapAll (renderKey p) objs = .ok out) :
    KeysRendered out ∧ (NodupKeys objs → NodupKeys out) ∧
      ∀ (kk : Key) (c : Content), AllProper kk →
        ((renderKey kk, c) ∈ out ↔ (renderKey (p ++ kk), c) ∈ objs) := by
  induction objs generalizing out with
  | nil =>
    cases h
    exact ⟨fun _ hqc => (by cases hqc), fun hn => hn, fun _ _ _ => by simp⟩
  | cons o rest ih =>
    obtain ⟨q, c0⟩ := o
    obtain ⟨k0, hk0, rfl⟩ := hobjs (q, c0) List.mem_cons_self
    have hrest : KeysRendered rest := fun qc hqc => hobjs qc (List.mem_cons_of_mem _ hqc)
    simp only [unmapAll, unmapPrefix_key hp hk0] at h
    by_cases hpre : p <+: k0
    · obtain ⟨r, rfl⟩ := hpre
      have hr : AllProper r := (allProper_append.mp hk0).2
      simp only [List.prefix_append, if_true, List.drop_left] at h
      obtain ⟨out', hu, h⟩ := bind_ok h
      cases h
      obtain ⟨ihr, ihn, ihm⟩ := ih out' hrest hu
      refine ⟨?_, ?_, ?_⟩
      · intro qc hqc
        rcases List.mem_cons.mp hqc with e | hm
        · exact ⟨r, hr, by rw [e]⟩
        · exact ihr qc hm
      · intro hn
        obtain ⟨hnot, hn'⟩ := nodupKeys_cons.mp hn
        refine nodupKeys_cons.mpr ⟨fun hmem => hnot ?_, ihn hn'⟩
        obtain ⟨⟨q', c'⟩, hqc, he⟩ := List.mem_map.mp hmem
        simp only at he
        subst he
        exact List.mem_map.mpr ⟨_, (ihm r c' hr).mp hqc, rfl⟩
      · intro kk c hkk
        have hpk : AllProper (p ++ kk) := allProper_append.mpr ⟨hp, hkk⟩
        rw [List.mem_cons, List.mem_cons, ihm kk c hkk]
        refine or_congr ⟨fun e => ?_, fun e => ?_⟩ Iff.rfl
        · injection e with e1 e2
          rw [renderKey_inj hkk hr e1, e2]
        · injection e with e1 e2
          rw [List.append_cancel_left (renderKey_inj hpk hk0 e1), e2]
    · simp only [if_neg hpre] at h
      obtain ⟨ihr, ihn, ihm⟩ := ih out hrest h
      refine ⟨ihr, fun hn => ihn (nodupKeys_cons.mp hn).2, ?_⟩
      intro kk c hkk
      rw [ihm kk c hkk, List.mem_cons]
      refine ⟨Or.inr, fun hm => hm.resolve_left fun e => hpre ?_⟩
      injection e with e1 _
      rw [← renderKey_inj (allProper_append.mpr ⟨hp, hkk⟩) hk0 e1]
      exact List.prefix_append p kk

/-- The filter layers of a view all admit the key, each judged on the path it sees. -/
def passes : List KLayer → Key → Bool
  | [], _ => true
  | .pre k :: ls, kk => passes ls (k ++ kk)
  | .filt f :: ls, kk => f.matches (renderKey kk) && passes ls kk

theorem vWalk_exact (ls : List KLayer) (hls : KLayersOK ls) (m : Mem) (hm : KeysValid m)
    (pfx : Str) (objs : List (Str × Content))
    (h : vWalk (ls.map KLayer.toLayer) m pfx = .ok objs) :
    ∃ kq : Key, AllProper kq ∧ normalizeAndValidate pfx = .ok (renderKey kq) ∧
      KeysRendered objs ∧ (NodupKeys m → NodupKeys objs) ∧
      ∀ (kk : Key) (c : Content), AllProper kk →
        ((renderKey kk, c) ∈ objs ↔
          (kq <+: kk ∧ passes ls kk = true ∧ (renderKey (fullKey ls ++ kk), c) ∈ m)) := by
  induction ls generalizing pfx objs with
  | nil =>
    rcases validate_cases pfx with ⟨e, hv⟩ | ⟨kq, hkq, hv⟩
    · simp only [List.map, vWalk, memWalk, validatePrefix, hv] at h; cases h
    · simp only [List.map, vWalk, memWalk, validatePrefix, hv] at h
      cases h
      refine ⟨kq, hkq, hv, (keysValid_filter hm _).rendered, fun hn => nodupKeys_filter hn _, ?_⟩
      intro kk c hkk
      rw [List.mem_filter, ecp_keys hkq hkk]
      exact ⟨fun ⟨h1, h2⟩ => ⟨h2, rfl, h1⟩, fun ⟨h1, _, h2⟩ => ⟨h2, h1⟩⟩
  | cons l ls ih =>
    cases l with
    | pre k =>
      rcases validate_cases pfx with ⟨e, hv⟩ | ⟨kq, hkq, hv⟩
      · simp only [List.map, KLayer.toLayer, vWalk, hv] at h; cases h
      · simp only [List.map, KLayer.toLayer, vWalk, hv, join_keys hls.1 hkq] at h
        obtain ⟨inner, hw, h⟩ := bind_ok h
        obtain ⟨kq', hkq', hnv', hrend, hnd, hall⟩ := ih hls.2 _ inner hw
        have hkk : AllProper (k ++ kq) := allProper_append.mpr ⟨hls.1, hkq⟩
        obtain rfl := renderKey_inj_of_validate hkk hkq' (validate_renderKey hkk) hnv'
        obtain ⟨hr, hn, hmem⟩ := unmapAll_spec k hls.1 inner objs hrend h
        refine ⟨kq, hkq, hv, hr, fun hnm => hn (hnd hnm), ?_⟩
        intro kk c hkkp
        rw [hmem kk c hkkp, hall (k ++ kk) c (allProper_append.mpr ⟨hls.1, hkkp⟩),
          List.prefix_append_right_inj, fullKey, passes, List.append_assoc]
    | filt f =>
      rcases validate_cases pfx with ⟨e, hv⟩ | ⟨kq, hkq, hv⟩
      · simp only [List.map, KLayer.toLayer, vWalk, hv] at h; cases h
      · simp only [List.map, KLayer.toLayer, vWalk, hv] at h
        obtain ⟨inner, hw, h⟩ := bind_ok h
        cases h
        obtain ⟨kq', hkq', hnv', hrend, hnd, hall⟩ := ih hls _ inner hw
        obtain rfl := renderKey_inj_of_validate hkq hkq' (validate_renderKey hkq) hnv'
        refine ⟨kq, hkq, hv, fun qc hqc => hrend qc (List.mem_filter.mp hqc).1,
          fun hnm => nodupKeys_filter (hnd hnm) _, ?_⟩
        intro kk c hkk
        rw [List.mem_filter, hall kk c hkk, passes, fullKey, Bool.and_eq_true]
        exact ⟨fun ⟨⟨h1, h2, h3⟩, h4⟩ => ⟨h1, ⟨h4, h2⟩, h3⟩, fun ⟨h1, ⟨h4, h2⟩, h3⟩ => ⟨⟨h1, h2, h3⟩, h4⟩⟩

def PreOnly : List KLayer → Prop
  | [] => True
  | .pre _ :: ls => PreOnly ls
  | .filt _ :: _ => False

theorem passes_of_preOnly {ls : List KLayer} (h : PreOnly ls) (kk : Key) : passes ls kk = true := by
  induction ls generalizing kk with
  | nil => rfl
  | cons l ls ih =>
    cases l with
    | pre k => exact ih h _
    | filt f => exact absurd h id

theorem vWalk_pre_exact (ls : List KLayer) (hls : KLayersOK ls) (hpre : PreOnly ls)
    (m : Mem) (hv : KeysValid m) (hn : NodupKeys m) (pfx : Str) (objs : List (Str × Content))
    (h : vWalk (ls.map KLayer.toLayer) m pfx = .ok objs) :
    ∃ kq : Key, AllProper kq ∧ normalizeAndValidate pfx = .ok (renderKey kq) ∧
      NodupKeys objs ∧ KeysRendered objs ∧
      ∀ (kk : Key) (c : Content), AllProper kk →
        ((renderKey kk, c) ∈ objs ↔ (kq <+: kk ∧ Mem.find m (renderKey (fullKey ls ++ kk)) = some c)) := by
  obtain ⟨kq, hkq, hnv, hrend, hnd, hall⟩ := vWalk_exact ls hls m hv pfx objs h
  refine ⟨kq, hkq, hnv, hnd hn, hrend, fun kk c hkk => ?_⟩
  rw [hall kk c hkk, passes_of_preOnly hpre, mem_iff_find hn]
  simp

theorem memWalk_exact (m : Mem) (hv : KeysValid m) (hn : NodupKeys m) (pfx : Str)
    (objs : List (Str × Content)) (h : memWalk m pfx = .ok objs) :
    ∃ kq : Key, AllProper kq ∧ normalizeAndValidate pfx = .ok (renderKey kq) ∧
      NodupKeys objs ∧ KeysRendered objs ∧
      ∀ (k : Key) (c : Content), AllProper k →
        ((renderKey k, c) ∈ objs ↔ (kq <+: k ∧ Mem.find m (renderKey k) = some c)) :=
  vWalk_pre_exact [] trivial trivial m hv hn pfx objs h

def lookupObjs (objs : List (Str × Content)) (k : Str) : Option Content := Mem.find objs k

/-! ### Walk / Get coherence for every composite read bucket (`BExpr`) -/

/-- Well-formed composite: every `MapOnPrefix` prefix is the rendering of a key (a normalised,
    validated relative path — what `MapOnPrefix` documents as its precondition; "." = `[]`). -/
def BExpr.WF : BExpr → Prop
  | .base _ => True
  | .pre p b => (∃ k : Key, AllProper k ∧ p = renderKey k) ∧ BExpr.WF b
  | .filt _ b => BExpr.WF b
  | .multi a b => BExpr.WF a ∧ BExpr.WF b
  | .overlay a b => BExpr.WF a ∧ BExpr.WF b
  | .strip b => BExpr.WF b

/-- Every base bucket satisfies the memory-bucket invariants (kept by every operation:
    `mem_refines_spec`). -/
def BasesOK (bs : Bases) : Prop := ∀ i, KeysValid (bs.get i) ∧ NodupKeys (bs.get i)

theorem hasKey_true_iff {objs : List (Str × Content)} {k : Str} :
    hasKey objs k = true ↔ ∃ c, (k, c) ∈ objs := by
  unfold hasKey
  rw [List.any_eq_true]
  constructor
  · rintro ⟨⟨a, b⟩, hmem, heq⟩
    simp only [decide_eq_true_eq] at heq
    subst heq; exact ⟨b, hmem⟩
  · rintro ⟨c, hmem⟩
    exact ⟨(k, c), hmem, by simp⟩

theorem nodupKeys_append {a b : List (Str × Content)} (ha : NodupKeys a) (hb : NodupKeys b)
    (hd : ∀ kv ∈ b, hasKey a kv.1 = false) : NodupKeys (a ++ b) := by
  unfold NodupKeys at *
  rw [List.map_append, List.nodup_append]
  refine ⟨ha, hb, ?_⟩
  intro x hx y hy hxy
  subst hxy
  obtain ⟨kva, hkva, hea⟩ := List.mem_map.mp hx
  obtain ⟨kvb, hkvb, heb⟩ := List.mem_map.mp hy
  have := hd kvb hkvb
  have ht : hasKey a kvb.1 = true := hasKey_true_iff.mpr ⟨kva.2, by rw [heb, ← hea]; exact hkva⟩
  rw [ht] at this; cases this

theorem mergeMulti_eq (oa ob : List (Str × Content)) :
    mergeMulti oa ob = if ob.any (fun kv => hasKey oa kv.1) then .error .multiple else .ok ob := by
  induction ob with
  | nil => rfl
  | cons o rest ih =>
    simp only [mergeMulti, ih, List.any_cons]
    by_cases h1 : hasKey oa o.1 = true <;> by_cases h2 : rest.any (fun kv => hasKey oa kv.1) = true <;>
      simp [h1, h2]

theorem mergeMulti_dup (oa : List (Str × Content)) (k : Str) (ca cb : Content) (hka : (k, ca) ∈ oa) :
    ∀ ob : List (Str × Content), (k, cb) ∈ ob → mergeMulti oa ob = .error .multiple := by
  intro ob hkb
  rw [mergeMulti_eq, if_pos (List.any_eq_true.mpr ⟨_, hkb, hasKey_true_iff.mpr ⟨ca, hka⟩⟩)]

theorem mergeMulti_ok {oa ob ob' : List (Str × Content)} (h : mergeMulti oa ob = .ok ob') :
    ob' = ob ∧ ∀ kv ∈ ob, hasKey oa kv.1 = false := by
  rw [mergeMulti_eq] at h
  split at h
  · cases h
  · rename_i hn
    exact ⟨(Except.ok.inj h).symm, fun kv hkv => by
      cases hk : hasKey oa kv.1 with
      | false => rfl
      | true => exact absurd (List.any_eq_true.mpr ⟨kv, hkv, hk⟩) hn⟩

/-! #### `rGet` on a rendered key -/

theorem memGet_key (m : Mem) {k : Key} (hk : AllProper k) (hne : k ≠ []) :
    memGet m (renderKey k) =
      (match m.find (renderKey k) with | some c => .ok c | none => .error .notExist) := by
  unfold memGet; rw [validatePath_renderKey hk hne]; rfl

theorem memGet_ok {m : Mem} {path : Str} {c : Content} (h : memGet m path = .ok c) :
    ∃ p, validatePath path = .ok p ∧ m.find p = some c := by
  unfold memGet at h
  split at h
  · cases h
  · rename_i p hv
    split at h
    · rename_i hf; cases h; exact ⟨p, hv, hf⟩
    · cases h

theorem rGet_pre_key (b : BExpr) (bs : Bases) {p k : Key} (hp : AllProper p) (hk : AllProper k)
    (hne : k ≠ []) :
    rGet (.pre (renderKey p) b) bs (renderKey k) = rGet b bs (renderKey (p ++ k)) := by
  simp only [rGet, mapFullPath_of_validate hp hk (validate_renderKey hk), if_neg hne]

theorem rGet_filt_key (f : Matcher) (b : BExpr) (bs : Bases) {k : Key} (hk : AllProper k) :
    rGet (.filt f b) bs (renderKey k) =
      if f.matches (renderKey k) then rGet b bs (renderKey k) else .error .notExist := by
  simp only [rGet, validate_renderKey hk]
  cases f.matches (renderKey k) <;> simp

/-- What a composite holds at a key: `rGet` without the path plumbing (a `pre` prefix is read as
    the key it renders). At the root key under a prefix view this is the object stored AT the
    prefix, which `rWalk` lists as "." and `rGet` refuses. -/
def BExpr.look : BExpr → Bases → Key → Except PErr Content
  | .base i, bs, k =>
    match (bs.get i).find (renderKey k) with
    | some c => .ok c
    | none => .error .notExist
  | .pre p b, bs, k => b.look bs (cleanComps p ++ k)
  | .filt f b, bs, k => if f.matches (renderKey k) then b.look bs k else .error .notExist
  | .multi a b, bs, k =>
    match a.look bs k with
    | .error .notExist =>
      (match b.look bs k with
        | .error e => .error e
        | .ok cb => .ok cb)
    | .error e => .error e
    | .ok ca =>
      (match b.look bs k with
        | .error .notExist => .ok ca
        | .error e => .error e
        | .ok _ => .error .multiple)
  | .overlay a b, bs, k =>
    match a.look bs k with
    | .ok ca => .ok ca
    | .error .notExist => b.look bs k
    | .error e => .error e
  | .strip b, bs, k => b.look bs k

theorem rGet_key (e : BExpr) (he : e.WF) (bs : Bases) {k : Key} (hk : AllProper k) (hne : k ≠ []) :
    rGet e bs (renderKey k) = e.look bs k := by
  induction e generalizing k with
  | base i => simp only [rGet, memGet_key _ hk hne, BExpr.look]
  | pre p b ih =>
    obtain ⟨⟨kp, hkp, rfl⟩, hb⟩ := he
    rw [rGet_pre_key b bs hkp hk hne, BExpr.look, cleanComps_renderKey hkp]
    exact ih hb (allProper_append.mpr ⟨hkp, hk⟩) (List.append_ne_nil_of_right_ne_nil kp hne)
  | filt f b ih => rw [rGet_filt_key f b bs hk, BExpr.look, ih he hk hne]
  | multi a b iha ihb => simp only [rGet, BExpr.look, iha he.1 hk hne, ihb he.2 hk hne]; rfl
  | overlay a b iha ihb => simp only [rGet, BExpr.look, iha he.1 hk hne, ihb he.2 hk hne]; rfl
  | strip b ih => simp only [rGet, BExpr.look, ih he hk hne]

theorem BExpr.look_cases (e : BExpr) (bs : Bases) (k : Key) :
    (∃ c, e.look bs k = .ok c) ∨ e.look bs k = .error .notExist ∨ e.look bs k = .error .multiple := by
  induction e generalizing k with
  | base i =>
    simp only [BExpr.look]
    cases (bs.get i).find (renderKey k) with
    | some c => exact Or.inl ⟨c, rfl⟩
    | none => exact Or.inr (Or.inl rfl)
  | pre p b ih => exact ih _
  | filt f b ih =>
    simp only [BExpr.look]
    split
    · exact ih k
    · exact Or.inr (Or.inl rfl)
  | multi a b iha ihb =>
    rcases iha k with ⟨ca, ha⟩ | ha | ha <;> rcases ihb k with ⟨cb, hb⟩ | hb | hb
    all_goals simp [BExpr.look, ha, hb]
  | overlay a b iha ihb =>
    rcases iha k with ⟨ca, ha⟩ | ha | ha
    · exact Or.inl ⟨ca, by simp [BExpr.look, ha]⟩
    · simpa [BExpr.look, ha] using ihb k
    · exact Or.inr (Or.inr (by simp [BExpr.look, ha]))
  | strip b ih => exact ih k

theorem rGet_ok_key (e : BExpr) (bs : Bases) {s : Str} {c : Content} (h : rGet e bs s = .ok c) :
    ∃ k : Key, AllProper k ∧ k ≠ [] ∧ normalizeAndValidate s = .ok (renderKey k) := by
  induction e generalizing s c with
  | base i =>
    obtain ⟨p, hv, _⟩ := memGet_ok h
    obtain ⟨k, hk, hne, rfl, hnv⟩ := validatePath_sound s p hv
    exact ⟨k, hk, hne, hnv⟩
  | pre p b _ =>
    rcases validate_cases s with ⟨er, hv⟩ | ⟨k, hk, hv⟩
    · simp [rGet, mapFullPath, hv] at h
    · refine ⟨k, hk, ?_, hv⟩
      rintro rfl
      simp [rGet, mapFullPath, hv, renderKey_nil] at h
  | filt f b ih =>
    rcases validate_cases s with ⟨er, hv⟩ | ⟨k, hk, hv⟩
    · simp [rGet, hv] at h
    · simp only [rGet, hv] at h
      split at h
      · cases h
      · obtain ⟨k', hk', hne', hv'⟩ := ih h
        exact ⟨k', hk', hne', hv.trans ((validate_renderKey hk).symm.trans hv')⟩
  | multi a b iha ihb =>
    simp only [rGet] at h
    cases ha : rGet a bs s with
    | ok ca => exact iha ha
    | error ea =>
      cases hb : rGet b bs s with
      | ok cb => exact ihb hb
      | error eb => rw [ha, hb] at h; cases ea <;> simp at h
  | overlay a b iha ihb =>
    simp only [rGet] at h
    cases ha : rGet a bs s with
    | ok ca => exact iha ha
    | error ea => rw [ha] at h; cases ea <;> simp at h; exact ihb h
  | strip b ih => exact ih h

theorem rGet_key_cases (e : BExpr) (he : e.WF) (bs : Bases) {k : Key} (hk : AllProper k) (hne : k ≠ []) :
    (∃ c, rGet e bs (renderKey k) = .ok c) ∨ rGet e bs (renderKey k) = .error .notExist ∨
      rGet e bs (renderKey k) = .error .multiple := by
  rw [rGet_key e he bs hk hne]; exact e.look_cases bs k

/-- What a successful composite walk under prefix key `kq` must look like for the composite to be
    ONE path→bytes map: keys are rendered keys, none listed twice, every listed non-root entry
    is what `Get` returns for that path, every gettable path under the prefix is listed, and
    `Get` below the prefix never fails for another reason than not-exist. -/
structure Coherent (e : BExpr) (bs : Bases) (kq : Key) (objs : List (Str × Content)) : Prop where
  nodup : NodupKeys objs
  rendered : KeysRendered objs
  sound : ∀ (kk : Key) (c : Content), AllProper kk → (renderKey kk, c) ∈ objs →
      kq <+: kk ∧ (kk ≠ [] → rGet e bs (renderKey kk) = .ok c)
  complete : ∀ (kk : Key) (c : Content), AllProper kk → kk ≠ [] → kq <+: kk →
      rGet e bs (renderKey kk) = .ok c → (renderKey kk, c) ∈ objs
  total : ∀ (kk : Key), AllProper kk → kk ≠ [] → kq <+: kk →
      (∃ c, rGet e bs (renderKey kk) = .ok c) ∨ rGet e bs (renderKey kk) = .error .notExist

theorem ok_ne_notExist {c : Content} : (Except.ok c : Except PErr Content) ≠ .error .notExist := by
  intro h; cases h

/-- `objs` lists, each once and under rendered keys, exactly what the composite holds at the
    keys under `kq`; and it holds no duplicate there. -/
structure Lists (σ : Key → Except PErr Content) (kq : Key) (objs : List (Str × Content)) : Prop where
  nodup : NodupKeys objs
  rendered : KeysRendered objs
  mem_iff : ∀ (kk : Key) (c : Content), AllProper kk →
      ((renderKey kk, c) ∈ objs ↔ kq <+: kk ∧ σ kk = .ok c)
  total : ∀ kk : Key, AllProper kk → kq <+: kk →
      (∃ c, σ kk = .ok c) ∨ σ kk = .error .notExist

theorem Lists.hasKey_iff {σ : Key → Except PErr Content} {kq : Key} {objs : List (Str × Content)}
    (h : Lists σ kq objs) {kk : Key} (hkk : AllProper kk) (hp : kq <+: kk) :
    hasKey objs (renderKey kk) = true ↔ ∃ c, σ kk = .ok c := by
  rw [hasKey_true_iff]
  exact exists_congr fun c => (h.mem_iff kk c hkk).trans (and_iff_right hp)

/-- Union and overlay list `oa` followed by the objects of `ob` whose key `oa` does not have. -/
theorem Lists.union {σ σa σb : Key → Except PErr Content} {kq : Key} {oa ob : List (Str × Content)}
    (ca : Lists σa kq oa) (cb : Lists σb kq ob)
    (hlook : ∀ kk : Key, AllProper kk → kq <+: kk →
      σ kk = (match σa kk with | .ok c => .ok c | .error _ => σb kk)) :
    Lists σ kq (oa ++ ob.filter fun kv => !hasKey oa kv.1) := by
  have hdisj : ∀ kv ∈ ob.filter (fun kv => !hasKey oa kv.1), hasKey oa kv.1 = false := by
    intro kv hkv; simpa using (List.mem_filter.mp hkv).2
  refine ⟨nodupKeys_append ca.nodup (nodupKeys_filter cb.nodup _) hdisj, ?_, ?_, ?_⟩
  · intro qc hqc
    rcases List.mem_append.mp hqc with hqc | hqc
    · exact ca.rendered qc hqc
    · exact cb.rendered qc (List.mem_filter.mp hqc).1
  · intro kk c hkk
    rw [List.mem_append, List.mem_filter, ca.mem_iff kk c hkk, cb.mem_iff kk c hkk]
    by_cases hp : kq <+: kk
    · have hk := ca.hasKey_iff hkk hp
      rw [hlook kk hkk hp]
      rcases ca.total kk hkk hp with ⟨c1, ha⟩ | ha
      · simp [hp, ha, hk.mpr ⟨c1, ha⟩]
      · have : hasKey oa (renderKey kk) = false :=
          Bool.eq_false_iff.mpr fun h => by obtain ⟨c', hc'⟩ := hk.mp h; rw [ha] at hc'; cases hc'
        simp [hp, ha, this]
    · simp [hp]
  · intro kk hkk hp
    rw [hlook kk hkk hp]
    rcases ca.total kk hkk hp with ⟨c1, ha⟩ | ha
    · exact Or.inl ⟨c1, by rw [ha]⟩
    · rw [ha]; exact cb.total kk hkk hp

theorem Lists.find_eq {σ : Key → Except PErr Content} {kq : Key} {objs : List (Str × Content)}
    (h : Lists σ kq objs) {kk : Key} (hkk : AllProper kk) (hp : kq <+: kk) :
    Mem.find objs (renderKey kk) = (match σ kk with | .ok c => some c | .error _ => none) := by
  rcases h.total kk hkk hp with ⟨c, hg⟩ | hg
  · rw [hg]; exact (mem_iff_find h.nodup _ _).mp ((h.mem_iff kk c hkk).mpr ⟨hp, hg⟩)
  · rw [hg]
    cases hf : Mem.find objs (renderKey kk) with
    | none => rfl
    | some c => have := ((h.mem_iff kk c hkk).mp (find_some_mem hf)).2; rw [hg] at this; cases this

theorem rWalk_lists (e : BExpr) (he : e.WF) (bs : Bases) (hbs : BasesOK bs) (pfx : Str)
    (objs : List (Str × Content)) (h : rWalk e bs pfx = .ok objs) :
    ∃ kq : Key, AllProper kq ∧ normalizeAndValidate pfx = .ok (renderKey kq) ∧ Lists (e.look bs) kq objs := by
  induction e generalizing pfx objs with
  | base i =>
    obtain ⟨hv, hn⟩ := hbs i
    obtain ⟨kq, hkq, hnv, hnd, hrend, hall⟩ := memWalk_exact (bs.get i) hv hn pfx objs h
    refine ⟨kq, hkq, hnv, hnd, hrend, fun kk c hkk => ?_, fun kk _ _ => ?_⟩
    · rw [hall kk c hkk, BExpr.look]
      cases (bs.get i).find (renderKey kk) <;> simp
    · rw [BExpr.look]
      cases (bs.get i).find (renderKey kk) with
      | some c => exact Or.inl ⟨c, rfl⟩
      | none => exact Or.inr rfl
  | pre p b ih =>
    obtain ⟨⟨kp, hkp, rfl⟩, hb⟩ := he
    rcases validate_cases pfx with ⟨e, hv⟩ | ⟨kq, hkq, hv⟩
    · simp only [rWalk, hv] at h; cases h
    · simp only [rWalk, hv, join_keys hkp hkq] at h
      obtain ⟨inner, hw, h⟩ := bind_ok h
      obtain ⟨kq', hkq', hnv', hc⟩ := ih hb _ inner hw
      have hkk : AllProper (kp ++ kq) := allProper_append.mpr ⟨hkp, hkq⟩
      obtain rfl := renderKey_inj_of_validate hkk hkq' (validate_renderKey hkk) hnv'
      obtain ⟨hrendo, hndo, hmem⟩ := unmapAll_spec kp hkp inner objs hc.rendered h
      refine ⟨kq, hkq, hv, hndo hc.nodup, hrendo, fun kk c hkkp => ?_, fun kk hkkp hp => ?_⟩
      · rw [hmem kk c hkkp, hc.mem_iff _ c (allProper_append.mpr ⟨hkp, hkkp⟩),
          List.prefix_append_right_inj, BExpr.look, cleanComps_renderKey hkp]
      · rw [BExpr.look, cleanComps_renderKey hkp]
        exact hc.total _ (allProper_append.mpr ⟨hkp, hkkp⟩) ((List.prefix_append_right_inj kp).mpr hp)
  | filt f b ih =>
    rcases validate_cases pfx with ⟨e, hv⟩ | ⟨kq, hkq, hv⟩
    · simp only [rWalk, hv] at h; cases h
    · simp only [rWalk, hv] at h
      obtain ⟨inner, hw, h⟩ := bind_ok h
      cases h
      obtain ⟨kq', hkq', hnv', hc⟩ := ih he _ inner hw
      obtain rfl := renderKey_inj_of_validate hkq hkq' (validate_renderKey hkq) hnv'
      refine ⟨kq, hkq, hv, nodupKeys_filter hc.nodup _,
        fun qc hqc => hc.rendered qc (List.mem_filter.mp hqc).1, fun kk c hkk => ?_, fun kk hkk hp => ?_⟩
      · rw [List.mem_filter, hc.mem_iff kk c hkk, BExpr.look]
        cases f.matches (renderKey kk) <;> simp
      · rw [BExpr.look]
        cases f.matches (renderKey kk) with
        | true => exact hc.total kk hkk hp
        | false => exact Or.inr rfl
  | multi a b iha ihb =>
    simp only [rWalk] at h
    obtain ⟨oa, hwa, h⟩ := bind_ok h
    obtain ⟨ob, hwb, h⟩ := bind_ok h
    obtain ⟨ob', hm, h⟩ := bind_ok h
    cases h
    obtain ⟨rfl, hdisj⟩ := mergeMulti_ok hm
    obtain ⟨kq, hkq, hnv, ca⟩ := iha he.1 pfx oa hwa
    obtain ⟨kq2, hkq2, hnv2, cb⟩ := ihb he.2 pfx ob' hwb
    obtain rfl := renderKey_inj_of_validate hkq2 hkq hnv2 hnv
    have hfilt : ob'.filter (fun kv => !hasKey oa kv.1) = ob' :=
      List.filter_eq_self.mpr fun kv hkv => by rw [hdisj kv hkv]; rfl
    rw [← hfilt]
    refine ⟨kq2, hkq2, hnv, ca.union cb fun kk hkk hp => ?_⟩
    -- no key is held by both members: the second walk would have listed a duplicate
    rcases ca.total kk hkk hp with ⟨c1, hga⟩ | hga <;>
      rcases cb.total kk hkk hp with ⟨c2, hgb⟩ | hgb
    · have := hdisj _ ((cb.mem_iff kk c2 hkk).mpr ⟨hp, hgb⟩)
      rw [(ca.hasKey_iff hkk hp).mpr ⟨c1, hga⟩] at this; cases this
    all_goals simp [BExpr.look, hga, hgb]
  | overlay a b iha ihb =>
    simp only [rWalk] at h
    obtain ⟨oa, hwa, h⟩ := bind_ok h
    obtain ⟨ob, hwb, h⟩ := bind_ok h
    cases h
    obtain ⟨kq, hkq, hnv, ca⟩ := iha he.1 pfx oa hwa
    obtain ⟨kq2, hkq2, hnv2, cb⟩ := ihb he.2 pfx ob hwb
    obtain rfl := renderKey_inj_of_validate hkq2 hkq hnv2 hnv
    refine ⟨kq2, hkq2, hnv, ca.union cb fun kk hkk hp => ?_⟩
    rcases ca.total kk hkk hp with ⟨c1, hga⟩ | hga <;> simp [BExpr.look, hga]
  | strip b ih => exact ih he pfx objs h

theorem rWalk_all_lists (e : BExpr) (he : e.WF) (bs : Bases) (hbs : BasesOK bs)
    (objs : List (Str × Content)) (h : rWalk e bs [] = .ok objs) : Lists (e.look bs) [] objs := by
  obtain ⟨kq, hkq, hnv, hc⟩ := rWalk_lists e he bs hbs [] objs h
  obtain rfl := renderKey_inj_of_validate hkq allProper_nil hnv (by decide)
  exact hc

/-- Walk/Get coherence: `Lists` read through `rGet_key`. -/
theorem rWalk_coherent (e : BExpr) (he : e.WF) (bs : Bases) (hbs : BasesOK bs) (pfx : Str)
    (objs : List (Str × Content)) (h : rWalk e bs pfx = .ok objs) :
    ∃ kq : Key, AllProper kq ∧ normalizeAndValidate pfx = .ok (renderKey kq) ∧ Coherent e bs kq objs := by
  obtain ⟨kq, hkq, hnv, hc⟩ := rWalk_lists e he bs hbs pfx objs h
  refine ⟨kq, hkq, hnv, hc.nodup, hc.rendered, fun kk c hkk hin => ?_, fun kk c hkk hne hp hg => ?_,
    fun kk hkk hne hp => ?_⟩
  · obtain ⟨hp, hl⟩ := (hc.mem_iff kk c hkk).mp hin
    exact ⟨hp, fun hne => by rw [rGet_key e he bs hkk hne, hl]⟩
  · exact (hc.mem_iff kk c hkk).mpr ⟨hp, by rw [← rGet_key e he bs hkk hne, hg]⟩
  · rw [rGet_key e he bs hkk hne]; exact hc.total kk hkk hp

/-! #### Spelling: every composite operation depends on its path only through the validated form -/

theorem rGet_spelling (e : BExpr) (bs : Bases) (s₁ s₂ : Str)
    (h : normalizeAndValidate s₁ = normalizeAndValidate s₂) : rGet e bs s₁ = rGet e bs s₂ := by
  induction e with
  | base i => simp only [rGet, memGet, validatePath, h]
  | pre p b _ => simp only [rGet, mapFullPath, h]
  | filt f b _ => simp only [rGet, h]
  | multi a b iha ihb => simp only [rGet, iha, ihb]
  | overlay a b iha ihb => simp only [rGet, iha, ihb]
  | strip b ih => simp only [rGet, ih]

theorem rWalk_spelling (e : BExpr) (bs : Bases) (s₁ s₂ : Str)
    (h : normalizeAndValidate s₁ = normalizeAndValidate s₂) : rWalk e bs s₁ = rWalk e bs s₂ := by
  induction e with
  | base i => simp only [rWalk, memWalk, validatePrefix, h]
  | pre p b _ => simp only [rWalk, h]
  | filt f b _ => simp only [rWalk, h]
  | multi a b iha ihb => simp only [rWalk, iha, ihb]
  | overlay a b iha ihb => simp only [rWalk, iha, ihb]
  | strip b ih => simp only [rWalk, ih]

theorem rGet_of_validate (e : BExpr) (bs : Bases) {path : Str} {k : Key} (hk : AllProper k)
    (h : normalizeAndValidate path = .ok (renderKey k)) : rGet e bs path = rGet e bs (renderKey k) :=
  rGet_spelling e bs _ _ (by rw [h, validate_renderKey hk])

/-! #### The composite read as an abstract map -/

/-- A composite bucket read as an abstract map: what `Get` finds at each key. -/
def absE (e : BExpr) (bs : Bases) : Key → Option Content := fun k =>
  match rGet e bs (renderKey k) with
  | .ok c => some c
  | .error _ => none

theorem absE_base (i : Nat) (bs : Bases) {k : Key} (hk : AllProper k) (hne : k ≠ []) :
    absE (.base i) bs k = (bs.get i).find (renderKey k) := by
  simp only [absE, rGet, memGet_key _ hk hne]
  cases (bs.get i).find (renderKey k) <;> rfl

theorem absE_pre (b : BExpr) (bs : Bases) {p k : Key} (hp : AllProper p) (hk : AllProper k) (hne : k ≠ []) :
    absE (.pre (renderKey p) b) bs k = absE b bs (p ++ k) := by
  simp only [absE, rGet_pre_key b bs hp hk hne]

theorem absE_filt (f : Matcher) (b : BExpr) (bs : Bases) {k : Key} (hk : AllProper k) :
    absE (.filt f b) bs k = if f.matches (renderKey k) then absE b bs k else none := by
  simp only [absE, rGet_filt_key f b bs hk]
  cases f.matches (renderKey k) <;> simp

theorem absE_overlay (a b : BExpr) (bs : Bases) (k : Key)
    (hm : rGet a bs (renderKey k) ≠ .error .multiple) (he : a.WF) (hk : AllProper k) (hne : k ≠ []) :
    absE (.overlay a b) bs k = (match absE a bs k with | some c => some c | none => absE b bs k) := by
  rcases rGet_key_cases a he bs hk hne with ⟨c, h⟩ | h | h
  · simp [absE, rGet, h]
  · simp [absE, rGet, h]
  · exact absurd h hm

theorem absE_multi (a b : BExpr) (bs : Bases) (k : Key) (ha : a.WF) (hb : b.WF) (hk : AllProper k) (hne : k ≠ [])
    (hma : rGet a bs (renderKey k) ≠ .error .multiple) (hmb : rGet b bs (renderKey k) ≠ .error .multiple) :
    absE (.multi a b) bs k =
      (match absE a bs k, absE b bs k with
        | some c, none => some c
        | none, some c => some c
        | _, _ => none) ∧
    ((absE a bs k).isSome → (absE b bs k).isSome → rGet (.multi a b) bs (renderKey k) = .error .multiple) := by
  rcases rGet_key_cases a ha bs hk hne with ⟨c, h⟩ | h | h
  · rcases rGet_key_cases b hb bs hk hne with ⟨c', h'⟩ | h' | h'
    · simp [absE, rGet, h, h']
    · simp [absE, rGet, h, h']
    · exact absurd h' hmb
  · rcases rGet_key_cases b hb bs hk hne with ⟨c', h'⟩ | h' | h'
    · simp [absE, rGet, h, h']
    · simp [absE, rGet, h, h']
    · exact absurd h' hmb
  · exact absurd h hma

theorem absE_strip (b : BExpr) (bs : Bases) (k : Key) : absE (.strip b) bs k = absE b bs k := by
  simp only [absE, rGet]

theorem absE_eq (e : BExpr) (he : e.WF) (bs : Bases) {k : Key} (hk : AllProper k) (hne : k ≠ []) :
    absE e bs k = (match e.look bs k with | .ok c => some c | .error _ => none) := by
  rw [absE, rGet_key e he bs hk hne]

/-! #### A view is a linear composite over one base -/

def ofLayers : List Layer → BExpr
  | [] => .base 0
  | .pre p :: ls => .pre p (ofLayers ls)
  | .filt f :: ls => .filt f (ofLayers ls)

theorem vGet_eq_rGet (ls : List Layer) (m : Mem) (s : Str) : vGet ls m s = rGet (ofLayers ls) [m] s := by
  induction ls generalizing s with
  | nil => rfl
  | cons l ls ih => cases l <;> simp only [vGet, rGet, ofLayers, ih]

theorem ofLayers_wf {ls : List KLayer} (h : KLayersOK ls) : (ofLayers (ls.map KLayer.toLayer)).WF := by
  induction ls with
  | nil => trivial
  | cons l ls ih =>
    cases l with
    | pre k => exact ⟨⟨k, h.1, rfl⟩, ih h.2⟩
    | filt f => exact ih h

theorem look_ofLayers {ls : List KLayer} (h : KLayersOK ls) (m : Mem) (kk : Key) :
    (ofLayers (ls.map KLayer.toLayer)).look [m] kk =
      if passes ls kk then
        (match m.find (renderKey (fullKey ls ++ kk)) with | some c => .ok c | none => .error .notExist)
      else .error .notExist := by
  induction ls generalizing kk with
  | nil => rfl
  | cons l ls ih =>
    cases l with
    | pre k =>
      simp only [List.map, KLayer.toLayer, ofLayers, BExpr.look, cleanComps_renderKey h.1, ih h.2, passes,
        fullKey, List.append_assoc]
    | filt f =>
      simp only [List.map, KLayer.toLayer, ofLayers, BExpr.look, ih h, passes, fullKey]
      by_cases hf : f.matches (renderKey kk) = true <;> simp [hf]

theorem vGet_key {ls : List KLayer} (hls : KLayersOK ls) (m : Mem) {path : Str} {kq : Key}
    (hkq : AllProper kq) (hne : kq ≠ []) (hnv : normalizeAndValidate path = .ok (renderKey kq)) :
    vGet (ls.map KLayer.toLayer) m path =
      if passes ls kq then
        (match m.find (renderKey (fullKey ls ++ kq)) with | some c => .ok c | none => .error .notExist)
      else .error .notExist := by
  rw [vGet_eq_rGet, rGet_of_validate _ _ hkq hnv, rGet_key _ (ofLayers_wf hls) _ hkq hne, look_ofLayers hls]

/-- The outermost layer validates, whatever the layers below are. -/
theorem view_rejects_invalid (ls : List Layer) (m : Mem) (path : Str) (e : PErr)
    (hrej : normalizeAndValidate path = .error e) (c : Content) :
    (∀ m', vPut ls m path c ≠ .ok m') ∧ (∀ m', vDelete ls m path ≠ .ok m') ∧
    (∀ m', vDeleteAll ls m path ≠ .ok m') ∧ (∀ c', vGet ls m path ≠ .ok c') := by
  have hvp : validatePath path = .error e := by unfold validatePath; rw [hrej]
  cases ls with
  | nil => simp [vPut, vDelete, vDeleteAll, vGet, memPut, memDelete, memDeleteAll, memGet, validatePrefix, hvp, hrej]
  | cons l ls =>
    cases l with
    | pre p => simp [vPut, vDelete, vDeleteAll, vGet, mapFullPath, hrej]
    | filt f => simp [vPut, vDelete, vDeleteAll, vGet, hrej]

/-! #### putAll and base lists -/

theorem Bases.get_set_eq (bs : Bases) (i : Nat) (m : Mem) : (bs.set i m).get i = m := by
  unfold Bases.set Bases.get
  have hi : i < (List.range (max bs.length (i + 1))).length := by simp; omega
  rw [List.getD_eq_getElem?_getD, List.getElem?_map, List.getElem?_eq_getElem hi]
  simp

theorem Bases.get_set_ne (bs : Bases) (i j : Nat) (m : Mem) (h : j ≠ i) : (bs.set i m).get j = bs.get j := by
  unfold Bases.set Bases.get
  by_cases hj : j < max bs.length (i + 1)
  · have hj' : j < (List.range (max bs.length (i + 1))).length := by simpa using hj
    rw [List.getD_eq_getElem?_getD, List.getElem?_map, List.getElem?_eq_getElem hj']
    simp [h]
  · have h1 : (List.map (fun j => if j = i then m else List.getD bs j []) (List.range (max bs.length (i + 1))))[j]? = none := by
      apply List.getElem?_eq_none; simp; omega
    have h2 : bs[j]? = none := by apply List.getElem?_eq_none; omega
    rw [List.getD_eq_getElem?_getD, List.getD_eq_getElem?_getD, h1, h2]

theorem memPut_ok_key {m m' : Mem} {k : Key} {c : Content} (hk : AllProper k)
    (h : memPut m (renderKey k) c = .ok m') : k ≠ [] := by
  intro e; subst e
  unfold memPut at h
  have : validatePath (renderKey []) = .error .root := by decide
  rw [this] at h; cases h

theorem putAll_ok_keysValid {objs : List (Str × Content)} (hr : KeysRendered objs) :
    ∀ {m m' : Mem}, putAll m objs = .ok m' → KeysValid objs := by
  induction objs with
  | nil => intro _ _ _; exact keysValid_nil
  | cons o rest ih =>
    obtain ⟨q, c⟩ := o
    intro m m' h
    obtain ⟨kk, hkk, hq⟩ := hr (q, c) (by simp)
    simp only at hq
    obtain ⟨m1, hp, h⟩ := bind_ok h
    have hne : kk ≠ [] := memPut_ok_key hkk (by rw [← hq]; exact hp)
    have hrest := ih (fun qc hqc => hr qc (List.mem_cons_of_mem _ hqc)) h
    intro kv hkv
    rcases List.mem_cons.mp hkv with e | hm
    · subst e; exact ⟨kk, hkk, hne, hq⟩
    · exact hrest kv hm

theorem memPut_key (m : Mem) {k : Key} (hk : AllProper k) (hne : k ≠ []) (c : Content) :
    memPut m (renderKey k) c = .ok ((renderKey k, c) :: m.erase (renderKey k)) := by
  unfold memPut; rw [validatePath_renderKey hk hne]

theorem keysValid_of_rendered {objs : List (Str × Content)} (hr : KeysRendered objs)
    (hroot : ∀ c, (dot, c) ∉ objs) : KeysValid objs := by
  intro kv hkv
  obtain ⟨kk, hkk, hk⟩ := hr kv hkv
  refine ⟨kk, hkk, ?_, hk⟩
  rintro rfl
  exact hroot kv.2 (by rw [← renderKey_nil, ← hk]; exact hkv)

/-! #### WalkReadObjects -/

theorem readObjects_eq (e : BExpr) (bs : Bases) (l : List (Str × Content))
    (h : ∀ kv ∈ l, rGet e bs kv.1 = .ok kv.2) : readObjects e bs l = .ok l := by
  induction l with
  | nil => rfl
  | cons kv rest ih =>
    unfold readObjects
    rw [h kv (by simp), ih (fun x hx => h x (List.mem_cons_of_mem _ hx))]

theorem readObjects_ok_get (e : BExpr) (bs : Bases) :
    ∀ (l out : List (Str × Content)), readObjects e bs l = .ok out →
      ∀ kv ∈ l, ∃ c, rGet e bs kv.1 = .ok c := by
  intro l
  induction l with
  | nil => intro out _ kv hkv; cases hkv
  | cons x rest ih =>
    intro out h kv hkv
    unfold readObjects at h
    cases hg : rGet e bs x.1 with
    | error er => rw [hg] at h; cases h
    | ok c =>
      rw [hg] at h
      obtain ⟨out', hr, _⟩ := bind_ok h
      rcases List.mem_cons.mp hkv with e1 | hm
      · subst e1; exact ⟨c, hg⟩
      · exact ih out' hr kv hm

theorem basesOK_pair {src dst : Mem} (hv : KeysValid src) (hn : NodupKeys src) (hvd : KeysValid dst)
    (hnd : NodupKeys dst) : BasesOK [src, dst] := by
  intro i
  match i with
  | 0 => exact ⟨hv, hn⟩
  | 1 => exact ⟨hvd, hnd⟩
  | n + 2 => exact ⟨by simp [Bases.get, keysValid_nil], by simp [Bases.get, NodupKeys]⟩

theorem memWalk_all (m : Mem) : memWalk m [] = .ok m := by
  have : validatePrefix [] = .ok dot := by decide
  simp only [memWalk, this]
  exact congrArg _ (List.filter_eq_self.mpr fun kv _ => by simp [equalsOrContainsPath])

theorem walk_all_mem (m : Mem) (rest : Bases) : rWalk (.base 0) (m :: rest) [] = .ok m := memWalk_all m

theorem basesOK_single {m : Mem} (hv : KeysValid m) (hn : NodupKeys m) : BasesOK [m] := by
  intro i
  match i with
  | 0 => exact ⟨hv, hn⟩
  | n + 1 => exact ⟨by simp [Bases.get, keysValid_nil], by simp [Bases.get, NodupKeys]⟩

/-! #### keyOf -/

theorem keyOf_of_validate {s : Str} {k : Key} (hk : AllProper k)
    (h : normalizeAndValidate s = .ok (renderKey k)) : keyOf s = .ok k := by
  unfold keyOf; rw [h]; simp [cleanComps_renderKey hk]

theorem keyOf_ok {s : Str} {k : Key} (h : keyOf s = .ok k) :
    AllProper k ∧ normalizeAndValidate s = .ok (renderKey k) := by
  unfold keyOf at h
  cases hv : normalizeAndValidate s with
  | error e => rw [hv] at h; cases h
  | ok p =>
    rw [hv] at h
    injection h with h
    obtain ⟨k', hk', hp⟩ := validate_sound s p hv
    rw [hp, cleanComps_renderKey hk'] at h
    subst h
    exact ⟨hk', by rw [hp]⟩

theorem keyOf_dot {s : Str} (h : normalizeAndValidate s = .ok dot) : keyOf s = .ok [] := by
  unfold keyOf; rw [h]; decide

theorem keyOf_error {s : Str} {e : PErr} (h : normalizeAndValidate s = .error e) : keyOf s = .error e := by
  unfold keyOf; rw [h]

/-! #### A sequence of puts

What Copy, the archive extraction loops and the fault-schedule loops of C15 leave behind is the
bucket they started from with a list of objects put into it one after the other. -/

def putList (m : Mem) (l : List (Str × Content)) : Mem := l.foldl (fun m kv => kv :: m.erase kv.1) m

theorem putList_cons (m : Mem) (kv : Str × Content) (l : List (Str × Content)) :
    putList m (kv :: l) = putList (kv :: m.erase kv.1) l := rfl

theorem mem_putList {l : List (Str × Content)} {m : Mem} {kv : Str × Content} (h : kv ∈ putList m l) :
    kv ∈ m ∨ kv ∈ l := by
  induction l generalizing m with
  | nil => exact Or.inl h
  | cons x rest ih =>
    rcases ih h with h1 | h1
    · rcases List.mem_cons.mp h1 with rfl | h2
      · exact Or.inr List.mem_cons_self
      · exact Or.inl (List.mem_filter.mp h2).1
    · exact Or.inr (List.mem_cons_of_mem _ h1)

theorem keys_putList {l : List (Str × Content)} {m : Mem} {p : Str} (h : p ∈ m.keys ∨ p ∈ l.map (·.1)) :
    p ∈ (putList m l).keys := by
  induction l generalizing m with
  | nil => exact h.resolve_right (by simp)
  | cons x rest ih =>
    refine ih ?_
    by_cases hx : x.1 = p
    · exact Or.inl (by simp [Mem.keys, hx])
    · rcases h with h | h
      · refine Or.inl ?_
        simp only [Mem.keys, List.mem_map] at h ⊢
        obtain ⟨kv, hkv, rfl⟩ := h
        exact ⟨kv, List.mem_cons_of_mem _ (List.mem_filter.mpr ⟨hkv, by simpa using fun e => hx e.symm⟩), rfl⟩
      · simp only [List.map_cons, List.mem_cons] at h
        exact Or.inr (h.resolve_left fun e => hx e.symm)

theorem find_append (a b : Mem) (k : Str) :
    Mem.find (a ++ b) k = (match Mem.find a k with | some c => some c | none => Mem.find b k) := by
  induction a with
  | nil => rfl
  | cons x xs ih =>
    obtain ⟨q, v⟩ := x
    by_cases hqk : q = k
    · subst hqk; simp [Mem.find]
    · simp only [List.cons_append]; rw [find_cons_ne _ _ _ _ hqk, find_cons_ne _ _ _ _ hqk]; exact ih

/-- The last object put under a path wins; a path none is put under keeps what it held. -/
theorem find_putList (l : List (Str × Content)) (m : Mem) (q : Str) :
    (putList m l).find q = match Mem.find l.reverse q with | some c => some c | none => m.find q := by
  induction l generalizing m with
  | nil => rfl
  | cons x rest ih =>
    rw [putList_cons, ih, List.reverse_cons, find_append, find_put_erase]
    cases Mem.find rest.reverse q with
    | some c => rfl
    | none => by_cases hk : x.1 = q <;> simp [Mem.find, hk]

theorem find_eq_of_mem_iff {m m' : Mem} (hn : NodupKeys m) (hn' : NodupKeys m') {k k' : Str}
    (h : ∀ c, (k, c) ∈ m ↔ (k', c) ∈ m') : Mem.find m k = Mem.find m' k' := by
  cases hf : Mem.find m' k' with
  | some c => exact (mem_iff_find hn k c).mp ((h c).mpr (find_some_mem hf))
  | none =>
    cases hs : Mem.find m k with
    | none => rfl
    | some c => rw [(mem_iff_find hn' k' c).mp ((h c).mp (find_some_mem hs))] at hf; cases hf

theorem find_perm {m m' : Mem} (hn : NodupKeys m) (hp : m'.Perm m) (k : Str) :
    Mem.find m' k = Mem.find m k :=
  find_eq_of_mem_iff ((hp.map _).nodup_iff.mpr hn) hn fun _ => hp.mem_iff

theorem find_putList_of_nodup {l : List (Str × Content)} (hn : NodupKeys l) (m : Mem) (q : Str) :
    (putList m l).find q = match Mem.find l q with | some c => some c | none => m.find q := by
  rw [find_putList, find_perm hn (List.reverse_perm l)]

theorem keysValid_putList {m l : Mem} (hm : KeysValid m) (hl : KeysValid l) : KeysValid (putList m l) :=
  fun kv h => (mem_putList h).elim (hm kv) (hl kv)

theorem nodupKeys_putList {m : Mem} (hm : NodupKeys m) (l : List (Str × Content)) : NodupKeys (putList m l) := by
  induction l generalizing m with
  | nil => exact hm
  | cons kv rest ih => exact ih (nodupKeys_put hm kv.1 kv.2)

theorem putAll_eq_putList {objs : List (Str × Content)} (hv : KeysValid objs) (m : Mem) :
    putAll m objs = .ok (putList m objs) := by
  induction objs generalizing m with
  | nil => rfl
  | cons o rest ih =>
    obtain ⟨kk, hkk, hne, hq⟩ := hv o List.mem_cons_self
    rw [putAll, hq, memPut_key m hkk hne, ← hq]
    exact ih (fun kv hkv => hv kv (List.mem_cons_of_mem _ hkv)) _

theorem find_putList_nodup {l : List (Str × Content)} (hn : NodupKeys l) (m : Mem) :
    (∀ kv ∈ l, (putList m l).find kv.1 = some kv.2) ∧
      ∀ k, k ∉ l.map (·.1) → (putList m l).find k = m.find k := by
  refine ⟨fun kv hkv => ?_, fun k hk => ?_⟩
  · rw [find_putList_of_nodup hn, (mem_iff_find hn kv.1 kv.2).mp hkv]
  · rw [find_putList_of_nodup hn, find_none_of_not_mem_keys hk]

theorem putList_append (m : Mem) (a b : List (Str × Content)) : putList m (a ++ b) = putList (putList m a) b :=
  List.foldl_append

end BufModel.Bucket
