import BufProofs.Lemmas.RulesLemmas
import BufProofs.Lemmas.PathLemmas
import BufProofs.Lemmas.AnnotOrderLemmas
import BufProofs.Lemmas.ListLemmas
/-
  C06, the user-level layer: what the check configuration the user writes (the input of
  `bufconfig.NewEnabledCheckConfig` / `newRulesConfig`, i.e. what `resolve` and `runCheck` of the driver
  consume) resolves to, as sets over the user's lists (`ValidatedSpec`, `ResolvedSpec`); that added
  `except` / `ignore` / `ignore_only` entries resolve to `MoreSuppression`; comment edits, with annotations
  identified by element instead of position; why an annotation that was kept is gone (`kept_gone`, in the
  user's terms `UserScope`); that directives reach enclosing elements only; and that the length-prefixed
  dedup key is injective on reported annotations (from the C20 lemmas of AnnotOrderLemmas.lean), so that
  `report` returns exactly the file annotations of the `Kept` ones.
-/
namespace BufModel.Rules
open BufModel.Path BufGen.RuleTables

/-! ### path normalisation is idempotent on accepted paths -/

theorem nav_idem {q p : Str} (h : normalizeAndValidate q = .ok p) :
    normalizeAndValidate p = .ok p ∧ p ≠ [] := by
  rcases validate_sound q p h with ⟨ns, hns, rfl⟩
  exact ⟨validate_renderKey hns, renderKey_ne_nil hns⟩

/-! ### bufconfig layer -/

theorem normalizeAndCheckPaths_ok (paths outs : List Str)
    (h : normalizeAndCheckPaths paths = .ok outs) :
    (∀ p, p ∈ outs ↔ ∃ q ∈ paths, normalizeAndValidate q = .ok p) ∧
    (∀ q ∈ paths, q ≠ []) := by
  unfold normalizeAndCheckPaths at h
  by_cases h0 : paths = []
  · subst h0; simp at h; subst h; simp
  · simp only [h0, if_false] at h
    by_cases h1 : paths.any (· = []) = true
    · simp [h1] at h
    · simp only [h1] at h
      cases hm : paths.mapM normalizeAndValidate with
      | error e => simp [hm] at h
      | ok o =>
        simp only [hm] at h
        by_cases h2 : anyConflict (sortS strLt o) = true
        · simp [h2] at h
        · simp only [h2, Bool.false_eq_true, if_false, Except.ok.injEq] at h
          subst h
          have hs := BufProofs.ListLemmas.mapM_except_ok normalizeAndValidate paths o hm
          constructor
          · intro p; rw [mem_sortS]; exact hs.1 p
          · intro q hq hqe
            apply h1
            rw [List.any_eq_true]
            exact ⟨q, hq, by simp [hqe]⟩

def IoHas (m : List (Id × List Str)) (k : Id) (q : Str) : Prop := ∃ ps, (k, ps) ∈ m ∧ q ∈ ps

theorem ioHas_cons (e : Id × List Str) (m : List (Id × List Str)) (k : Id) (q : Str) :
    IoHas (e :: m) k q ↔ (e.1 = k ∧ q ∈ e.2) ∨ IoHas m k q := by
  unfold IoHas
  simp only [List.mem_cons, or_and_right, exists_or]
  refine or_congr ⟨?_, ?_⟩ Iff.rfl
  · rintro ⟨ps, rfl, h⟩; exact ⟨rfl, h⟩
  · rintro ⟨rfl, h⟩; exact ⟨e.2, rfl, h⟩

theorem checkIgnoreOnly_ok : ∀ (m m' : List (Id × List Str)), checkIgnoreOnly m = .ok m' →
    (∀ k p, IoHas m' k p ↔ ∃ q, IoHas m k q ∧ normalizeAndValidate q = .ok p) ∧
    (∀ k q, IoHas m k q → q ≠ [])
  | [], m', h => by
    cases h
    simp [IoHas]
  | (k0, v) :: rest, m', h => by
    rw [checkIgnoreOnly] at h
    split at h
    · rename_i v' rest' h1 h2
      cases h
      have ih := checkIgnoreOnly_ok rest rest' h2
      have hv := normalizeAndCheckPaths_ok _ _ h1
      simp only [mem_uniqueSorted] at hv
      constructor
      · intro k p
        simp only [ioHas_cons, ih.1, hv.1, or_and_right, exists_or, and_assoc, exists_and_left]
      · intro k q hq
        rcases (ioHas_cons _ _ _ _).1 hq with ⟨_, hq⟩ | hq
        · exact hv.2 q hq
        · exact ih.2 k q hq
    · cases h

/-- What `bufconfig.NewEnabledCheckConfig` makes of `c`: `use` / `except` keep their members (dedupe + sort),
    `ignore` and every `ignore_only` list become the normalised forms of their members, all of
    which are non-empty and valid. -/
structure ValidatedSpec (c c1 : CheckConfig) : Prop where
  use : ∀ x, x ∈ c1.use ↔ x ∈ c.use
  except : ∀ x, x ∈ c1.except ↔ x ∈ c.except
  ignore : ∀ p, p ∈ c1.ignore ↔ ∃ q ∈ c.ignore, normalizeAndValidate q = .ok p
  ignoreNonempty : ∀ q ∈ c.ignore, q ≠ []
  ignoreOnly : ∀ k p, IoHas c1.ignoreOnly k p ↔ ∃ q, IoHas c.ignoreOnly k q ∧ normalizeAndValidate q = .ok p
  ignoreOnlyNonempty : ∀ k q, IoHas c.ignoreOnly k q → q ≠ []
  disableBuiltin : c1.disableBuiltin = c.disableBuiltin

theorem newEnabledCheckConfig_spec (c c1 : CheckConfig) (h : newEnabledCheckConfig c = .ok c1) :
    ValidatedSpec c c1 := by
  unfold newEnabledCheckConfig at h
  cases h1 : normalizeAndCheckPaths (usStrs c.ignore) with
  | error e => simp [h1] at h
  | ok ig =>
    cases h2 : checkIgnoreOnly c.ignoreOnly with
    | error e => simp [h1, h2] at h
    | ok io =>
      simp only [h1, h2, Except.ok.injEq] at h
      subst h
      have hv := normalizeAndCheckPaths_ok _ _ h1
      have hio := checkIgnoreOnly_ok _ _ h2
      refine ⟨fun x => mem_uniqueSorted _ _ _, fun x => mem_uniqueSorted _ _ _, ?_, ?_, hio.1, hio.2, rfl⟩
      · intro p
        rw [hv.1 p]
        constructor
        · rintro ⟨q, hq, hn⟩; exact ⟨q, (mem_uniqueSorted _ _ _).1 hq, hn⟩
        · rintro ⟨q, hq, hn⟩; exact ⟨q, (mem_uniqueSorted _ _ _).2 hq, hn⟩
      · intro q hq; exact hv.2 q ((mem_uniqueSorted _ _ _).2 hq)

/-! ### `newRulesConfig` layer: ignore paths and ignore_only -/

theorem normalizeIgnoreOne_ok (q : Str) (o : Option Str) (h : normalizeIgnoreOne q = .ok o) (p : Str) :
    (q ≠ [] ∧ normalizeAndValidate q = .ok p) ↔ some p = o := by
  unfold normalizeIgnoreOne at h
  split at h
  · rename_i h0; cases h; simp [h0]
  · rename_i h0
    split at h
    · cases h
    · rename_i n h1
      split at h
      · cases h
      · cases h; simp [h0, h1, eq_comm]

theorem normalizeIgnorePaths_ok : ∀ (l r : List Str), normalizeIgnorePaths l = .ok r →
    ∀ p, p ∈ r ↔ ∃ q ∈ l, q ≠ [] ∧ normalizeAndValidate q = .ok p
  | [], r, h, p => by cases h; simp
  | q0 :: rest, r, h, p => by
    rw [normalizeIgnorePaths] at h
    simp only [List.mem_cons, exists_eq_or_imp]
    split at h
    · rename_i r' h1 h2
      cases h
      simp only [normalizeIgnoreOne_ok q0 _ h1 p, normalizeIgnorePaths_ok rest _ h2 p, reduceCtorEq, false_or]
    · rename_i n r' h1 h2
      cases h
      simp only [normalizeIgnoreOne_ok q0 _ h1 p, normalizeIgnorePaths_ok rest _ h2 p, List.mem_cons,
        Option.some.injEq]
    · cases h

theorem normalizeIgnoreOnly_ok : ∀ (l r : List (Id × Str)), normalizeIgnoreOnly l = .ok r →
    ∀ id p, (id, p) ∈ r ↔ ∃ q, (id, q) ∈ l ∧ q ≠ [] ∧ normalizeAndValidate q = .ok p
  | [], r, h, id, p => by cases h; simp
  | (i0, q0) :: rest, r, h, id, p => by
    rw [normalizeIgnoreOnly] at h
    simp only [List.mem_cons, Prod.mk.injEq, or_and_right, exists_or, and_assoc, exists_and_left, exists_eq_left]
    split at h
    · rename_i r' h1 h2
      cases h
      simp only [normalizeIgnoreOne_ok q0 _ h1 p, normalizeIgnoreOnly_ok rest _ h2 id p, reduceCtorEq, and_false,
        false_or]
    · rename_i n r' h1 h2
      cases h
      simp only [normalizeIgnoreOne_ok q0 _ h1 p, normalizeIgnoreOnly_ok rest _ h2 id p, List.mem_cons,
        Prod.mk.injEq, Option.some.injEq]
    · cases h

theorem mem_undeprecateIgnoreOnly (rs : List RuleRow) (m : List (Id × Str)) (r : Id) (p : Str) :
    (r, p) ∈ undeprecateIgnoreOnly rs m ↔ ∃ id, (id, p) ∈ m ∧ r ∈ undeprecateOne rs id := by
  unfold undeprecateIgnoreOnly
  simp only [List.mem_flatMap, List.mem_map, Prod.mk.injEq]
  constructor
  · rintro ⟨⟨id, q⟩, hm, i', hi', h1, h2⟩
    simp only at hi' h2
    subst h1; subst h2
    exact ⟨id, hm, hi'⟩
  · rintro ⟨id, hm, hr⟩
    exact ⟨(id, p), hm, r, hr, rfl, rfl⟩

theorem mem_undeprecate_expandIgnoreOnly (rs : List RuleRow) (m : List (Id × List Str)) (io : List (Id × Str))
    (h : expandIgnoreOnly rs m = .ok io) (r : Id) (q : Str) :
    (r, q) ∈ undeprecateIgnoreOnly rs io ↔ ∃ k, IoHas m k q ∧ r ∈ denote rs k := by
  rw [expandIgnoreOnly_eq] at h
  split at h
  · cases h
    simp only [mem_undeprecateIgnoreOnly, denote, IoHas, List.mem_flatMap, List.mem_map, Prod.mk.injEq]
    constructor
    · rintro ⟨_, ⟨⟨k, ps⟩, hm, id, hid, _, hp, rfl, rfl⟩, hr⟩
      exact ⟨k, ⟨ps, hm, hp⟩, id, hid, hr⟩
    · rintro ⟨k, ⟨ps, hm, hp⟩, id, hid, hr⟩
      exact ⟨id, ⟨(k, ps), hm, id, hid, q, hp, rfl, rfl⟩, hr⟩
  · cases h

/-- The suppression part of an accepted `newRulesConfig`, as sets over the lists it was given:
    the resolved ignore paths are the normalised non-empty `ignore` entries; rule `r` has ignore
    path `p` iff some `ignore_only` key that DENOTES `r` (the rule itself, a category carrying
    it, a deprecated id replaced by it) lists a non-empty path normalising to `p`. -/
theorem newRulesConfig_supp (all : List RuleRow) (lint : Bool) (c : CheckConfig) (rc : RulesConfig)
    (hrs : rulesForType all lint ≠ []) (h : newRulesConfig all lint c = .ok rc) :
    (∀ p, p ∈ rc.ignoreRootPaths ↔ ∃ q ∈ c.ignore, q ≠ [] ∧ normalizeAndValidate q = .ok p) ∧
    (∀ r p, (r, p) ∈ rc.ignoreOnly ↔
      ∃ k q, IoHas c.ignoreOnly k q ∧ q ≠ [] ∧ r ∈ denote (rulesForType all lint) k ∧
        normalizeAndValidate q = .ok p) := by
  rcases newRulesConfig_full all lint c rc hrs h with ⟨useIds, excIds, io, ig, io', _, _, h3, h4, h5, rfl⟩
  constructor
  · intro p
    show p ∈ usStrs ig ↔ _
    rw [mem_uniqueSorted]
    exact normalizeIgnorePaths_ok _ _ h4 p
  · intro r p
    show (r, p) ∈ io' ↔ _
    simp only [normalizeIgnoreOnly_ok _ _ h5 r p, mem_undeprecate_expandIgnoreOnly _ _ _ h3]
    exact ⟨fun ⟨q, ⟨k, hk, hd⟩, hq, hn⟩ => ⟨k, q, hk, hq, hd, hn⟩, fun ⟨k, q, hk, hq, hd, hn⟩ => ⟨q, ⟨k, hk, hd⟩, hq, hn⟩⟩

/-! ### selection as sets -/

theorem mem_effectiveUse (rs : List RuleRow) (use : List Id) (x : Id) :
    x ∈ effectiveUse rs use ↔
      ((∀ u ∈ use, blankId u = true) ∧ x ∈ defaultIds rs) ∨
      ((¬ ∀ u ∈ use, blankId u = true) ∧ x ∈ use ∧ blankId x = false) := by
  unfold effectiveUse
  dsimp only
  split
  · rename_i h
    rw [uniqueSortedNoBlank_eq_nil] at h
    exact ⟨fun hx => Or.inl ⟨h, hx⟩, fun hx => hx.elim (·.2) (fun k => absurd h k.1)⟩
  · rename_i h
    rw [uniqueSortedNoBlank_eq_nil] at h
    rw [mem_uniqueSortedNoBlank]
    exact ⟨fun hx => Or.inr ⟨h, hx⟩, fun hx => hx.elim (fun k => absurd k.1 h) (·.2)⟩

theorem mem_effectiveUse_congr (rs : List RuleRow) (u u' : List Id) (h : ∀ x, x ∈ u' ↔ x ∈ u) (x : Id) :
    x ∈ effectiveUse rs u' ↔ x ∈ effectiveUse rs u := by
  have hall : (∀ y ∈ u', blankId y = true) ↔ (∀ y ∈ u, blankId y = true) :=
    ⟨fun k y hy => k y ((h y).2 hy), fun k y hy => k y ((h y).1 hy)⟩
  rw [mem_effectiveUse, mem_effectiveUse, hall, h x]

theorem newRulesConfig_rejects_unknown (all : List RuleRow) (lint : Bool) (c : CheckConfig)
    (hrs : rulesForType all lint ≠ []) (id : Id) (hu : Unknown (rulesForType all lint) id)
    (hin : id ∈ effectiveUse (rulesForType all lint) c.use ∨ (id ∈ c.except ∧ blankId id = false) ∨
           id ∈ c.ignoreOnly.map (·.1)) :
    ∃ e, newRulesConfig all lint c = .error e := by
  have hn := (expandOne_none_iff _ id).2 hu
  apply newRulesConfig_unknown all lint c hrs
  rcases hin with h | h | h
  · exact Or.inl ⟨id, h, hn⟩
  · exact Or.inr (Or.inl ⟨id, (mem_uniqueSortedNoBlank id _).2 h, hn⟩)
  · rcases List.mem_map.1 h with ⟨e, he, rfl⟩
    exact Or.inr (Or.inr ⟨e, he, hn⟩)

/-- What the selected rule ids are, as a set, for an accepted configuration. -/
def Selected (rs : List RuleRow) (use exc : List Id) (x : Id) : Prop :=
  (∃ u ∈ effectiveUse rs use, x ∈ denote rs u) ∧
  ¬ (∃ e ∈ exc, blankId e = false ∧ x ∈ denote rs e)

/-- `x` is one of the rules that the non-blank ids satisfying `P` denote. -/
def Covers (rs : List RuleRow) (P : Id → Prop) (x : Id) : Prop :=
  ∃ e, P e ∧ blankId e = false ∧ x ∈ denote rs e

theorem Covers.congr {rs : List RuleRow} {P Q : Id → Prop} (h : ∀ e, P e ↔ Q e) (x : Id) :
    Covers rs P x ↔ Covers rs Q x := by
  simp only [Covers, h]

theorem covers_or {rs : List RuleRow} {P Q : Id → Prop} {x : Id} :
    Covers rs (fun e => P e ∨ Q e) x ↔ Covers rs P x ∨ Covers rs Q x := by
  simp only [Covers, or_and_right, exists_or]

theorem covers_self {rs : List RuleRow} {P : Id → Prop}
    (hP : ∀ e, P e → blankId e = false ∧ denote rs e = [e]) {x : Id} : Covers rs P x ↔ P x := by
  constructor
  · rintro ⟨e, he, _, hx⟩
    rw [(hP e he).2, List.mem_singleton] at hx
    exact hx ▸ he
  · intro hx
    exact ⟨x, hx, (hP x hx).1, by rw [(hP x hx).2]; exact List.mem_singleton.2 rfl⟩

theorem selected_iff (rs : List RuleRow) (use exc : List Id) (x : Id) :
    Selected rs use exc x ↔
      (if ∀ u ∈ use, blankId u = true then ∃ u ∈ defaultIds rs, x ∈ denote rs u else Covers rs (· ∈ use) x) ∧
      ¬ Covers rs (· ∈ exc) x := by
  unfold Selected Covers
  refine and_congr ?_ Iff.rfl
  split
  · rename_i h
    simp only [mem_effectiveUse, eq_true h, true_and, not_true_eq_false, false_and, or_false]
  · rename_i h
    simp only [mem_effectiveUse, eq_false h, false_and, not_false_eq_true, true_and, false_or, and_assoc]

theorem Selected.mono {rs : List RuleRow} {u u' e e' : List Id} (hu : ∀ x, x ∈ u' ↔ x ∈ u)
    (he : ∀ x ∈ e, x ∈ e') {x : Id} (h : Selected rs u' e' x) : Selected rs u e x := by
  rcases h with ⟨⟨y, hy, hx⟩, hn⟩
  refine ⟨⟨y, (mem_effectiveUse_congr _ _ _ hu y).1 hy, hx⟩, ?_⟩
  rintro ⟨z, hz, hb, hx2⟩
  exact hn ⟨z, he z hz, hb, hx2⟩

theorem newRulesConfig_sel (all : List RuleRow) (lint : Bool) (c : CheckConfig) (rc : RulesConfig)
    (hrs : rulesForType all lint ≠ []) (h : newRulesConfig all lint c = .ok rc) (x : Id) :
    x ∈ rc.ruleIDs ↔ Selected (rulesForType all lint) c.use c.except x := by
  rcases newRulesConfig_full all lint c rc hrs h with ⟨useIds, excIds, _, _, _, h1, h2, _, _, _, rfl⟩
  unfold Selected
  rw [List.mem_filter, mem_undeprecate_transform _ _ _ h1]
  have hex : (∃ e ∈ c.except, blankId e = false ∧ x ∈ denote (rulesForType all lint) e) ↔
      x ∈ undeprecate (rulesForType all lint) excIds := by
    simp only [mem_undeprecate_transform _ _ _ h2, mem_uniqueSortedNoBlank, and_assoc]
  rw [hex]
  simp

/-! ### `resolve` / `runCheck` (what the driver runs) in terms of `newRulesConfig` / `report` -/

/-- The rule table `resolve` works with: the rules of the requested type, none when the builtin
    rules are disabled. -/
def tableOf (allRules : List RuleRow) (lint : Bool) (c : CheckConfig) : List RuleRow :=
  rulesForType (if c.disableBuiltin then [] else allRules) lint

theorem resolve_ok_iff (allRules : List RuleRow) (lint validated : Bool) (c : CheckConfig) (rc : RulesConfig) :
    resolve allRules lint validated c = .ok rc ↔
      ∃ c1, (if validated then newEnabledCheckConfig c = .ok c1 else c1 = c) ∧
        newRulesConfig (if c.disableBuiltin then [] else allRules) lint c1 = .ok rc := by
  unfold resolve
  cases validated with
  | false => simp
  | true =>
    simp only [if_true]
    cases hc : newEnabledCheckConfig c with
    | error e => simp
    | ok c1 => simp

theorem runCheck_ok_iff (allRules : List RuleRow) (lint validated : Bool) (c : CheckConfig)
    (aci iup exi : Bool) (img : Image) (out : List FileAnnot) :
    runCheck allRules lint validated c aci iup exi img = .ok out ↔
      ∃ rc, resolve allRules lint validated c = .ok rc ∧ report (mkConfig lint rc aci iup exi) img = .ok out := by
  unfold runCheck
  cases hr : resolve allRules lint validated c with
  | error e => simp
  | ok rc => simp

/-- The resolved configuration as sets over the USER's lists (through both constructors when
    `validated`): selected ids, resolved ignore paths, resolved ignore_only relation. -/
structure ResolvedSpec (rs : List RuleRow) (c : CheckConfig) (rc : RulesConfig) : Prop where
  sel : ∀ x, x ∈ rc.ruleIDs ↔ Selected rs c.use c.except x
  ignore : ∀ p, p ∈ rc.ignoreRootPaths ↔ ∃ q ∈ c.ignore, q ≠ [] ∧ normalizeAndValidate q = .ok p
  ignoreOnly : ∀ r p, (r, p) ∈ rc.ignoreOnly ↔
    ∃ k q, IoHas c.ignoreOnly k q ∧ q ≠ [] ∧ r ∈ denote rs k ∧ normalizeAndValidate q = .ok p

theorem resolve_spec (allRules : List RuleRow) (lint validated : Bool) (c : CheckConfig) (rc : RulesConfig)
    (h : resolve allRules lint validated c = .ok rc) :
    (tableOf allRules lint c = [] → rc = { ruleIDs := [], ignoreRootPaths := [], ignoreOnly := [] }) ∧
    (tableOf allRules lint c ≠ [] → ResolvedSpec (tableOf allRules lint c) c rc) := by
  rcases (resolve_ok_iff _ _ _ _ _).1 h with ⟨c1, hc1, hn⟩
  unfold tableOf
  refine ⟨fun hrs => Except.ok.inj (hn.symm.trans (newRulesConfig_empty_table hrs _)), fun hrs => ?_⟩
  have hsel := newRulesConfig_sel _ _ _ _ hrs hn
  have hsup := newRulesConfig_supp _ _ _ _ hrs hn
  cases validated with
  | false =>
    simp only [Bool.false_eq_true, if_false] at hc1
    subst hc1
    exact ⟨hsel, hsup.1, hsup.2⟩
  | true =>
    simp only [if_true] at hc1
    obtain ⟨hu, he, hi, hine, hio, hione, _⟩ := newEnabledCheckConfig_spec c c1 hc1
    refine ⟨?_, ?_, ?_⟩
    · intro x
      rw [hsel x]
      exact ⟨Selected.mono hu (fun e h => (he e).2 h), Selected.mono (fun y => (hu y).symm) (fun e h => (he e).1 h)⟩
    · intro p
      rw [hsup.1 p]
      constructor
      · rintro ⟨q1, hq1, _, hn1⟩
        rcases (hi q1).1 hq1 with ⟨q, hq, hnq⟩
        have := (nav_idem hnq).1
        rw [this] at hn1; cases hn1
        exact ⟨q, hq, hine q hq, hnq⟩
      · rintro ⟨q, hq, _, hnq⟩
        exact ⟨p, (hi p).2 ⟨q, hq, hnq⟩, (nav_idem hnq).2, (nav_idem hnq).1⟩
    · intro r p
      rw [hsup.2 r p]
      constructor
      · rintro ⟨k, q1, hq1, _, hd, hn1⟩
        rcases (hio k q1).1 hq1 with ⟨q, hq, hnq⟩
        have := (nav_idem hnq).1
        rw [this] at hn1; cases hn1
        exact ⟨k, q, hq, hione k q hq, hd, hnq⟩
      · rintro ⟨k, q, hq, _, hd, hnq⟩
        exact ⟨k, p, (hio k p).2 ⟨q, hq, hnq⟩, (nav_idem hnq).2, hd, (nav_idem hnq).1⟩

/-! ### the user adds suppression entries -/

/-- `c'` is `c` with more suppression, at the level the user edits (the `lint:` / `breaking:`
    section of buf.yaml): the same `use`, and — as sets, so that position, order and duplicates
    do not matter — more `except` ids, more `ignore` paths, more `ignore_only` (key, path)
    entries. -/
structure UserMoreSuppression (c c' : CheckConfig) : Prop where
  use : ∀ x, x ∈ c'.use ↔ x ∈ c.use
  except : ∀ x ∈ c.except, x ∈ c'.except
  ignore : ∀ q ∈ c.ignore, q ∈ c'.ignore
  ignoreOnly : ∀ k q, IoHas c.ignoreOnly k q → IoHas c'.ignoreOnly k q
  disableBuiltin : c'.disableBuiltin = c.disableBuiltin

theorem UserMoreSuppression.refl (c : CheckConfig) : UserMoreSuppression c c :=
  ⟨fun _ => Iff.rfl, fun _ h => h, fun _ h => h, fun _ _ h => h, rfl⟩

theorem UserMoreSuppression.table {c c' : CheckConfig} (h : UserMoreSuppression c c')
    (allRules : List RuleRow) (lint : Bool) : tableOf allRules lint c' = tableOf allRules lint c := by
  unfold tableOf; rw [h.disableBuiltin]

def addIgnore (c : CheckConfig) (q : Str) : CheckConfig := { c with ignore := q :: c.ignore }
def addExcept (c : CheckConfig) (e : Id) : CheckConfig := { c with except := e :: c.except }
/-- `m[k] = append(m[k], q)` on the association list. -/
def ioInsert : List (Id × List Str) → Id → Str → List (Id × List Str)
  | [], k, q => [(k, [q])]
  | (k', ps) :: rest, k, q =>
    if k' = k then (k', q :: ps) :: rest else (k', ps) :: ioInsert rest k q
def addIgnoreOnly (c : CheckConfig) (k : Id) (q : Str) : CheckConfig :=
  { c with ignoreOnly := ioInsert c.ignoreOnly k q }

theorem ioHas_ioInsert (m : List (Id × List Str)) (k : Id) (q : Str) (k1 : Id) (q1 : Str) :
    IoHas (ioInsert m k q) k1 q1 ↔ IoHas m k1 q1 ∨ (k1 = k ∧ q1 = q) := by
  induction m with
  | nil =>
    have hn : ¬ IoHas [] k1 q1 := fun ⟨_, h, _⟩ => nomatch h
    simp only [ioInsert, ioHas_cons, List.mem_singleton, hn, or_false, false_or]
    exact and_congr_left' eq_comm
  | cons e rest ih =>
    unfold ioInsert
    split
    · rename_i hk
      subst hk
      simp only [ioHas_cons, List.mem_cons]
      constructor
      · rintro ((⟨h1, h2 | h2⟩) | h)
        · exact Or.inr ⟨h1.symm, h2⟩
        · exact Or.inl (Or.inl ⟨h1, h2⟩)
        · exact Or.inl (Or.inr h)
      · rintro ((⟨h1, h2⟩ | h) | ⟨h1, h2⟩)
        · exact Or.inl ⟨h1, Or.inr h2⟩
        · exact Or.inr h
        · exact Or.inl ⟨h1.symm, Or.inl h2⟩
    · simp only [ioHas_cons, ih, or_assoc]

theorem addIgnore_more (c : CheckConfig) (q : Str) : UserMoreSuppression c (addIgnore c q) :=
  ⟨fun _ => Iff.rfl, fun _ h => h, fun _ h => List.mem_cons_of_mem _ h, fun _ _ h => h, rfl⟩
theorem addExcept_more (c : CheckConfig) (e : Id) : UserMoreSuppression c (addExcept c e) :=
  ⟨fun _ => Iff.rfl, fun _ h => List.mem_cons_of_mem _ h, fun _ h => h, fun _ _ h => h, rfl⟩
theorem addIgnoreOnly_more (c : CheckConfig) (k : Id) (q : Str) : UserMoreSuppression c (addIgnoreOnly c k q) :=
  ⟨fun _ => Iff.rfl, fun _ h => h, fun _ h => h,
   fun k1 q1 h => (ioHas_ioInsert c.ignoreOnly k q k1 q1).2 (Or.inl h), rfl⟩

/-! ### … which resolves to `MoreSuppression` -/

theorem mkConfig_rules (lint : Bool) (rc : RulesConfig) (a b c : Bool) : (mkConfig lint rc a b c).rules = rc := by
  cases lint <;> rfl

theorem mkConfig_optionClauses (lint : Bool) (rc rc' : RulesConfig) (a b c : Bool) (r : Id) (f : FileInfo)
    (sp : SPath) :
    (ImportClause (mkConfig lint rc' a b c) f ↔ ImportClause (mkConfig lint rc a b c) f) ∧
    (UnstableClause (mkConfig lint rc' a b c) f ↔ UnstableClause (mkConfig lint rc a b c) f) ∧
    (CommentClause (mkConfig lint rc' a b c) r f sp ↔ CommentClause (mkConfig lint rc a b c) r f sp) := by
  cases lint <;> exact ⟨Iff.rfl, Iff.rfl, Iff.rfl⟩

theorem moreSuppression_mkConfig {lint : Bool} {rc rc' : RulesConfig} {aci iup exi aci' iup' exi' : Bool}
    (hr : ∀ r ∈ rc'.ruleIDs, r ∈ rc.ruleIDs) (hig : ∀ p ∈ rc.ignoreRootPaths, p ∈ rc'.ignoreRootPaths)
    (hio : ∀ e ∈ rc.ignoreOnly, e ∈ rc'.ignoreOnly)
    (ha : aci = true → aci' = true) (hi : iup = true → iup' = true) (he : exi = true → exi' = true) :
    MoreSuppression (mkConfig lint rc aci iup exi) (mkConfig lint rc' aci' iup' exi') := by
  cases lint
  · exact ⟨hr, hig, hio, he, hi, (nomatch ·), rfl⟩
  · exact ⟨hr, hig, hio, (nomatch ·), (nomatch ·), ha, rfl⟩

/-- User-level suppression additions resolve — through `newEnabledCheckConfig` (dedupe, sort,
    path normalisation, conflict check) and `newRulesConfig` (category expansion and deprecation
    replacement of `except` ids and `ignore_only` keys, path normalisation) — to a configuration
    that is `MoreSuppression` than before.  Options may be switched on at the same time. -/
theorem resolve_moreSuppression (allRules : List RuleRow) (lint validated : Bool) (c c' : CheckConfig)
    (rc rc' : RulesConfig) (hu : UserMoreSuppression c c')
    (h : resolve allRules lint validated c = .ok rc) (h' : resolve allRules lint validated c' = .ok rc')
    (aci iup exi aci' iup' exi' : Bool)
    (ha : aci = true → aci' = true) (hi : iup = true → iup' = true) (he : exi = true → exi' = true) :
    MoreSuppression (mkConfig lint rc aci iup exi) (mkConfig lint rc' aci' iup' exi') := by
  have hs := resolve_spec _ _ _ _ _ h
  have hs' := resolve_spec _ _ _ _ _ h'
  rw [hu.table] at hs'
  by_cases hrs : tableOf allRules lint c = []
  · rw [hs'.1 hrs, ← hs.1 hrs]
    exact moreSuppression_mkConfig (fun _ h => h) (fun _ h => h) (fun _ h => h) ha hi he
  · have S := hs.2 hrs
    have S' := hs'.2 hrs
    refine moreSuppression_mkConfig (fun r hr => ?_) (fun p hp => ?_) (fun ⟨r, p⟩ hp => ?_) ha hi he
    · exact (S.sel r).2 (Selected.mono hu.use hu.except ((S'.sel r).1 hr))
    · rcases (S.ignore p).1 hp with ⟨q, hq, hne, hn⟩
      exact (S'.ignore p).2 ⟨q, hu.ignore q hq, hne, hn⟩
    · rcases (S.ignoreOnly r p).1 hp with ⟨k, q, hq, hne, hd, hn⟩
      exact (S'.ignoreOnly r p).2 ⟨k, q, hu.ignoreOnly k q hq, hne, hd, hn⟩

/-! ### comment edits: element identity instead of positions -/

/-- The element a location points at: file (index in the image) and SOURCE PATH of the
    declaration.  Inserting or editing a comment changes neither; it does change the line and
    column numbers of everything below it. -/
def locElem (l : Option Loc) : Option (Nat × SPath) := l.map (fun x => (x.file, x.sourcePath))

/-- `a'` is the annotation `a` of the same rule, with the same message, on the same elements —
    positions (line / column) are free. -/
structure SameElement (a a' : Annot) : Prop where
  ruleId : a'.ruleId = a.ruleId
  message : a'.message = a.message
  loc : locElem a'.loc = locElem a.loc
  against : locElem a'.against = locElem a.against

theorem SameElement.refl (a : Annot) : SameElement a a := ⟨rfl, rfl, rfl, rfl⟩

/-- `img'` is `img` after a comment-only edit of its sources: the files keep path / import flag /
    package stability and carry at least the directives they carried (per element); every
    single-rule annotation of the edited image is an annotation of the original one on the same
    element (comment edits create no violation; they may shift every position, and may remove
    violations of the COMMENT_* rules). -/
structure MoreCommentsSrc (img img' : Image) : Prop where
  annots : ∀ a' ∈ img'.annots, ∃ a ∈ img.annots, SameElement a a'
  files : ∀ i, MoreComments (fileAt img.files i) (fileAt img'.files i)
  againstFiles : ∀ i, MoreComments (fileAt img.againstFiles i) (fileAt img'.againstFiles i)

theorem MoreCommentsImg.toSrc {img img' : Image} (h : MoreCommentsImg img img') : MoreCommentsSrc img img' :=
  ⟨fun a' ha' => ⟨a', by rw [← h.annots]; exact ha', SameElement.refl a'⟩, h.files, h.againstFiles⟩

theorem locElem_some {l l' : Option Loc} (h : locElem l' = locElem l) {x : Loc} (hx : l = some x) :
    ∃ x', l' = some x' ∧ x'.file = x.file ∧ x'.sourcePath = x.sourcePath := by
  subst hx
  cases l' with
  | none => simp [locElem] at h
  | some x' =>
    simp only [locElem, Option.map_some, Option.some.injEq, Prod.mk.injEq] at h
    exact ⟨x', rfl, h.1, h.2⟩

theorem LocSuppressed.mono_elem {cfg cfg' : Config} {fs fs' : List FileInfo} (hc : MoreSuppression cfg cfg')
    (hf : ∀ i, MoreComments (fileAt fs i) (fileAt fs' i)) {r : Id} {l l' : Option Loc}
    (hl : locElem l' = locElem l) (h : LocSuppressed cfg fs r l) : LocSuppressed cfg' fs' r l' := by
  rcases h with ⟨x, hx, hs⟩
  rcases locElem_some hl hx with ⟨x', hx', h1, h2⟩
  refine ⟨x', hx', ?_⟩
  rw [h1, h2]
  exact hs.mono hc (hf _)

theorem AnnotSuppressed.mono_elem {cfg cfg' : Config} {img img' : Image} (hc : MoreSuppression cfg cfg')
    (hi : MoreCommentsSrc img img') {a a' : Annot} (hs : SameElement a a')
    (h : AnnotSuppressed cfg img a) : AnnotSuppressed cfg' img' a' := by
  unfold AnnotSuppressed at h ⊢
  rw [hs.ruleId]
  rcases h with h | h
  · exact Or.inl (h.mono_elem hc hi.files hs.loc)
  · exact Or.inr (h.mono_elem hc hi.againstFiles hs.against)

/-- Position-free part of a reported annotation: file path, rule id, message. -/
def faElem (fa : FileAnnot) : Option Str × Id × String := (fa.path, fa.type, fa.message)

theorem faElem_sameElement {img img' : Image} (hf : ∀ i, (fileAt img'.files i).path = (fileAt img.files i).path)
    {a a' : Annot} (hs : SameElement a a') : faElem (toFileAnnot img' a') = faElem (toFileAnnot img a) := by
  unfold toFileAnnot faElem
  cases hl : a.loc with
  | none =>
    have : a'.loc = none := by
      have := hs.loc; rw [hl] at this
      cases hl' : a'.loc with
      | none => rfl
      | some x => rw [hl'] at this; simp [locElem] at this
    simp [this, hs.ruleId, hs.message]
  | some x =>
    rcases locElem_some hs.loc hl with ⟨x', hx', h1, _⟩
    simp [hx', hs.ruleId, hs.message, h1, hf]

theorem kept_mono_elem {cfg cfg' : Config} {img img' : Image} (hc : MoreSuppression cfg cfg')
    (hi : MoreCommentsSrc img img') {a' : Annot} (hk' : Kept cfg' img' a') :
    ∃ a, SameElement a a' ∧ Kept cfg img a := by
  rcases hk' with ⟨h1, h2, h3⟩
  rcases hi.annots a' h1 with ⟨a, ha, hs⟩
  refine ⟨a, hs, ha, ?_, fun hsup => h3 (hsup.mono_elem hc hi hs)⟩
  rw [← hs.ruleId]; exact hc.rules _ h2

theorem LocSuppressed.newly {cfg cfg' : Config} {fs fs' : List FileInfo} {r : Id} {l l' : Option Loc}
    (hl : locElem l' = locElem l) (h' : LocSuppressed cfg' fs' r l') (h : ¬ LocSuppressed cfg fs r l) :
    ∃ x', l' = some x' ∧ Suppressed cfg' r (fileAt fs' x'.file) x'.sourcePath ∧
      ¬ Suppressed cfg r (fileAt fs x'.file) x'.sourcePath := by
  rcases h' with ⟨x', hx', hs⟩
  rcases locElem_some hl.symm hx' with ⟨x, hx, h1, h2⟩
  exact ⟨x', hx', hs, fun hh => h ⟨x, hx, by rw [h1, h2]; exact hh⟩⟩

theorem kept_gone {cfg cfg' : Config} {img img' : Image} {a a' : Annot} (hs : SameElement a a')
    (ha' : a' ∈ img'.annots) (hk : Kept cfg img a) (hk' : ¬ Kept cfg' img' a') :
    a'.ruleId ∉ cfg'.rules.ruleIDs ∨
    (∃ x', a'.loc = some x' ∧ Suppressed cfg' a'.ruleId (fileAt img'.files x'.file) x'.sourcePath ∧
      ¬ Suppressed cfg a'.ruleId (fileAt img.files x'.file) x'.sourcePath) ∨
    (∃ x', a'.against = some x' ∧ Suppressed cfg' a'.ruleId (fileAt img'.againstFiles x'.file) x'.sourcePath ∧
      ¬ Suppressed cfg a'.ruleId (fileAt img.againstFiles x'.file) x'.sourcePath) := by
  have hn : ¬ AnnotSuppressed cfg img a := hk.2.2
  rw [AnnotSuppressed, ← hs.ruleId] at hn
  by_cases hr : a'.ruleId ∈ cfg'.rules.ruleIDs
  · have hs' : AnnotSuppressed cfg' img' a' := Classical.byContradiction fun hn => hk' ⟨ha', hr, hn⟩
    exact Or.inr (hs'.imp (fun h => h.newly hs.loc fun hh => hn (Or.inl hh))
      (fun h => h.newly hs.against fun hh => hn (Or.inr hh)))
  · exact Or.inl hr

theorem newlySuppressed_of_kept {cfg cfg' : Config} {img : Image} {a : Annot}
    (hk : Kept cfg img a) (hk' : ¬ Kept cfg' img a) :
    a.ruleId ∉ cfg'.rules.ruleIDs ∨
    (∃ x, a.loc = some x ∧ NewlySuppressed cfg cfg' a.ruleId (fileAt img.files x.file) x.sourcePath) ∨
    (∃ x, a.against = some x ∧ NewlySuppressed cfg cfg' a.ruleId (fileAt img.againstFiles x.file) x.sourcePath) :=
  (kept_gone (SameElement.refl a) hk.1 hk hk').imp_right (Or.imp
    (fun ⟨x, hx, h', h⟩ => ⟨x, hx, newlySuppressed_of h' h⟩) (fun ⟨x, hx, h', h⟩ => ⟨x, hx, newlySuppressed_of h' h⟩))

/-! ### scope of a user-level addition -/

def PathCovers (img : Image) (a : Annot) (p : Str) : Prop :=
  (∃ x, a.loc = some x ∧ equalsOrContainsPath p (fileAt img.files x.file).path = true) ∨
  (∃ x, a.against = some x ∧ equalsOrContainsPath p (fileAt img.againstFiles x.file).path = true)

/-- Why an annotation kept under `c` is no longer kept under `c'`, in the user's terms: a NEW
    `except` id denoting the annotation's rule, a NEW `ignore` path whose normal form covers the
    annotation's file, or a NEW `ignore_only` entry whose key denotes the annotation's rule and
    whose path's normal form covers the annotation's file. -/
def UserScope (rs : List RuleRow) (c c' : CheckConfig) (img : Image) (a : Annot) : Prop :=
  (∃ e ∈ c'.except, e ∉ c.except ∧ blankId e = false ∧ a.ruleId ∈ denote rs e) ∨
  (∃ q ∈ c'.ignore, q ∉ c.ignore ∧ ∃ p, normalizeAndValidate q = .ok p ∧ PathCovers img a p) ∨
  (∃ k q, IoHas c'.ignoreOnly k q ∧ ¬ IoHas c.ignoreOnly k q ∧ a.ruleId ∈ denote rs k ∧
    ∃ p, normalizeAndValidate q = .ok p ∧ PathCovers img a p)

theorem user_scoped (allRules : List RuleRow) (lint validated : Bool) (c c' : CheckConfig)
    (rc rc' : RulesConfig) (hu : UserMoreSuppression c c')
    (h : resolve allRules lint validated c = .ok rc) (h' : resolve allRules lint validated c' = .ok rc')
    (aci iup exi : Bool) (img : Image) (a : Annot)
    (hk : Kept (mkConfig lint rc aci iup exi) img a) (hk' : ¬ Kept (mkConfig lint rc' aci iup exi) img a) :
    UserScope (tableOf allRules lint c) c c' img a := by
  have hs := resolve_spec _ _ _ _ _ h
  have hs' := resolve_spec _ _ _ _ _ h'
  rw [hu.table] at hs'
  have hk2 := hk.2.1
  rw [mkConfig_rules] at hk2
  by_cases hrs : tableOf allRules lint c = []
  · rw [hs.1 hrs] at hk2; cases hk2
  have S := hs.2 hrs
  have S' := hs'.2 hrs
  -- with the same options, a clause that newly applies is a new ignore path or ignore_only entry
  have key : ∀ (f : FileInfo) (sp : SPath),
      (∀ p, equalsOrContainsPath p f.path = true → PathCovers img a p) →
      NewlySuppressed (mkConfig lint rc aci iup exi) (mkConfig lint rc' aci iup exi) a.ruleId f sp →
      UserScope (tableOf allRules lint c) c c' img a := by
    intro f sp hcovers hns
    have hopt := mkConfig_optionClauses lint rc rc' aci iup exi a.ruleId f sp
    rcases hns with hc | hc | hc | hc | hc
    · exact absurd (hopt.1.1 hc.1) hc.2
    · rcases hc with ⟨p, hp, hnp, hcov⟩
      rw [mkConfig_rules] at hp hnp
      rcases (S'.ignore p).1 hp with ⟨q, hq, hne, hn⟩
      exact .inr (.inl ⟨q, hq, fun hin => hnp ((S.ignore p).2 ⟨q, hin, hne, hn⟩), p, hn, hcovers p hcov⟩)
    · rcases hc with ⟨p, hp, hnp, hcov⟩
      rw [mkConfig_rules] at hp hnp
      rcases (S'.ignoreOnly _ p).1 hp with ⟨k, q, hq, hne, hd, hn⟩
      exact .inr (.inr ⟨k, q, hq, fun hin => hnp ((S.ignoreOnly _ p).2 ⟨k, q, hin, hne, hd, hn⟩), hd, p, hn,
        hcovers p hcov⟩)
    · exact absurd (hopt.2.1.1 hc.1) hc.2
    · exact absurd (hopt.2.2.1 hc.1) hc.2
  rcases newlySuppressed_of_kept hk hk' with hr | ⟨x, hx, hns⟩ | ⟨x, hx, hns⟩
  · -- the rule is no longer selected, with the same `use`: a new `except` id denotes it
    rw [mkConfig_rules] at hr
    rcases (S.sel _).1 hk2 with ⟨⟨u, hu1, hx⟩, hn⟩
    rcases Classical.not_not.1 fun hne =>
      hr ((S'.sel _).2 ⟨⟨u, (mem_effectiveUse_congr _ _ _ hu.use u).2 hu1, hx⟩, hne⟩) with ⟨e, he, hb, hd⟩
    exact .inl ⟨e, he, fun hin => hn ⟨e, hin, hb, hd⟩, hb, hd⟩
  · exact key _ _ (fun p hcov => .inl ⟨x, hx, hcov⟩) hns
  · exact key _ _ (fun p hcov => .inr ⟨x, hx, hcov⟩) hns

/-! ### directives only reach enclosing elements -/

def AddsPrefixes (full : SPath) (r : Except Unit (Option St × List SPath)) : Prop :=
  ∀ st' ps, r = .ok (st', ps) → ∀ p ∈ ps, p <+: full

theorem AddsPrefixes.error {full : SPath} : AddsPrefixes full (.error ()) :=
  fun _ _ h => nomatch h

theorem AddsPrefixes.ok {full : SPath} (st' : Option St) {ps : List SPath} (h : ∀ p ∈ ps, p <+: full) :
    AddsPrefixes full (.ok (st', ps)) := by
  intro _ _ e
  cases e
  exact h

theorem AddsPrefixes.ite {full : SPath} {c : Prop} [Decidable c] {a b : Except Unit (Option St × List SPath)}
    (ha : AddsPrefixes full a) (hb : AddsPrefixes full b) : AddsPrefixes full (if c then a else b) := by
  split
  · exact ha
  · exact hb

theorem step_addsPrefixes (st : St) (tok : Nat) (full : SPath) (i : Nat) :
    AddsPrefixes full (step st tok full i) := by
  have hnil : ∀ p ∈ ([] : List SPath), p <+: full := fun _ h => nomatch h
  have hfull : ∀ p ∈ [full], p <+: full := fun p h => by
    rw [List.mem_singleton.1 h]; exact List.prefix_refl _
  have hcur : ∀ p ∈ [curPath full i], p <+: full := fun p h => by
    rw [List.mem_singleton.1 h]; exact List.take_prefix _ _
  -- per state, `step` is a tree of `if`s whose leaves are an error or add `[]`, `[full]` or
  -- `[curPath full i]`; walking the tree is far cheaper than splitting a hypothesis `step … = .ok _`
  cases st <;> dsimp only [step] <;>
    repeat (first | apply AddsPrefixes.ite | exact .error | exact .ok _ hnil | exact .ok _ hcur | exact .ok _ hfull)

theorem runDfa_prefixes (full : SPath) : ∀ (ts : List Nat) (st : Option St) (i : Nat) (ps : List SPath),
    runDfa full st ts i = .ok ps → ∀ p ∈ ps, p <+: full
  | [], st, i, ps, h => by
    cases st <;> (simp [runDfa] at h; subst h; simp)
  | t :: ts, none, i, ps, h => by simp [runDfa] at h
  | t :: ts, some st, i, ps, h => by
    unfold runDfa at h
    cases h1 : step st t full i with
    | error e => simp [h1] at h
    | ok r =>
      rcases r with ⟨st', ps1⟩
      cases h2 : runDfa full st' ts (i + 1) with
      | error e => simp [h1, h2] at h
      | ok rest =>
        simp only [h1, h2, Except.ok.injEq] at h
        subst h
        intro p hp
        rcases List.mem_append.1 hp with hp | hp
        · exact step_addsPrefixes st t full i st' ps1 h1 p hp
        · exact runDfa_prefixes full ts st' (i + 1) rest h2 p hp

/-- Every associated source path (where a comment directive is looked for) is a prefix of the
    annotation's source path: the annotated element itself or a declaration ENCLOSING it. -/
theorem associated_are_prefixes (sp : SPath) (ps : List SPath) (h : associatedSourcePaths sp = .ok ps) :
    ∀ p ∈ ps, p <+: sp :=
  runDfa_prefixes sp sp (some .start) 0 ps h

theorem Suppressed.newly_comment {cfg : Config} {f f' : FileInfo} (hm : MoreComments f f') {r : Id} {sp : SPath}
    (h' : Suppressed cfg r f' sp) (h : ¬ Suppressed cfg r f sp) :
    cfg.allowCommentIgnores = true ∧ ∃ p, p <+: sp ∧
      commentIgnoresAt f' cfg.commentIgnorePrefix r p = true ∧
      commentIgnoresAt f cfg.commentIgnorePrefix r p = false := by
  rcases h' with hc | hc | hc | hc | hc
  · exact absurd (Or.inl ⟨hc.1, by rw [← hm.isImport]; exact hc.2⟩) h
  · rcases hc with ⟨p, hp, he⟩
    exact absurd (Or.inr (Or.inl ⟨p, hp, by rw [← hm.path]; exact he⟩)) h
  · rcases hc with ⟨p, hp, he⟩
    exact absurd (Or.inr (Or.inr (Or.inl ⟨p, hp, by rw [← hm.path]; exact he⟩))) h
  · exact absurd (Or.inr (Or.inr (Or.inr (Or.inl ⟨hc.1, by rw [← hm.unstable]; exact hc.2⟩)))) h
  · rcases hc with ⟨c1, c2, c3, ps, hps, p, hp, hd⟩
    refine ⟨c1, p, associated_are_prefixes _ _ hps p hp, hd, ?_⟩
    cases hb : commentIgnoresAt f cfg.commentIgnorePrefix r p with
    | false => rfl
    | true => exact absurd (Or.inr (Or.inr (Or.inr (Or.inr ⟨c1, c2, c3, ps, hps, p, hp, hb⟩)))) h

/-! ### the (length-prefixed) dedup key is injective on what `report` produces -/

theorem natStr_eq_itoa (n : Nat) : natStr n = BufModel.Annot.itoa n := by
  unfold natStr BufModel.Annot.itoa
  show (Nat.repr n).toList = _
  simp [Nat.repr]

theorem utf8LenStr_eq : ∀ s : Str, utf8LenStr s = BufModel.Annot.utf8Len s
  | [] => rfl
  | c :: cs => by simp [utf8LenStr, BufModel.Annot.utf8Len, utf8LenStr_eq cs]

theorem lpField_eq_lp : lpField = BufModel.Annot.lp := by
  funext s
  unfold lpField BufModel.Annot.lp
  rw [natStr_eq_itoa, utf8LenStr_eq]

theorem natStr_inj {a b : Nat} (h : natStr a = natStr b) : a = b := by
  rw [natStr_eq_itoa, natStr_eq_itoa] at h
  exact BufModel.Annot.itoa_inj h

/-- The dedup key determines the seven fields it is made of (the path as the hash sees it: ""
    for an annotation without file). -/
theorem dedupKey_fields {fa fb : FileAnnot} (h : dedupKey fa = dedupKey fb) :
    fa.path.getD [] = fb.path.getD [] ∧ fa.startLine = fb.startLine ∧ fa.startCol = fb.startCol ∧
    fa.endLine = fb.endLine ∧ fa.endCol = fb.endCol ∧ fa.type = fb.type ∧ fa.message = fb.message := by
  unfold dedupKey at h
  rw [lpField_eq_lp] at h
  have := BufModel.Annot.flatMap_lp_inj _ _ (by simp) h
  simp only [List.cons.injEq, and_true] at this
  rcases this with ⟨h1, h2, h3, h4, h5, h6, h7⟩
  exact ⟨h1, natStr_inj h2, natStr_inj h3, natStr_inj h4, natStr_inj h5,
    String.toList_inj.1 h6, String.toList_inj.1 h7⟩

/-- What `annotationToFileAnnotation` produces: no file ⇔ start line 0 (locations are 1-based). -/
def FaWF (fa : FileAnnot) : Prop := fa.path = none ↔ fa.startLine = 0

theorem toFileAnnot_wf (img : Image) (a : Annot) : FaWF (toFileAnnot img a) := by
  unfold FaWF toFileAnnot
  cases a.loc <;> simp

theorem dedupKey_inj_wf {fa fb : FileAnnot} (ha : FaWF fa) (hb : FaWF fb) (h : dedupKey fa = dedupKey fb) :
    fa = fb := by
  rcases dedupKey_fields h with ⟨h1, h2, h3, h4, h5, h6, h7⟩
  have hp : fa.path = fb.path := by
    unfold FaWF at ha hb
    cases hpa : fa.path with
    | none =>
      have := ha.1 hpa
      rw [h2] at this
      rw [hb.2 this]
    | some p =>
      cases hpb : fb.path with
      | none =>
        have := hb.1 hpb
        rw [← h2] at this
        rw [ha.2 this] at hpa; cases hpa
      | some p' =>
        rw [hpa, hpb] at h1
        simp only [Option.getD_some] at h1
        rw [h1]
  cases fa; cases fb
  simp only [FileAnnot.mk.injEq]
  exact ⟨hp, h2, h3, h4, h5, h6, h7⟩

theorem mem_fileAnnotationSet {l : List FileAnnot} (hwf : ∀ fa ∈ l, FaWF fa) (fa : FileAnnot) :
    fa ∈ fileAnnotationSet l ↔ fa ∈ l := by
  have hs := fileAnnotationSet_spec l
  refine ⟨hs.1 fa, fun h => ?_⟩
  rcases hs.2 fa h with ⟨fb, hfb, hkey⟩
  rw [← dedupKey_inj_wf (hwf fb (hs.1 fb hfb)) (hwf fa h) hkey]
  exact hfb

theorem report_mem_iff (cfg : Config) (img : Image) (out : List FileAnnot) (h : report cfg img = .ok out)
    (fa : FileAnnot) : fa ∈ out ↔ ∃ a, Kept cfg img a ∧ toFileAnnot img a = fa := by
  unfold report at h
  cases hf : filterAnnotations cfg img (candidates cfg.rules.ruleIDs img) with
  | error e => simp [hf] at h
  | ok kept =>
    simp only [hf, Except.ok.injEq] at h
    subst h
    rw [mem_fileAnnotationSet (fun fb hfb => by
      rcases List.mem_map.1 hfb with ⟨a, _, rfl⟩
      exact toFileAnnot_wf img a)]
    simp only [List.mem_map, mem_filterAnnotations_candidates hf]

/-! ### a worked example shared by the non-vacuity `example`s of Props/C06.lean -/

/-- Lint annotations in two directories. -/
def exImg2 : Image :=
  { files := [{ path := "a/v1/a.proto".toList, isImport := false, unstable := false, comments := [] },
              { path := "b/b.proto".toList, isImport := false, unstable := false, comments := [] }],
    againstFiles := [],
    annots := [{ ruleId := "MESSAGE_PASCAL_CASE", loc := some ⟨0, [4, 0, 1], 3, 8, 3, 19⟩, against := none, message := "m" },
               { ruleId := "FIELD_LOWER_SNAKE_CASE", loc := some ⟨0, [4, 0, 2, 0, 1], 4, 9, 4, 17⟩, against := none, message := "f" },
               { ruleId := "ENUM_PASCAL_CASE", loc := some ⟨1, [5, 0, 1], 2, 5, 2, 9⟩, against := none, message := "e" }] }

/-- `exImg2` after a comment-only edit: a directive line was INSERTED above message 0 of
    a/v1/a.proto, so every position below it moved down by one line; source paths are unchanged. -/
def exImg2c : Image :=
  { files := [{ path := "a/v1/a.proto".toList, isImport := false, unstable := false,
                comments := [([4, 0], " buf:lint:ignore FIELD_LOWER_SNAKE_CASE\n".toList)] },
              { path := "b/b.proto".toList, isImport := false, unstable := false, comments := [] }],
    againstFiles := [],
    annots := [{ ruleId := "MESSAGE_PASCAL_CASE", loc := some ⟨0, [4, 0, 1], 4, 8, 4, 19⟩, against := none, message := "m" },
               { ruleId := "FIELD_LOWER_SNAKE_CASE", loc := some ⟨0, [4, 0, 2, 0, 1], 5, 9, 5, 17⟩, against := none, message := "f" },
               { ruleId := "ENUM_PASCAL_CASE", loc := some ⟨1, [5, 0, 1], 2, 5, 2, 9⟩, against := none, message := "e" }] }

/-- the field annotation before / after the edit -/
def exF : Annot := { ruleId := "FIELD_LOWER_SNAKE_CASE", loc := some ⟨0, [4, 0, 2, 0, 1], 4, 9, 4, 17⟩, against := none, message := "f" }
def exF' : Annot := { ruleId := "FIELD_LOWER_SNAKE_CASE", loc := some ⟨0, [4, 0, 2, 0, 1], 5, 9, 5, 17⟩, against := none, message := "f" }

def exC : CheckConfig :=
  { use := ["MESSAGE_PASCAL_CASE", "FIELD_LOWER_SNAKE_CASE", "ENUM_PASCAL_CASE", "MESSAGE_PASCAL_CASE"], except := [],
    ignore := [], ignoreOnly := [("ENUM_PASCAL_CASE", ["c".toList])], disableBuiltin := false }

theorem noComments_ignoresAt (f : FileInfo) (hf : f.comments = []) (pre : Str) (r : Id) (p : SPath) :
    commentIgnoresAt f pre r p = false := by
  simp [commentIgnoresAt, leadingComments, hf, splitTrimLinesNoEmpty, splitOnChar, trimSpace]

/-- positions differ, elements agree, one more directive -/
theorem exImg2_moreComments : MoreCommentsSrc exImg2 exImg2c := by
  refine ⟨?_, ?_, ?_⟩
  · intro a' ha'
    simp only [exImg2c, List.mem_cons, List.not_mem_nil, or_false] at ha'
    rcases ha' with rfl | rfl | rfl
    · exact ⟨{ ruleId := "MESSAGE_PASCAL_CASE", loc := some ⟨0, [4, 0, 1], 3, 8, 3, 19⟩, against := none, message := "m" },
        by simp [exImg2], ⟨rfl, rfl, rfl, rfl⟩⟩
    · exact ⟨exF, by simp [exImg2, exF], ⟨rfl, rfl, rfl, rfl⟩⟩
    · exact ⟨{ ruleId := "ENUM_PASCAL_CASE", loc := some ⟨1, [5, 0, 1], 2, 5, 2, 9⟩, against := none, message := "e" },
        by simp [exImg2], ⟨rfl, rfl, rfl, rfl⟩⟩
  · intro i
    rcases i with _ | _ | i
    · exact ⟨rfl, rfl, rfl, fun pre r p h => by rw [noComments_ignoresAt _ rfl] at h; cases h⟩
    · exact MoreComments.refl _
    · exact MoreComments.refl _
  · intro i; exact MoreComments.refl _

end BufModel.Rules
