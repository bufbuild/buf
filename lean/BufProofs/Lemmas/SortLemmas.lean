/-! The one stable insertion sort behind the sorts of the models: `x` goes in front of the first `y`
    for which `p y x` fails.  Each model sort is shown equal to `isortBy` for its `p` in the lemma
    file that first needs it, and takes its facts from here. -/

universe u
variable {α : Type u} (p : α → α → Bool)

def insBy (x : α) : List α → List α
  | [] => [x]
  | y :: ys => if p y x then y :: insBy x ys else x :: y :: ys

def isortBy : List α → List α
  | [] => []
  | x :: xs => insBy p x (isortBy xs)

/-! ### recognising the sort

Whatever satisfies the two equations of `insBy` is `insBy`; for the models' definitions the equations hold
by `rfl`.  A model that asks `q x y` ("may `x` stand before `y`?") instead has `p y x := !q x y`. -/

theorem eq_insBy {ins : α → List α → List α} (h0 : ∀ x, ins x [] = [x])
    (hc : ∀ x y ys, ins x (y :: ys) = if p y x then y :: ins x ys else x :: y :: ys) (x : α) (l : List α) :
    ins x l = insBy p x l := by
  induction l with
  | nil => exact h0 x
  | cons y ys ih => rw [hc, ih, insBy]

theorem eq_insBy_not {q : α → α → Bool} {ins : α → List α → List α} (h0 : ∀ x, ins x [] = [x])
    (hc : ∀ x y ys, ins x (y :: ys) = if q x y then x :: y :: ys else y :: ins x ys) (x : α) (l : List α) :
    ins x l = insBy (fun y x => !q x y) x l := by
  refine eq_insBy _ h0 (fun x y ys => ?_) x l
  rw [hc]
  cases q x y <;> rfl

theorem eq_isortBy {ins : α → List α → List α} {sort : List α → List α} (hi : ∀ x l, ins x l = insBy p x l)
    (h0 : sort [] = []) (hc : ∀ x xs, sort (x :: xs) = ins x (sort xs)) (l : List α) : sort l = isortBy p l := by
  induction l with
  | nil => exact h0
  | cons x xs ih => rw [hc, ih, hi, isortBy]

theorem insBy_perm (x : α) (l : List α) : (insBy p x l).Perm (x :: l) := by
  induction l with
  | nil => exact .refl _
  | cons y ys ih =>
    unfold insBy
    split
    · exact (ih.cons y).trans (.swap x y ys)
    · exact .refl _

theorem isortBy_perm (l : List α) : (isortBy p l).Perm l := by
  induction l with
  | nil => exact .refl _
  | cons x xs ih => exact (insBy_perm p x _).trans (ih.cons x)

theorem mem_insBy {x z : α} {l : List α} : z ∈ insBy p x l ↔ z = x ∨ z ∈ l :=
  (insBy_perm p x l).mem_iff.trans List.mem_cons

theorem mem_isortBy {z : α} {l : List α} : z ∈ isortBy p l ↔ z ∈ l := (isortBy_perm p l).mem_iff

/-! ### the result is sorted

`R` is the order the result is read in: it has to hold from `y` to `x` when `p y x` holds and from `x`
to `y` when it fails.  For a total preorder `le` take `R a b := le a b = true`, for a strict weak order
`lt` take `R a b := lt b a = false`. -/

section Sorted
variable {p} {R : α → α → Prop} (hp : ∀ a b, p a b = true → R a b) (hn : ∀ a b, p a b = false → R b a)
  (htr : ∀ a b c, R a b → R b c → R a c)
include hp hn htr

theorem insBy_pairwise (x : α) (l : List α) (hl : l.Pairwise R) : (insBy p x l).Pairwise R := by
  induction l with
  | nil => exact List.pairwise_singleton R x
  | cons y ys ih =>
    rw [List.pairwise_cons] at hl
    unfold insBy
    split
    · rename_i hyx
      refine List.pairwise_cons.mpr ⟨fun z hz => ?_, ih hl.2⟩
      rcases (mem_insBy p).mp hz with rfl | hz
      · exact hp _ _ hyx
      · exact hl.1 z hz
    · rename_i hyx
      have hxy : R x y := hn _ _ (Bool.not_eq_true _ ▸ hyx)
      refine List.pairwise_cons.mpr ⟨fun z hz => ?_, List.pairwise_cons.mpr hl⟩
      rcases List.mem_cons.mp hz with rfl | hz
      · exact hxy
      · exact htr _ _ _ hxy (hl.1 z hz)

theorem isortBy_pairwise (l : List α) : (isortBy p l).Pairwise R := by
  induction l with
  | nil => exact .nil
  | cons x xs ih => exact insBy_pairwise hp hn htr x _ ih

theorem isortBy_eq_of_perm {l₁ l₂ : List α} (h : l₁.Perm l₂)
    (hanti : ∀ a b, a ∈ l₁ → b ∈ l₁ → R a b → R b a → a = b) : isortBy p l₁ = isortBy p l₂ :=
  List.Perm.eq_of_pairwise
    (fun a b ha hb => hanti a b ((mem_isortBy p).mp ha) (h.mem_iff.mpr ((mem_isortBy p).mp hb)))
    (isortBy_pairwise hp hn htr l₁) (isortBy_pairwise hp hn htr l₂)
    ((isortBy_perm p l₁).trans (h.trans (isortBy_perm p l₂).symm))

end Sorted

theorem isortBy_eq_self {l : List α} (h : l.Pairwise (fun a b => p b a = false)) : isortBy p l = l := by
  induction l with
  | nil => rfl
  | cons x xs ih =>
    rw [List.pairwise_cons] at h
    show insBy p x (isortBy p xs) = _
    rw [ih h.2]
    cases xs with
    | nil => rfl
    | cons y ys =>
      unfold insBy
      rw [if_neg (Bool.not_eq_true _ ▸ h.1 y List.mem_cons_self)]

theorem insBy_filter (c : α → Bool) (x : α) (l : List α) (h : ∀ y, p y x = true → c x = true → c y = false) :
    (insBy p x l).filter c = (x :: l).filter c := by
  induction l with
  | nil => rfl
  | cons y ys ih =>
    unfold insBy
    split
    · rename_i hyx
      rw [List.filter_cons, ih]
      cases hx : c x
      · simp only [List.filter_cons, hx]
        rfl
      · simp only [List.filter_cons, hx, h y hyx hx]
        rfl
    · rfl

/-- Stability: a class `c` whose members never pass each other keeps its source order. -/
theorem isortBy_filter (c : α → Bool) (l : List α) (h : ∀ x y, p y x = true → c x = true → c y = false) :
    (isortBy p l).filter c = l.filter c := by
  induction l with
  | nil => rfl
  | cons x xs ih =>
    show (insBy p x (isortBy p xs)).filter c = _
    rw [insBy_filter p c x _ (h x), List.filter_cons, List.filter_cons, ih]
