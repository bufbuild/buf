import BufModel.MultiFail
import BufProofs.Lemmas.DepsLemmas
/-
  Erasure: without unparsable files and documentation files, forgetting the identity of the error
  turns the id-carrying traversal of BufModel.MultiFail into `Graph.moduleDeps`.
  One scan in closed form: it fails with the FIRST of the module's `scanErrs`, and otherwise appends
  `discover` (the owners of the imports not yet known, in discovery order).
  Invariance: two enumerations of one workspace (`WalkPerm`: the files of each module in another
  order) give the same `moduleDepsE` when no module has two scan failures.  The proof is a simulation
  between the two runs; its relation lets the dep maps differ by a permutation, which the final sort
  removes because the keys are unique.
-/
namespace BufModel.MultiFail
open BufModel.Path BufModel.Graph

/-! ### erasure -/

def eraseE {α : Type} : Except MFErr α → Except DErr α
  | .ok a => .ok a
  | .error e => .error e.erase

theorem mf_hasPathE_nodocs (t : MFWS) (hd : t.docs = []) (m : Nat) (p : Str) : hasPathE t m p = hasPath t.ws m p := by
  simp [hasPathE, hd]

theorem mf_ownerE_nodocs (t : MFWS) (hd : t.docs = []) (p : Str) : ownerE t p = owner t.ws p := by
  unfold ownerE owner providersE providers
  simp only [mf_hasPathE_nodocs t hd]
  generalize List.filter (fun m => hasPath t.ws m p) (List.range t.ws.mods.length) = l
  match l with
  | [] => rfl
  | [_] => rfl
  | _ :: _ :: _ => rfl

/-! ### what one scan does -/

/-- the owners of the imports `ps`, other than `self` and the already known `ks`, each once, in
    discovery order. -/
def discover (t : MFWS) (self : Nat) : List Str → List Nat → List Nat
  | [], _ => []
  | p :: ps, ks =>
    match ownerE t p with
    | .one m =>
      if m = self then discover t self ps ks
      else if m ∈ ks then discover t self ps ks
      else m :: discover t self ps (ks ++ [m])
    | _ => discover t self ps ks

theorem discover_eq_newDeps (t : MFWS) (self : Nat) : ∀ (ps : List Str) (ks : List Nat),
    discover t self ps ks = newDeps (ownerE t) self ps ks := by
  intro ps
  induction ps with
  | nil => intro ks; rfl
  | cons p ps ih =>
    intro ks
    simp only [discover, newDeps]
    cases ownerE t p with
    | one m =>
      by_cases h1 : m = self
      · simp [h1, ih]
      · by_cases h2 : m ∈ ks
        · simp [h1, h2, ih]
        · simp [h1, h2, ih]
    | none => exact ih ks
    | dup => exact ih ks

theorem mf_scanImportsE_eq (t : MFWS) (self : Nat) (dir : Bool) (file : Str) :
    ∀ (ps : List Str) (d : DepMap) (nw : List Nat),
      scanImportsE t self dir file ps d nw =
        match (ps.filterMap (importErr t file)).head? with
        | some e => .error e
        | none => .ok (d ++ (discover t self ps (DepMap.keys d)).map (fun k => (k, dir)),
                       nw ++ discover t self ps (DepMap.keys d)) := by
  intro ps
  induction ps with
  | nil => intro d nw; simp [scanImportsE, discover]
  | cons p ps ih =>
    intro d nw
    simp only [scanImportsE, discover, List.filterMap_cons, importErr]
    cases ho : ownerE t p with
    | none =>
      simp only []
      cases hw : isWkt t.ws p with
      | true => simp only [if_true]; exact ih d nw
      | false => simp
    | dup => simp
    | one k =>
      simp only []
      by_cases h1 : k = self
      · simp only [h1, if_true]; exact ih d nw
      · simp only [h1, if_false]
        by_cases h2 : k ∈ DepMap.keys d
        · simp only [h2, if_true]; exact ih d nw
        · simp only [h2, if_false]
          rw [ih, keys_append, show DepMap.keys [(k, dir)] = [k] from rfl]
          cases (ps.filterMap (importErr t file)).head? with
          | some e => rfl
          | none => simp [List.append_assoc]

theorem mf_discover_append (t : MFWS) (self : Nat) :
    ∀ (a b : List Str) (ks : List Nat),
      discover t self (a ++ b) ks = discover t self a ks ++ discover t self b (ks ++ discover t self a ks) := by
  intro a
  induction a with
  | nil => intro b ks; simp [discover]
  | cons p ps ih =>
    intro b ks
    simp only [List.cons_append, discover]
    cases ownerE t p with
    | one m =>
      by_cases h1 : m = self
      · simp [h1, ih]
      · by_cases h2 : m ∈ ks
        · simp [h1, h2, ih]
        · simp [h1, h2, ih, List.append_assoc]
    | none => exact ih b ks
    | dup => exact ih b ks

/-- The scan of the files of a module in walk order: the FIRST scan failure in walk order decides;
    otherwise the owners discovered over all imports are appended. -/
theorem mf_scanFilesE_eq (t : MFWS) (self : Nat) (dir : Bool) :
    ∀ (fs : List PFile) (d : DepMap) (nw : List Nat),
      scanFilesE t self dir fs d nw =
        match (fs.flatMap (fileErrs t self)).head? with
        | some e => .error e
        | none => .ok (d ++ (discover t self (fs.flatMap (·.imports)) (DepMap.keys d)).map (fun k => (k, dir)),
                       nw ++ discover t self (fs.flatMap (·.imports)) (DepMap.keys d)) := by
  intro fs
  induction fs with
  | nil => intro d nw; simp [scanFilesE, discover]
  | cons f fs ih =>
    intro d nw
    simp only [scanFilesE, List.flatMap_cons, fileErrs]
    cases hb : t.broken.contains (self, f.path) with
    | true => simp
    | false =>
      simp only [Bool.false_eq_true, if_false, List.head?_append]
      rw [mf_scanImportsE_eq]
      cases he : (f.imports.filterMap (importErr t f.path)).head? with
      | some e => simp
      | none =>
        simp only [Option.none_or]
        rw [ih, mf_discover_append, keys_append, keys_map_pair]
        cases (fs.flatMap (fileErrs t self)).head? with
        | some e => rfl
        | none => simp [List.append_assoc]

theorem mf_mem_discover (t : MFWS) (self : Nat) (ps : List Str) (ks : List Nat) (x : Nat) :
    x ∈ discover t self ps ks ↔ x ≠ self ∧ x ∉ ks ∧ ∃ p ∈ ps, ownerE t p = .one x := by
  rw [discover_eq_newDeps]
  exact mem_newDeps _ _ _ _ _

theorem mf_nodup_discover (t : MFWS) (self : Nat) (ps : List Str) (ks : List Nat) :
    (discover t self ps ks).Nodup := by
  rw [discover_eq_newDeps]
  exact nodup_newDeps _ _ _ _

/-! ### erasure, continued: the traversal -/

theorem importErr_erase (t : MFWS) (hd : t.docs = []) (file p : Str) :
    (importErr t file p).map MFErr.erase = importFault t.ws p := by
  unfold importErr importFault
  rw [mf_ownerE_nodocs t hd]
  cases owner t.ws p with
  | none => cases isWkt t.ws p <;> rfl
  | dup => rfl
  | one _ => rfl

theorem scanErrs_erase (t : MFWS) (hb : t.broken = []) (hd : t.docs = []) (m : Nat) : ∀ fs : List PFile,
    (fs.flatMap (fileErrs t m)).map MFErr.erase = (fs.flatMap (·.imports)).filterMap (importFault t.ws)
  | [] => rfl
  | f :: fs => by
    rw [List.flatMap_cons, List.flatMap_cons, List.map_append, List.filterMap_append, scanErrs_erase t hb hd m fs]
    congr 1
    simp only [fileErrs, hb, List.contains_nil, Bool.false_eq_true, if_false, List.map_filterMap]
    exact congrArg (fun g => f.imports.filterMap g) (funext (importErr_erase t hd f.path))

/-- Without unparsable files and documentation files the scan of a module, identities forgotten,
    is the import scan of Graph.lean: the two closed forms agree. -/
theorem mf_scanFilesE_erase (t : MFWS) (hb : t.broken = []) (hd : t.docs = []) (m : Nat) (dir : Bool)
    (fs : List PFile) (d : DepMap) (nw : List Nat) :
    eraseE (scanFilesE t m dir fs d nw) = scanImports t.ws m dir (fs.flatMap (·.imports)) d nw := by
  rw [mf_scanFilesE_eq, scanImports_eq, ← scanErrs_erase t hb hd m fs, List.head?_map, discover_eq_newDeps,
    show ownerE t = owner t.ws from funext (mf_ownerE_nodocs t hd)]
  cases (fs.flatMap (fileErrs t m)).head? <;> rfl

theorem mf_foldE_erase {β σ : Type} (f : β → σ → Except MFErr σ) (g : β → σ → Except DErr σ)
    (h : ∀ c s, eraseE (f c s) = g c s) : ∀ (cs : List β) (s : σ), eraseE (foldE f cs s) = foldE g cs s := by
  intro cs
  induction cs with
  | nil => intro s; simp [foldE, eraseE]
  | cons c cs ih =>
    intro s
    simp only [foldE]
    rw [← h c s]
    cases hf : f c s with
    | error e => simp [eraseE]
    | ok s' => simp only [eraseE]; exact ih s'

theorem mf_depsRecE_erase (t : MFWS) (hb : t.broken = []) (hd : t.docs = []) :
    ∀ (fuel m : Nat) (dir : Bool) (par : List Nat) (s : List Nat × DepMap),
      eraseE (depsRecE t fuel m dir par s) = depsRec t.ws fuel m dir par s := by
  intro fuel
  induction fuel with
  | zero => intro m dir par s; simp [depsRecE, depsRecWith, depsRec, eraseE, MFErr.erase]
  | succ fuel ih =>
    intro m dir par s
    obtain ⟨vis, d⟩ := s
    simp only [depsRecE, depsRecWith, depsRec, allImports]
    split
    · simp [eraseE, MFErr.erase]
    · split
      · simp [eraseE]
      · rw [← mf_scanFilesE_erase t hb hd m dir (modFiles t.ws m) d []]
        cases hs : scanFilesE t m dir (modFiles t.ws m) d [] with
        | error e => simp [eraseE]
        | ok x =>
          obtain ⟨d', nw⟩ := x
          simp only [eraseE]
          cases he : (modFiles t.ws m).isEmpty with
          | true => simp [MFErr.erase]
          | false =>
            simp only [Bool.false_eq_true, if_false]
            exact mf_foldE_erase _ _ (fun c s => ih c false (m :: par) s) _ _

/-- Erasing the identities of `moduleDepsE` gives `Graph.moduleDeps`: the id-carrying traversal IS
    the traversal of Graph.lean (C10's model) whenever the workspace has nothing Graph.lean cannot
    express. -/
theorem mf_moduleDepsE_erase (t : MFWS) (hb : t.broken = []) (hd : t.docs = []) (r : Nat) :
    eraseE (moduleDepsE t r) = moduleDeps t.ws r := by
  unfold moduleDepsE moduleDepsWith moduleDeps
  have h := mf_depsRecE_erase t hb hd (t.ws.mods.length + 1) r true [] ([], [])
  unfold depsRecE at h
  rw [← h]
  cases hr : depsRecWith (sortBy natLe) t (t.ws.mods.length + 1) r true [] ([], []) with
  | error e => simp [eraseE]
  | ok x =>
    obtain ⟨vis, d⟩ := x
    simp only [eraseE]
    cases hdup : dupAmong t.ws vis <;> simp [MFErr.erase]

/-! ### two enumerations of the same workspace -/

/-- `t'` is `t` enumerated in another order: the same modules, the .proto files of each module
    reported by the storage walk in another order; nothing else differs. -/
structure WalkPerm (t t' : MFWS) : Prop where
  len : t.ws.mods.length = t'.ws.mods.length
  files : ∀ m, (modFiles t.ws m).Perm (modFiles t'.ws m)
  wkt : ∀ p, isWkt t.ws p = isWkt t'.ws p
  broken : t.broken = t'.broken
  docs : t.docs = t'.docs
  targets : targetMods t.ws = targetMods t'.ws

variable {t t' : MFWS}

theorem WalkPerm.hasPath_eq (h : WalkPerm t t') (m : Nat) (p : Str) : hasPath t.ws m p = hasPath t'.ws m p := by
  unfold Graph.hasPath
  exact (h.files m).any_eq

theorem WalkPerm.ownerE_eq (h : WalkPerm t t') (p : Str) : ownerE t p = ownerE t' p := by
  unfold MultiFail.ownerE providersE hasPathE
  simp only [h.hasPath_eq, h.len, h.docs]

theorem WalkPerm.importErr_eq (h : WalkPerm t t') (file p : Str) : importErr t file p = importErr t' file p := by
  unfold MultiFail.importErr
  rw [h.ownerE_eq, h.wkt]

theorem WalkPerm.fileErrs_eq (h : WalkPerm t t') (m : Nat) (f : PFile) : fileErrs t m f = fileErrs t' m f := by
  unfold MultiFail.fileErrs
  have : MultiFail.importErr t f.path = MultiFail.importErr t' f.path := funext (h.importErr_eq f.path)
  rw [h.broken, this]

theorem WalkPerm.scanErrs_perm (h : WalkPerm t t') (m : Nat) : (scanErrs t m).Perm (scanErrs t' m) := by
  unfold MultiFail.scanErrs
  have : MultiFail.fileErrs t m = MultiFail.fileErrs t' m := funext (h.fileErrs_eq m)
  rw [this]
  exact (h.files m).flatMap_right _

theorem WalkPerm.discover_eq (h : WalkPerm t t') (self : Nat) (ps : List Str) (ks : List Nat) :
    discover t self ps ks = discover t' self ps ks := by
  rw [discover_eq_newDeps, discover_eq_newDeps, show ownerE t = ownerE t' from funext h.ownerE_eq]

/-- A list with at most one element has the same head as each of its permutations. -/
theorem mf_head?_perm_of_length_le_one {α : Type} {l l' : List α} (hp : l.Perm l') (hl : l.length ≤ 1) :
    l.head? = l'.head? := by
  match l, hl with
  | [], _ => rw [← hp.nil_eq]
  | [a], _ => rw [List.perm_singleton.mp hp.symm]

/-- the scan of a module fails the same way in both enumerations. -/
theorem WalkPerm.scanErrs_head (h : WalkPerm t t') (hdet : scanDet t = true) (m : Nat) :
    (scanErrs t m).head? = (scanErrs t' m).head? := by
  apply mf_head?_perm_of_length_le_one (h.scanErrs_perm m)
  cases hf : modFiles t.ws m with
  | nil => simp [MultiFail.scanErrs, hf]
  | cons f fs =>
    have hm : m < t.ws.mods.length := lt_of_modFiles_nonempty (by rw [hf]; rfl)
    simpa using (List.all_eq_true.mp hdet) m (List.mem_range.mpr hm)

theorem mf_discover_perm (t : MFWS) (self : Nat) {ps ps' : List Str} {ks ks' : List Nat}
    (hps : ps.Perm ps') (hks : ∀ x, x ∈ ks ↔ x ∈ ks') :
    (discover t self ps ks).Perm (discover t self ps' ks') := by
  rw [List.perm_ext_iff_of_nodup (mf_nodup_discover t self ps ks) (mf_nodup_discover t self ps' ks')]
  intro x
  rw [mf_mem_discover, mf_mem_discover, hks x]
  constructor
  · rintro ⟨a, b, q, hq, ho⟩; exact ⟨a, b, q, hps.mem_iff.mp hq, ho⟩
  · rintro ⟨a, b, q, hq, ho⟩; exact ⟨a, b, q, hps.mem_iff.mpr hq, ho⟩

theorem mf_natLe_antisymm (a b : Nat) (h1 : natLe a b = true) (h2 : natLe b a = true) : a = b := by
  simp only [natLe, decide_eq_true_eq] at h1 h2
  omega

/-- the sort before the descent makes the order of discovery irrelevant. -/
theorem mf_sortNat_perm {l l' : List Nat} (h : l.Perm l') : sortBy natLe l = sortBy natLe l' :=
  sortBy_eq_of_perm natLe natLe_total natLe_trans h fun a b _ _ => mf_natLe_antisymm a b

/-! ### the relational induction -/

/-- Two states of the traversal over two enumerations: the same modules visited, the same
    dependencies found (in another order), each once. -/
def SRel (s s' : List Nat × DepMap) : Prop := s.1 = s'.1 ∧ s.2.Perm s'.2 ∧ (DepMap.keys s.2).Nodup

def RRel {σ : Type} (R : σ → σ → Prop) : Except MFErr σ → Except MFErr σ → Prop
  | .error e, .error e' => e = e'
  | .ok x, .ok y => R x y
  | _, _ => False

theorem RRel.cases {σ : Type} {R : σ → σ → Prop} {a b : Except MFErr σ} (h : RRel R a b) :
    (∃ e, a = .error e ∧ b = .error e) ∨ ∃ x y, a = .ok x ∧ b = .ok y ∧ R x y := by
  cases a <;> cases b
  · exact Or.inl ⟨_, rfl, by rw [show _ = _ from h]⟩
  · exact h.elim
  · exact h.elim
  · exact Or.inr ⟨_, _, rfl, rfl, h⟩

theorem mf_foldE_rel {β σ : Type} (R : σ → σ → Prop) (f f' : β → σ → Except MFErr σ)
    (h : ∀ c s s', R s s' → RRel R (f c s) (f' c s')) :
    ∀ (cs : List β) (s s' : σ), R s s' → RRel R (foldE f cs s) (foldE f' cs s') := by
  intro cs
  induction cs with
  | nil => intro s s' hr; exact hr
  | cons c cs ih =>
    intro s s' hr
    rcases (h c s s' hr).cases with ⟨e, h1, h2⟩ | ⟨x, y, h1, h2, hxy⟩
    · simp only [foldE, h1, h2]; exact rfl
    · simp only [foldE, h1, h2]; exact ih x y hxy

theorem mf_depsRecE_rel (h : WalkPerm t t') (hdet : scanDet t = true) :
    ∀ (fuel m : Nat) (dir : Bool) (par : List Nat) (s s' : List Nat × DepMap), SRel s s' →
      RRel SRel (depsRecE t fuel m dir par s) (depsRecE t' fuel m dir par s') := by
  intro fuel
  induction fuel with
  | zero => intro m dir par s s' _; simp [depsRecE, depsRecWith, RRel]
  | succ fuel ih =>
    intro m dir par ⟨vis, d⟩ ⟨vis', d'⟩ ⟨hv, hd, hnd⟩
    simp only at hv hd hnd
    subst hv
    have hhead := h.scanErrs_head hdet m
    have hnew : (discover t m ((modFiles t.ws m).flatMap (·.imports)) (DepMap.keys d)).Perm
        (discover t' m ((modFiles t'.ws m).flatMap (·.imports)) (DepMap.keys d')) := by
      rw [← h.discover_eq]
      exact mf_discover_perm t m ((h.files m).flatMap_right _) (fun _ => (hd.map (·.1)).mem_iff)
    unfold scanErrs at hhead
    simp only [depsRecE, depsRecWith]
    by_cases h1 : m ∈ par
    · simp only [if_pos h1]; exact rfl
    by_cases h2 : m ∈ vis
    · simp only [if_neg h1, if_pos h2]; exact ⟨rfl, hd, hnd⟩
    simp only [if_neg h1, if_neg h2]
    rw [mf_scanFilesE_eq, mf_scanFilesE_eq, ← hhead, ← (h.files m).isEmpty_eq]
    cases ((modFiles t.ws m).flatMap (fileErrs t m)).head? with
    | some e => exact rfl
    | none =>
      cases (modFiles t.ws m).isEmpty with
      | true => exact rfl
      | false =>
        simp only [Bool.false_eq_true, if_false, List.nil_append, mf_sortNat_perm hnew]
        refine mf_foldE_rel SRel _ _ (fun c s s' hs => ih c false (m :: par) s s' hs) _ _ _
          ⟨rfl, hd.append (hnew.map _), ?_⟩
        show (DepMap.keys (d ++ _)).Nodup
        rw [keys_append, keys_map_pair, List.nodup_append]
        exact ⟨hnd, mf_nodup_discover _ _ _ _, fun a ha b hb hab => ((mf_mem_discover _ _ _ _ _).mp (hab ▸ hb)).2.1 ha⟩

theorem mf_sortDeps_perm {d d' : DepMap} (h : d.Perm d') (hnd : (DepMap.keys d).Nodup) :
    sortBy depLe d = sortBy depLe d' := by
  refine sortBy_eq_of_perm depLe (fun a b => natLe_total a.1 b.1) (fun a b c => natLe_trans a.1 b.1 c.1) h ?_
  intro a b ha hb h1 h2
  exact BufProofs.ListLemmas.eq_of_nodup_map Prod.fst (l := d) hnd ha hb (mf_natLe_antisymm a.1 b.1 h1 h2)

theorem WalkPerm.dupAmong_eq (h : WalkPerm t t') (vis : List Nat) : dupAmong t.ws vis = dupAmong t'.ws vis := by
  unfold Graph.dupAmong
  have : ∀ m m', (modFiles t.ws m).any (fun f => Graph.hasPath t.ws m' f.path) = (modFiles t'.ws m).any (fun f => Graph.hasPath t'.ws m' f.path) := by
    intro m m'
    simp only [h.hasPath_eq]
    exact (h.files m).any_eq
  simp only [this]

/-- `ModuleDeps()` as coded does not depend on the order in which the storage enumerates the files
    of the modules, as long as no module has two scan failures of its own. -/
theorem mf_moduleDepsE_walk_perm (h : WalkPerm t t') (hdet : scanDet t = true) (r : Nat) :
    moduleDepsE t r = moduleDepsE t' r := by
  unfold moduleDepsE moduleDepsWith
  have hrel := mf_depsRecE_rel h hdet (t.ws.mods.length + 1) r true [] ([], []) ([], [])
    ⟨rfl, List.Perm.refl _, List.nodup_nil⟩
  unfold depsRecE at hrel
  rw [← h.len]
  rcases hrel.cases with ⟨e, h1, h2⟩ | ⟨⟨vis, d⟩, ⟨vis', d'⟩, h1, h2, hv, hd, hnd⟩
  · rw [h1, h2]
  · simp only at hv hd hnd
    subst hv
    simp only [h1, h2, h.dupAmong_eq, mf_sortDeps_perm hd hnd]

theorem mf_dagRecE_walk_perm (h : WalkPerm t t') (hdet : scanDet t = true) :
    ∀ (fuel m : Nat) (g : Dag), dagRecE t fuel m g = dagRecE t' fuel m g := by
  intro fuel
  induction fuel with
  | zero => intro m g; rfl
  | succ fuel ih =>
    intro m g
    simp only [dagRecE, mf_moduleDepsE_walk_perm h hdet m]
    have : (fun (d : Nat × Bool) g' => dagRecE t fuel d.1 (addEdge g' m d.1)) = (fun d g' => dagRecE t' fuel d.1 (addEdge g' m d.1)) := by
      funext d g'; exact ih _ _
    rw [this]

/-- `ModuleSetToDAG` likewise. -/
theorem mf_toDAGE_walk_perm (h : WalkPerm t t') (hdet : scanDet t = true) : toDAGE t = toDAGE t' := by
  unfold toDAGE
  have : (fun m g => dagRecE t (t.ws.mods.length + 1) m g) = (fun m g => dagRecE t' (t'.ws.mods.length + 1) m g) := by
    funext m g; rw [← h.len]; exact mf_dagRecE_walk_perm h hdet _ _ _
  rw [this, h.targets]

end BufModel.MultiFail
