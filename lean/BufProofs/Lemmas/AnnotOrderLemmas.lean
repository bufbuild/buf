import BufModel.Annot
import BufProofs.Lemmas.SortLemmas
/-
  Lemmas about the order and identity of annotations (C20; C06 and C02 use the key and the
  order-independence): fileAnnotationCompareTo is core's lexicographic `compare` of the compared
  fields and has its laws from there, the stable insertion sort, the
  de-duplication loop, injectivity of the length-prefixed key, what `dedupSort` keeps and that its
  result does not depend on the input order.
-/
namespace BufModel.Annot

/-! ### ordering laws -/

theorem cmpNat_eq (a b : Nat) : cmpNat a b = compare a b := (Nat.compare_eq_ite_lt a b).symm

/-- Go compares strings byte by byte, which on valid UTF-8 is by code point. -/
theorem cmpChar_eq (a b : Char) : cmpNat a.toNat b.toNat = compare a b := by
  simp only [cmpNat_eq, compare, compareOfLessAndEq, Char.lt_def, UInt32.lt_iff_toNat_lt, ← Char.toNat_inj, Char.toNat]

theorem cmpStr_eq : ∀ a b : Str, cmpStr a b = compare a b
  | [], [] => rfl
  | [], _ :: _ => rfl
  | _ :: _, [] => rfl
  | x :: xs, y :: ys => by rw [cmpStr, cmpChar_eq, cmpStr_eq xs ys, List.compare_cons_cons]

theorem cmpFile_eq : ∀ a b : Option Str, cmpFile a b = compare a b
  | none, none => rfl
  | none, some _ => rfl
  | some _, none => rfl
  | some a, some b => cmpStr_eq a b

theorem compareTo_eq : compareTo = compareLex (compareOn Annot.file) (compareLex (compareOn Annot.sl)
    (compareLex (compareOn Annot.sc) (compareLex (compareOn Annot.type) (compareLex (compareOn Annot.msg)
      (compareLex (compareOn Annot.el) (compareOn Annot.ec)))))) := by
  funext a b
  simp only [compareTo, cmpFile_eq, cmpNat_eq, cmpStr_eq, compareLex, compareOn]

theorem compareTo_trans : Std.TransCmp compareTo := compareTo_eq ▸ inferInstance

/-- The fields fileAnnotationCompareTo looks at. -/
def cmpFields (a : Annot) : Option Str × Nat × Nat × Str × Str × Nat × Nat :=
  (a.file, a.sl, a.sc, a.type, a.msg, a.el, a.ec)

theorem compareTo_eq_iff (a b : Annot) : compareTo a b = .eq ↔ cmpFields a = cmpFields b := by
  simp only [compareTo_eq, compareLex_eq_eq, compareOn, Std.LawfulEqOrd.compare_eq_iff_eq, cmpFields, Prod.mk.injEq]

/-! ### the stable insertion sort -/

def LE (a b : Annot) : Prop := compareTo a b ≠ .gt

theorem less_iff (a b : Annot) : less a b = true ↔ compareTo a b = .lt := by
  simp [less]

theorem LE_of_not_less {a b : Annot} (h : ¬ less b a = true) : LE a b :=
  fun hgt => h ((less_iff b a).mpr (compareTo_trans.gt_iff_lt.mp hgt))

theorem LE_of_less {a b : Annot} (h : less a b = true) : LE a b := by
  rw [less_iff] at h; simp [LE, h]

theorem LE_trans {a b c : Annot} (h1 : LE a b) (h2 : LE b c) : LE a c :=
  Ordering.ne_gt_iff_isLE.mpr (compareTo_trans.isLE_trans (Ordering.ne_gt_iff_isLE.mp h1) (Ordering.ne_gt_iff_isLE.mp h2))

theorem sortS_eq : ∀ l, sortS l = isortBy less l :=
  eq_isortBy _ (eq_insBy (ins := ins) _ (fun _ => rfl) (fun _ _ _ => rfl)) rfl (fun _ _ => rfl)

theorem sortS_perm (l : List Annot) : (sortS l).Perm l := sortS_eq l ▸ isortBy_perm less l

theorem sortS_sorted (l : List Annot) : (sortS l).Pairwise LE :=
  sortS_eq l ▸ isortBy_pairwise (p := less) (R := LE) (fun _ _ => LE_of_less) (fun _ _ h => LE_of_not_less (h ▸ Bool.false_ne_true))
    (fun _ _ _ => LE_trans) l

def NoTies (l : List Annot) : Prop := l.Pairwise fun a b => compareTo a b ≠ .eq

theorem NoTies.perm {l l' : List Annot} (h : NoTies l) (p : l.Perm l') : NoTies l' :=
  List.Pairwise.perm h p fun hab hba => hab (compareTo_trans.eq_symm hba)

/-- Two sorted lists without mutual ties that are permutations of each other are equal:
    the sorted order is unique, the stable sort's tie-breaking never comes into play. -/
theorem sorted_unique {l1 l2 : List Annot} (p : l1.Perm l2) (s1 : l1.Pairwise LE) (s2 : l2.Pairwise LE)
    (nt : ∀ a b, a ∈ l1 → b ∈ l1 → compareTo a b = .eq → a = b) : l1 = l2 :=
  List.Perm.eq_of_pairwise (le := LE) (fun a b ha hb hab hba => nt a b ha (p.symm.mem_iff.mp hb)
    (compareTo_trans.isLE_antisymm (Ordering.ne_gt_iff_isLE.mp hab) (Ordering.ne_gt_iff_isLE.mp hba))) s1 s2 p

theorem sortS_strict {l : List Annot} (nt : NoTies l) :
    (sortS l).Pairwise fun a b => compareTo a b = .lt := by
  have h1 := sortS_sorted l
  have h2 : NoTies (sortS l) := nt.perm (sortS_perm l).symm
  refine List.Pairwise.imp ?_ (List.Pairwise.and h1 h2)
  intro a b h
  cases hc : compareTo a b with
  | lt => rfl
  | eq => exact absurd hc h.2
  | gt => exact absurd hc h.1

/-! ### the de-duplication loop -/

theorem mem_dedupWith {key : Annot → Str} : ∀ {l : List Annot} {seen : List Str} {a : Annot},
    a ∈ dedupWith key l seen → a ∈ l ∧ key a ∉ seen
  | [], _, _, h => by simp [dedupWith] at h
  | x :: xs, seen, a, h => by
    simp only [dedupWith] at h
    split at h
    · have := mem_dedupWith h
      exact ⟨List.mem_cons_of_mem _ this.1, this.2⟩
    · rename_i hx
      rcases List.mem_cons.mp h with rfl | h
      · exact ⟨List.mem_cons_self, hx⟩
      · have := mem_dedupWith h
        exact ⟨List.mem_cons_of_mem _ this.1, fun hm => this.2 (List.mem_cons_of_mem _ hm)⟩

theorem dedupWith_keys_distinct {key : Annot → Str} : ∀ (l : List Annot) (seen : List Str),
    (dedupWith key l seen).Pairwise fun a b => key a ≠ key b
  | [], _ => by simp [dedupWith]
  | x :: xs, seen => by
    simp only [dedupWith]
    split
    · exact dedupWith_keys_distinct xs seen
    · rw [List.pairwise_cons]
      refine ⟨?_, dedupWith_keys_distinct xs _⟩
      intro b hb heq
      have := (mem_dedupWith hb).2
      exact this (heq ▸ List.mem_cons_self)

theorem dedupWith_covers {key : Annot → Str} : ∀ (l : List Annot) (seen : List Str) (a : Annot),
    a ∈ l → key a ∉ seen → ∃ a' ∈ dedupWith key l seen, key a' = key a
  | [], _, _, h, _ => by simp at h
  | x :: xs, seen, a, h, hs => by
    simp only [dedupWith]
    rcases List.mem_cons.mp h with rfl | h
    · split
      · rename_i hx; exact absurd hx hs
      · exact ⟨a, List.mem_cons_self, rfl⟩
    · split
      · exact dedupWith_covers xs seen a h hs
      · by_cases hk : key a = key x
        · exact ⟨x, List.mem_cons_self, hk.symm⟩
        · have hs' : key a ∉ key x :: seen := by
            intro hm; rcases List.mem_cons.mp hm with e | e
            · exact hk e
            · exact hs e
          obtain ⟨a', ha', hk'⟩ := dedupWith_covers xs _ a h hs'
          exact ⟨a', List.mem_cons_of_mem _ ha', hk'⟩

theorem dedupWith_id {key : Annot → Str} : ∀ (l : List Annot) (seen : List Str),
    l.Pairwise (fun a b => key a ≠ key b) → (∀ a ∈ l, key a ∉ seen) → dedupWith key l seen = l
  | [], _, _, _ => rfl
  | x :: xs, seen, hp, hs => by
    rw [List.pairwise_cons] at hp
    simp only [dedupWith]
    rw [if_neg (hs x List.mem_cons_self)]
    congr 1
    apply dedupWith_id xs _ hp.2
    intro a ha hm
    rcases List.mem_cons.mp hm with e | e
    · exact hp.1 a ha e.symm
    · exact hs a (List.mem_cons_of_mem _ ha) e

/-! ### injectivity of the length-prefixed key -/

theorem itoa_digit {n : Nat} {c : Char} (h : c ∈ itoa n) : c.isDigit = true :=
  Nat.isDigit_of_mem_toDigits (by decide) (by decide) h

theorem itoa_inj {a b : Nat} (h : itoa a = itoa b) : a = b := by
  have ha := @Nat.ofDigitChars_ten_toDigits a
  have hb := @Nat.ofDigitChars_ten_toDigits b
  unfold itoa at h
  rw [h] at ha
  exact ha.symm.trans hb

theorem isDigit_ne {c d : Char} (h : c.isDigit = true) (hd : d.isDigit = false) : c ≠ d := by
  intro e; subst e; rw [h] at hd; cases hd

theorem cutAt_append (sep : Char) : ∀ (p r : Str), (∀ c ∈ p, c ≠ sep) → cutAt sep (p ++ sep :: r) = some (p, r)
  | [], r, _ => by simp [cutAt]
  | c :: cs, r, h => by
    have hc : c ≠ sep := h c List.mem_cons_self
    simp only [List.cons_append, cutAt, if_neg hc,
      cutAt_append sep cs r (fun d hd => h d (List.mem_cons_of_mem _ hd)), Option.map_some]

/-- what `cutAt` reads back determines what was written -/
theorem split_at_sep (sep : Char) (p1 p2 q1 q2 : Str) (h1 : ∀ c ∈ p1, c ≠ sep) (h2 : ∀ c ∈ p2, c ≠ sep)
    (h : p1 ++ sep :: q1 = p2 ++ sep :: q2) : p1 = p2 ∧ q1 = q2 := by
  have := cutAt_append sep p1 q1 h1
  rw [h, cutAt_append sep p2 q2 h2] at this
  cases this
  exact ⟨rfl, rfl⟩

theorem utf8Len_eq_zero : ∀ {s : Str}, utf8Len s = 0 → s = []
  | [], _ => rfl
  | c :: cs, h => by
    simp only [utf8Len] at h
    have := Char.utf8Size_pos c
    omega

theorem append_inj_utf8 : ∀ (s1 s2 r1 r2 : Str), utf8Len s1 = utf8Len s2 → s1 ++ r1 = s2 ++ r2 →
    s1 = s2 ∧ r1 = r2
  | [], s2, _, _, hl, h => by
    have : s2 = [] := utf8Len_eq_zero (by simpa [utf8Len] using hl.symm)
    subst this; exact ⟨rfl, by simpa using h⟩
  | c :: cs, [], _, _, hl, _ => by
    have : c :: cs = [] := utf8Len_eq_zero (by simpa [utf8Len] using hl)
    cases this
  | c :: cs, d :: ds, r1, r2, hl, h => by
    simp only [List.cons_append, List.cons.injEq] at h
    obtain ⟨rfl, h⟩ := h
    simp only [utf8Len] at hl
    have := append_inj_utf8 cs ds r1 r2 (by omega) h
    exact ⟨by rw [this.1], this.2⟩

theorem lp_append_inj (s1 s2 r1 r2 : Str) (h : lp s1 ++ r1 = lp s2 ++ r2) : s1 = s2 ∧ r1 = r2 := by
  unfold lp at h
  simp only [List.append_assoc, List.cons_append] at h
  have hd : ∀ n, ∀ c ∈ itoa n, c ≠ ':' := fun n c hc => isDigit_ne (itoa_digit hc) (by decide)
  obtain ⟨h1, h2⟩ := split_at_sep ':' _ _ _ _ (hd _) (hd _) h
  exact append_inj_utf8 _ _ _ _ (itoa_inj h1) h2

theorem flatMap_lp_inj : ∀ (l1 l2 : List Str), l1.length = l2.length →
    l1.flatMap lp = l2.flatMap lp → l1 = l2
  | [], [], _, _ => rfl
  | [], _ :: _, hl, _ => by simp at hl
  | _ :: _, [], hl, _ => by simp at hl
  | x :: xs, y :: ys, hl, h => by
    simp only [List.flatMap_cons] at h
    obtain ⟨hx, hr⟩ := lp_append_inj _ _ _ _ h
    rw [hx, flatMap_lp_inj xs ys (by simpa using hl) hr]

/-- THE FIX: the length-prefixed key determines the seven key fields. -/
theorem keyNew_inj {a b : Annot} (h : keyNew a = keyNew b) : keyFields a = keyFields b :=
  flatMap_lp_inj _ _ (by simp [keyFields]) h

theorem keyFields_eq_iff (a b : Annot) : keyFields a = keyFields b ↔
    pathOf a = pathOf b ∧ a.sl = b.sl ∧ a.sc = b.sc ∧ a.el = b.el ∧ a.ec = b.ec ∧ a.type = b.type ∧ a.msg = b.msg := by
  simp only [keyFields, List.cons.injEq, and_true]
  constructor
  · rintro ⟨h1, h2, h3, h4, h5, h6, h7⟩
    exact ⟨h1, itoa_inj h2, itoa_inj h3, itoa_inj h4, itoa_inj h5, h6, h7⟩
  · rintro ⟨h1, h2, h3, h4, h5, h6, h7⟩
    rw [h1, h2, h3, h4, h5, h6, h7]; simp

theorem keyNew_eq_iff (a b : Annot) : keyNew a = keyNew b ↔ keyFields a = keyFields b :=
  ⟨keyNew_inj, fun h => by unfold keyNew; rw [h]⟩

/-! ### dedupSort: what survives, uniqueness of the result -/

theorem keyFields_of_compareTo_eq {a b : Annot} (h : compareTo a b = .eq) : keyFields a = keyFields b := by
  have := (compareTo_eq_iff a b).mp h
  simp only [cmpFields, Prod.mk.injEq] at this
  obtain ⟨h1, h2, h3, h4, h5, h6, h7⟩ := this
  rw [keyFields_eq_iff]
  exact ⟨by unfold pathOf; rw [h1], h2, h3, h6, h7, h4, h5⟩

theorem dedup_noTies (l : List Annot) : NoTies (dedupWith keyNew l []) := by
  refine List.Pairwise.imp ?_ (dedupWith_keys_distinct (key := keyNew) l [])
  intro a b hk he
  apply hk
  exact (keyNew_eq_iff a b).mpr (keyFields_of_compareTo_eq he)

theorem mem_dedupSort {l : List Annot} {a : Annot} : a ∈ dedupSort l ↔ a ∈ dedupWith keyNew l [] :=
  (sortS_perm _).mem_iff

theorem dedupSort_subset {l : List Annot} {a : Annot} (h : a ∈ dedupSort l) : a ∈ l :=
  (mem_dedupWith (mem_dedupSort.mp h)).1

theorem dedupSort_ne_nil {l : List Annot} (h : l ≠ []) : dedupSort l ≠ [] := by
  cases l with
  | nil => exact absurd rfl h
  | cons x xs =>
    intro he
    have hx : x ∈ dedupSort (x :: xs) := by
      rw [mem_dedupSort]; simp [dedupWith]
    rw [he] at hx; cases hx

/-- annotations equal on the seven key fields are equal (in practice: the rule ID determines
    the plugin name, and a FileInfo is nil only for path-less annotations) -/
def KeyDet (l : List Annot) : Prop := ∀ a ∈ l, ∀ b ∈ l, keyFields a = keyFields b → a = b

theorem mem_dedup_of_keyDet {l : List Annot} (kd : KeyDet l) {a : Annot} :
    a ∈ dedupWith keyNew l [] ↔ a ∈ l := by
  constructor
  · exact fun h => (mem_dedupWith h).1
  · intro h
    obtain ⟨a', ha', hk⟩ := dedupWith_covers (key := keyNew) l [] a h (by simp)
    have : a' = a := kd a' (mem_dedupWith ha').1 a h (keyNew_inj hk)
    exact this ▸ ha'

theorem dedup_nodup (l : List Annot) : (dedupWith keyNew l []).Nodup := by
  refine List.Pairwise.imp ?_ (dedupWith_keys_distinct (key := keyNew) l [])
  intro a b hk he; exact hk (he ▸ rfl)

theorem dedupSort_perm_eq {l1 l2 : List Annot} (p : l1.Perm l2) (kd : KeyDet l1) :
    dedupSort l1 = dedupSort l2 := by
  have kd2 : KeyDet l2 := fun a ha b hb h => kd a (p.mem_iff.mpr ha) b (p.mem_iff.mpr hb) h
  have pd : (dedupWith keyNew l1 []).Perm (dedupWith keyNew l2 []) :=
    (List.perm_ext_iff_of_nodup (dedup_nodup l1) (dedup_nodup l2)).mpr (fun a => by
      rw [mem_dedup_of_keyDet kd, mem_dedup_of_keyDet kd2]; exact p.mem_iff)
  have ps : (dedupSort l1).Perm (dedupSort l2) :=
    (sortS_perm _).trans (pd.trans (sortS_perm _).symm)
  refine sorted_unique ps (sortS_sorted _) (sortS_sorted _) ?_
  intro a b ha hb he
  apply kd a (dedupSort_subset ha) b (dedupSort_subset hb)
  exact keyFields_of_compareTo_eq he

theorem dedupSort_singleton (a : Annot) : dedupSort [a] = [a] := by
  simp [dedupSort, dedupSortWith, dedupWith, sortS, ins]

end BufModel.Annot
