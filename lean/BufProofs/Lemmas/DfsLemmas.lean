import BufProofs.Lemmas.GraphLemmas
import BufProofs.Lemmas.ListLemmas
import BufProofs.Lemmas.LexLemmas
/-
  The shared DFS (`BufModel.Graph.dfs` / `dfsRoots`) read at top level for C01 and C10: a successful run
  visits exactly what the roots reach; with more fuel than nodes that exist a run fails only for a
  reachable node that does not exist; two runs over successor functions that agree AS SETS visit the
  same set; the order check `isTopo` against cycles.  Then the path order and the ls-files pipeline.
-/
set_option linter.unusedSectionVars false
namespace BufModel.Graph
open BufModel.Path

section DFS2
variable {α : Type} [DecidableEq α]

theorem closed_reach_of_sub {sa sb : α → Option (List α)} {v : List α}
    (hc : ∀ x ∈ v, ∃ cs, sb x = some cs ∧ ∀ c ∈ cs, c ∈ v)
    (hsub : ∀ x a b, sa x = some a → sb x = some b → ∀ c ∈ a, c ∈ b) :
    ∀ a b, Reach sa a b → a ∈ v → b ∈ v := by
  intro a b hr
  induction hr with
  | refl => exact fun h => h
  | step _ hs hcm ih =>
    intro ha
    obtain ⟨cs', hs', hcl⟩ := hc _ (ih ha)
    exact hcl _ (hsub _ _ _ hs hs' _ hcm)

theorem closed_reach {succ : α → Option (List α)} {v : List α}
    (hc : ∀ x ∈ v, ∃ cs, succ x = some cs ∧ ∀ c ∈ cs, c ∈ v) :
    ∀ a b, Reach succ a b → a ∈ v → b ∈ v :=
  closed_reach_of_sub hc fun _ _ _ ha hb _ hc => Option.some.inj (ha.symm.trans hb) ▸ hc

theorem dfsRoots_exact {succ : α → Option (List α)} {fuel : Nat} {roots vis out : List α}
    (h : dfsRoots succ fuel roots = .ok (vis, out)) :
    (∀ x, x ∈ vis ↔ x ∈ out) ∧ out.Nodup ∧
    (∀ x ∈ vis, ∃ cs, succ x = some cs ∧ ∀ c ∈ cs, c ∈ vis) ∧
    (∀ x, x ∈ vis ↔ ∃ r ∈ roots, Reach succ r x) := by
  obtain ⟨hi, hr⟩ := dfsRoots_run h
  have hp : vis.Perm out := by simpa using hi.perm
  have hcl : ∀ x ∈ vis, ∃ cs, succ x = some cs ∧ ∀ c ∈ cs, c ∈ vis := fun x hx => hi.closed x (hp.mem_iff.mp hx)
  exact ⟨fun x => hp.mem_iff, hp.nodup_iff.mp hi.nodup, hcl,
    fun x => ⟨hi.reach x, fun ⟨r, hr', hx⟩ => closed_reach hcl r x hx (hr r hr')⟩⟩

theorem dfsRoots_vis_nodup {succ : α → Option (List α)} {fuel : Nat} {roots vis out : List α}
    (h : dfsRoots succ fuel roots = .ok (vis, out)) : vis.Nodup := (dfsRoots_run h).1.nodup

/-! ### fuel suffices -/

theorem unvisited_mono (nodes : List α) {v v' : List α} (h : ∀ x, x ∈ v → x ∈ v') :
    unvisited nodes v' ≤ unvisited nodes v := by
  unfold unvisited
  rw [← List.countP_eq_length_filter, ← List.countP_eq_length_filter]
  exact List.countP_mono_left fun x _ hx => decide_eq_true fun hv => of_decide_eq_true hx (h x hv)

theorem unvisited_cons_lt (nodes : List α) {v : List α} {n : α} (hn : n ∈ nodes) (hv : n ∉ v) :
    unvisited nodes (n :: v) < unvisited nodes v := by
  unfold unvisited
  have : nodes.filter (fun x => decide (x ∉ n :: v)) =
      (nodes.filter (fun x => decide (x ∉ v))).filter (fun x => decide (x ≠ n)) := by
    rw [List.filter_filter]
    exact List.filter_congr fun x _ => by simp [not_or]
  rw [this]
  exact List.length_filter_lt_length_iff_exists.mpr
    ⟨n, List.mem_filter.mpr ⟨hn, decide_eq_true hv⟩, by simp⟩

theorem dfs_error (succ : α → Option (List α)) (nodes : List α)
    (hex : ∀ x, succ x ≠ none → x ∈ nodes) :
    ∀ (fuel : Nat) (n : α) (s : List α × List α) (e : DfsErr α), unvisited nodes s.1 < fuel →
      dfs succ fuel n s = .error e → ∃ a, e = .missing a ∧ Reach succ n a ∧ succ a = none := by
  intro fuel
  induction fuel with
  | zero => intro n s e h; omega
  | succ fuel ih =>
    intro n ⟨vis, out⟩ e hlt h
    simp only [dfs] at h
    split at h
    · cases h
    · rename_i hnot
      split at h
      · rename_i hs
        injection h with h; subst h
        exact ⟨n, rfl, Reach.refl _, hs⟩
      · rename_i cs hs
        split at h
        · rename_i e' heq
          injection h with h; subst h
          have hlt' : unvisited nodes (n :: vis) < fuel := by
            have := unvisited_cons_lt nodes (hex n (by rw [hs]; simp)) hnot
            simp only at hlt
            omega
          -- the bound survives every successful child call, so the failing one has enough fuel
          obtain ⟨c, hc, a, ha, hf⟩ := foldE_error_inv (dfs succ fuel)
            (fun s => unvisited nodes s.1 < fuel) cs (n :: vis, out) _ hlt'
            (fun c _ a b ha hab => Nat.lt_of_le_of_lt (unvisited_mono nodes (dfs_grows succ fuel c a b hab).1) ha) heq
          obtain ⟨x, he, hr, hn⟩ := ih c a _ ha hf
          exact ⟨x, he, Reach.head hs hc hr, hn⟩
        · cases h

theorem dfsRoots_error {succ : α → Option (List α)} {nodes : List α}
    (hex : ∀ x, succ x ≠ none → x ∈ nodes) {fuel : Nat} {roots : List α} (hf : nodes.length < fuel)
    {e : DfsErr α} (h : dfsRoots succ fuel roots = .error e) :
    ∃ a, e = .missing a ∧ (∃ r ∈ roots, Reach succ r a) ∧ succ a = none := by
  obtain ⟨c, hc, a, _, hca⟩ := foldE_error_inv (dfs succ fuel) (fun _ => True) roots ([], []) _
    trivial (fun _ _ _ _ _ _ => trivial) h
  obtain ⟨x, he, hr, hn⟩ := dfs_error succ nodes hex fuel c a e
    (Nat.lt_of_le_of_lt (List.length_filter_le _ _) hf) hca
  exact ⟨x, he, ⟨c, hc, hr⟩, hn⟩

theorem dfsRoots_ne_fuel (succ : α → Option (List α)) (nodes : List α)
    (hex : ∀ x, succ x ≠ none → x ∈ nodes) (fuel : Nat) (roots : List α) (hf : nodes.length < fuel) :
    dfsRoots succ fuel roots ≠ .error .fuel := fun h => by
  obtain ⟨_, he, _⟩ := dfsRoots_error hex hf h
  cases he

theorem dfsRoots_ok_of (succ : α → Option (List α)) (nodes : List α)
    (hex : ∀ x, succ x ≠ none → x ∈ nodes) (fuel : Nat) (roots : List α) (hf : nodes.length < fuel)
    (hall : ∀ r ∈ roots, ∀ x, Reach succ r x → succ x ≠ none) :
    ∃ vis out, dfsRoots succ fuel roots = .ok (vis, out) := by
  cases h : dfsRoots succ fuel roots with
  | ok s => exact ⟨s.1, s.2, rfl⟩
  | error e =>
    obtain ⟨a, _, ⟨r, hr, hreach⟩, hn⟩ := dfsRoots_error hex hf h
    exact absurd hn (hall r hr a hreach)

/-! ### two runs that agree as sets -/

theorem dfs_sets_agree (s1 s2 : α → Option (List α)) (f1 f2 : Nat) (r1 r2 v1 o1 v2 o2 : List α)
    (hroots : ∀ x, x ∈ r1 ↔ x ∈ r2)
    (hagree : ∀ x a b, s1 x = some a → s2 x = some b → ∀ c, c ∈ a ↔ c ∈ b)
    (h1 : dfsRoots s1 f1 r1 = .ok (v1, o1)) (h2 : dfsRoots s2 f2 r2 = .ok (v2, o2)) :
    ∀ x, x ∈ v1 ↔ x ∈ v2 := by
  obtain ⟨_, _, c1, e1⟩ := dfsRoots_exact h1
  obtain ⟨_, _, c2, e2⟩ := dfsRoots_exact h2
  intro x
  constructor
  · intro hx
    obtain ⟨r, hr, hreach⟩ := (e1 x).mp hx
    exact closed_reach_of_sub c2 (fun x a b ha hb c hc => (hagree x a b ha hb c).mp hc) r x hreach
      ((e2 r).mpr ⟨r, (hroots r).mp hr, Reach.refl r⟩)
  · intro hx
    obtain ⟨r, hr, hreach⟩ := (e2 x).mp hx
    exact closed_reach_of_sub c1 (fun x a b ha hb c hc => (hagree x b a hb ha c).mpr hc) r x hreach
      ((e1 r).mpr ⟨r, (hroots r).mpr hr, Reach.refl r⟩)

/-! ### a list accepted by `isTopo` holds no node of a cycle -/

theorem isTopo_sound (succ : α → Option (List α)) :
    ∀ (l pre : List α), isTopo succ pre l = true →
      ∀ l1 x l2, l = l1 ++ x :: l2 → ∃ cs, succ x = some cs ∧ ∀ c ∈ cs, c ∈ pre ++ l1 := by
  intro l pre h l1 x l2 hl
  rw [hl, show l1 ++ x :: l2 = (l1 ++ [x]) ++ l2 by simp] at h
  exact ((isTopo_snoc succ x l1 pre).mp (isTopo_prefix succ _ _ _ h)).2

theorem isTopo_no_cycle (succ : α → Option (List α)) (l : List α) (h : isTopo succ [] l = true)
    (x : α) (hx : x ∈ l) (cs : List α) (c : α) (hs : succ x = some cs) (hc : c ∈ cs) :
    ¬ Reach succ c x := by
  intro hr
  obtain ⟨l1, l2, hl, hnot⟩ := List.eq_append_cons_of_mem hx
  -- the prefix `l1` is closed under `succ`
  have hclosed : ∀ y ∈ l1, ∃ cs, succ y = some cs ∧ ∀ c ∈ cs, c ∈ l1 := by
    intro y hy
    obtain ⟨a, b, hab⟩ := List.append_of_mem hy
    obtain ⟨cs', hs', hc'⟩ := isTopo_sound succ l [] h a y (b ++ x :: l2)
      (by rw [hl, hab]; simp [List.append_assoc])
    refine ⟨cs', hs', fun c' hcc => ?_⟩
    have := hc' c' hcc
    rw [hab]
    simp only [List.nil_append] at this
    exact List.mem_append_left _ this
  obtain ⟨cs', hs', hc'⟩ := isTopo_sound succ l [] h l1 x l2 hl
  rw [hs] at hs'; injection hs' with hs'; subst hs'
  have hcl1 : c ∈ l1 := by simpa using hc' c hc
  exact hnot (closed_reach hclosed c x hr hcl1)

theorem dfsRoots_isTopo {succ : α → Option (List α)} {fuel : Nat} {roots vis out : List α}
    (h : dfsRoots succ fuel roots = .ok (vis, out))
    (hac : ∀ r ∈ roots, ∀ x, Reach succ r x → ∀ cs d, succ x = some cs → d ∈ cs → ¬ Reach succ d x) :
    isTopo succ [] out = true :=
  (dfsRoots_run h).1.topo hac

/-- the converse of `dfsRoots_ok_of` and `dfsRoots_isTopo`: a run that succeeded with a topological output shows
    that every node reachable from the roots resolves and none lies on a cycle. -/
theorem run_witnesses_hyps {succ : α → Option (List α)} {fuel : Nat} {roots vis out : List α}
    (h : dfsRoots succ fuel roots = .ok (vis, out)) (ht : isTopo succ [] out = true) :
    (∀ r ∈ roots, ∀ p, Reach succ r p → succ p ≠ none) ∧
    (∀ r ∈ roots, ∀ x, Reach succ r x → ∀ cs d, succ x = some cs → d ∈ cs → ¬ Reach succ d x) := by
  obtain ⟨hvo, _, hcl, hre⟩ := dfsRoots_exact h
  refine ⟨?_, ?_⟩
  · intro r hr p hp hn
    obtain ⟨cs, hs, _⟩ := hcl p ((hre p).mpr ⟨r, hr, hp⟩)
    rw [hn] at hs; cases hs
  · intro r hr x hx cs d hs hd
    exact isTopo_no_cycle succ out ht x ((hvo x).mp ((hre x).mpr ⟨r, hr, hx⟩)) cs d hs hd

end DFS2

/-! ### the path order: core's `≤` on `List Char` -/

theorem strLe_eq : ∀ a b : Str, strLe a b = decide (a ≤ b) :=
  BufProofs.LexLemmas.eq_decide_le (r := fun a b => a.toNat < b.toNat) BufProofs.LexLemmas.toNat_lt_iff (fun _ _ => Char.lt_asymm)
    (fun _ _ => BufProofs.LexLemmas.char_eq_of_not_lt) (fun _ => rfl) (fun _ _ => rfl) (fun _ _ _ _ => rfl)

theorem strLe_refl (a : Str) : strLe a a = true := (strLe_eq a a).trans (decide_eq_true (List.le_refl a))

theorem strLe_total (a b : Str) : strLe a b = true ∨ strLe b a = true := by
  rw [strLe_eq, strLe_eq, decide_eq_true_iff, decide_eq_true_iff]
  exact List.le_total a b

theorem strLe_antisymm (a b : Str) (h1 : strLe a b = true) (h2 : strLe b a = true) : a = b := by
  rw [strLe_eq, decide_eq_true_iff] at h1 h2
  exact List.le_antisymm h1 h2

theorem strLe_trans (a b c : Str) (h1 : strLe a b = true) (h2 : strLe b c = true) : strLe a c = true := by
  rw [strLe_eq, decide_eq_true_iff] at *
  exact List.le_trans h1 h2

theorem sortPaths_perm (l : List Str) : (sortPaths l).Perm l := sortBy_perm strLe l

theorem mem_sortPaths {l : List Str} {x : Str} : x ∈ sortPaths l ↔ x ∈ l := (sortPaths_perm l).mem_iff

theorem sortPaths_sorted (l : List Str) : (sortPaths l).Pairwise (fun a b => strLe a b = true) :=
  sortBy_pairwise strLe strLe_total strLe_trans l

theorem sortPaths_nodup {l : List Str} (h : l.Nodup) : (sortPaths l).Nodup :=
  (sortPaths_perm l).nodup_iff.mpr h

theorem sortPaths_eq_of_mem_iff {l1 l2 : List Str} (h1 : l1.Nodup) (h2 : l2.Nodup)
    (h : ∀ x, x ∈ l1 ↔ x ∈ l2) : sortPaths l1 = sortPaths l2 :=
  sortBy_eq_of_perm strLe strLe_total strLe_trans ((List.perm_ext_iff_of_nodup h1 h2).mpr h)
    fun a b _ _ => strLe_antisymm a b

theorem sortPaths_eq_self {l : List Str} (hs : l.Pairwise (fun a b => strLe a b = true)) :
    sortPaths l = l := by
  apply List.Perm.eq_of_pairwise (le := fun a b => strLe a b = true)
  · intro a b _ _ hab hba; exact strLe_antisymm a b hab hba
  · exact sortPaths_sorted l
  · exact hs
  · exact sortPaths_perm l

theorem find?_key_of_nodup {β γ : Type} [BEq γ] [LawfulBEq γ] (g : β → γ) {l : List β} (hnd : (l.map g).Nodup)
    {t : β} (ht : t ∈ l) : l.find? (fun x => g x == g t) = some t := by
  cases h : l.find? (fun x => g x == g t) with
  | none => exact absurd (List.find?_eq_none.mp h t ht) (by simp)
  | some y =>
    rw [BufProofs.ListLemmas.eq_of_nodup_map g hnd (List.mem_of_find?_eq_some h) ht (by simpa using List.find?_some h)]

/-! ### the ls-files pipeline -/

/-- all (module, file) pairs of the module set, in module order then walk order. -/
def allFiles (ws : WS) : List (Nat × PFile) :=
  (List.range ws.mods.length).flatMap (fun m => (modFiles ws m).map (fun f => (m, f)))

theorem modFiles_lt {ws : WS} {m : Nat} {f : PFile} (h : f ∈ modFiles ws m) : m < ws.mods.length :=
  lt_of_modFiles_nonempty (by cases hm : modFiles ws m with
    | nil => rw [hm] at h; cases h
    | cons _ _ => rfl)

theorem mem_allFiles {ws : WS} {x : Nat × PFile} : x ∈ allFiles ws ↔ x.2 ∈ modFiles ws x.1 := by
  unfold allFiles
  simp only [List.mem_flatMap, List.mem_range, List.mem_map]
  constructor
  · rintro ⟨m, _, f, hf, rfl⟩; exact hf
  · exact fun h => ⟨x.1, modFiles_lt h, x.2, h, rfl⟩

/-! The two bucket walks (`walkAll` here, `Targeting.walkTargets` over the target files) are one
    loop: per module `m` append `(m, f)` for the files `files m`, failing with `e1` on a path
    already collected, then fail with `e2` if `bad m`.  The facts about it are proved once, from the
    loop's equations. -/
section Walk
variable {ε : Type} {e1 e2 : ε} {files : Nat → List PFile} {bad : Nat → Bool}
  {go : Nat → List PFile → List (Nat × PFile) → Except ε (List (Nat × PFile))}
  {walk : List Nat → List (Nat × PFile) → Except ε (List (Nat × PFile))}
  (gnil : ∀ m acc, go m [] acc = .ok acc)
  (gcons : ∀ m f fs acc, go m (f :: fs) acc =
    if acc.any (fun x => x.2.path == f.path) then .error e1 else go m fs (acc ++ [(m, f)]))
  (wnil : ∀ acc, walk [] acc = .ok acc)
  (wcons : ∀ m ms acc, walk (m :: ms) acc =
    (go m (files m) acc).bind fun acc' => if bad m then .error e2 else walk ms acc')
include gnil gcons

theorem walkGo_ok (m : Nat) : ∀ (fs : List PFile) (acc acc' : List (Nat × PFile)),
    go m fs acc = .ok acc' →
      acc' = acc ++ fs.map (fun f => (m, f)) ∧
      ((acc.map (·.2.path)).Nodup → (acc'.map (·.2.path)).Nodup) := by
  intro fs
  induction fs with
  | nil => intro acc acc' h; rw [gnil] at h; injection h with h; subst h; simp
  | cons f fs ih =>
    intro acc acc' h
    rw [gcons] at h
    split at h
    · cases h
    · rename_i hany
      obtain ⟨e, hnd⟩ := ih _ _ h
      refine ⟨by rw [e]; simp [List.append_assoc], fun hn => hnd ?_⟩
      rw [List.map_append, List.nodup_append]
      refine ⟨hn, by simp, ?_⟩
      intro a ha b hb hab
      simp only [List.map_cons, List.map_nil, List.mem_singleton] at hb
      subst hb
      apply hany
      obtain ⟨x, hx, hxa⟩ := List.mem_map.mp ha
      exact List.any_eq_true.mpr ⟨x, hx, by simp [hxa, hab]⟩

theorem walkGo_of_nodup (m : Nat) : ∀ (fs : List PFile) (acc : List (Nat × PFile)),
    ((acc ++ fs.map (fun f => (m, f))).map (·.2.path)).Nodup →
      go m fs acc = .ok (acc ++ fs.map (fun f => (m, f))) := by
  intro fs
  induction fs with
  | nil => intro acc _; simp [gnil]
  | cons f fs ih =>
    intro acc hn
    rw [gcons]
    have hsplit : acc ++ (f :: fs).map (fun f => (m, f)) = (acc ++ [(m, f)]) ++ fs.map (fun f => (m, f)) := by
      simp [List.append_assoc]
    rw [hsplit] at hn ⊢
    have hnot : ¬ (acc.any (fun x => x.2.path == f.path) = true) := by
      intro hany
      obtain ⟨x, hx, hxp⟩ := List.any_eq_true.mp hany
      have hxp : x.2.path = f.path := by simpa using hxp
      rw [List.map_append, List.map_append, List.append_assoc, List.nodup_append] at hn
      exact hn.2.2 _ (List.mem_map.mpr ⟨x, hx, rfl⟩) f.path (by simp) hxp
    rw [if_neg hnot]
    exact ih _ hn

theorem walkGo_error (m : Nat) : ∀ (fs : List PFile) (acc : List (Nat × PFile)) (e : ε),
    go m fs acc = .error e → e = e1 := by
  intro fs
  induction fs with
  | nil => intro acc e h; rw [gnil] at h; cases h
  | cons f fs ih =>
    intro acc e h
    rw [gcons] at h
    split at h
    · injection h with h; exact h.symm
    · exact ih _ _ h

include wnil wcons

theorem walk_ok : ∀ (ms : List Nat) (acc acc' : List (Nat × PFile)), walk ms acc = .ok acc' →
    acc' = acc ++ ms.flatMap (fun m => (files m).map (fun f => (m, f))) ∧
    ((acc.map (·.2.path)).Nodup → (acc'.map (·.2.path)).Nodup) ∧ ∀ m ∈ ms, bad m = false := by
  intro ms
  induction ms with
  | nil => intro acc acc' h; rw [wnil] at h; injection h with h; subst h; simp
  | cons m ms ih =>
    intro acc acc' h
    rw [wcons] at h
    cases hgo : go m (files m) acc with
    | error e => rw [hgo] at h; cases h
    | ok a1 =>
      rw [hgo] at h
      simp only [Except.bind] at h
      split at h
      · cases h
      · rename_i hne
        obtain ⟨e1, n1⟩ := walkGo_ok gnil gcons m _ _ _ hgo
        obtain ⟨e2, n2, ne2⟩ := ih _ _ h
        refine ⟨by rw [e2, e1]; simp [List.append_assoc], fun hn => n2 (n1 hn), ?_⟩
        intro m' hm'
        rcases List.mem_cons.mp hm' with rfl | hm'
        · simpa using hne
        · exact ne2 m' hm'

theorem walk_of_nodup : ∀ (ms : List Nat) (acc : List (Nat × PFile)),
    ((acc ++ ms.flatMap (fun m => (files m).map (fun f => (m, f)))).map (·.2.path)).Nodup →
    (∀ m ∈ ms, bad m = false) →
      walk ms acc = .ok (acc ++ ms.flatMap (fun m => (files m).map (fun f => (m, f)))) := by
  intro ms
  induction ms with
  | nil => intro acc _ _; simp [wnil]
  | cons m ms ih =>
    intro acc hn hne
    have hsplit : acc ++ (m :: ms).flatMap (fun m => (files m).map (fun f => (m, f))) =
        (acc ++ (files m).map (fun f => (m, f))) ++ ms.flatMap (fun m => (files m).map (fun f => (m, f))) := by
      simp [List.append_assoc]
    rw [hsplit] at hn ⊢
    have h1 : ((acc ++ (files m).map (fun f => (m, f))).map (·.2.path)).Nodup := by
      rw [List.map_append] at hn
      exact (List.nodup_append.mp hn).1
    rw [wcons, walkGo_of_nodup gnil gcons m _ _ h1]
    simp only [Except.bind, hne m List.mem_cons_self, Bool.false_eq_true, ↓reduceIte]
    exact ih _ hn (fun m' hm' => hne m' (List.mem_cons_of_mem _ hm'))

theorem walk_error : ∀ (ms : List Nat) (acc : List (Nat × PFile)) (e : ε),
    walk ms acc = .error e → e = e1 ∨ e = e2 := by
  intro ms
  induction ms with
  | nil => intro acc e h; rw [wnil] at h; cases h
  | cons m ms ih =>
    intro acc e h
    rw [wcons] at h
    cases hgo : go m (files m) acc with
    | error e' =>
      rw [hgo] at h
      injection h with h; subst h
      exact Or.inl (walkGo_error gnil gcons m _ _ _ hgo)
    | ok a1 =>
      rw [hgo] at h
      simp only [Except.bind] at h
      split at h
      · injection h with h; exact Or.inr h.symm
      · exact ih _ _ h

end Walk

theorem walkAll_cons (ws : WS) (m : Nat) (ms : List Nat) (acc : List (Nat × PFile)) :
    walkAll ws (m :: ms) acc = (walkAll.go m (modFiles ws m) acc).bind fun acc' =>
      if (modFiles ws m).isEmpty then .error .noProtoFiles else walkAll ws ms acc' := by
  simp only [walkAll]
  cases walkAll.go m (modFiles ws m) acc <;> rfl

theorem walkAll_ok (ws : WS) : ∀ (ms : List Nat) (acc acc' : List (Nat × PFile)),
    walkAll ws ms acc = .ok acc' →
      acc' = acc ++ ms.flatMap (fun m => (modFiles ws m).map (fun f => (m, f))) ∧
      ((acc.map (·.2.path)).Nodup → (acc'.map (·.2.path)).Nodup) ∧
      ∀ m ∈ ms, (modFiles ws m).isEmpty = false :=
  walk_ok (go := walkAll.go) (fun _ _ => rfl) (fun _ _ _ _ => rfl) (fun _ => rfl) (walkAll_cons ws)

theorem walkAll_of_nodup (ws : WS) : ∀ (ms : List Nat) (acc : List (Nat × PFile)),
    ((acc ++ ms.flatMap (fun m => (modFiles ws m).map (fun f => (m, f)))).map (·.2.path)).Nodup →
    (∀ m ∈ ms, (modFiles ws m).isEmpty = false) →
      walkAll ws ms acc = .ok (acc ++ ms.flatMap (fun m => (modFiles ws m).map (fun f => (m, f)))) :=
  walk_of_nodup (go := walkAll.go) (fun _ _ => rfl) (fun _ _ _ _ => rfl) (fun _ => rfl) (walkAll_cons ws)

/-- the root list of `lsFiles`, as a function of the walk result. -/
def lsRoots (all : List (Nat × PFile)) (tf : Nat → PFile → Bool) : List Str :=
  ((sortBy (fun a b => strLe a.2.path b.2.path) all).filter (fun x => tf x.1 x.2)).map (·.2.path)

theorem mem_lsRoots {ws : WS} {tf : Nat → PFile → Bool} {p : Str} :
    p ∈ lsRoots (allFiles ws) tf ↔ ∃ m f, f ∈ modFiles ws m ∧ tf m f = true ∧ f.path = p := by
  unfold lsRoots
  simp only [List.mem_map, List.mem_filter, mem_sortBy]
  constructor
  · rintro ⟨x, ⟨hx, ht⟩, rfl⟩; exact ⟨x.1, x.2, mem_allFiles.mp hx, ht, rfl⟩
  · rintro ⟨m, f, hf, ht, rfl⟩; exact ⟨(m, f), ⟨mem_allFiles.mpr hf, ht⟩, rfl⟩

theorem lsFlag_eq (all : List (Nat × PFile)) (tf : Nat → PFile → Bool) (p : Str) :
    (!(all.any fun x => x.2.path == p && tf x.1 x.2)) = !decide (p ∈ lsRoots all tf) := by
  unfold lsRoots
  rw [Bool.not_inj_iff, Bool.eq_iff_iff]
  simp only [List.any_eq_true, Bool.and_eq_true, beq_iff_eq, decide_eq_true_eq, List.mem_map, List.mem_filter, mem_sortBy]
  constructor
  · rintro ⟨x, hx, hp, ht⟩; exact ⟨x, ⟨hx, ht⟩, hp⟩
  · rintro ⟨x, ⟨hx, ht⟩, hp⟩; exact ⟨x, hx, hp, ht⟩

theorem lsFiles_ok {ws : WS} {tf : Nat → PFile → Bool} {l : List (Str × Bool)}
    (h : lsFiles ws tf = .ok l) :
    ∃ vis out, walkAll ws (List.range ws.mods.length) [] = .ok (allFiles ws) ∧
      ((allFiles ws).map (·.2.path)).Nodup ∧
      (∀ m, m < ws.mods.length → (modFiles ws m).isEmpty = false) ∧
      dfsRoots (lsLookup (allFiles ws) ws.wkt) ((allFiles ws).length + ws.wkt.length + 1)
        (lsRoots (allFiles ws) tf) = .ok (vis, out) ∧
      l = (sortPaths vis).map (fun p => (p, !decide (p ∈ lsRoots (allFiles ws) tf))) := by
  unfold lsFiles at h
  split at h
  · cases h
  · rename_i all hall
    obtain ⟨e, hn, hne⟩ := walkAll_ok ws _ _ _ hall
    simp only [List.nil_append] at e
    have e' : all = allFiles ws := e
    subst e'
    dsimp only at h
    split at h
    · cases h
    · cases h
    · rename_i vis out hdfs
      injection h with h
      simp only [lsFlag_eq] at h
      exact ⟨vis, out, hall, hn (by simp), fun m hm => hne m (List.mem_range.mpr hm), hdfs, h.symm⟩

theorem lsLookup_some_mem {all : List (Nat × PFile)} {wkt : List PFile} {p : Str}
    (h : lsLookup all wkt p ≠ none) : p ∈ all.map (·.2.path) ++ wkt.map (·.path) := by
  unfold lsLookup at h
  split at h
  · rename_i x hx
    have h1 := List.find?_some hx
    have h2 := List.mem_of_find?_eq_some hx
    exact List.mem_append_left _ (List.mem_map.mpr ⟨x, h2, by simpa using h1⟩)
  · split at h
    · rename_i f hf
      have h1 := List.find?_some hf
      have h2 := List.mem_of_find?_eq_some hf
      exact List.mem_append_right _ (List.mem_map.mpr ⟨f, h2, by simpa using h1⟩)
    · exact absurd rfl h

/-- in a module set whose paths are pairwise distinct, the lookup of a workspace file's path yields
    that file's sorted unique scanned imports (`FileInfo.Imports()`). -/
theorem lsLookup_file {ws : WS} (hnd : ((allFiles ws).map (·.2.path)).Nodup) {m : Nat} {f : PFile}
    (hf : f ∈ modFiles ws m) : lsLookup (allFiles ws) ws.wkt f.path = some (infoImports f) := by
  unfold lsLookup
  have := find?_key_of_nodup (fun x : Nat × PFile => x.2.path) hnd (t := (m, f)) (mem_allFiles.mpr hf)
  dsimp only at this
  rw [this]

theorem lsFiles_ne_fuel (ws : WS) (tf : Nat → PFile → Bool) : lsFiles ws tf ≠ .error .fuel := by
  intro h
  unfold lsFiles at h
  split at h
  · rename_i e hall
    injection h with h; subst h
    rcases walk_error (go := walkAll.go) (fun _ _ => rfl) (fun _ _ _ _ => rfl) (fun _ => rfl) (walkAll_cons ws) _ _ _ hall
      with h | h <;> cases h
  · rename_i all hall
    dsimp only at h
    split at h
    · rename_i hdfs
      refine dfsRoots_ne_fuel (lsLookup all ws.wkt) (all.map (·.2.path) ++ ws.wkt.map (·.path))
        (fun x hx => lsLookup_some_mem hx) _ _ ?_ hdfs
      simp
    · cases h
    · cases h

end BufModel.Graph
