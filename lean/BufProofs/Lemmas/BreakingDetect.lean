import BufProofs.Lemmas.BreakingClean
/-
  Membership lemmas for C03: an annotation produced by a rule body on a matched pair (or on a
  previous element without counterpart) is part of the rule's / the category's result; the
  documented activity table; which handler a rule id of the dispatch table runs.
-/
namespace BufProofs.Breaking
open BufModel.Schema BufModel.Breaking

theorem mem_check {v : Ver} {cat id : String} {cur prev : Schema} {a : Ann}
    (hid : id ∈ rulesOf v cat) (ha : a ∈ runRule id cur prev) : a ∈ check v cat cur prev := by
  unfold check
  exact List.mem_flatMap.2 ⟨id, hid, ha⟩

theorem annAt_head {rule file : String} {locs : List SPath} {p : SPath} {rest : List SPath} {fb : String}
    (h : p ∈ locs) : annAt rule file locs (p :: rest) fb = ⟨rule, file, p⟩ := by
  unfold annAt
  simp [List.find?, h]

variable {cur prev : Schema}

theorem mem_filePairs (hw : WF cur) {f : File → File → List Ann} {pf cf : File} {a : Ann}
    (hpf : pf ∈ prev) (hcf : cf ∈ cur) (hpath : cf.path = pf.path) (ha : a ∈ f cf pf) :
    a ∈ filePairs cur prev f :=
  filePairs_on.mem (.of_nodup hw.files hpf hcf hpath) ha

theorem mem_msgPairs (hw : WF cur) {f : FlatMsg → FlatMsg → List Ann} {pm cm : FlatMsg} {a : Ann}
    (hpm : pm ∈ allMsgs prev) (hcm : cm ∈ allMsgs cur) (hname : cm.fullName = pm.fullName) (ha : a ∈ f cm pm) :
    a ∈ msgPairs cur prev f :=
  msgPairs_on.mem (.of_nodup hw.msgs hpm hcm hname) ha

theorem mem_enumPairs (hw : WF cur) {f : FlatEnum → FlatEnum → List Ann} {pe ce : FlatEnum} {a : Ann}
    (hpe : pe ∈ allEnums prev) (hce : ce ∈ allEnums cur) (hname : ce.fullName = pe.fullName) (ha : a ∈ f ce pe) :
    a ∈ enumPairs cur prev f :=
  enumPairs_on.mem (.of_nodup hw.enums hpe hce hname) ha

theorem mem_svcPairs (hw : WF cur) {f : FlatSvc → FlatSvc → List Ann} {ps cs : FlatSvc} {a : Ann}
    (hps : ps ∈ allSvcs prev) (hcs : cs ∈ allSvcs cur) (hname : cs.fullName = ps.fullName) (ha : a ∈ f cs ps) :
    a ∈ svcPairs cur prev f :=
  svcPairs_on.mem (.of_nodup hw.svcs hps hcs hname) ha

/-- `cf` (current) and `pf` (previous) are paired by NewBreakingFieldPairRuleHandler: the fields with
    the same number of two same-named messages, or two extensions (at any nesting, in any files) of
    the same extendee with the same number -/
def FieldPaired (cur prev : Schema) (cf pf : FlatField) : Prop :=
  (∃ pm cm, pm ∈ allMsgs prev ∧ cm ∈ allMsgs cur ∧ cm.fullName = pm.fullName ∧
      pf ∈ msgFields pm ∧ cf ∈ msgFields cm ∧ cf.field.number = pf.field.number) ∨
  (pf ∈ extFields prev ∧ cf ∈ extFields cur ∧ cf.field.extendee = pf.field.extendee ∧
      cf.field.number = pf.field.number)

theorem FieldPaired.visited (hw : WF cur) {pf cf : FlatField} (hp : FieldPaired cur prev cf pf) :
    FieldVisited cur prev cf pf := by
  rcases hp with ⟨pm, cm, hpm, hcm, hname, hpf, hcf, hnum⟩ | ⟨hpf, hcf, hx, hn⟩
  · exact .inl ⟨cm, pm, .of_nodup hw.msgs hpm hcm hname,
      .of_nodup (by rw [msgFields_numbers]; exact hw.fields cm hcm) hpf hcf hnum⟩
  · exact .inr (.of_nodup hw.exts hpf hcf (by rw [hx, hn]))

theorem mem_fieldPairs_paired (hw : WF cur) {f : FlatField → FlatField → List Ann} {pf cf : FlatField} {a : Ann}
    (hp : FieldPaired cur prev cf pf) (ha : a ∈ f cf pf) : a ∈ fieldPairs cur prev f :=
  fieldPairs_on.mem (hp.visited hw) ha

theorem mem_methodPairs (hw : WF cur) {f : FlatMethod → FlatMethod → List Ann} {ps cs : FlatSvc}
    {pm cm : FlatMethod} {a : Ann}
    (hps : ps ∈ allSvcs prev) (hcs : cs ∈ allSvcs cur) (hname : cs.fullName = ps.fullName)
    (hpm : pm ∈ svcMethods ps) (hcm : cm ∈ svcMethods cs) (hn : cm.m.name = pm.m.name)
    (ha : a ∈ f cm pm) : a ∈ methodPairs cur prev f :=
  methodPairs_on.mem ⟨cs, ps, .of_nodup hw.svcs hps hcs hname,
    .of_nodup (by rw [svcMethods_names]; exact hw.methods cs hcs) hpm hcm hn⟩ ha

theorem runRule_eq {id : String} {f : Schema → Schema → List Ann} (h : ruleTable.lookup id = some f)
    (cur prev : Schema) : runRule id cur prev = f cur prev := by
  unfold runRule; rw [h]

/-! ### where each rule is active — the DOCUMENTED table (hand-written from the buf documentation
    "Rules and categories" of the three configuration versions), checked by `decide` against the
    REGENERATED `BufGen.BreakingTables` (`docTable_exact`; `C03.rules_active` is that statement in
    terms of `activeCats`). -/

def allCats : List String := ["FILE", "PACKAGE", "WIRE_JSON", "WIRE"]

structure DocRow where
  id : String
  v1beta1 : List String
  v1 : List String
  v2 : List String

def DocRow.cats (r : DocRow) : Ver → List String
  | .v1beta1 => r.v1beta1 | .v1 => r.v1 | .v2 => r.v2

def inF : List String := ["FILE"]
def inFP : List String := ["FILE", "PACKAGE"]
def inFPJ : List String := ["FILE", "PACKAGE", "WIRE_JSON"]
def inAll : List String := ["FILE", "PACKAGE", "WIRE_JSON", "WIRE"]
def inP : List String := ["PACKAGE"]
def inJ : List String := ["WIRE_JSON"]
def inJW : List String := ["WIRE_JSON", "WIRE"]
def inW : List String := ["WIRE"]

def same (id : String) (c : List String) : DocRow := ⟨id, c, c, c⟩

def docTable : List DocRow := [
  same "ENUM_NO_DELETE" inF,
  ⟨"EXTENSION_NO_DELETE", [], [], inF⟩,
  same "FILE_NO_DELETE" inF,
  same "MESSAGE_NO_DELETE" inF,
  same "SERVICE_NO_DELETE" inF,
  same "ENUM_SAME_TYPE" inFP,
  same "ENUM_SAME_JSON_FORMAT" inFPJ,
  same "ENUM_VALUE_NO_DELETE" inFP,
  same "ENUM_VALUE_NO_DELETE_UNLESS_NAME_RESERVED" inJ,
  same "ENUM_VALUE_NO_DELETE_UNLESS_NUMBER_RESERVED" inJW,
  same "ENUM_VALUE_SAME_NAME" inFPJ,
  same "RESERVED_ENUM_NO_DELETE" inAll,
  same "EXTENSION_MESSAGE_NO_DELETE" inFP,
  same "FIELD_NO_DELETE" inFP,
  same "FIELD_NO_DELETE_UNLESS_NAME_RESERVED" inJ,
  same "FIELD_NO_DELETE_UNLESS_NUMBER_RESERVED" inJW,
  same "MESSAGE_NO_REMOVE_STANDARD_DESCRIPTOR_ACCESSOR" inFP,
  same "ONEOF_NO_DELETE" inFP,
  same "MESSAGE_SAME_JSON_FORMAT" inFPJ,
  same "MESSAGE_SAME_REQUIRED_FIELDS" inAll,
  same "RESERVED_MESSAGE_NO_DELETE" inAll,
  ⟨"FIELD_SAME_CARDINALITY", inAll, inFP, inFP⟩,
  same "FIELD_WIRE_COMPATIBLE_CARDINALITY" inW,
  same "FIELD_WIRE_JSON_COMPATIBLE_CARDINALITY" inJ,
  ⟨"FIELD_SAME_TYPE", inAll, inFP, inFP⟩,
  ⟨"FIELD_WIRE_COMPATIBLE_TYPE", [], inW, inW⟩,
  ⟨"FIELD_WIRE_JSON_COMPATIBLE_TYPE", [], inJ, inJ⟩,
  same "FIELD_SAME_JSTYPE" inFP,
  same "FIELD_SAME_UTF8_VALIDATION" inFP,
  same "FIELD_SAME_JSON_NAME" inFPJ,
  same "FIELD_SAME_NAME" inFPJ,
  ⟨"FIELD_SAME_DEFAULT", [], [], inAll⟩,
  same "FIELD_SAME_ONEOF" inAll,
  same "RPC_NO_DELETE" inFP,
  same "RPC_SAME_CLIENT_STREAMING" inAll,
  same "RPC_SAME_SERVER_STREAMING" inAll,
  same "RPC_SAME_IDEMPOTENCY_LEVEL" inAll,
  same "RPC_SAME_REQUEST_TYPE" inAll,
  same "RPC_SAME_RESPONSE_TYPE" inAll,
  same "PACKAGE_ENUM_NO_DELETE" inP,
  ⟨"PACKAGE_EXTENSION_NO_DELETE", [], [], inP⟩,
  same "PACKAGE_MESSAGE_NO_DELETE" inP,
  same "PACKAGE_SERVICE_NO_DELETE" inP,
  same "PACKAGE_NO_DELETE" inP,
  same "FILE_SAME_SYNTAX" inFP,
  ⟨"FILE_SAME_PACKAGE", inF, inAll, inAll⟩,
  same "FILE_SAME_CC_ENABLE_ARENAS" inFP, same "FILE_SAME_CC_GENERIC_SERVICES" inFP,
  same "FILE_SAME_CSHARP_NAMESPACE" inFP, same "FILE_SAME_GO_PACKAGE" inFP,
  same "FILE_SAME_JAVA_GENERIC_SERVICES" inFP, same "FILE_SAME_JAVA_MULTIPLE_FILES" inFP,
  same "FILE_SAME_JAVA_OUTER_CLASSNAME" inFP, same "FILE_SAME_JAVA_PACKAGE" inFP,
  same "FILE_SAME_OBJC_CLASS_PREFIX" inFP, same "FILE_SAME_OPTIMIZE_FOR" inFP,
  same "FILE_SAME_PHP_CLASS_PREFIX" inFP, same "FILE_SAME_PHP_METADATA_NAMESPACE" inFP,
  same "FILE_SAME_PHP_NAMESPACE" inFP, same "FILE_SAME_PY_GENERIC_SERVICES" inFP,
  same "FILE_SAME_RUBY_PACKAGE" inFP, same "FILE_SAME_SWIFT_PREFIX" inFP]

/-- Everything that is checked against the tables by evaluation, in ONE evaluation (the id strings
    of `docTable` and of the regenerated tables are decoded once).  The theorems below are its
    components. -/
theorem table_facts :
    (docTable.map (·.id) = ruleTable.map (·.1) ++ fileOptRules.map (·.1) ∧
      (ruleTable.map (·.1) ++ fileOptRules.map (·.1)).Nodup) ∧
    (∀ v ∈ [Ver.v1beta1, Ver.v1, Ver.v2], ∀ r ∈ docTable,
      (∀ cat ∈ allCats, (cat ∈ r.cats v ↔ r.id ∈ rulesOf v cat)) ∧ ∀ c ∈ r.cats v, c ∈ allCats) ∧
    (∀ v ∈ [Ver.v1beta1, Ver.v1, Ver.v2], ∀ r ∈ v.table, ∀ c ∈ r.cats, c ∈ allCats) ∧
    (∀ r ∈ docTable, r.cats .v2 ≠ []) := by decide +kernel

theorem ver_mem (v : Ver) : v ∈ [Ver.v1beta1, Ver.v1, Ver.v2] := by cases v <;> decide

theorem docTable_ids : docTable.map (·.id) = ruleTable.map (·.1) ++ fileOptRules.map (·.1) := table_facts.1.1

theorem dispatch_ids_nodup : (ruleTable.map (·.1) ++ fileOptRules.map (·.1)).Nodup := table_facts.1.2

/-- `ruleTable.lookup "…" = some f` by `rfl` would decode every key in front of the id again, in every
    declaration that does it: this lemma and the three after it take `(id, f) ∈ ruleTable` instead and
    show it by walking the list (`List.Mem.tail` up to the entry, `List.Mem.head` there): nothing is
    evaluated. -/
theorem ruleTable_lookup {id : String} {f : Schema → Schema → List Ann}
    (h : (id, f) ∈ ruleTable := by unfold ruleTable; repeat constructor) : ruleTable.lookup id = some f :=
  ListLemmas.lookup_of_mem (List.nodup_append.1 dispatch_ids_nodup).1 h

theorem runRule_of_mem {id : String} {f : Schema → Schema → List Ann} (cur prev : Schema)
    (h : (id, f) ∈ ruleTable := by unfold ruleTable; repeat constructor) : runRule id cur prev = f cur prev :=
  runRule_eq (ruleTable_lookup h) cur prev

theorem handler_ne_nil {id : String} {f : Schema → Schema → List Ann} {cur prev : Schema}
    (h : runRule id cur prev ≠ []) (hr : (id, f) ∈ ruleTable := by unfold ruleTable; repeat constructor) :
    f cur prev ≠ [] :=
  runRule_of_mem cur prev hr ▸ h

theorem runRule_ne_nil {id : String} {f : Schema → Schema → List Ann} {cur prev : Schema}
    (h : f cur prev ≠ []) (hr : (id, f) ∈ ruleTable := by unfold ruleTable; repeat constructor) :
    runRule id cur prev ≠ [] :=
  (runRule_of_mem cur prev hr).symm ▸ h

theorem fileOpt_not_in_ruleTable {id : String} {n : Nat} (h : (id, n) ∈ fileOptRules) :
    ruleTable.lookup id = none :=
  List.lookup_eq_none_iff.2 fun q hq => bne_iff_ne.2 fun e =>
    (List.nodup_append.1 dispatch_ids_nodup).2.2 q.1 (List.mem_map_of_mem hq) id
      (List.mem_map_of_mem (f := (·.1)) h) e.symm

theorem docTable_exact : ∀ v : Ver, ∀ r ∈ docTable, ∀ cat ∈ allCats,
    (cat ∈ r.cats v ↔ r.id ∈ rulesOf v cat) :=
  fun v r hr => (table_facts.2.1 v (ver_mem v) r hr).1

theorem docTable_cats : ∀ v : Ver, ∀ r ∈ docTable, ∀ c ∈ r.cats v, c ∈ allCats :=
  fun v r hr => (table_facts.2.1 v (ver_mem v) r hr).2

theorem table_cats : ∀ v : Ver, ∀ r ∈ v.table, ∀ c ∈ r.cats, c ∈ allCats :=
  fun v => table_facts.2.2.1 v (ver_mem v)

theorem docTable_v2_nonempty : ∀ r ∈ docTable, r.cats .v2 ≠ [] := table_facts.2.2.2

/-- the categories in which rule `id` is documented to be active under config version `v` -/
def activeCats (id : String) (v : Ver) : List String :=
  match docTable.find? (fun r => r.id == id) with
  | some r => r.cats v
  | none => []

theorem activeCats_cases (id : String) (v : Ver) :
    (∃ r ∈ docTable, r.id = id ∧ activeCats id v = r.cats v) ∨
    (id ∉ docTable.map (·.id) ∧ activeCats id v = []) := by
  unfold activeCats
  cases hf : docTable.find? (fun r => r.id == id) with
  | some r => exact .inl ⟨r, List.mem_of_find?_eq_some hf, by simpa using List.find?_some hf, rfl⟩
  | none =>
    refine .inr ⟨fun h => ?_, rfl⟩
    obtain ⟨r0, hr0, hid0⟩ := List.mem_map.1 h
    simpa [hid0] using List.find?_eq_none.1 hf r0 hr0

theorem active_sound {id : String} {v : Ver} {cat : String} (h : cat ∈ activeCats id v) :
    id ∈ rulesOf v cat := by
  rcases activeCats_cases id v with ⟨r, hr, rfl, he⟩ | ⟨_, he⟩
  · rw [he] at h
    exact (docTable_exact v r hr cat (docTable_cats v r hr cat h)).1 h
  · rw [he] at h
    cases h

theorem cat_of_mem_rulesOf {id : String} {v : Ver} {cat : String} (h : id ∈ rulesOf v cat) : cat ∈ allCats := by
  unfold rulesOf at h
  obtain ⟨h1, _⟩ := List.mem_filter.1 h
  obtain ⟨r, hr, _⟩ := List.mem_map.1 h1
  obtain ⟨hr1, hr2⟩ := List.mem_filter.1 hr
  exact table_cats v r hr1 cat (by simpa using hr2)

theorem active_complete {id : String} (hid : id ∈ docTable.map (·.id)) {v : Ver} {cat : String}
    (h : id ∈ rulesOf v cat) : cat ∈ activeCats id v := by
  rcases activeCats_cases id v with ⟨r, hr, rfl, he⟩ | ⟨hno, _⟩
  · exact he ▸ (docTable_exact v r hr cat (cat_of_mem_rulesOf h)).2 h
  · exact absurd hid hno

/-- `Reports id a cur prev`: the annotation `a` is reported in EVERY configuration (config version ×
    category) in which rule `id` is documented to be active -/
def Reports (id : String) (a : Ann) (cur prev : Schema) : Prop :=
  ∀ (v : Ver) (cat : String), cat ∈ activeCats id v → a ∈ check v cat cur prev

theorem reports_of_run {id : String} {a : Ann} {cur prev : Schema} (h : a ∈ runRule id cur prev) :
    Reports id a cur prev :=
  fun _ _ hc => mem_check (active_sound hc) h

theorem reports_of_rule {id : String} {f : Schema → Schema → List Ann} {a : Ann} {cur prev : Schema}
    (h : a ∈ f cur prev) (hr : (id, f) ∈ ruleTable := by unfold ruleTable; repeat constructor) :
    Reports id a cur prev :=
  reports_of_run (runRule_of_mem cur prev hr ▸ h)

end BufProofs.Breaking
