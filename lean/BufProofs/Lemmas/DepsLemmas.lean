import BufProofs.Lemmas.DfsLemmas
/-
  Lemmas behind the headline theorems of C10 about `depsRec` / `moduleDeps` / `dagRec` / `toDAG`
  (bufmodule.getModuleDepsRec, getModuleDeps, moduleSetToDAGRec, ModuleSetToDAG as coded).

  `getModuleDepsRec` is not a depth-first search of the module graph: a successor that is already a
  key of the dep map (claimed by whoever scanned it first) is not descended into, visited or not.
  Every module other than the root is entered once, by the module that claimed it.
-/
namespace BufModel.Graph
open BufModel.Path

/-! ### dep maps, owners, successors -/

theorem keys_append (a b : DepMap) : DepMap.keys (a ++ b) = DepMap.keys a ++ DepMap.keys b := by
  simp [DepMap.keys]

theorem mem_keys_append {a b : DepMap} {k : Nat} :
    k ∈ DepMap.keys (a ++ b) ↔ k ∈ DepMap.keys a ∨ k ∈ DepMap.keys b := by
  rw [keys_append, List.mem_append]

theorem keys_map_pair (l : List Nat) (dir : Bool) : DepMap.keys (l.map (fun k => (k, dir))) = l := by
  induction l with
  | nil => rfl
  | cons x xs ih => simp only [DepMap.keys, List.map_cons, List.map_map] at ih ⊢; rw [ih]

theorem mem_keys_claim {d : DepMap} {add : List Nat} {dir : Bool} {k : Nat} :
    k ∈ DepMap.keys (d ++ add.map (fun k => (k, dir))) ↔ k ∈ DepMap.keys d ∨ k ∈ add := by
  rw [mem_keys_append, keys_map_pair]

theorem owner_one_lt {ws : WS} {p : Str} {k : Nat} (h : owner ws p = .one k) : k < ws.mods.length := by
  unfold owner at h
  split at h
  · cases h
  · rename_i m heq
    injection h with h; subst h
    have hm : m ∈ providers ws p := by rw [heq]; exact List.mem_cons_self
    unfold providers at hm
    exact List.mem_range.mp (List.mem_filter.mp hm).1
  · cases h

theorem mem_msucc {ws : WS} {m k : Nat} :
    k ∈ msucc ws m ↔ ∃ p ∈ allImports ws m, owner ws p = .one k ∧ k ≠ m := by
  unfold msucc
  rw [List.mem_filterMap]
  constructor
  · rintro ⟨p, hp, h⟩
    split at h
    · rename_i d hd
      split at h
      · cases h
      · rename_i hne
        injection h with h; subst h
        exact ⟨p, hp, hd, hne⟩
    · cases h
  · rintro ⟨p, hp, ho, hne⟩
    refine ⟨p, hp, ?_⟩
    rw [ho]
    simp [hne]

theorem msucc_lt {ws : WS} {m k : Nat} (h : k ∈ msucc ws m) : k < ws.mods.length := by
  obtain ⟨p, _, ho, _⟩ := mem_msucc.mp h
  exact owner_one_lt ho

theorem msucc_ne {ws : WS} {m k : Nat} (h : k ∈ msucc ws m) : k ≠ m := by
  obtain ⟨p, _, _, hne⟩ := mem_msucc.mp h
  exact hne

theorem msucc_src_lt {ws : WS} {m k : Nat} (h : k ∈ msucc ws m) : m < ws.mods.length := by
  obtain ⟨p, hp, _, _⟩ := mem_msucc.mp h
  apply lt_of_modFiles_nonempty
  cases hf : modFiles ws m with
  | nil => simp [allImports, hf] at hp
  | cons _ _ => rfl

theorem reach_lt {ws : WS} {r x : Nat} (hr : r < ws.mods.length) (h : Reach (msuccO ws) r x) :
    x < ws.mods.length := by
  induction h with
  | refl => exact hr
  | step _ hs hc _ =>
    simp only [msuccO, Option.some.injEq] at hs
    subst hs
    exact msucc_lt hc

theorem nodup_lt_length_le {l : List Nat} {n : Nat} (hnd : l.Nodup) (hlt : ∀ x ∈ l, x < n) :
    l.length ≤ n := by
  have h := List.Nodup.length_le_of_subset hnd (l₂ := List.range n)
    (fun x hx => List.mem_range.mpr (hlt x hx))
  simpa using h

/-! ### the import scan of one module -/

/-- What a scan of the imports `ps` claims: their owners under `own`, in order, other than `self`
    and not among `ks`, each once.  (`own` is a parameter so that a scan over another owner
    function — `MultiFail.ownerE` — has the same lemmas.) -/
def newDeps (own : Str → Owner) (self : Nat) : List Str → List Nat → List Nat
  | [], _ => []
  | p :: ps, ks =>
    match own p with
    | .one m => if m = self ∨ m ∈ ks then newDeps own self ps ks else m :: newDeps own self ps (ks ++ [m])
    | _ => newDeps own self ps ks

theorem mem_newDeps (own : Str → Owner) (self : Nat) : ∀ (ps : List Str) (ks : List Nat) (x : Nat),
    x ∈ newDeps own self ps ks ↔ x ≠ self ∧ x ∉ ks ∧ ∃ p ∈ ps, own p = .one x := by
  intro ps
  induction ps with
  | nil => intro ks x; simp [newDeps]
  | cons p ps ih =>
    intro ks x
    have hex : (∃ q ∈ p :: ps, own q = .one x) ↔ own p = .one x ∨ ∃ q ∈ ps, own q = .one x := by simp
    rw [hex]
    simp only [newDeps]
    cases ho : own p with
    | one m =>
      simp only [Owner.one.injEq]
      by_cases hm : m = self ∨ m ∈ ks
      · -- `m` is claimed already: `x = m` contradicts the other two conjuncts
        rw [if_pos hm, ih]
        refine and_congr_right fun h1 => and_congr_right fun h2 => ⟨Or.inr, fun h => h.resolve_left ?_⟩
        rintro rfl; exact hm.elim h1 h2
      · -- `m` is claimed now: for `x = m` both sides hold, for another `x` the new key makes no difference
        rw [if_neg hm, List.mem_cons, ih]
        by_cases hx : x = m
        · subst hx
          simpa [not_or] using hm
        · simp [hx, Ne.symm hx]
    | none => simp [ih]
    | dup => simp [ih]

theorem nodup_newDeps (own : Str → Owner) (self : Nat) : ∀ (ps : List Str) (ks : List Nat),
    (newDeps own self ps ks).Nodup := by
  intro ps
  induction ps with
  | nil => intro ks; simp [newDeps]
  | cons p ps ih =>
    intro ks
    simp only [newDeps]
    split
    · split
      · exact ih ks
      · exact List.nodup_cons.mpr ⟨fun h => ((mem_newDeps own self ps _ _).mp h).2.1 (by simp), ih _⟩
    · exact ih ks

def importFault (ws : WS) (p : Str) : Option DErr :=
  match owner ws p with
  | .none => if isWkt ws p then none else some .importNotExist
  | .dup => some .dupPath
  | .one _ => none

theorem importFault_eq_none {ws : WS} {p : Str} :
    importFault ws p = none ↔ (∃ k, owner ws p = .one k) ∨ (owner ws p = .none ∧ isWkt ws p = true) := by
  unfold importFault
  cases owner ws p with
  | none => cases isWkt ws p <;> simp
  | dup => simp
  | one k => simp

theorem importFault_eq_some {ws : WS} {p : Str} {e : DErr} :
    importFault ws p = some e ↔ (e = .dupPath ∧ owner ws p = .dup) ∨
      (e = .importNotExist ∧ owner ws p = .none ∧ isWkt ws p = false) := by
  unfold importFault
  cases owner ws p with
  | none =>
    cases isWkt ws p with
    | true => simp
    | false => exact ⟨fun h => Or.inr ⟨(Option.some.inj h).symm, rfl, rfl⟩, fun h => by simp [h.resolve_left (by simp)]⟩
  | dup => exact ⟨fun h => Or.inl ⟨(Option.some.inj h).symm, rfl⟩, fun h => by simp [h.resolve_right (by simp)]⟩
  | one k => simp

theorem scanImports_eq (ws : WS) (self : Nat) (dir : Bool) : ∀ (ps : List Str) (d : DepMap) (nw : List Nat),
    scanImports ws self dir ps d nw =
      match (ps.filterMap (importFault ws)).head? with
      | some e => .error e
      | none => .ok (d ++ (newDeps (owner ws) self ps (DepMap.keys d)).map (fun k => (k, dir)),
                     nw ++ newDeps (owner ws) self ps (DepMap.keys d)) := by
  intro ps
  induction ps with
  | nil => intro d nw; simp [scanImports, newDeps]
  | cons p ps ih =>
    intro d nw
    simp only [scanImports, newDeps, List.filterMap_cons, importFault]
    cases owner ws p with
    | none => cases isWkt ws p <;> simp [ih]
    | dup => simp
    | one m =>
      by_cases h1 : m = self
      · simp [h1, ih]
      · by_cases h2 : m ∈ DepMap.keys d
        · simp [h1, h2, ih]
        · simp only [h1, h2, ↓reduceIte, ih, or_self, keys_append]
          cases (ps.filterMap (importFault ws)).head? <;> simp [DepMap.keys]

theorem scanImports_ok_of {ws : WS} {self : Nat} {dir : Bool} {ps : List Str} {d : DepMap} {nw : List Nat}
    (h : ∀ p ∈ ps, importFault ws p = none) :
    scanImports ws self dir ps d nw =
      .ok (d ++ (newDeps (owner ws) self ps (DepMap.keys d)).map (fun k => (k, dir)),
           nw ++ newDeps (owner ws) self ps (DepMap.keys d)) := by
  rw [scanImports_eq, List.head?_eq_none_iff.mpr (List.filterMap_eq_nil_iff.mpr h)]

theorem scan_ok {ws : WS} {self : Nat} {dir : Bool} {ps : List Str} {d : DepMap} {nw : List Nat}
    {r : DepMap × List Nat} (h : scanImports ws self dir ps d nw = .ok r) :
    (∀ p ∈ ps, importFault ws p = none) ∧
      r = (d ++ (newDeps (owner ws) self ps (DepMap.keys d)).map (fun k => (k, dir)),
           nw ++ newDeps (owner ws) self ps (DepMap.keys d)) := by
  rw [scanImports_eq] at h
  split at h
  · cases h
  · rename_i he
    injection h with h
    exact ⟨List.filterMap_eq_nil_iff.mp (List.head?_eq_none_iff.mp he), h.symm⟩

/-- what a scan of module `m` claims on top of `d`: the successors of `m` nobody has claimed yet. -/
theorem newDeps_msucc (ws : WS) (m : Nat) (dir : Bool) (d : DepMap) :
    (newDeps (owner ws) m (allImports ws m) (DepMap.keys d)).Nodup ∧
    (∀ k ∈ newDeps (owner ws) m (allImports ws m) (DepMap.keys d), k ∉ DepMap.keys d ∧ k ∈ msucc ws m) ∧
    ∀ k ∈ msucc ws m, k ∈ DepMap.keys
      (d ++ (newDeps (owner ws) m (allImports ws m) (DepMap.keys d)).map (fun k => (k, dir))) := by
  refine ⟨nodup_newDeps _ _ _ _, fun k hk => ?_, fun k hk => ?_⟩
  · obtain ⟨a, b, p, hp, ho⟩ := (mem_newDeps _ _ _ _ _).mp hk
    exact ⟨b, mem_msucc.mpr ⟨p, hp, ho, a⟩⟩
  · obtain ⟨p, hp, ho, hne⟩ := mem_msucc.mp hk
    rw [mem_keys_claim]
    by_cases hkd : k ∈ DepMap.keys d
    · exact Or.inl hkd
    · exact Or.inr ((mem_newDeps _ _ _ _ _).mpr ⟨hne, hkd, p, hp, ho⟩)

/-! ### a run read relatively to its start state -/

/-- A run of `depsRec` from the roots `rs` read relatively to its start state `(vis, d)`.  No theorem
    concludes it; the theorems use the invariant `DInv` of the state. -/
structure DPost (ws : WS) (dir : Bool) (rs par vis : List Nat) (d : DepMap) (vis' : List Nat) (d' : DepMap) : Prop where
  roots : ∀ c ∈ rs, c ∈ vis' ∧ c ∉ par
  vmono : ∀ x ∈ vis, x ∈ vis'
  ex : ∃ nd : DepMap, d' = d ++ nd ∧ (∀ e ∈ nd, e.2 = dir ∨ e.2 = false) ∧
    (∀ k ∈ DepMap.keys nd, k ∉ DepMap.keys d ∧ k ∈ vis' ∧ k ∉ par ∧ ∃ c ∈ rs, ReachPlus (msuccO ws) c k) ∧
    (DepMap.keys nd).Nodup
  scanned : ∀ x ∈ vis', x ∈ vis ∨ ((∃ c ∈ rs, Reach (msuccO ws) c x) ∧ ∀ s ∈ msucc ws x, s ∈ DepMap.keys d')

/-! ### the errors a module causes by itself -/

inductive LocalErr (ws : WS) (x : Nat) : DErr → Prop where
  | dup (p : Str) : p ∈ allImports ws x → owner ws p = .dup → LocalErr ws x .dupPath
  | noimp (p : Str) : p ∈ allImports ws x → owner ws p = .none → isWkt ws p = false →
      LocalErr ws x .importNotExist
  | noproto : (modFiles ws x).isEmpty = true → LocalErr ws x .noProtoFiles

theorem LocalErr.ne_cycle {ws : WS} {x : Nat} {e : DErr} (h : LocalErr ws x e) : e ≠ .cycle := by
  cases h <;> simp

theorem LocalErr.ne_fuel {ws : WS} {x : Nat} {e : DErr} (h : LocalErr ws x e) : e ≠ .fuel := by
  cases h <;> simp


/-! ### a module whose own scan raises no error -/

def LocalOK (ws : WS) (x : Nat) : Prop :=
  (modFiles ws x).isEmpty = false ∧ ∀ p ∈ allImports ws x, importFault ws p = none

/-! ### one `depsRec` call: on the stack, visited, or entered -/

theorem depsRec_stack {ws : WS} {m : Nat} {par : List Nat} (fuel : Nat) (dir : Bool) (s : List Nat × DepMap)
    (hp : m ∈ par) : depsRec ws (fuel + 1) m dir par s = .error .cycle := by
  simp only [depsRec, if_pos hp]

theorem depsRec_visited {ws : WS} {m : Nat} {par vis : List Nat} (fuel : Nat) (dir : Bool) (d : DepMap)
    (hp : m ∉ par) (hv : m ∈ vis) : depsRec ws (fuel + 1) m dir par (vis, d) = .ok (vis, d) := by
  simp only [depsRec, if_neg hp, if_pos hv]

/-- a call on a module neither on the stack nor visited fails with an error of the module itself, or
    marks it, claims its unclaimed successors and calls them in order. -/
theorem depsRec_enter {ws : WS} {m : Nat} {par vis : List Nat} (fuel : Nat) (dir : Bool) (d : DepMap)
    (hp : m ∉ par) (hv : m ∉ vis) :
    (∃ e, LocalErr ws m e ∧ depsRec ws (fuel + 1) m dir par (vis, d) = .error e) ∨
    (LocalOK ws m ∧ depsRec ws (fuel + 1) m dir par (vis, d) =
      foldE (fun c s => depsRec ws fuel c false (m :: par) s)
        (sortBy natLe (newDeps (owner ws) m (allImports ws m) (DepMap.keys d)))
        (m :: vis, d ++ (newDeps (owner ws) m (allImports ws m) (DepMap.keys d)).map (fun k => (k, dir)))) := by
  simp only [depsRec, if_neg hp, if_neg hv, scanImports_eq, List.nil_append]
  cases hf : ((allImports ws m).filterMap (importFault ws)).head? with
  | some e =>
    obtain ⟨p, hpm, hpe⟩ := List.mem_filterMap.mp (List.mem_of_head? hf)
    refine Or.inl ⟨e, ?_, rfl⟩
    rcases importFault_eq_some.mp hpe with ⟨rfl, ho⟩ | ⟨rfl, ho, hw⟩
    · exact .dup p hpm ho
    · exact .noimp p hpm ho hw
  | none =>
    cases he : (modFiles ws m).isEmpty with
    | true => exact Or.inl ⟨_, .noproto he, rfl⟩
    | false => exact Or.inr ⟨⟨he, List.filterMap_eq_nil_iff.mp (List.head?_eq_none_iff.mp hf)⟩, rfl⟩

/-- The state of the run for root `r` at any moment, stated absolutely since the run enters `r` first, from the
    empty state: the visited modules are reachable from `r` and scan without error, and the map holds exactly
    their successors, each once, flagged direct iff a successor of `r`. -/
structure DInv (ws : WS) (r : Nat) (s : List Nat × DepMap) : Prop where
  start : r ∉ s.1 → s = ([], [])
  reach : ∀ x ∈ s.1, Reach (msuccO ws) r x
  ok : ∀ x ∈ s.1, LocalOK ws x
  vis_key : ∀ x ∈ s.1, x = r ∨ x ∈ DepMap.keys s.2
  sound : ∀ k ∈ DepMap.keys s.2, ∃ x ∈ s.1, k ∈ msucc ws x
  complete : ∀ x ∈ s.1, ∀ k ∈ msucc ws x, k ∈ DepMap.keys s.2
  nodup : (DepMap.keys s.2).Nodup
  flags : ∀ e ∈ s.2, e.2 = true ↔ e.1 ∈ msucc ws r

theorem dinv_nil (ws : WS) (r : Nat) : DInv ws r ([], []) :=
  ⟨fun _ => rfl, by simp, by simp, by simp, by simp [DepMap.keys], by simp, by simp [DepMap.keys], by simp⟩

/-- who may be called in which state: the root at the start, a claimed module below it. -/
def Callee (r m : Nat) (dir : Bool) (s : List Nat × DepMap) : Prop :=
  (m = r ∧ dir = true ∧ s = ([], [])) ∨ (m ∈ DepMap.keys s.2 ∧ dir = false)

theorem DInv.reach_callee {ws : WS} {r m : Nat} {dir : Bool} {s : List Nat × DepMap}
    (hi : DInv ws r s) (hc : Callee r m dir s) : Reach (msuccO ws) r m := by
  rcases hc with ⟨rfl, _, _⟩ | ⟨hk, _⟩
  · exact Reach.refl _
  · obtain ⟨x, hx, hm⟩ := hi.sound m hk
    exact Reach.step (hi.reach x hx) rfl hm

theorem DInv.root_visited {ws : WS} {r k : Nat} {vis : List Nat} {d : DepMap}
    (hi : DInv ws r (vis, d)) (hk : k ∈ DepMap.keys d) : r ∈ vis :=
  Decidable.byContradiction fun hn => by
    cases hi.start hn
    cases hk

theorem Callee.root_on_stack {r m : Nat} {dir : Bool} {s : List Nat × DepMap} {par : List Nat}
    (hc : Callee r m dir s) (hp : dir = false → r ∈ par) : r ∈ m :: par := by
  rcases hc with ⟨rfl, _, _⟩ | ⟨_, hd⟩
  · exact List.mem_cons_self
  · exact List.mem_cons_of_mem _ (hp hd)

/-- the one state change of `depsRec`: `m` is marked visited and claims `add`, the successors of
    `m` nobody has claimed yet. -/
theorem DInv.visit {ws : WS} {r m : Nat} {dir : Bool} {vis add : List Nat} {d : DepMap}
    (hi : DInv ws r (vis, d)) (hc : Callee r m dir (vis, d)) (hok : LocalOK ws m) (hnd : add.Nodup)
    (hadd : ∀ k ∈ add, k ∉ DepMap.keys d ∧ k ∈ msucc ws m)
    (hall : ∀ k ∈ msucc ws m, k ∈ DepMap.keys (d ++ add.map (fun k => (k, dir)))) :
    DInv ws r (m :: vis, d ++ add.map (fun k => (k, dir))) := by
  have hold : ∀ {k}, k ∈ DepMap.keys d → k ∈ DepMap.keys (d ++ add.map (fun k => (k, dir))) :=
    fun h => mem_keys_claim.mpr (Or.inl h)
  refine ⟨fun hn => absurd ?_ hn, ?_, ?_, ?_, ?_, ?_, ?_, ?_⟩
  · rcases hc with ⟨rfl, _, _⟩ | ⟨hk, _⟩
    · exact List.mem_cons_self
    · exact List.mem_cons_of_mem _ (hi.root_visited hk)
  · exact List.forall_mem_cons.mpr ⟨hi.reach_callee hc, hi.reach⟩
  · exact List.forall_mem_cons.mpr ⟨hok, hi.ok⟩
  · exact List.forall_mem_cons.mpr ⟨hc.imp (·.1) (hold ·.1), fun x hx => (hi.vis_key x hx).imp id hold⟩
  · intro k hk
    rcases mem_keys_claim.mp hk with h | h
    · obtain ⟨x, hx, hm⟩ := hi.sound k h
      exact ⟨x, List.mem_cons_of_mem _ hx, hm⟩
    · exact ⟨m, List.mem_cons_self, (hadd k h).2⟩
  · exact List.forall_mem_cons.mpr ⟨hall, fun x hx k hk => hold (hi.complete x hx k hk)⟩
  · rw [keys_append, keys_map_pair, List.nodup_append]
    exact ⟨hi.nodup, hnd, fun a ha b hb hab => (hadd b hb).1 (hab ▸ ha)⟩
  · intro e he
    rcases List.mem_append.mp he with h | h
    · exact hi.flags e h
    · obtain ⟨k, hk, rfl⟩ := List.mem_map.mp h
      rcases hc with ⟨rfl, rfl, _⟩ | ⟨hm, rfl⟩
      · exact ⟨fun _ => (hadd k hk).2, fun _ => rfl⟩
      · -- `r` was scanned first, so all its successors are claimed already: `k` is not one
        exact ⟨fun h => (by cases h), fun h => absurd (hi.complete r (hi.root_visited hm) k h) (hadd k hk).1⟩

/-- before/after a successful call: both components grow, what was claimed meanwhile is visited,
    and the root has not been claimed (the call on it would have found it on the stack). -/
structure DRel (r : Nat) (a b : List Nat × DepMap) : Prop where
  vis : ∀ x ∈ a.1, x ∈ b.1
  keys : ∀ k ∈ DepMap.keys a.2, k ∈ DepMap.keys b.2
  claimed : ∀ k ∈ DepMap.keys b.2, k ∈ DepMap.keys a.2 ∨ k ∈ b.1
  root : r ∉ DepMap.keys a.2 → r ∉ DepMap.keys b.2

theorem DRel.refl (r : Nat) (a : List Nat × DepMap) : DRel r a a :=
  ⟨fun _ h => h, fun _ h => h, fun _ h => Or.inl h, fun h => h⟩

theorem DRel.trans {r : Nat} {a b c : List Nat × DepMap} (h1 : DRel r a b) (h2 : DRel r b c) : DRel r a c :=
  ⟨fun x hx => h2.vis x (h1.vis x hx), fun k hk => h2.keys k (h1.keys k hk),
   fun k hk => (h2.claimed k hk).elim (fun h => (h1.claimed k h).imp id (h2.vis k)) Or.inr,
   fun h => h2.root (h1.root h)⟩

theorem deps_run (ws : WS) (r : Nat) :
    ∀ (fuel m : Nat) (dir : Bool) (par : List Nat) (s s' : List Nat × DepMap),
      DInv ws r s → Callee r m dir s → (dir = false → r ∈ par) →
      depsRec ws fuel m dir par s = .ok s' → DInv ws r s' ∧ DRel r s s' ∧ m ∈ s'.1 := by
  intro fuel
  induction fuel with
  | zero => intro m dir par s s' _ _ _ h; simp [depsRec] at h
  | succ fuel ih =>
    intro m dir par ⟨vis, d⟩ s' hi hc hp h
    by_cases hpar : m ∈ par
    · rw [depsRec_stack _ _ _ hpar] at h; cases h
    by_cases hvis : m ∈ vis
    · rw [depsRec_visited _ _ _ hpar hvis] at h; cases h
      exact ⟨hi, DRel.refl r _, hvis⟩
    rcases depsRec_enter fuel dir d hpar hvis with ⟨e, _, he⟩ | ⟨hok, heq⟩
    · rw [he] at h; cases h
    · obtain ⟨hnd, hadd, hall⟩ := newDeps_msucc ws m dir d
      rw [heq] at h
      generalize newDeps (owner ws) m (allImports ws m) (DepMap.keys d) = nw at h hnd hadd hall
      have hrp := hc.root_on_stack hp
      have hi1 := hi.visit hc hok hnd hadd hall
      -- every new dep is called in turn; it stays claimed until then
      obtain ⟨i2, r2, v2⟩ := foldE_run (f := fun c s => depsRec ws fuel c false (m :: par) s)
        (Q := fun c b => c ∈ b.1) (DRel.refl r) DRel.trans (fun hq hr => hr.vis _ hq) (sortBy natLe nw) _ _ hi1
        (fun c hc a b ha hr hab => ih c false (m :: par) a b ha
          (Or.inr ⟨hr.keys c (mem_keys_claim.mpr (Or.inr ((mem_sortBy natLe).mp hc))), rfl⟩) (fun _ => hrp) hab) h
      -- the root is not among the newly claimed: its call would have failed with `cycle`
      have hrn : r ∉ nw := fun hr => by
        obtain ⟨a, b, hab⟩ := foldE_ok_all _ _ _ _ h r ((mem_sortBy natLe).mpr hr)
        cases fuel with
        | zero => cases hab
        | succ fuel => rw [depsRec_stack _ _ _ hrp] at hab; cases hab
      refine ⟨i2, ⟨fun x hx => r2.vis x (List.mem_cons_of_mem _ hx),
        fun k hk => r2.keys k (mem_keys_claim.mpr (Or.inl hk)), fun k hk => ?_, fun hr => r2.root ?_⟩,
        r2.vis m List.mem_cons_self⟩
      · rcases r2.claimed k hk with h | h
        · exact (mem_keys_claim.mp h).imp id fun h => v2 k ((mem_sortBy natLe).mpr h)
        · exact Or.inr h
      · exact fun h => (mem_keys_claim.mp h).elim hr hrn

/-! ### the top-level call of `getModuleDeps` -/

theorem depsTop_post {ws : WS} {fuel r : Nat} {vis' : List Nat} {d' : DepMap}
    (h : depsRec ws fuel r true [] ([], []) = .ok (vis', d')) :
    (∀ x, x ∈ vis' ↔ Reach (msuccO ws) r x) ∧ (DepMap.keys d').Nodup ∧
    (∀ k, k ∈ DepMap.keys d' ↔ ReachPlus (msuccO ws) r k) ∧ ¬ ReachPlus (msuccO ws) r r ∧
    (∀ e ∈ d', e.2 = true ↔ e.1 ∈ msucc ws r) ∧ ∀ x ∈ vis', LocalOK ws x := by
  obtain ⟨hi, ⟨_, _, hset, hroot⟩, hr⟩ := deps_run ws r fuel r true [] _ _ (dinv_nil ws r)
    (Or.inl ⟨rfl, rfl, rfl⟩) (fun h => by cases h) h
  have hkv : ∀ k ∈ DepMap.keys d', k ∈ vis' := fun k hk => (hset k hk).resolve_left (by simp [DepMap.keys])
  -- the visited set holds the root and is closed: a successor of a visited module is claimed, hence visited
  have hvis : ∀ x, x ∈ vis' ↔ Reach (msuccO ws) r x := fun x =>
    ⟨hi.reach x, fun hx => closed_reach (v := vis')
      (fun y hy => ⟨_, rfl, fun c hc => hkv c (hi.complete y hy c hc)⟩) r x hx hr⟩
  have hkeys : ∀ k, k ∈ DepMap.keys d' ↔ ReachPlus (msuccO ws) r k := fun k =>
    ⟨fun hk => by
      obtain ⟨x, hx, hm⟩ := hi.sound k hk
      exact ⟨x, _, hi.reach x hx, rfl, hm⟩,
     fun ⟨b, cs, hb, hs, hc⟩ => by
      injection hs with hs; subst hs
      exact hi.complete b ((hvis b).mpr hb) k hc⟩
  exact ⟨hvis, hi.nodup, hkeys, fun hrr => hroot (by simp [DepMap.keys]) ((hkeys r).mpr hrr), hi.flags, hi.ok⟩

/-! ### what a failed run means -/

/-- A failed run below the root `r`: never `fuel` (every descent marks a module that exists and was
    unvisited: the measure of `dfs_error`); `cycle` only for the root; else a local error of a
    reachable module. -/
theorem depsRec_error (ws : WS) (r : Nat) :
    ∀ (fuel m : Nat) (dir : Bool) (par : List Nat) (s : List Nat × DepMap) (e : DErr),
      DInv ws r s → Callee r m dir s → (dir = false → r ∈ par) → (∀ p ∈ par, p ∈ s.1) →
      (m ∈ par → ReachPlus (msuccO ws) r r) → unvisited (List.range ws.mods.length) s.1 < fuel →
      depsRec ws fuel m dir par s = .error e →
      (e = .cycle ∧ ReachPlus (msuccO ws) r r) ∨ (∃ x, Reach (msuccO ws) r x ∧ LocalErr ws x e) := by
  intro fuel
  induction fuel with
  | zero => intro m dir par s e _ _ _ _ _ hf _; omega
  | succ fuel ih =>
    intro m dir par ⟨vis, d⟩ e hi hc hp hsub hcyc hfuel h
    have hreach := hi.reach_callee hc
    by_cases hpar : m ∈ par
    · rw [depsRec_stack _ _ _ hpar] at h; cases h
      exact Or.inl ⟨rfl, hcyc hpar⟩
    by_cases hvis : m ∈ vis
    · rw [depsRec_visited _ _ _ hpar hvis] at h; cases h
    rcases depsRec_enter fuel dir d hpar hvis with ⟨e', hl, he⟩ | ⟨hok, heq⟩
    · rw [he] at h; cases h
      exact Or.inr ⟨m, hreach, hl⟩
    obtain ⟨hnd, hadd, hall⟩ := newDeps_msucc ws m dir d
    rw [heq] at h
    generalize newDeps (owner ws) m (allImports ws m) (DepMap.keys d) = nw at h hnd hadd hall
    have hrp := hc.root_on_stack hp
    have hi1 := hi.visit hc hok hnd hadd hall
    -- the siblings that succeed keep the invariant and only add to both components
    obtain ⟨c, hc', a, ⟨ia, ra⟩, hcall⟩ := foldE_error_inv
      (fun c s => depsRec ws fuel c false (m :: par) s)
      (fun a => DInv ws r a ∧ DRel r (m :: vis, d ++ nw.map (fun k => (k, dir))) a)
      (sortBy natLe nw) _ e ⟨hi1, DRel.refl r _⟩
      (fun c hc a b ⟨ia, ra⟩ hab => by
        obtain ⟨ib, rb, _⟩ := deps_run ws r fuel c false (m :: par) a b ia
          (Or.inr ⟨ra.keys c (mem_keys_claim.mpr (Or.inr ((mem_sortBy natLe).mp hc))), rfl⟩) (fun _ => hrp) hab
        exact ⟨ib, ra.trans rb⟩)
      h
    have hcn : c ∈ nw := (mem_sortBy natLe).mp hc'
    refine ih c false (m :: par) a e ia (Or.inr ⟨ra.keys c (mem_keys_claim.mpr (Or.inr hcn)), rfl⟩)
      (fun _ => hrp) (fun p hp => ra.vis p (List.mem_cons.mpr ((List.mem_cons.mp hp).imp id (hsub p)))) (fun hcin => ?_) ?_ hcall
    · -- a module on the stack is visited, hence the root or claimed; `c` was unclaimed: it is the root
      have hcr : c = r := by
        rcases List.mem_cons.mp hcin with rfl | hcp
        · exact absurd (hadd c hcn).2 (fun h => msucc_ne h rfl)
        · exact (hi.vis_key c (hsub c hcp)).resolve_right (hadd c hcn).1
      subst hcr
      exact ⟨m, _, hreach, rfl, (hadd c hcn).2⟩
    · have h1 := unvisited_mono (List.range ws.mods.length) ra.vis
      have h2 := unvisited_cons_lt (List.range ws.mods.length)
        (List.mem_range.mpr (lt_of_modFiles_nonempty hok.1)) hvis
      simp only at h1 hfuel
      omega


/-! ### the "everything resolves" hypothesis -/

structure Good (ws : WS) (r : Nat) : Prop where
  imports : ∀ x, Reach (msuccO ws) r x → ∀ p ∈ allImports ws x,
    (∃ k, owner ws p = .one k) ∨ (owner ws p = .none ∧ isWkt ws p = true)
  nonempty : ∀ x, Reach (msuccO ws) r x → (modFiles ws x).isEmpty = false
  disjoint : ∀ x y, Reach (msuccO ws) r x → Reach (msuccO ws) r y → x ≠ y →
    ∀ f ∈ modFiles ws x, hasPath ws y f.path = false

theorem Good.no_localErr {ws : WS} {r x : Nat} {e : DErr} (hg : Good ws r)
    (hx : Reach (msuccO ws) r x) : ¬ LocalErr ws x e := by
  intro h
  cases h with
  | dup p hp ho =>
    rcases hg.imports x hx p hp with ⟨k, hk⟩ | ⟨hk, _⟩ <;> rw [ho] at hk <;> cases hk
  | noimp p hp ho hw =>
    rcases hg.imports x hx p hp with ⟨k, hk⟩ | ⟨_, hk⟩
    · rw [ho] at hk; cases hk
    · rw [hw] at hk; cases hk
  | noproto he =>
    have := hg.nonempty x hx
    rw [he] at this; cases this

theorem Good.of_reach {ws : WS} {r x : Nat} (hg : Good ws r) (hx : Reach (msuccO ws) r x) : Good ws x :=
  ⟨fun y hy => hg.imports y (Reach.trans hx hy), fun y hy => hg.nonempty y (Reach.trans hx hy),
   fun y z hy hz => hg.disjoint y z (Reach.trans hx hy) (Reach.trans hx hz)⟩

/-- decidable sufficient check: the whole module set resolves. -/
def goodWs (ws : WS) : Bool :=
  (List.range ws.mods.length).all (fun x =>
    (allImports ws x).all (fun p => match owner ws p with
      | .one _ => true
      | .none => isWkt ws p
      | .dup => false) &&
    !(modFiles ws x).isEmpty &&
    (List.range ws.mods.length).all (fun y => y == x || (modFiles ws x).all (fun f => !hasPath ws y f.path)))

theorem good_of_goodWs {ws : WS} {r : Nat} (h : goodWs ws = true) (hr : r < ws.mods.length) : Good ws r := by
  have hx : ∀ x, Reach (msuccO ws) r x → x ∈ List.range ws.mods.length :=
    fun x hx => List.mem_range.mpr (reach_lt hr hx)
  simp only [goodWs, List.all_eq_true, Bool.and_eq_true, Bool.or_eq_true, beq_iff_eq, Bool.not_eq_true'] at h
  refine ⟨fun x hrx p hp => ?_, fun x hrx => (h x (hx x hrx)).1.2, fun x y hrx hry hne f hf => ?_⟩
  · have hp' := (h x (hx x hrx)).1.1 p hp
    split at hp'
    · rename_i k hk; exact Or.inl ⟨k, hk⟩
    · rename_i hk; exact Or.inr ⟨hk, hp'⟩
    · cases hp'
  · exact ((h x (hx x hrx)).2 y (hx y hry)).elim (fun e => absurd e.symm hne) fun h2 => h2 f hf

/-! ### `moduleDeps` = `Module.ModuleDeps()` -/

theorem natLe_total (a b : Nat) : natLe a b = true ∨ natLe b a = true := by
  simp only [natLe, decide_eq_true_eq]; omega

theorem natLe_trans (a b c : Nat) (h1 : natLe a b = true) (h2 : natLe b c = true) : natLe a c = true := by
  simp only [natLe, decide_eq_true_eq] at *; omega

theorem moduleDeps_ok {ws : WS} {r : Nat} {ds : DepMap} (h : moduleDeps ws r = .ok ds) :
    ¬ ReachPlus (msuccO ws) r r ∧ (∀ k, k ∈ DepMap.keys ds ↔ ReachPlus (msuccO ws) r k) ∧
    (DepMap.keys ds).Pairwise (· < ·) ∧ (∀ e ∈ ds, e.2 = true ↔ e.1 ∈ msucc ws r) ∧
    (modFiles ws r).isEmpty = false := by
  unfold moduleDeps at h
  split at h
  · exact absurd h (by simp)
  · rename_i vis d hrec
    split at h
    · exact absurd h (by simp)
    · injection h with h
      subst h
      obtain ⟨hvis, hnd, hkeys, hncyc, hflags, hok⟩ := depsTop_post hrec
      have hne := (hok r ((hvis r).mpr (Reach.refl r))).1
      have hperm := sortBy_perm depLe d
      have hkperm : (DepMap.keys (sortBy depLe d)).Perm (DepMap.keys d) := List.Perm.map _ hperm
      refine ⟨hncyc, fun k => by rw [hkperm.mem_iff]; exact hkeys k, ?_,
        fun e he => hflags e (hperm.mem_iff.mp he), hne⟩
      have hsorted := sortBy_pairwise depLe (fun a b => natLe_total a.1 b.1)
        (fun a b c => natLe_trans a.1 b.1 c.1) d
      have hle : (DepMap.keys (sortBy depLe d)).Pairwise (· ≤ ·) := by
        unfold DepMap.keys
        rw [List.pairwise_map]
        exact hsorted.imp (fun hab => by simpa [depLe, natLe] using hab)
      have hne' : (DepMap.keys (sortBy depLe d)).Pairwise (· ≠ ·) := hkperm.nodup_iff.mpr hnd
      exact (hle.and hne').imp (fun hab => Nat.lt_of_le_of_ne hab.1 hab.2)

theorem moduleDeps_error {ws : WS} {r : Nat} {e : DErr} (h : moduleDeps ws r = .error e) :
    (e = .cycle ∧ ReachPlus (msuccO ws) r r) ∨ (∃ x, Reach (msuccO ws) r x ∧ LocalErr ws x e) ∨
    (e = .dupPath ∧ ∃ x y, Reach (msuccO ws) r x ∧ Reach (msuccO ws) r y ∧ x ≠ y ∧
      ∃ f ∈ modFiles ws x, hasPath ws y f.path = true) := by
  unfold moduleDeps at h
  split at h
  · rename_i e' hrec
    injection h with h; subst h
    exact (depsRec_error ws r _ r true [] _ e' (dinv_nil ws r) (Or.inl ⟨rfl, rfl, rfl⟩)
      (fun h => by cases h) (by simp) (by simp)
      (Nat.lt_succ_of_le (by simpa [unvisited] using List.length_filter_le (fun x => decide (x ∉ ([] : List Nat))) (List.range ws.mods.length))) hrec).imp id Or.inl
  · rename_i vis d hrec
    split at h
    · rename_i hdup
      injection h with h; subst h
      obtain ⟨hreach, _⟩ := depsTop_post hrec
      refine Or.inr (Or.inr ⟨rfl, ?_⟩)
      unfold dupAmong at hdup
      simp only [List.any_eq_true, Bool.and_eq_true, bne_iff_ne, ne_eq] at hdup
      obtain ⟨x, hx, y, hy, hne, f, hf, hp⟩ := hdup
      exact ⟨x, y, (hreach x).mp hx, (hreach y).mp hy, fun hh => hne hh.symm, f, hf, hp⟩
    · cases h


theorem moduleDeps_ne_fuel (ws : WS) (r : Nat) : moduleDeps ws r ≠ .error .fuel := by
  intro h
  rcases moduleDeps_error h with ⟨h, _⟩ | ⟨x, _, h⟩ | ⟨h, _⟩
  · cases h
  · exact h.ne_fuel rfl
  · cases h

theorem moduleDeps_error_good {ws : WS} {r : Nat} {e : DErr} (hg : Good ws r)
    (h : moduleDeps ws r = .error e) : e = .cycle ∧ ReachPlus (msuccO ws) r r := by
  rcases moduleDeps_error h with h | ⟨x, hx, h⟩ | ⟨_, x, y, hx, hy, hne, f, hf, hp⟩
  · exact h
  · exact absurd h (hg.no_localErr hx)
  · have := hg.disjoint x y hx hy hne f hf
    rw [hp] at this; cases this

theorem moduleDeps_ok_good {ws : WS} {r : Nat} {ds : DepMap} (h : moduleDeps ws r = .ok ds) : Good ws r := by
  unfold moduleDeps at h
  split at h
  · cases h
  · rename_i vis d hrec
    obtain ⟨hvis, _, _, _, _, hok⟩ := depsTop_post hrec
    split at h
    · cases h
    · rename_i hdup
      refine ⟨fun x hx p hp => ?_, fun x hx => (hok x ((hvis x).mpr hx)).1, fun x y hx hy hne f hf => ?_⟩
      · exact importFault_eq_none.mp ((hok x ((hvis x).mpr hx)).2 p hp)
      · cases hp : hasPath ws y f.path with
        | false => rfl
        | true =>
          refine absurd ?_ hdup
          unfold dupAmong
          simp only [List.any_eq_true, Bool.and_eq_true, bne_iff_ne, ne_eq]
          exact ⟨x, (hvis x).mpr hx, y, (hvis y).mpr hy, fun hh => hne hh.symm, f, hf, hp⟩

theorem moduleDeps_ok_iff {ws : WS} {r : Nat} :
    (∃ ds, moduleDeps ws r = .ok ds) ↔ Good ws r ∧ ¬ ReachPlus (msuccO ws) r r := by
  constructor
  · rintro ⟨ds, h⟩
    exact ⟨moduleDeps_ok_good h, (moduleDeps_ok h).1⟩
  · rintro ⟨hg, hn⟩
    cases hm : moduleDeps ws r with
    | error e => exact absurd (moduleDeps_error_good hg hm).2 hn
    | ok ds => exact ⟨ds, rfl⟩

theorem moduleDeps_fails_of {ws : WS} {r : Nat} (h : ¬ (Good ws r ∧ ¬ ReachPlus (msuccO ws) r r)) :
    ∃ e, moduleDeps ws r = .error e := by
  cases hm : moduleDeps ws r with
  | error e => exact ⟨e, rfl⟩
  | ok ds => exact absurd (moduleDeps_ok_iff.mp ⟨ds, hm⟩) h


theorem moduleDeps_direct {ws : WS} {m : Nat} {ds : DepMap} (h : moduleDeps ws m = .ok ds) :
    ∀ c, c ∈ msucc ws m ↔ ∃ e ∈ ds.filter (·.2), e.1 = c := by
  obtain ⟨_, hkeys, _, hflags, _⟩ := moduleDeps_ok h
  intro c
  constructor
  · intro hc
    have hk := (hkeys c).mpr (ReachPlus.of_succ (rfl : msuccO ws m = some (msucc ws m)) hc)
    obtain ⟨e, he, rfl⟩ := List.mem_map.mp hk
    exact ⟨e, List.mem_filter.mpr ⟨he, (hflags e he).mpr hc⟩, rfl⟩
  · rintro ⟨e, he, rfl⟩
    obtain ⟨he1, he2⟩ := List.mem_filter.mp he
    exact (hflags e he1).mp he2

/-! ### ModuleSetToDAG -/

theorem dagRec_succ (ws : WS) (fuel m : Nat) (g : Dag) :
    dagRec ws (fuel + 1) m g = match moduleDeps ws m with
      | .error e => .error e
      | .ok ds => foldE (fun d g' => dagRec ws fuel d.1 (addEdge g' m d.1)) (ds.filter (·.2)) (addNode g m) := by
  simp only [dagRec]
  cases moduleDeps ws m <;> rfl

/-- The fuel (depth `|modules| + 1`) is never exhausted although the code keeps no visited set: a module
    that occurs twice on a direct-dep chain lies on a cycle, and its own `ModuleDeps()` fails. -/
theorem dagRec_error (ws : WS) :
    ∀ (fuel m : Nat) (anc : List Nat) (g : Dag) (e : DErr),
      anc.Nodup → (∀ a ∈ anc, a < ws.mods.length) → (∀ a ∈ anc, ReachPlus (msuccO ws) a m) →
      ws.mods.length + 1 ≤ fuel + anc.length →
      dagRec ws fuel m g = .error e → ∃ x, Reach (msuccO ws) m x ∧ moduleDeps ws x = .error e := by
  intro fuel
  induction fuel with
  | zero =>
    intro m anc g e hnd hlt _ hfuel _
    have := nodup_lt_length_le hnd hlt
    omega
  | succ fuel ih =>
    intro m anc g e hnd hlt hanc hfuel h
    rw [dagRec_succ] at h
    split at h
    · rename_i e' hm
      injection h with h; subst h
      exact ⟨m, Reach.refl m, hm⟩
    · rename_i ds hm
      obtain ⟨hncyc, _, _, _, hne⟩ := moduleDeps_ok hm
      obtain ⟨c, hc, a, _, hcall⟩ := foldE_error_inv
        (fun (d : Nat × Bool) g' => dagRec ws fuel d.1 (addEdge g' m d.1)) (fun _ => True)
        (ds.filter (·.2)) (addNode g m) e trivial (fun _ _ _ _ _ _ => trivial) h
      have hcs : c.1 ∈ msucc ws m := (moduleDeps_direct hm c.1).mpr ⟨c, hc, rfl⟩
      have hS : msuccO ws m = some (msucc ws m) := rfl
      obtain ⟨x, hx, hxe⟩ := ih c.1 (m :: anc) _ e
        (List.nodup_cons.mpr ⟨fun hin => hncyc (hanc m hin), hnd⟩)
        (List.forall_mem_cons.mpr ⟨lt_of_modFiles_nonempty hne, hlt⟩)
        (List.forall_mem_cons.mpr ⟨ReachPlus.of_succ hS hcs, fun a ha => (hanc a ha).tail hS hcs⟩)
        (by simp only [List.length_cons]; omega) hcall
      exact ⟨x, Reach.head hS hcs hx, hxe⟩

theorem dagRec_ok (ws : WS) :
    ∀ (fuel m : Nat) (g g' : Dag), dagRec ws fuel m g = .ok g' →
      ∀ x, Reach (msuccO ws) m x → ∃ ds, moduleDeps ws x = .ok ds := by
  intro fuel
  induction fuel with
  | zero => intro m g g' h; simp [dagRec] at h
  | succ fuel ih =>
    intro m g g' h x hx
    rw [dagRec_succ] at h
    split at h
    · exact absurd h (by simp)
    · rename_i ds hm
      rcases hx.cases_head with rfl | ⟨cs, c, hs, hc, hcx⟩
      · exact ⟨ds, hm⟩
      · simp only [msuccO, Option.some.injEq] at hs
        subst hs
        obtain ⟨e, he, rfl⟩ := (moduleDeps_direct hm c).mp hc
        obtain ⟨a, b, hab⟩ := foldE_ok_all _ _ _ _ h e he
        exact ih e.1 _ b hab x hcx

theorem toDAG_error {ws : WS} {e : DErr} (h : toDAG ws = .error e) :
    ∃ t ∈ targetMods ws, ∃ x, Reach (msuccO ws) t x ∧ moduleDeps ws x = .error e := by
  unfold toDAG at h
  obtain ⟨t, ht, a, _, hcall⟩ := foldE_error_inv
    (fun m g => dagRec ws (ws.mods.length + 1) m g) (fun _ => True)
    (targetMods ws) ([], []) e trivial (fun _ _ _ _ _ _ => trivial) h
  obtain ⟨x, hx, hxe⟩ := dagRec_error ws (ws.mods.length + 1) t [] a e List.nodup_nil
    (fun a ha => by simp at ha) (fun a ha => by simp at ha) (by simp) hcall
  exact ⟨t, ht, x, hx, hxe⟩

theorem toDAG_ok {ws : WS} {g : Dag} (h : toDAG ws = .ok g) :
    ∀ t ∈ targetMods ws, ∀ x, Reach (msuccO ws) t x → ∃ ds, moduleDeps ws x = .ok ds := by
  unfold toDAG at h
  intro t ht x hx
  obtain ⟨a, b, hab⟩ := foldE_ok_all _ _ _ _ h t ht
  exact dagRec_ok ws _ t a b hab x hx

theorem reachPlus_pred {ws : WS} {a c : Nat} (h : ReachPlus (msuccO ws) a c) :
    ∃ m, m < ws.mods.length ∧ c ∈ msucc ws m := by
  obtain ⟨b, cs, _, hs, hc⟩ := h
  simp only [msuccO, Option.some.injEq] at hs
  subst hs
  exact ⟨b, msucc_src_lt hc, hc⟩

theorem targetMods_lt {ws : WS} {t : Nat} (h : t ∈ targetMods ws) : t < ws.mods.length := by
  unfold targetMods at h
  exact List.mem_range.mp (List.mem_filter.mp h).1

theorem sorted_set_unique {l1 l2 : List Nat} (h1 : l1.Pairwise (· < ·)) (h2 : l2.Pairwise (· < ·))
    (hm : ∀ x, x ∈ l1 ↔ x ∈ l2) : l1 = l2 := by
  have n1 : l1.Nodup := h1.imp (fun h => Nat.ne_of_lt h)
  have n2 : l2.Nodup := h2.imp (fun h => Nat.ne_of_lt h)
  have hp : l1.Perm l2 := (List.perm_ext_iff_of_nodup n1 n2).mpr hm
  exact hp.eq_of_pairwise (fun a b _ _ hab hba => absurd hab (Nat.lt_asymm hba)) h1 h2

end BufModel.Graph
