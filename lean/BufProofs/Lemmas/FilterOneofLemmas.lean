import BufProofs.Lemmas.FilterOutputLemmas
/-
  C12 — oneofs (`staleOneofIndex = false`).
    * list arithmetic of remapDescriptor's `newOneofIndexes` table: entry `i` is the position of oneof
      `i` among the kept oneofs (`cntBefore`), so a kept member of a kept oneof still names ITS oneof;
    * every message of the output, at any depth, is `remapMsg` of an input message (`Src`, one
      induction over the tree), so the facts about one message need no recursion;
    * output level: in every message of the output every `oneof_index` is in range (`OneofOK`, from
      the run invariant `FilterOutput.OInv`) and every oneof has a member (`OneofFull`).
-/
namespace BufProofs.FilterOneof
open BufModel.Filter BufProofs.FilterLemmas BufProofs.FilterClosure BufProofs.FilterRewrite
open BufProofs.FilterIndex BufProofs.FilterOutput

theorem newIdx_eq (flags : List Bool) (i to : Nat) : newIdx flags i to = to + cntBefore flags i := by
  induction flags generalizing i to with
  | nil => cases i <;> simp [newIdx, cntBefore]
  | cons b bs ih =>
    cases i with
    | zero => simp [newIdx, cntBefore]
    | succ i =>
      simp only [newIdx, cntBefore]
      rw [ih]
      cases b <;> simp <;> omega

theorem newOneofIndexes_length (st : St) (msg : Id) (n idx next : Nat) :
    (newOneofIndexes st msg n idx next).length = n := by
  induction n generalizing idx next with
  | zero => rfl
  | succ n ih => simp [newOneofIndexes, ih]

theorem remapOneof_kept (c : RCtx) (id : Id) (path : List Nat) (i : Nat) (o : Oneof) :
    (remapOneof c id (path ++ [8] ++ [i]) o).1 = if c.st.get (.oneof id i) = some .excluded then none else some o := by
  have hlast : ((path ++ [8] ++ [i]).getLast?.getD 0) = i := by simp
  unfold remapOneof
  rw [hlast]
  split <;> rfl

/-- the table of remapDescriptor: entry `i` = `next` + number of kept oneofs among the first `i` -/
theorem newOneofIndexes_get (c : RCtx) (msg : Id) (path : List Nat) (os : List Oneof) (idx next i : Nat)
    (hi : i < os.length) :
    (newOneofIndexes c.st msg os.length idx next)[i]? =
      some (next + cntBefore (flagsFrom (path ++ [8]) (remapOneof c msg) os idx) i) := by
  induction os generalizing idx next i with
  | nil => simp at hi
  | cons o os ih =>
    cases i with
    | zero => simp [newOneofIndexes, cntBefore]
    | succ i =>
      simp only [List.length_cons, newOneofIndexes, List.getElem?_cons_succ, flagsFrom, cntBefore]
      rw [ih _ _ i (by simpa using hi)]
      rw [remapOneof_kept]
      by_cases hx : c.st.get (.oneof msg idx) = some .excluded
      · simp [hx]
      · simp [hx]; omega

theorem newOneofIndexes_none (st : St) (msg : Id) (n idx next i : Nat) (hi : n ≤ i) :
    (newOneofIndexes st msg n idx next)[i]? = none := by
  rw [List.getElem?_eq_none_iff, newOneofIndexes_length]; exact hi

/-! ### one message: kept members of kept oneofs follow their oneof -/

theorem renumberOneof_oneof (tbl : List Nat) (f : Field) (i j : Nat) (hi : f.oneof = some i) (hj : tbl[i]? = some j) :
    (renumberOneof tbl f).oneof = some j := by
  unfold renumberOneof
  rw [hi]
  simp only [hj]

theorem renumberOneof_none (tbl : List Nat) (f : Field) (hi : f.oneof = none) : renumberOneof tbl f = f := by
  unfold renumberOneof
  rw [hi]

theorem mem_fieldsOut_renumber (c : RCtx) (hr : c.renumber = true) (id : Id) (path : List Nat) (fields : List Field)
    (n : Nat) (g : Field) (h : g ∈ fieldsOut c id n (remapSlice (path ++ [2]) (remapField c) fields 0 0).1) :
    ∃ g0 ∈ fields, (∀ t, g0.ty = some t → c.has (.el t) = true) ∧
      g = renumberOneof (newOneofIndexes c.st id n 0 0) g0 := by
  unfold fieldsOut at h
  rw [hr] at h
  simp only [if_true] at h
  obtain ⟨g0, hg0, rfl⟩ := List.mem_map.mp h
  obtain ⟨x, hx, q, hq⟩ := remapSlice_origin _ _ _ _ _ _ hg0
  obtain ⟨rfl, _, h2⟩ := remapField_some c q x g0 hq
  exact ⟨g0, hx, h2, rfl⟩

theorem renumbered_names_oneof (c : RCtx) (id : Id) (path : List Nat) (oneofs : List Oneof) (g0 : Field) (i : Nat)
    (hi : g0.oneof = some i) (hlt : i < oneofs.length) (hk : c.st.get (.oneof id i) ≠ some .excluded) :
    let os := (remapSlice (path ++ [8]) (remapOneof c id) oneofs 0 0).1
    let g := renumberOneof (newOneofIndexes c.st id oneofs.length 0 0) g0
    ∃ j, g.oneof = some j ∧ j < os.length ∧ os[j]? = oneofs[i]? ∧
      j = cntBefore (flagsFrom (path ++ [8]) (remapOneof c id) oneofs 0) i := by
  intro os g
  have hkept : (remapOneof c id (path ++ [8] ++ [0 + i]) oneofs[i]).1 = some oneofs[i] := by
    rw [Nat.zero_add, remapOneof_kept, if_neg hk]
  have hget := keptFrom_get (path ++ [8]) (remapOneof c id) oneofs 0 i _ _ (List.getElem?_eq_getElem hlt) hkept
  refine ⟨_, ?_, ?_, ?_, rfl⟩
  · apply renumberOneof_oneof _ _ i _ hi
    rw [newOneofIndexes_get c id path _ _ _ _ hlt]; simp
  · show _ < (remapSlice _ _ _ _ _).1.length
    rw [remapSlice_items]
    exact (List.getElem?_eq_some_iff.mp hget).1
  · show (remapSlice _ _ _ _ _).1[_]? = _
    rw [remapSlice_items, hget, List.getElem?_eq_getElem hlt]

/-! ### every message of the output, at any depth -/

mutual
/-- a message and every message nested in it -/
def msgAll : Msg → List Msg
  | .mk id fields oneofs exts nested enums rangeOpts reserved mapEntry opts =>
    .mk id fields oneofs exts nested enums rangeOpts reserved mapEntry opts :: msgsAll nested
def msgsAll : List Msg → List Msg
  | [] => []
  | m :: ms => msgAll m ++ msgsAll ms
end

theorem msgsAll_eq (ms : List Msg) : msgsAll ms = ms.flatMap msgAll := by
  induction ms with
  | nil => rfl
  | cons m ms ih => rw [msgsAll, ih, List.flatMap_cons]

/-- every `oneof_index` of the message is in range -/
def OneofOK (y : Msg) : Prop := ∀ g ∈ y.fields, ∀ j, g.oneof = some j → j < y.oneofs.length
/-- every oneof of the message has a member -/
def OneofFull (y : Msg) : Prop := ∀ j, j < y.oneofs.length → ∃ g ∈ y.fields, g.oneof = some j

/-- what the closure must guarantee for the index entry of a kept, not enclosing-only message:
    a kept field that is a member of a oneof names a oneof in range that is not dropped -/
def KeptHyp (c : RCtx) (j : Info) : Prop :=
  ∀ m, j.key = .el m → ∀ f ∈ j.fields, (∀ t, f.ty = some t → c.has (.el t) = true) → ∀ n, f.oneof = some n →
    n < j.oneofs.length ∧ c.st.get (.oneof m n) ≠ some .excluded

/-- … and: a oneof that is not dropped has a member field that is kept -/
def FullHyp (c : RCtx) (j : Info) : Prop :=
  ∀ m, j.key = .el m → c.has j.key = true → c.st.get j.key ≠ some .enclosing →
    ∀ n, n < j.oneofs.length → c.st.get (.oneof m n) ≠ some .excluded →
      ∃ f ∈ j.fields, f.oneof = some n ∧ f.extendee = none ∧ ∀ t, f.ty = some t → c.has (.el t) = true

theorem remapField_keeps (c : RCtx) (p : List Nat) (f : Field) (he : f.extendee = none)
    (ht : ∀ t, f.ty = some t → c.has (.el t) = true) : (remapField c p f).1 = some f := by
  unfold remapField
  simp only [he, Option.isSome_none, Bool.false_and, Bool.false_eq_true, if_false]
  cases h : f.ty with
  | none => rfl
  | some t => simp [ht t h]

theorem msgInfos_head (file : Id) (parent : Key) (id : Id) (fields : List Field) (oneofs : List Oneof)
    (exts : List Field) (nested : List Msg) (enums : List Enum) (rangeOpts : List (List OptUse))
    (reserved mapEntry : Bool) (opts : List OptUse) :
    ∃ hd ∈ msgInfos file parent (.mk id fields oneofs exts nested enums rangeOpts reserved mapEntry opts),
      hd.key = .el id ∧ hd.kind = .msg ∧ hd.fields = fields ∧ hd.oneofs = oneofs := by
  simp only [msgInfos]
  exact ⟨_, List.mem_cons_self, rfl, rfl, rfl, rfl⟩

theorem msgsAll_origin (c : RCtx) (path : List Nat) (ms : List Msg) (fr to : Nat) (y' : Msg)
    (h : y' ∈ msgsAll (remapMsgs c path ms fr to).1) :
    ∃ m ∈ ms, ∃ q y, (remapMsg c q m).1 = some y ∧ y' ∈ msgAll y := by
  rw [msgsAll_eq, List.mem_flatMap] at h
  obtain ⟨y, hy, hy'⟩ := h
  obtain ⟨m, hm, q, hq⟩ := remapMsgs_origin _ _ _ _ _ _ hy
  exact ⟨m, hm, q, y, hq, hy'⟩

/-- `y` is what the rewrite makes of an input message whose index block lies in `L` -/
def Src (c : RCtx) (file : Id) (L : List Info) (y : Msg) : Prop :=
  ∃ par p m, (∀ j ∈ msgInfos file par m, j ∈ L) ∧ (remapMsg c p m).1 = some y

theorem Src.mono {c : RCtx} {file : Id} {L L' : List Info} {y : Msg} (h : ∀ j ∈ L, j ∈ L') (s : Src c file L y) :
    Src c file L' y := by
  obtain ⟨par, p, m, hs, hm⟩ := s
  exact ⟨par, p, m, fun j hj => h j (hs j hj), hm⟩

theorem src_msg (c : RCtx) (file : Id) (parent : Key) (path : List Nat) (m y : Msg)
    (h : (remapMsg c path m).1 = some y) : ∀ y' ∈ msgAll y, Src c file (msgInfos file parent m) y' := by
  induction m using Msg.ind generalizing parent path y with
  | h id fields oneofs exts nested enums rangeOpts reserved mapEntry opts ih =>
    obtain ⟨_, fs, os, ro, rs, rfl, _⟩ := remapMsg_shape c path id fields oneofs exts nested enums rangeOpts
      reserved mapEntry opts y h
    intro y' hy'
    simp only [msgAll, List.mem_cons] at hy'
    rcases hy' with rfl | hy'
    · exact ⟨parent, path, _, fun _ hj => hj, h⟩
    · obtain ⟨n, hn, q, y0, hq, hy0⟩ := msgsAll_origin _ _ _ _ _ _ hy'
      exact (ih n hn (.el id) q y0 hq y' hy0).mono fun j hj => msgInfos_nested hn hj

theorem src_file (c : RCtx) (f : File) (of : OFile) (h : remapFile c f = some of) :
    ∀ y ∈ msgsAll of.msgs, Src c f.id (fileInfos f) y := by
  unfold remapFile at h
  split at h
  · cases h
  · simp only [Option.some.injEq] at h
    subst h
    intro y' hy'
    obtain ⟨m, hm, q, y, hq, hy⟩ := msgsAll_origin _ _ _ _ _ _ hy'
    exact (src_msg c f.id (.file f.id) q m y hq y' hy).mono fun j hj => mem_fileInfos_msgs f j (msgsInfos_mem hm hj)

theorem oneofOK_of_src (c : RCtx) (hr : c.renumber = true) (file : Id) (L : List Info) (y : Msg) (hs : Src c file L y)
    (hH : ∀ j ∈ L, j.kind = .msg → KeptHyp c j) : OneofOK y := by
  obtain ⟨par, path, m, hsub, h⟩ := hs
  cases m with
  | mk id fields oneofs exts nested enums rangeOpts reserved mapEntry opts =>
    obtain ⟨hid, fs, os, ro, rs, rfl, hfs⟩ := remapMsg_shape c path id fields oneofs exts nested enums rangeOpts
      reserved mapEntry opts y h
    obtain ⟨hd, hhd, hkey, hkind, hflds, hons⟩ := msgInfos_head file par id fields oneofs exts nested enums rangeOpts
      reserved mapEntry opts
    intro g hg j hj
    simp only [Msg.fields] at hg
    simp only [Msg.oneofs]
    rcases hfs with ⟨rfl, _⟩ | ⟨_, rfl, rfl⟩
    · cases hg
    · obtain ⟨g0, hg0, hty, rfl⟩ := mem_fieldsOut_renumber c hr id path fields _ g hg
      cases ho : g0.oneof with
      | none => rw [renumberOneof_none _ _ ho, ho] at hj; cases hj
      | some i =>
        obtain ⟨hlt, hk⟩ := hH hd (hsub hd hhd) hkind id hkey g0 (by rw [hflds]; exact hg0) hty i ho
        rw [hons] at hlt
        obtain ⟨j', hj', hlt', _⟩ := renumbered_names_oneof c id path oneofs g0 i ho hlt hk
        rw [hj'] at hj; cases hj
        exact hlt'

theorem oneofFull_of_src (c : RCtx) (hr : c.renumber = true) (file : Id) (L : List Info) (y : Msg) (hs : Src c file L y)
    (hH : ∀ j ∈ L, j.kind = .msg → FullHyp c j) : OneofFull y := by
  obtain ⟨par, path, m, hsub, h⟩ := hs
  cases m with
  | mk id fields oneofs exts nested enums rangeOpts reserved mapEntry opts =>
    obtain ⟨hid, fs, os, ro, rs, rfl, hfs⟩ := remapMsg_shape c path id fields oneofs exts nested enums rangeOpts
      reserved mapEntry opts y h
    obtain ⟨hd, hhd, hkey, hkind, hflds, hons⟩ := msgInfos_head file par id fields oneofs exts nested enums rangeOpts
      reserved mapEntry opts
    intro j hj
    simp only [Msg.oneofs] at hj
    simp only [Msg.fields]
    rcases hfs with ⟨_, rfl⟩ | ⟨hne, rfl, rfl⟩
    · simp at hj
    · -- position `j` of the kept oneofs is where a oneof `i` that is not dropped ends up
      rw [remapSlice_items] at hj
      obtain ⟨i, hi, hflag, hc⟩ := keptFrom_surj _ _ _ _ j hj
      have hk : c.st.get (.oneof id i) ≠ some .excluded := by
        rw [flagsFrom_get _ _ _ _ _ hi, remapOneof_kept] at hflag
        intro hx
        simp [hx] at hflag
      obtain ⟨f, hf, hfo, hfe, hft⟩ := hH hd (hsub hd hhd) hkind id hkey (by rw [hkey]; exact hid)
        (by rw [hkey]; exact hne) i (by rw [hons]; exact hi) hk
      rw [hflds] at hf
      refine ⟨renumberOneof (newOneofIndexes c.st id oneofs.length 0 0) f, ?_, ?_⟩
      · unfold fieldsOut
        rw [hr]
        simp only [if_true]
        exact List.mem_map.mpr ⟨f, remapSlice_mem _ _ _ _ _ f f hf (fun p => remapField_keeps c p f hfe hft), rfl⟩
      · obtain ⟨j', hj', _, _, hjc⟩ := renumbered_names_oneof c id path oneofs f i hfo hi hk
        rw [hj', hjc, hc]

/-! ### output level -/

/-- input condition (decidable): every `oneof_index` of the INPUT image is in range -/
def OneofsWF (idx : Index) : Prop := ∀ j ∈ idx, ∀ f ∈ j.fields, ∀ n, f.oneof = some n → n < j.oneofs.length

def oneofsWFB (idx : Index) : Bool :=
  idx.all (fun j => j.fields.all (fun f => match f.oneof with
    | some n => decide (n < j.oneofs.length)
    | none => true))

theorem oneofsWF_of_B (idx : Index) (h : oneofsWFB idx = true) : OneofsWF idx := by
  unfold oneofsWFB at h
  simp only [List.all_eq_true] at h
  intro j hj f hf n hn
  have := h j hj f hf
  simpa [hn] using this

theorem keptHyp_of_closure {img : Image} {o : Opts} {st : St} (P : ClosurePost img o st) (hw : OneofsWF (buildIndex img))
    (noInc mio rn : Bool) : ∀ j ∈ buildIndex img, KeptHyp ⟨st, noInc, mio, rn⟩ j := by
  intro j hj m hkey f hf hty n ho
  refine ⟨hw j hj f hf n ho, ?_⟩
  intro hx
  have hfind : (buildIndex img).find (.el m) = some j := by rw [← hkey]; exact P.uniq j hj
  obtain ⟨t, ht, h4⟩ := P.oinv m n j (rk_excl.mpr hx) hfind f hf ho
  exact ((has_iff _ _ _ _ _).mp (hty t ht)).1 h4

theorem filterWith_oneofs_ok (img : Image) (o : Opts) (fuel : Nat) (out : List OFile)
    (h : filterWith cfgFixed img o fuel = .ok out) (hu : UniqIdx (buildIndex img)) (hw : OneofsWF (buildIndex img))
    (of : OFile) (hof : of ∈ out) : ∀ y ∈ msgsAll of.msgs, OneofOK y := by
  obtain ⟨st, f, P, _, hf, hrf⟩ := filterWith_file img o fuel out h hu of hof
  intro y hy
  exact oneofOK_of_src _ rfl f.id _ y (src_file _ f of hrf y hy) fun j hj _ =>
    keptHyp_of_closure P hw _ _ _ j (mem_buildIndex_of img f hf j hj)

/-- a kept, not enclosing-only message is visited, so every oneof that is not dropped has a kept member -/
theorem fullHyp_of_closure {img : Image} {o : Opts} {st : St} (P : ClosurePost img o st) (hr : WFRefs (buildIndex img))
    (hres : RefsResolve (buildIndex img)) (hmode : o.includes ≠ [] ∨ NoImportCover img)
    (f : File) (hf : f ∈ img.files) :
    ∀ j ∈ fileInfos f, j.kind = .msg → FullHyp ⟨st, o.includes.isEmpty, true, true⟩ j := by
  intro j hj hk m hkey hhas hne n hn hnx
  let c : Ctx := ⟨cfgFixed, buildIndex img, o.customOpts⟩
  have hjidx := mem_buildIndex_of img f hf j hj
  have hjfind : c.idx.find j.key = some j := P.uniq j hjidx
  have h1 : rk st j.key ≠ 1 := fun h1 => hne (rk_encl.mp h1)
  obtain ⟨h2, h3⟩ := visited_of_has P hmode f hf j hj (by rw [hk]; simp) (by rw [hk]; simp) hhas h1
  have hreq := (P.closed j.key j hjfind).2 h2 h3
  have hpo := hreq.oneofs hk j hjfind
  have hom : oneofMsg j.key = m := by rw [hkey]; rfl
  rcases hpo n hn with h4 | ⟨g, hg, hgo, hgt⟩
  · rw [hom] at h4
    exact absurd (rk_excl.mp h4) hnx
  · refine ⟨g, hg, hgo, hr.fieldsPlain j hjidx g hg, ?_⟩
    intro t ht
    obtain ⟨it, hit, hfld, _, _⟩ := hres.fieldTy j hjidx g hg t ht
    have hnon : NonExt c (.el t) := ⟨by intro a b; simp, fun ie hie => by
      have : (buildIndex img).find (.el t) = some ie := hie
      rw [hit] at this; cases this; exact hfld⟩
    have hne4 : rk st (.el t) ≠ 4 := by
      rcases hgt t ht with h | h
      · exact h
      · exact absurd hnon h
    refine (has_iff _ _ _ _ _).mpr ⟨hne4, fun _ => ?_⟩
    have := (hreq.refers (.field hk hg ht) it hit).1
    omega

/-- **every oneof of the output has a member** (every message, any depth; needs the mode hypothesis
    that excludes known finding 9e: the message must have been VISITED by the closure). -/
theorem filterWith_oneofs_full (img : Image) (o : Opts) (fuel : Nat) (out : List OFile)
    (h : filterWith cfgFixed img o fuel = .ok out) (hu : UniqIdx (buildIndex img)) (hr : WFRefs (buildIndex img))
    (hres : RefsResolve (buildIndex img)) (hmode : o.includes ≠ [] ∨ NoImportCover img)
    (of : OFile) (hof : of ∈ out) : ∀ y ∈ msgsAll of.msgs, OneofFull y := by
  obtain ⟨st, f, P, _, hf, hrf⟩ := filterWith_file img o fuel out h hu of hof
  intro y hy
  exact oneofFull_of_src _ rfl f.id _ y (src_file _ f of hrf y hy) fun j hj hk =>
    fullHyp_of_closure P hr hres hmode f hf j hj hk

end BufProofs.FilterOneof
