import BufProofs.Lemmas.ConfigRoots
import BufProofs.Lemmas.ConfigCheck
/-
  C16, buf.yaml v2, buf.work.yaml and the dependency half of buf.lock: a configuration that is
  well-formed (`WFFileV2`: what the reader's normalisations establish — sorted antichains of
  includes / excludes / ignores, modules sorted by directory, unique names) is read back unchanged
  from what the writer emits for it.  `wMods` … `wTopB` name the parts of `writeV2`, so that the
  reader can be followed through them one at a time.
-/
namespace BufModel.Config
open BufModel.Path

/-! ### v2 modules: reading back what the writer produced -/

theorem readName_extNameOf (n : Str) : readName (extNameOf n) = some n := by
  unfold readName extNameOf
  by_cases h : n = [] <;> simp [h]

theorem containsStrict_append (d a b : Key) : containsStrict (d ++ a) (d ++ b) = containsStrict a b := by
  unfold containsStrict
  rw [isPrefixOf_append_left]
  have e1 : (d ++ a != d ++ b) = (a != b) := by
    by_cases h : a = b
    · subst h; rw [bne_self_eq_false, bne_self_eq_false]
    · have h' : d ++ a ≠ d ++ b := fun e => h (List.append_cancel_left e)
      rw [bne_iff_ne.mpr h, bne_iff_ne.mpr h']
  rw [e1]

structure WFModuleV2 (m : Module) : Prop where
  roots : ∃ incs excl, m.roots = [⟨[], incs, excl⟩] ∧ WFRootV2 incs excl
  lint : WFLint m.lint
  breaking : WFBreaking m.breaking

theorem normCheckPaths_rebase (d : Key) (ks : List Key) (h : antichain ks = true) :
    normCheckPaths (rebase d ks) = some (sortU keyLt (ks.map (d ++ ·))) := by
  rw [show rebase d ks = (ks.map (d ++ ·)).map P.ok by rw [List.map_map]; rfl, normCheckPaths_ok, normCheckKeys,
    if_pos (by rw [antichain_map_append]; exact h)]

theorem mem_sortU_map (d : Key) (ks : List Key) (z : Key) :
    z ∈ sortU keyLt (ks.map (d ++ ·)) ↔ ∃ k ∈ ks, z = d ++ k := by
  rw [mem_sortU keyLt_total]
  simp only [List.mem_map]
  constructor
  · rintro ⟨k, hk, rfl⟩; exact ⟨k, hk, rfl⟩
  · rintro ⟨k, hk, rfl⟩; exact ⟨k, hk, rfl⟩

theorem relInclude_eq_some {d i y : Key} :
    relInclude d i = some y ↔ i = d ++ y ∧ y ≠ [] ∧ protoExt i = false := by
  constructor
  · intro h
    simp only [relInclude, Option.ite_none_left_eq_some, Bool.not_eq_true', Bool.not_eq_false, Bool.not_eq_true,
      Option.some.injEq] at h
    obtain ⟨c1, c2, c3, rfl⟩ := h
    have e := append_drop_of_prefix c2
    exact ⟨e.symm, fun e0 => c1 (by rw [← e, e0, List.append_nil]), c3⟩
  · rintro ⟨rfl, hne, hp⟩
    simp [relInclude, hne, hp]

theorem relExclude_eq_some {d : Key} {S : List Key} {p : P} {y : Key} :
    relExclude d S p = some y ↔ p.nv = some (d ++ y) ∧ y ≠ [] ∧
      (S ≠ [] → (∀ i ∈ S, i ≠ d ++ y ∧ containsStrict (d ++ y) i = false) ∧
        ∃ i ∈ S, containsStrict i (d ++ y) = true) := by
  constructor
  · intro h
    unfold relExclude at h
    rcases hp : p.nv with _ | e <;> simp only [hp, reduceCtorEq, Option.ite_none_left_eq_some, Bool.not_eq_true',
      Bool.not_eq_false, Bool.and_eq_true, Bool.or_eq_true, decide_eq_true_eq, not_and, not_or, Bool.not_eq_true,
      Option.some.injEq, List.any_eq_true, List.any_eq_false, beq_iff_eq, not_exists, Classical.not_forall, exists_prop] at h
    obtain ⟨c1, c2, c3, rfl⟩ := h
    have e0 := append_drop_of_prefix c2
    rw [e0]
    exact ⟨rfl, fun e1 => c1 (by rw [← e0, e1, List.append_nil]), c3⟩
  · rintro ⟨hp, hne, hS⟩
    by_cases hs : S = []
    · simp [relExclude, hp, hne, hs]
    · simpa [relExclude, hp, hne, hs] using hS hs

theorem readModuleV2_rt (m : Module) (hw : WFModuleV2 m) (incs excl : List Key)
    (hr : m.roots = [⟨[], incs, excl⟩]) (hroot : WFRootV2 incs excl)
    (defL ml : ExtLint) (defB mb : ExtBreaking)
    (hl : (if !ml.isEmpty then ml else defL) = extLintOf true m.lint m.dirPath)
    (hb : (if !mb.isEmpty then mb else defB) = extBreakingOf m.breaking m.dirPath) :
    readModuleV2 defL defB ⟨P.ok m.dirPath, extNameOf m.name, rebase m.dirPath incs, rebase m.dirPath excl, ml, mb⟩
      = some m := by
  obtain ⟨d, name, roots, lint, brk⟩ := m
  simp only at hr hl hb
  subst hr
  unfold readModuleV2
  dsimp only [P.nv]
  rw [readName_extNameOf, normCheckPaths_rebase d incs hroot.wi.anti]
  dsimp only
  have hS : ∀ z ∈ sortU keyLt (incs.map (d ++ ·)), relInclude d z = some (z.drop d.length) := by
    intro z hz
    obtain ⟨k, hk, rfl⟩ := (mem_sortU_map d incs z).mp hz
    rw [drop_append_self]
    exact relInclude_eq_some.mpr ⟨rfl, (hroot.iok k hk).1, by rw [protoExt_append d k (hroot.iok k hk).1, (hroot.iok k hk).2]⟩
  have hinc : (sortU keyLt (incs.map (d ++ ·))).mapM (relInclude d)
      = some ((sortU keyLt (incs.map (d ++ ·))).map (fun z => z.drop d.length)) := by
    have := BufProofs.ListLemmas.mapM_map_some id (relInclude d) (fun z => z.drop d.length) _ hS
    simpa using this
  have hexc : (rebase d excl).mapM (relExclude d (sortU keyLt (incs.map (d ++ ·)))) = some (excl.map id) := by
    unfold rebase
    apply BufProofs.ListLemmas.mapM_map_some
    intro x hx
    refine relExclude_eq_some.mpr ⟨rfl, (hroot.eok x hx).1, fun hSne => ?_⟩
    obtain ⟨hall, i0, hi0, hc0⟩ := hroot.inter (fun e => hSne (by rw [e]; rfl)) x hx
    refine ⟨fun z hz => ?_, d ++ i0, (mem_sortU_map d incs _).mpr ⟨i0, hi0, rfl⟩, by rwa [containsStrict_append]⟩
    obtain ⟨k, hk, rfl⟩ := (mem_sortU_map d incs z).mp hz
    rw [containsStrict_append]
    exact ⟨fun e => (hall k hk).1 (List.append_cancel_left e), (hall k hk).2⟩
  rw [hinc, hexc, List.map_id]
  simp only [getRootToExcludes_dot excl hroot.we hroot.eok]
  simp only [hl, hb]
  rw [readLint_extLintOf true lint d _ hw.lint, readBreaking_extBreakingOf brk d _ hw.breaking]
  have e1 : sortU keyLt ((sortU keyLt (incs.map (d ++ ·))).map (fun z => z.drop d.length)) = incs := by
    apply sortU_eq_of_mem keyLt_total _ _ hroot.wi.sorted
    intro z
    simp only [List.mem_map]
    constructor
    · rintro ⟨w, hw', rfl⟩
      obtain ⟨k, hk, rfl⟩ := (mem_sortU_map d incs w).mp hw'
      simpa using hk
    · intro hz
      exact ⟨d ++ z, (mem_sortU_map d incs _).mpr ⟨z, hz, rfl⟩, by simp⟩
  simp [e1, sortU_eq_self _ hroot.we.sorted]

/-! ### v2 files -/

theorem isEmpty_lint_iff (l : ExtLint) : l.isEmpty = true ↔ l = ExtLint.zero := by
  simp [ExtLint.isEmpty]

theorem isEmpty_breaking_iff (b : ExtBreaking) : b.isEmpty = true ↔ b = ExtBreaking.zero := by
  simp [ExtBreaking.isEmpty]

theorem allEq_headD {α : Type} [DecidableEq α] (l : List α) (dflt : α) (h : allEq l = true) :
    ∀ x ∈ l, x = l.headD dflt := by
  cases l with
  | nil => simp
  | cons y ys =>
    intro x hx
    simp only [allEq, List.all_eq_true, decide_eq_true_eq] at h
    rcases List.mem_cons.mp hx with hx | hx
    · simp [hx]
    · simp [h x hx]

/-- A section hoisted to the top when all modules agree (`b`) and then cleared on the modules is still
    what each module reads: its own if that is not the zero section, else the one on top. -/
theorem hoisted_eq {α : Type} [DecidableEq α] (isE : α → Bool) (z : α) (hz : ∀ y, isE y = true ↔ y = z)
    (xs : List α) (b : Bool) (hb : b = true → allEq xs = true) {x : α} (hx : x ∈ xs) :
    (if !isE (if b then z else x) then (if b then z else x) else (if b then xs.headD z else z)) = x := by
  cases b with
  | true =>
    simp only [if_true, (hz z).mpr rfl, Bool.not_true, Bool.false_eq_true, if_false]
    exact (allEq_headD xs z (hb rfl) x hx).symm
  | false =>
    cases h : isE x with
    | true => simp [(hz x).mp h]
    | false => simp [h]

def WFPlugin (p : Plugin) : Prop := readPlugin (extPluginOf p) = some p

theorem readPlugin_wf (e : ExtPlugin) (p : Plugin) (h : readPlugin e = some p) : WFPlugin p := by
  unfold WFPlugin
  unfold readPlugin at h
  split at h
  · cases h
  · rename_i hopt
    cases hp : e.path with
    | nil => simp [hp] at h
    | cons name args =>
      simp only [hp] at h
      have hopt' : (e.options.any fun kv => decide (kv.1 = [])) = false := by
        cases hx : (e.options.any fun kv => decide (kv.1 = [])) with
        | false => rfl
        | true => simp [hx] at hopt
      split at h
      · simp only [Option.some.injEq] at h; subst h
        simp [readPlugin, extPluginOf, hopt']
      · split at h
        · split at h
          · cases h
          · rename_i hw hn
            simp only [Option.some.injEq] at h; subst h
            simp [readPlugin, extPluginOf, hopt', hw, hn]
        · split at h
          · cases h
          · rename_i hw hn
            simp only [Option.some.injEq] at h; subst h
            simp [readPlugin, extPluginOf, hopt', hw, hn]

theorem readDeps_ext (ds : List Dep) : readDeps (ds.map extDepOf) = some ds := by
  induction ds with
  | nil => rfl
  | cons d rest ih => simp [readDeps, extDepOf, ih]

structure WFFileV2 (c : BufYAML) : Prop where
  ver : c.version = .v2
  ne : c.modules ≠ []
  mods : ∀ m ∈ c.modules, WFModuleV2 m
  names : uniqueNonEmpty (c.modules.map (·.name)) = true
  sorted : c.modules.Pairwise (fun a b => moduleLt b a = false)
  depsSorted : Sorted depLt c.deps
  depsUnique : uniqueNonEmpty (c.deps.map (·.full)) = true
  plugins : ∀ p ∈ c.plugins, WFPlugin p

theorem extModuleOf_eq (m : Module) (incs excl : List Key) (hr : m.roots = [⟨[], incs, excl⟩]) :
    extModuleOfWith extCheckOf m = ⟨P.ok m.dirPath, extNameOf m.name, rebase m.dirPath incs, rebase m.dirPath excl,
      extLintOf true m.lint m.dirPath, extBreakingOf m.breaking m.dirPath⟩ := by
  simp [extModuleOfWith, hr, rebase]

def wMods (c : BufYAML) : List ExtModule := c.modules.map (extModuleOfWith extCheckOf)
def wHoist (c : BufYAML) : Bool := allEq ((wMods c).map (·.lint)) && allEq ((wMods c).map (·.breaking))
def wTopL (c : BufYAML) : ExtLint := if wHoist c then ((wMods c).map (·.lint)).headD ExtLint.zero else ExtLint.zero
def wTopB (c : BufYAML) : ExtBreaking := if wHoist c then ((wMods c).map (·.breaking)).headD ExtBreaking.zero else ExtBreaking.zero
def wMods' (c : BufYAML) : List ExtModule := if wHoist c then (wMods c).map ExtModule.clearChecks else wMods c

theorem readMods_rt (c : BufYAML) (hm : ∀ m ∈ c.modules, WFModuleV2 m) :
    (wMods' c).mapM (readModuleV2 (wTopL c) (wTopB c)) = some c.modules := by
  have e : wMods' c = c.modules.map fun m =>
      if wHoist c then (extModuleOfWith extCheckOf m).clearChecks else extModuleOfWith extCheckOf m := by
    unfold wMods' wMods
    split <;> simp [*]
  have hall : wHoist c = true → allEq ((wMods c).map (·.lint)) = true ∧ allEq ((wMods c).map (·.breaking)) = true := by
    simp [wHoist]
  rw [e]
  have key := BufProofs.ListLemmas.mapM_map_some
    (fun m => if wHoist c then (extModuleOfWith extCheckOf m).clearChecks else extModuleOfWith extCheckOf m)
    (readModuleV2 (wTopL c) (wTopB c)) id c.modules ?_
  · rwa [List.map_id] at key
  intro m hmem
  obtain ⟨incs, excl, hr, hroot⟩ := (hm m hmem).roots
  have hmem' : extModuleOfWith extCheckOf m ∈ wMods c := List.mem_map.mpr ⟨m, hmem, rfl⟩
  have e2 : (if wHoist c then (extModuleOfWith extCheckOf m).clearChecks else extModuleOfWith extCheckOf m) =
      ⟨P.ok m.dirPath, extNameOf m.name, rebase m.dirPath incs, rebase m.dirPath excl,
        if wHoist c then ExtLint.zero else extLintOf true m.lint m.dirPath,
        if wHoist c then ExtBreaking.zero else extBreakingOf m.breaking m.dirPath⟩ := by
    rw [extModuleOf_eq m incs excl hr]; cases wHoist c <;> rfl
  rw [extModuleOf_eq m incs excl hr] at hmem'
  rw [e2]
  apply readModuleV2_rt m (hm m hmem) incs excl hr hroot
  · have hx : extLintOf true m.lint m.dirPath ∈ (wMods c).map (·.lint) := List.mem_map.mpr ⟨_, hmem', rfl⟩
    exact hoisted_eq ExtLint.isEmpty ExtLint.zero isEmpty_lint_iff _ (wHoist c) (fun h => (hall h).1) hx
  · have hx : extBreakingOf m.breaking m.dirPath ∈ (wMods c).map (·.breaking) := List.mem_map.mpr ⟨_, hmem', rfl⟩
    exact hoisted_eq ExtBreaking.isEmpty ExtBreaking.zero isEmpty_breaking_iff _ (wHoist c) (fun h => (hall h).2) hx

theorem top_ok (c : BufYAML) (hne : c.modules ≠ []) (hm : ∀ m ∈ c.modules, WFModuleV2 m) :
    (!(wTopL c).isEmpty && (readLint true (wTopL c) [] false).isNone) = false ∧
    (!(wTopB c).isEmpty && (readBreaking (wTopB c) [] false).isNone) = false := by
  cases hh : wHoist c with
  | false => simp [wTopL, wTopB, hh, ExtLint.isEmpty, ExtBreaking.isEmpty]
  | true =>
    cases hc : c.modules with
    | nil => exact absurd hc hne
    | cons m rest =>
      have hwm := hm m (by simp [hc])
      obtain ⟨incs, excl, hr, _⟩ := hwm.roots
      have e1 : wTopL c = extLintOf true m.lint m.dirPath := by
        simp [wTopL, hh, wMods, hc, extModuleOf_eq m incs excl hr]
      have e2 : wTopB c = extBreakingOf m.breaking m.dirPath := by
        simp [wTopB, hh, wMods, hc, extModuleOf_eq m incs excl hr]
      rw [e1, e2]
      have s1 := readLint_top_isSome m.lint m.dirPath hwm.lint
      have s2 := readBreaking_top_isSome m.breaking m.dirPath hwm.breaking
      obtain ⟨x, hx⟩ := Option.isSome_iff_exists.mp s1
      obtain ⟨y, hy⟩ := Option.isSome_iff_exists.mp s2
      simp [hx, hy]

theorem readPlugins_rt (ps : List Plugin) (h : ∀ p ∈ ps, WFPlugin p) :
    (ps.map extPluginOf).mapM readPlugin = some ps := by
  have := BufProofs.ListLemmas.mapM_map_some extPluginOf readPlugin id ps (fun p hp => h p hp)
  simpa using this

theorem newBufYAML_eq_some {ver : Ver} {mods : List Module} {plugins : List Plugin} {deps : List Dep}
    {c : BufYAML} :
    newBufYAML ver mods plugins deps = some c ↔
      mods ≠ [] ∧ uniqueNonEmpty (mods.map (·.name)) = true ∧ uniqueNonEmpty (deps.map (·.full)) = true ∧
      ⟨ver, sortStable moduleLt mods, sortU depLt deps, plugins⟩ = c := by
  simp only [newBufYAML, Option.ite_none_left_eq_some, Bool.not_eq_true', Bool.not_eq_false,
    Option.some.injEq, ne_eq]

theorem newBufYAML_self (c : BufYAML) (h : WFFileV2 c) :
    newBufYAML .v2 c.modules c.plugins c.deps = some c := by
  unfold newBufYAML
  rw [if_neg h.ne]
  simp only [h.names, h.depsUnique, Bool.not_true, Bool.false_eq_true, if_false]
  rw [sortStable_eq_self _ h.sorted, sortU_eq_self _ h.depsSorted]
  have hv := h.ver
  cases c; simp only at hv; simp [hv]

/-- The tail of `readV2` after the module list has been determined. -/
theorem readV2_of_mods (e : ExtV2) (c : BufYAML) (h : WFFileV2 c)
    (hmods : (if e.modules = [] then some [⟨P.ok [], e.name, [], [], ExtLint.zero, ExtBreaking.zero⟩]
              else if e.name.name ≠ [] then none else some e.modules) = some (wMods' c))
    (hl : e.lint = wTopL c) (hb : e.breaking = wTopB c)
    (hp : e.plugins = c.plugins.map extPluginOf) (hd : e.deps = c.deps.map extDepOf) :
    readV2 e = some c := by
  unfold readV2
  simp only [hmods, hl, hb, readMods_rt c h.mods]
  obtain ⟨t1, t2⟩ := top_ok c h.ne h.mods
  simp only [t1, t2, Bool.false_eq_true, if_false, hp, hd, readPlugins_rt _ h.plugins, readDeps_ext]
  exact newBufYAML_self c h

theorem writeV2_shape (c : BufYAML) :
    writeV2 c = (match wMods' c with
      | [m] =>
        if m.path = P.ok [] && m.excludes = [] && (false || m.includes = []) then
          ⟨m.name, [], c.deps.map extDepOf, wTopL c, wTopB c, c.plugins.map extPluginOf⟩
        else ⟨extNameOf [], wMods' c, c.deps.map extDepOf, wTopL c, wTopB c, c.plugins.map extPluginOf⟩
      | _ => ⟨extNameOf [], wMods' c, c.deps.map extDepOf, wTopL c, wTopB c, c.plugins.map extPluginOf⟩) := by
  rfl

theorem wMods'_length (c : BufYAML) : (wMods' c).length = c.modules.length := by
  unfold wMods' wMods; split <;> simp

theorem wMods'_single_cleared (c : BufYAML) (m : ExtModule) (h : wMods' c = [m]) :
    m.lint = ExtLint.zero ∧ m.breaking = ExtBreaking.zero := by
  have hl : c.modules.length = 1 := by rw [← wMods'_length, h]; rfl
  cases hc : c.modules with
  | nil => simp [hc] at hl
  | cons m0 rest =>
    cases rest with
    | cons _ _ => simp [hc] at hl
    | nil =>
      have hh : wHoist c = true := by simp [wHoist, wMods, hc, allEq]
      simp only [wMods', hh, if_true, wMods, hc, List.map_cons, List.map_nil, List.cons.injEq, and_true] at h
      subst h
      simp [ExtModule.clearChecks]

/-- The first alternative is the single module "." without includes and excludes, collapsed into the
    top level under its name. -/
theorem writeV2_parts (c : BufYAML) :
    (writeV2 c).lint = wTopL c ∧ (writeV2 c).breaking = wTopB c ∧
      (writeV2 c).plugins = c.plugins.map extPluginOf ∧ (writeV2 c).deps = c.deps.map extDepOf ∧
      ((writeV2 c).modules = [] ∧
          wMods' c = [⟨P.ok [], (writeV2 c).name, [], [], ExtLint.zero, ExtBreaking.zero⟩] ∨
        (writeV2 c).modules = wMods' c ∧ (writeV2 c).name = extNameOf []) := by
  rw [writeV2_shape]
  split
  · rename_i m hw
    split
    · rename_i hcond
      refine ⟨rfl, rfl, rfl, rfl, .inl ⟨rfl, ?_⟩⟩
      obtain ⟨z1, z2⟩ := wMods'_single_cleared c m hw
      simp only [Bool.false_or, Bool.and_eq_true, decide_eq_true_eq] at hcond
      obtain ⟨mp, mn, mi, me, ml, mb⟩ := m
      simp only at z1 z2 hcond
      rw [hw, z1, z2, hcond.1.1, hcond.1.2, hcond.2]
    · exact ⟨rfl, rfl, rfl, rfl, .inr ⟨rfl, rfl⟩⟩
  · exact ⟨rfl, rfl, rfl, rfl, .inr ⟨rfl, rfl⟩⟩

theorem readV2_writeV2 (c : BufYAML) (h : WFFileV2 c) : readV2 (writeV2 c) = some c := by
  obtain ⟨hl, hb, hp, hd, hm⟩ := writeV2_parts c
  refine readV2_of_mods _ c h ?_ hl hb hp hd
  rcases hm with ⟨e1, e2⟩ | ⟨e1, e2⟩
  · rw [e1, if_pos rfl, e2]
  · have hne : wMods' c ≠ [] := fun e =>
      h.ne (List.length_eq_zero_iff.mp (by rw [← wMods'_length, e]; rfl))
    rw [e1, if_neg hne, e2]
    rfl

/-! ### buf.work.yaml -/

theorem readWork_eq_some {ps : List P} {ds : List Key} :
    readWork ps = some ds ↔ ps ≠ [] ∧ ∃ ks, ps.mapM P.nv = some ks ∧ [] ∉ ks ∧ antichain ks = true ∧
      sortU keyLt ks = ds := by
  unfold readWork
  rcases hk : ps.mapM P.nv with _ | ks <;>
    simp [Option.ite_none_left_eq_some, Option.ite_none_right_eq_some]

theorem readWork_rt (ps : List P) (ds : List Key) (h : readWork ps = some ds) : readWork (writeWork ds) = some ds := by
  obtain ⟨hps, ks, hk, hroot, hanti, rfl⟩ := readWork_eq_some.mp h
  have hne : ks ≠ [] := fun e => hps (List.length_eq_zero_iff.mp (by rw [← (BufProofs.ListLemmas.mapM_some hk).1, e]; rfl))
  refine readWork_eq_some.mpr ⟨by simpa [writeWork] using sortU_ne_nil keyLt ks hne, sortU keyLt ks, ?_,
    fun hm => hroot (mem_sortU_imp _ _ _ hm), antichain_sortU ks hanti,
    sortU_eq_self _ (sorted_sortU keyLt_total.trans ks)⟩
  have := BufProofs.ListLemmas.mapM_map_some P.ok P.nv id (sortU keyLt ks) fun _ _ => rfl
  rwa [List.map_id] at this

theorem uniqueNonEmpty_of_sorted (l : List Str) (h : Sorted strLt l) : uniqueNonEmpty l = true := by
  induction l with
  | nil => rfl
  | cons x xs ih =>
    have hx := List.pairwise_cons.mp h
    simp only [uniqueNonEmpty, Bool.and_eq_true, Bool.or_eq_true, decide_eq_true_eq, Bool.not_eq_true']
    refine ⟨Or.inr ?_, ih hx.2⟩
    cases hc : xs.contains x with
    | false => rfl
    | true =>
      have := hx.1 x (List.contains_iff_mem.mp hc)
      rw [strLt_total.irrefl] at this; cases this

/-! ### entries with a string key: read one by one, unique by key, sorted by key -/

/-- `lt` compares the keys: the sorted list is strictly sorted, hence has no key twice. -/
theorem sortU_keyed {X : Type} {lt : X → X → Bool} (key : X → Str) (hlt : ∀ a b, lt a b = strLt (key a) (key b))
    (xs : List X) : Sorted lt (sortU lt xs) ∧ uniqueNonEmpty ((sortU lt xs).map key) = true := by
  have hs : Sorted lt (sortU lt xs) :=
    sorted_sortU (fun a b c => by simp only [hlt]; exact strLt_total.trans _ _ _) xs
  exact ⟨hs, uniqueNonEmpty_of_sorted _ (List.pairwise_map.mpr (hs.imp fun h => (hlt _ _).symm.trans h))⟩

theorem keyed_rt {E X : Type} {rd : E → Option X} {wr : X → E} (lt : X → X → Bool)
    (hrw : ∀ e x, rd e = some x → rd (wr x) = some x) {es : List E} {xs : List X} (h : es.mapM rd = some xs) :
    ((sortU lt xs).map wr).mapM rd = some (sortU lt xs) := by
  have := BufProofs.ListLemmas.mapM_map_some wr rd id (sortU lt xs) fun x hx =>
    let ⟨e, _, he⟩ := (BufProofs.ListLemmas.mapM_some h).2.1 x (mem_sortU_imp _ _ _ hx)
    hrw e x he
  rwa [List.map_id] at this

/-! ### buf.lock -/

theorem readLockDep_rt {ver : Ver} {e : ExtLockDep} {d : LockDep} (h : readLockDep ver e = some d) :
    readLockDep ver ⟨d.remote, d.owner, d.repository, true, d.commit, true, d.digest,
      if ver = .v2 then .b5 else .b4⟩ = some d := by
  simp only [readLockDep, Option.ite_none_left_eq_some, Bool.or_eq_true, decide_eq_true_eq, not_or,
    Bool.not_eq_true', Option.some.injEq] at h
  obtain ⟨⟨⟨c1, c2⟩, c3⟩, -, ⟨c4, -⟩, c5, -, rfl⟩ := h
  simp [readLockDep, c1, c2, c3, c4, c5]

theorem readLock_rt (ver : Ver) (ds : List ExtLockDep) (l : BufLock) (h : readLock ver ds = some l) :
    readLock ver (writeLock l) = some l := by
  unfold readLock at h
  rcases hk : ds.mapM (readLockDep ver) with _ | deps <;>
    simp only [hk, reduceCtorEq, Option.ite_none_left_eq_some, Option.some.injEq] at h
  obtain ⟨-, rfl⟩ := h
  obtain ⟨hs, hu⟩ := sortU_keyed (lt := lockLt) LockDep.full (fun _ _ => rfl) deps
  simp only [readLock, writeLock, keyed_rt lockLt (fun _ _ => readLockDep_rt) hk, hu, sortU_eq_self _ hs,
    Bool.not_true, Bool.false_eq_true, if_false]

end BufModel.Config
