import BufProofs.Lemmas.ConfigRoundTrip
/-
  C16: buf.lock as a whole — the dependencies (`readLock_rt`) together with the `plugins:` section
  of v2 files — is read back unchanged from what the writer emits.
-/
namespace BufModel.Config
open BufModel.Path

theorem readLockPlugin_some {x : ExtLockPlugin} {p : LockPlugin} (h : readLockPlugin x = some p) :
    p.name ≠ [] ∧ p.commit ≠ [] ∧ p.digest ≠ [] := by
  simp only [readLockPlugin, Option.ite_none_left_eq_some, Option.some.injEq] at h
  obtain ⟨hn, -, hc, hd, -, -, rfl⟩ := h
  exact ⟨hn, hc, hd⟩

theorem readLockPlugin_write (p : LockPlugin) (h : p.name ≠ [] ∧ p.commit ≠ [] ∧ p.digest ≠ []) :
    readLockPlugin ⟨p.name, true, p.commit, true, p.digest, true⟩ = some p := by
  simp [readLockPlugin, h.1, h.2.1, h.2.2]

theorem readLockPlugins_rt (ps : List ExtLockPlugin) (pl : List LockPlugin)
    (h : readLockPlugins ps = some pl) : readLockPlugins (writeLockPlugins pl) = some pl := by
  unfold readLockPlugins at h
  rcases hk : ps.mapM readLockPlugin with _ | pl0 <;>
    simp only [hk, reduceCtorEq, Option.ite_none_left_eq_some, Option.some.injEq] at h
  obtain ⟨-, rfl⟩ := h
  obtain ⟨hs, hu⟩ := sortU_keyed (lt := pluginLt) LockPlugin.name (fun _ _ => rfl) pl0
  simp only [readLockPlugins, writeLockPlugins,
    keyed_rt pluginLt (fun _ p hp => readLockPlugin_write p (readLockPlugin_some hp)) hk, hu,
    sortU_eq_self _ hs, Bool.not_true, Bool.false_eq_true, if_false]

theorem readLock_version {ver : Ver} {ds : List ExtLockDep} {l : BufLock} (h : readLock ver ds = some l) :
    l.version = ver := by
  unfold readLock at h
  repeat' (split at h <;> try contradiction)
  injection h with h
  subst h
  rfl

theorem readLockFile_eq_some {ver : Ver} {ds : List ExtLockDep} {ps : List ExtLockPlugin} {f : BufLockFile} :
    readLockFile ver ds ps = some f ↔
      (ver ≠ .v2 → ps = []) ∧ readLock ver ds = some f.lock ∧ readLockPlugins ps = some f.plugins := by
  unfold readLockFile
  obtain ⟨l, pl⟩ := f
  rcases readLock ver ds with _ | l' <;> rcases readLockPlugins ps with _ | pl' <;>
    simp [Option.ite_none_left_eq_some]

theorem readLockFile_rt (ver : Ver) (ds : List ExtLockDep) (ps : List ExtLockPlugin) (f : BufLockFile)
    (h : readLockFile ver ds ps = some f) :
    readLockFile ver (writeLockFile f).1 (writeLockFile f).2 = some f := by
  obtain ⟨hv, hl, hpl⟩ := readLockFile_eq_some.mp h
  have hver := readLock_version hl
  unfold writeLockFile
  rw [hver]
  refine readLockFile_eq_some.mpr ⟨fun hv2 => if_neg hv2, readLock_rt _ ds _ hl, ?_⟩
  by_cases hv2 : ver = .v2
  · rw [if_pos hv2]; exact readLockPlugins_rt ps _ hpl
  · rw [if_neg hv2, ← hpl, hv hv2]

end BufModel.Config
