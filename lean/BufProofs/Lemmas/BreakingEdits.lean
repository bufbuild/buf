import BufProofs.Lemmas.BreakingAdditive
/-
  The catalogue of ADDITIVE EDIT OPERATORS that `⊑ₐ` covers, as inductive relations on the schema
  datatype, one constructor per operator, applicable at any position of a list ("`a ++ x :: b`")
  and — through the congruence constructors `MsgEdit.nested`, `FileEdit.message`, … — at any
  nesting depth:

      SchemaEdit   add a file · edit one file
      FileEdit     add a top-level message / enum / service / extension · edit a message, enum or
                   service · change which source paths have a location
      MsgEdit      edit the message's own content (InfoEdit) · add a nested message · edit a nested one
      InfoEdit     add a non-required field with a fresh number · add a oneof · add / edit a nested
                   enum · add a nested extension · add a reserved range / name · add an extension range
      EnumEdit     add a value (anywhere, any number: aliases too) · add a reserved range / name
      SvcEdit      add an RPC

  `SchemaEdit.sound : SchemaEdit s s' → s ⊑ₐ s'`.  The operators act on the DATATYPE (derived facts
  included).  A source-level edit is covered by `⊑ₐ` iff its effect on the compiled descriptors is
  a composition of these operators.  Inserting a new first value into a CLOSED enum is, on the
  descriptors, `EnumEdit.addValue` PLUS a change of `Field.dflt` in every field of that enum type
  without explicit default — and "change a field record" is not in the catalogue
  (`C04.additive_first_enum_value_counterexample`).
-/
namespace BufProofs.Breaking
open BufModel.Schema BufModel.Breaking

theorem mem_insert_of_mem {α : Type} {a b : List α} {x y : α} (h : y ∈ a ++ b) : y ∈ a ++ x :: b := by
  rcases List.mem_append.1 h with h | h
  · exact List.mem_append_left _ h
  · exact List.mem_append_right _ (List.mem_cons_of_mem _ h)

theorem mem_replace_cases {α : Type} {a b : List α} {x y : α} (h : y ∈ a ++ x :: b) :
    y = x ∨ y ∈ a ∨ y ∈ b := by
  rcases List.mem_append.1 h with h | h
  · exact Or.inr (Or.inl h)
  · rcases List.mem_cons.1 h with h | h
    · exact Or.inl h
    · exact Or.inr (Or.inr h)

/-! "every previous element has a related current one" (the shape of every list clause of `⊑ₐ`) under the two
    list edits: insert anywhere, replace one element by a related one -/

theorem cover_insert {α : Type} {R : α → α → Prop} (hr : ∀ x, R x x) (a b : List α) (x : α) :
    ∀ y ∈ a ++ b, ∃ y' ∈ a ++ x :: b, R y y' :=
  fun y hy => ⟨y, mem_insert_of_mem hy, hr y⟩

theorem cover_replace {α : Type} {R : α → α → Prop} (hr : ∀ x, R x x) (a b : List α) {x x' : α} (h : R x x') :
    ∀ y ∈ a ++ x :: b, ∃ y' ∈ a ++ x' :: b, R y y' := fun y hy => by
  rcases mem_replace_cases hy with rfl | hy | hy
  · exact ⟨x', List.mem_append_right _ List.mem_cons_self, h⟩
  · exact ⟨y, List.mem_append_left _ hy, hr y⟩
  · exact ⟨y, List.mem_append_right _ (List.mem_cons_of_mem _ hy), hr y⟩

inductive EnumEdit : Enum → Enum → Prop
  | addValue (e : Enum) (a b : List EnumValue) (v : EnumValue) :
      e.values = a ++ b → EnumEdit e { e with values := a ++ v :: b }
  | addReservedRange (e : Enum) (a b : List Range) (r : Range) :
      e.reservedRanges = a ++ b → EnumEdit e { e with reservedRanges := a ++ r :: b }
  | addReservedName (e : Enum) (a b : List Name) (n : Name) :
      e.reservedNames = a ++ b → EnumEdit e { e with reservedNames := a ++ n :: b }

theorem EnumEdit.sound {e e' : Enum} (h : EnumEdit e e') : e'.name = e.name ∧ EnumExt e e' := by
  cases h with
  | addValue a b v he =>
    exact ⟨rfl, ⟨rfl, rfl, fun x hx => mem_insert_of_mem (he ▸ hx), fun _ h => h, fun _ h => h⟩⟩
  | addReservedRange a b r he =>
    exact ⟨rfl, ⟨rfl, rfl, fun _ h => h, fun x hx => mem_insert_of_mem (he ▸ hx), fun _ h => h⟩⟩
  | addReservedName a b n he =>
    exact ⟨rfl, ⟨rfl, rfl, fun _ h => h, fun _ h => h, fun x hx => mem_insert_of_mem (he ▸ hx)⟩⟩

inductive InfoEdit : MsgInfo → MsgInfo → Prop
  | addField (i : MsgInfo) (a b : List Field) (f : Field) :
      i.fields = a ++ b → f.label ≠ .required → (∀ g ∈ i.fields, g.number ≠ f.number) →
      InfoEdit i { i with fields := a ++ f :: b }
  | addOneof (i : MsgInfo) (a b : List Oneof) (o : Oneof) :
      i.oneofs = a ++ b → InfoEdit i { i with oneofs := a ++ o :: b }
  | addEnum (i : MsgInfo) (a b : List Enum) (e : Enum) :
      i.enums = a ++ b → InfoEdit i { i with enums := a ++ e :: b }
  | editEnum (i : MsgInfo) (a b : List Enum) (e e' : Enum) :
      i.enums = a ++ e :: b → EnumEdit e e' → InfoEdit i { i with enums := a ++ e' :: b }
  | addExtension (i : MsgInfo) (a b : List Field) (x : Field) :
      i.extensions = a ++ b → InfoEdit i { i with extensions := a ++ x :: b }
  | addReservedRange (i : MsgInfo) (a b : List Range) (r : Range) :
      i.reservedRanges = a ++ b → InfoEdit i { i with reservedRanges := a ++ r :: b }
  | addReservedName (i : MsgInfo) (a b : List Name) (n : Name) :
      i.reservedNames = a ++ b → InfoEdit i { i with reservedNames := a ++ n :: b }
  | addExtensionRange (i : MsgInfo) (a b : List Range) (r : Range) :
      i.extRanges = a ++ b → InfoEdit i { i with extRanges := a ++ r :: b }

theorem InfoEdit.sound {i i' : MsgInfo} (h : InfoEdit i i') : InfoExt i i' := by
  have r := InfoExt.refl i
  cases h with
  | addField a b f hi hreq hfresh =>
    exact { r with
      fields := fun g hg => mem_insert_of_mem (hi ▸ hg)
      fresh := fun g hg => by
        rcases mem_replace_cases hg with rfl | hg | hg
        · exact Or.inr ⟨hreq, hfresh⟩
        · exact Or.inl (hi ▸ List.mem_append_left _ hg)
        · exact Or.inl (hi ▸ List.mem_append_right _ hg) }
  | addOneof a b o hi =>
    exact { r with oneofs := fun x hx => List.mem_map_of_mem (mem_insert_of_mem (hi ▸ hx)) }
  | addEnum a b e hi => exact { r with enums := hi ▸ cover_insert (fun x => ⟨rfl, EnumExt.refl x⟩) a b e }
  | editEnum a b e e' hi he =>
    exact { r with enums := hi ▸ cover_replace (fun x => ⟨rfl, EnumExt.refl x⟩) a b he.sound }
  | addExtension a b x hi => exact { r with exts := fun y hy => mem_insert_of_mem (hi ▸ hy) }
  | addReservedRange a b x hi => exact { r with rranges := fun y hy => mem_insert_of_mem (hi ▸ hy) }
  | addReservedName a b x hi => exact { r with rnames := fun y hy => mem_insert_of_mem (hi ▸ hy) }
  | addExtensionRange a b x hi => exact { r with extRanges := fun y hy => mem_insert_of_mem (hi ▸ hy) }

inductive MsgEdit : Msg → Msg → Prop
  | info (i i' : MsgInfo) (ns : List Msg) : InfoEdit i i' → MsgEdit (.mk i ns) (.mk i' ns)
  | addNested (i : MsgInfo) (a b : List Msg) (n : Msg) : MsgEdit (.mk i (a ++ b)) (.mk i (a ++ n :: b))
  | nested (i : MsgInfo) (a b : List Msg) (n n' : Msg) :
      MsgEdit n n' → MsgEdit (.mk i (a ++ n :: b)) (.mk i (a ++ n' :: b))

theorem MsgsExt_insert (a b : List Msg) (n : Msg) : MsgsExt (a ++ b) (a ++ n :: b) :=
  MsgsExt_of_forall _ _ (cover_insert MsgExt.refl a b n)

theorem MsgsExt_replace (a b : List Msg) (n n' : Msg) (h : MsgExt n n') : MsgsExt (a ++ n :: b) (a ++ n' :: b) :=
  MsgsExt_of_forall _ _ (cover_replace MsgExt.refl a b h)

theorem MsgEdit.sound {m m' : Msg} (h : MsgEdit m m') : MsgExt m m' := by
  induction h with
  | info i i' ns hi =>
    rw [MsgExt]
    exact ⟨hi.sound, MsgsExt_of_forall _ _ fun x hx => ⟨x, hx, MsgExt.refl x⟩⟩
  | addNested i a b n =>
    rw [MsgExt]
    exact ⟨InfoExt.refl i, MsgsExt_insert a b n⟩
  | nested i a b n n' _ ih =>
    rw [MsgExt]
    exact ⟨InfoExt.refl i, MsgsExt_replace a b n n' ih⟩

inductive SvcEdit : Service → Service → Prop
  | addMethod (s : Service) (a b : List Method) (m : Method) :
      s.methods = a ++ b → SvcEdit s { s with methods := a ++ m :: b }

theorem SvcEdit.sound {s s' : Service} (h : SvcEdit s s') : SvcExt s s' := by
  cases h with
  | addMethod a b m hs => exact ⟨rfl, fun x hx => mem_insert_of_mem (hs ▸ hx)⟩

inductive FileEdit : File → File → Prop
  | addMessage (f : File) (a b : List Msg) (m : Msg) :
      f.messages = a ++ b → FileEdit f { f with messages := a ++ m :: b }
  | message (f : File) (a b : List Msg) (m m' : Msg) :
      f.messages = a ++ m :: b → MsgEdit m m' → FileEdit f { f with messages := a ++ m' :: b }
  | addEnum (f : File) (a b : List Enum) (e : Enum) :
      f.enums = a ++ b → FileEdit f { f with enums := a ++ e :: b }
  | enum (f : File) (a b : List Enum) (e e' : Enum) :
      f.enums = a ++ e :: b → EnumEdit e e' → FileEdit f { f with enums := a ++ e' :: b }
  | addService (f : File) (a b : List Service) (s : Service) :
      f.services = a ++ b → FileEdit f { f with services := a ++ s :: b }
  | service (f : File) (a b : List Service) (s s' : Service) :
      f.services = a ++ s :: b → SvcEdit s s' → FileEdit f { f with services := a ++ s' :: b }
  | addExtension (f : File) (a b : List Field) (x : Field) :
      f.extensions = a ++ b → FileEdit f { f with extensions := a ++ x :: b }
  /-- which source paths have a location (comments, whitespace, positions) is free -/
  | relocate (f : File) (locs : List SPath) : FileEdit f { f with locs := locs }

theorem FileEdit.sound {f f' : File} (h : FileEdit f f') : FileExt f f' := by
  have r := FileExt.refl f
  cases h with
  | addMessage a b m hf => exact { r with msgs := hf ▸ MsgsExt_insert a b m }
  | message a b m m' hf hm => exact { r with msgs := hf ▸ MsgsExt_replace a b m m' hm.sound }
  | addEnum a b e hf => exact { r with enums := hf ▸ cover_insert (fun x => ⟨rfl, EnumExt.refl x⟩) a b e }
  | enum a b e e' hf he =>
    exact { r with enums := hf ▸ cover_replace (fun x => ⟨rfl, EnumExt.refl x⟩) a b he.sound }
  | addService a b s hf => exact { r with svcs := hf ▸ cover_insert SvcExt.refl a b s }
  | service a b s s' hf hs => exact { r with svcs := hf ▸ cover_replace SvcExt.refl a b hs.sound }
  | addExtension a b x hf => exact { r with exts := fun y hy => mem_insert_of_mem (hf ▸ hy) }
  | relocate locs => exact ⟨rfl, rfl, rfl, rfl, r.msgs, r.enums, r.exts, r.svcs⟩

inductive SchemaEdit : Schema → Schema → Prop
  | addFile (a b : List File) (f : File) : SchemaEdit (a ++ b) (a ++ f :: b)
  | file (a b : List File) (f f' : File) : FileEdit f f' → SchemaEdit (a ++ f :: b) (a ++ f' :: b)

theorem SchemaEdit.sound {s s' : Schema} (h : SchemaEdit s s') : s ⊑ₐ s' := by
  cases h with
  | addFile a b f => exact cover_insert FileExt.refl a b f
  | file a b f f' hf => exact cover_replace FileExt.refl a b hf.sound

inductive SchemaEdits : Schema → Schema → Prop
  | refl (s : Schema) : SchemaEdits s s
  | step {a b c : Schema} : SchemaEdits a b → SchemaEdit b c → SchemaEdits a c

theorem SchemaEdits.sound {s s' : Schema} (h : SchemaEdits s s') : s ⊑ₐ s' := by
  induction h with
  | refl => exact SchemaExt.refl _
  | step _ hbc ih => exact SchemaExt.trans ih hbc.sound

end BufProofs.Breaking
