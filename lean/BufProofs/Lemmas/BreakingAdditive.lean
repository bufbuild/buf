import BufProofs.Lemmas.BreakingClean
/-
  The "only adds" relation `prev ⊑ₐ cur` on schema TREES (defined by structural recursion on the
  older schema, nested messages included), its reflexivity and transitivity (so that every chain
  S₀ → S₁ → … → Sₙ of additive edits is covered), and the induction over nesting that transports
  it to the flattened view used by the rule handlers.
-/
namespace BufProofs.Breaking
open BufModel.Schema BufModel.Breaking

mutual
/-- `m'` (newer) only adds to `m`: same name, `InfoExt` on everything but the nested messages,
    and every nested message of `m` has an only-adds counterpart among those of `m'` -/
def MsgExt : Msg → Msg → Prop
  | .mk i ns, m' => InfoExt i m'.info ∧ MsgsExt ns m'.nested
def MsgsExt : List Msg → List Msg → Prop
  | [], _ => True
  | n :: ns, ns' => (∃ n', n' ∈ ns' ∧ MsgExt n n') ∧ MsgsExt ns ns'
end

structure FileExt (pf cf : File) : Prop where
  path : cf.path = pf.path
  pkg : cf.pkg = pf.pkg
  syn : cf.syn = pf.syn
  opts : cf.opts = pf.opts
  msgs : MsgsExt pf.messages cf.messages
  enums : ∀ e ∈ pf.enums, ∃ e' ∈ cf.enums, e'.name = e.name ∧ EnumExt e e'
  exts : ∀ x ∈ pf.extensions, x ∈ cf.extensions
  svcs : ∀ s ∈ pf.services, ∃ s' ∈ cf.services, SvcExt s s'

/-- the newer schema `cur` only adds to `prev`: new files, messages, enums, services, RPCs, oneofs,
    reserved ranges / names, enum values (aliases of an existing number too), non-required fields
    with fresh numbers -/
def SchemaExt (prev cur : Schema) : Prop := ∀ pf ∈ prev, ∃ cf ∈ cur, FileExt pf cf

scoped infix:50 " ⊑ₐ " => SchemaExt

theorem MsgsExt_mem : ∀ (ns ns' : List Msg), MsgsExt ns ns' → ∀ n ∈ ns, ∃ n', n' ∈ ns' ∧ MsgExt n n'
  | [], _, _, n, hn => by cases hn
  | x :: xs, ns', h, n, hn => by
    rw [MsgsExt] at h
    rcases List.mem_cons.1 hn with rfl | hn'
    · exact h.1
    · exact MsgsExt_mem xs ns' h.2 n hn'

theorem MsgsExt_of_forall : ∀ (ns ns' : List Msg), (∀ n ∈ ns, ∃ n', n' ∈ ns' ∧ MsgExt n n') → MsgsExt ns ns'
  | [], _, _ => by rw [MsgsExt]; trivial
  | x :: xs, ns', h => by
    rw [MsgsExt]
    exact ⟨h x List.mem_cons_self, MsgsExt_of_forall xs ns' fun n hn => h n (List.mem_cons_of_mem _ hn)⟩

theorem EnumExt.refl (e : Enum) : EnumExt e e :=
  ⟨rfl, rfl, fun _ h => h, fun _ h => h, fun _ h => h⟩

theorem InfoExt.refl (i : MsgInfo) : InfoExt i i where
  name := rfl
  enums := fun e he => ⟨e, he, rfl, EnumExt.refl e⟩
  exts := fun _ h => h
  noStd := rfl
  json := rfl
  fields := fun _ h => h
  fresh := fun _ h => Or.inl h
  oneofs := fun _ h => List.mem_map_of_mem h
  rranges := fun _ h => h
  rnames := fun _ h => h
  extRanges := fun _ h => h

theorem SvcExt.refl (s : Service) : SvcExt s s := ⟨rfl, fun _ h => h⟩

theorem MsgExt.refl : ∀ m : Msg, MsgExt m m :=
  Msg.ind fun i ns ih => by
    rw [MsgExt]
    exact ⟨InfoExt.refl i, MsgsExt_of_forall ns ns fun n hn => ⟨n, hn, ih n hn⟩⟩

theorem MsgExt.refl_list : ∀ ns : List Msg, ∀ n ∈ ns, MsgExt n n := fun _ n _ => MsgExt.refl n

theorem FileExt.refl (f : File) : FileExt f f where
  path := rfl
  pkg := rfl
  syn := rfl
  opts := rfl
  msgs := MsgsExt_of_forall _ _ fun n hn => ⟨n, hn, MsgExt.refl n⟩
  enums := fun e he => ⟨e, he, rfl, EnumExt.refl e⟩
  exts := fun _ h => h
  svcs := fun s hs => ⟨s, hs, SvcExt.refl s⟩

theorem SchemaExt.refl (s : Schema) : s ⊑ₐ s := fun f hf => ⟨f, hf, FileExt.refl f⟩

/-! ### transitivity (closure under composition) -/

theorem EnumExt.trans {a b c : Enum} (h1 : EnumExt a b) (h2 : EnumExt b c) : EnumExt a c where
  closed := h2.closed.trans h1.closed
  json := h2.json.trans h1.json
  values := fun v hv => h2.values v (h1.values v hv)
  rranges := fun r hr => h2.rranges r (h1.rranges r hr)
  rnames := fun r hr => h2.rnames r (h1.rnames r hr)

theorem InfoExt.trans {a b c : MsgInfo} (h1 : InfoExt a b) (h2 : InfoExt b c) : InfoExt a c where
  name := h2.name.trans h1.name
  enums := fun e he => by
    obtain ⟨e', he', hn', hx'⟩ := h1.enums e he
    obtain ⟨e'', he'', hn'', hx''⟩ := h2.enums e' he'
    exact ⟨e'', he'', hn''.trans hn', hx'.trans hx''⟩
  exts := fun x hx => h2.exts x (h1.exts x hx)
  noStd := h2.noStd.trans h1.noStd
  json := h2.json.trans h1.json
  fields := fun f hf => h2.fields f (h1.fields f hf)
  fresh := fun f'' hf => by
    rcases h2.fresh f'' hf with hb | ⟨hnr, hnew⟩
    · exact h1.fresh f'' hb
    · exact Or.inr ⟨hnr, fun f hfa => hnew f (h1.fields f hfa)⟩
  oneofs := fun o ho => by
    obtain ⟨o', ho', hn⟩ := List.mem_map.1 (h1.oneofs o ho)
    rw [← hn]
    exact h2.oneofs o' ho'
  rranges := fun r hr => h2.rranges r (h1.rranges r hr)
  rnames := fun r hr => h2.rnames r (h1.rnames r hr)
  extRanges := fun r hr => h2.extRanges r (h1.extRanges r hr)

theorem SvcExt.trans {a b c : Service} (h1 : SvcExt a b) (h2 : SvcExt b c) : SvcExt a c :=
  ⟨h2.name.trans h1.name, fun m hm => h2.methods m (h1.methods m hm)⟩

theorem MsgExt_unfold (m m' : Msg) : MsgExt m m' ↔ InfoExt m.info m'.info ∧ MsgsExt m.nested m'.nested := by
  cases m with
  | mk i ns => rw [MsgExt]; rfl

theorem MsgExt.trans : ∀ (a b c : Msg), MsgExt a b → MsgExt b c → MsgExt a c :=
  Msg.ind fun i ns ih b c h1 h2 => by
    rw [MsgExt] at h1 ⊢
    rw [MsgExt_unfold] at h2
    refine ⟨h1.1.trans h2.1, MsgsExt_of_forall _ _ fun n hn => ?_⟩
    obtain ⟨n', hn', h'⟩ := MsgsExt_mem _ _ h1.2 n hn
    obtain ⟨n'', hn'', h''⟩ := MsgsExt_mem _ _ h2.2 n' hn'
    exact ⟨n'', hn'', ih n hn n' n'' h' h''⟩

theorem MsgExt.trans_list (as bs cs : List Msg) (h1 : MsgsExt as bs) (h2 : MsgsExt bs cs) : MsgsExt as cs :=
  MsgsExt_of_forall _ _ fun a ha => by
    obtain ⟨b, hb, hab⟩ := MsgsExt_mem _ _ h1 a ha
    obtain ⟨c, hc, hbc⟩ := MsgsExt_mem _ _ h2 b hb
    exact ⟨c, hc, MsgExt.trans a b c hab hbc⟩

theorem FileExt.trans {a b c : File} (h1 : FileExt a b) (h2 : FileExt b c) : FileExt a c where
  path := h2.path.trans h1.path
  pkg := h2.pkg.trans h1.pkg
  syn := h2.syn.trans h1.syn
  opts := h2.opts.trans h1.opts
  msgs := MsgExt.trans_list _ _ _ h1.msgs h2.msgs
  enums := fun e he => by
    obtain ⟨e', he', hn', hx'⟩ := h1.enums e he
    obtain ⟨e'', he'', hn'', hx''⟩ := h2.enums e' he'
    exact ⟨e'', he'', hn''.trans hn', hx'.trans hx''⟩
  exts := fun x hx => h2.exts x (h1.exts x hx)
  svcs := fun s hs => by
    obtain ⟨s', hs', hx'⟩ := h1.svcs s hs
    obtain ⟨s'', hs'', hx''⟩ := h2.svcs s' hs'
    exact ⟨s'', hs'', hx'.trans hx''⟩

theorem SchemaExt.trans {a b c : Schema} (h1 : a ⊑ₐ b) (h2 : b ⊑ₐ c) : a ⊑ₐ c := fun f hf => by
  obtain ⟨f', hf', hx'⟩ := h1 f hf
  obtain ⟨f'', hf'', hx''⟩ := h2 f' hf'
  exact ⟨f'', hf'', hx'.trans hx''⟩

/-! ### induction over nesting: tree relation ⇒ flattened relation -/

theorem flatMsg_ext {file file' : String} {locs locs' : List SPath} {pkg : QName} :
    ∀ (m : Msg) (pre : QName) (path : SPath) (ml : Option SPath) (pm : FlatMsg),
      pm ∈ flatMsg file locs pkg pre path ml m → ∀ (m' : Msg) (path' : SPath) (ml' : Option SPath), MsgExt m m' →
        ∃ cm ∈ flatMsg file' locs' pkg pre path' ml' m', cm.nested = pm.nested ∧ InfoExt pm.info cm.info :=
  flatMsg_rec
    (fun pre path ml i ns m' path' ml' h => by
      cases m' with
      | mk i' ns' =>
        rw [MsgExt] at h
        exact ⟨_, mem_flatMsg.2 (.inl rfl), by rw [show i'.name = i.name from h.1.name], h.1⟩)
    fun pre path ml i ns k n x hk ih m' path' ml' h => by
      cases m' with
      | mk i' ns' =>
        rw [MsgExt] at h
        obtain ⟨n', hn', hnn'⟩ := MsgsExt_mem ns ns' h.2 n (List.mem_of_getElem? hk)
        obtain ⟨j, hj⟩ := List.getElem?_of_mem hn'
        obtain ⟨cm, hcm, hx⟩ := ih n' (path' ++ [3, j]) (mapLocOf pkg (pre ++ [i.name]) path' i'.fields n'.info) hnn'
        refine ⟨cm, mem_flatMsg.2 (.inr ⟨j, n', hj, ?_⟩), hx⟩
        rwa [show i'.name = i.name from h.1.name]

theorem flatMsgs_ext (file file' : String) (locs locs' : List SPath) (pkg : QName) :
    ∀ (ns ns' : List Msg) (pre : QName) (path path' : SPath) (pf pf' : List Field) (i i' : Nat),
      MsgsExt ns ns' → ∀ pm ∈ flatMsgs file locs pkg pre path pf i ns,
        ∃ cm ∈ flatMsgs file' locs' pkg pre path' pf' i' ns', cm.nested = pm.nested ∧ InfoExt pm.info cm.info :=
  fun ns ns' pre path path' pf pf' i i' h pm hpm => by
    obtain ⟨k, n, hk, hx⟩ := mem_flatMsgs.1 hpm
    obtain ⟨n', hn', hnn'⟩ := MsgsExt_mem ns ns' h n (List.mem_of_getElem? hk)
    obtain ⟨j, hj⟩ := List.getElem?_of_mem hn'
    obtain ⟨cm, hcm, hx⟩ := flatMsg_ext n _ _ _ pm hx n' _ _ hnn'
    exact ⟨cm, mem_flatMsgs.2 ⟨j, n', hj, hcm⟩, hx⟩

theorem file_flatMsgs_ext {pf cf : File} (hpkg : cf.pkg = pf.pkg) (h : MsgsExt pf.messages cf.messages) :
    ∀ pm ∈ pf.flatMsgs, ∃ cm ∈ cf.flatMsgs, cm.nested = pm.nested ∧ InfoExt pm.info cm.info := by
  intro pm hpm
  obtain ⟨k, n, hk, hx⟩ := mem_topMsgs.1 hpm
  obtain ⟨n', hn', hnn'⟩ := MsgsExt_mem _ _ h n (List.mem_of_getElem? hk)
  obtain ⟨j, hj⟩ := List.getElem?_of_mem hn'
  obtain ⟨cm, hcm, hx⟩ := flatMsg_ext (file' := cf.path) (locs' := cf.locs) n _ _ _ pm hx n' _ _ hnn'
  exact ⟨cm, mem_topMsgs.2 ⟨j, n', hj, hpkg ▸ hcm⟩, hx⟩

theorem FileExt.flat {pf cf : File} (h : FileExt pf cf) : FileFlatExt pf cf := by
  have hmsgs := file_flatMsgs_ext h.pkg h.msgs
  refine ⟨h.path, h.pkg, h.syn, h.opts, hmsgs, ?_, ?_, ?_⟩
  · intro pe hpe
    unfold File.flatEnums at hpe ⊢
    rcases ListLemmas.mem_map_append_flatMap_map.1 hpe with ⟨ip, hip, rfl⟩ | ⟨pm, hpm, ip, hip, rfl⟩
    · obtain ⟨e', he', hname, hx⟩ := h.enums ip.2 (mem_indexed_snd hip)
      obtain ⟨j, hj⟩ := exists_indexed_of_mem he'
      exact ⟨_, ListLemmas.mem_map_append_flatMap_map.2 (.inl ⟨(j, e'), hj, rfl⟩), by simp [hname], hx⟩
    · obtain ⟨cm, hcm, hnest, hi⟩ := hmsgs pm hpm
      obtain ⟨e', he', hname, hx⟩ := hi.enums ip.2 (mem_indexed_snd hip)
      obtain ⟨j, hj⟩ := exists_indexed_of_mem he'
      exact ⟨_, ListLemmas.mem_map_append_flatMap_map.2 (.inr ⟨cm, hcm, (j, e'), hj, rfl⟩), by simp [hname, hnest], hx⟩
  · intro pe hpe
    unfold File.flatExts at hpe ⊢
    rcases ListLemmas.mem_map_append_flatMap_map.1 hpe with ⟨ip, hip, rfl⟩ | ⟨pm, hpm, ip, hip, rfl⟩
    · obtain ⟨j, hj⟩ := exists_indexed_of_mem (h.exts ip.2 (mem_indexed_snd hip))
      exact ⟨_, ListLemmas.mem_map_append_flatMap_map.2 (.inl ⟨(j, ip.2), hj, rfl⟩), rfl, rfl⟩
    · obtain ⟨cm, hcm, hnest, hi⟩ := hmsgs pm hpm
      obtain ⟨j, hj⟩ := exists_indexed_of_mem (hi.exts ip.2 (mem_indexed_snd hip))
      exact ⟨_, ListLemmas.mem_map_append_flatMap_map.2 (.inr ⟨cm, hcm, (j, ip.2), hj, rfl⟩), by simp [hnest], rfl⟩
  · intro ps hps
    unfold File.flatSvcs at hps ⊢
    obtain ⟨ip, hip, rfl⟩ := List.mem_map.1 hps
    obtain ⟨s', hs', hx⟩ := h.svcs ip.2 (mem_indexed_snd hip)
    obtain ⟨j, hj⟩ := exists_indexed_of_mem hs'
    exact ⟨⟨cf.path, cf.locs, cf.pkg, [6, j], s'⟩, List.mem_map.2 ⟨(j, s'), hj, rfl⟩, hx⟩

theorem SchemaExt.flat {prev cur : Schema} (h : prev ⊑ₐ cur) : SchemaFlatExt prev cur := fun pf hpf => by
  obtain ⟨cf, hcf, hx⟩ := h pf hpf
  exact ⟨cf, hcf, hx.flat⟩

end BufProofs.Breaking
