import BufProofs.Lemmas.GenerateWriterLemmas
/-
  The response writer with archive outs (`addResponseA`, `runResponsesA`, `flushedA` of
  BufModel/Generate.lean) next to the directory-only writer: when no out is an archive the two
  coincide.  What a run of either writer leaves in the buckets is in GenerateWriterLemmas
  (`Run.result`).
-/
namespace BufModel.Generate
open BufModel.Path BufModel.Bucket

/-! ### The directory-only writer is the special case -/

theorem newBucket_dir (fs : FS) (o : Str) (h : outKind o = .dir) : newBucket fs o = .ok [] := by
  unfold newBucket; rw [h]

theorem addResponseA_dir (fs : FS) (cwd : Str) (bs : Buckets) (p : PluginResp)
    (h : outKind (absPath cwd p.out) = .dir) :
    addResponseA fs cwd bs p = liftG (addResponse cwd bs p) := by
  unfold addResponseA addResponse
  simp only
  cases hf : bs.find (absPath cwd p.out) with
  | none =>
    simp only [newBucket_dir fs _ h, Option.getD_none]
    cases writeResponse [] p.files <;> rfl
  | some m =>
    simp only [Option.getD_some]
    cases writeResponse m p.files <;> rfl

theorem addResponsesA_dir (fs : FS) (cwd : Str) :
    ∀ (ps : List PluginResp) (bs : Buckets), (∀ p ∈ ps, outKind (absPath cwd p.out) = .dir) →
      addResponsesA fs cwd bs ps = liftG (addResponses cwd bs ps)
  | [], bs, _ => rfl
  | p :: ps, bs, h => by
    unfold addResponsesA addResponses
    rw [addResponseA_dir fs cwd bs p (h p (by simp))]
    cases addResponse cwd bs p with
    | error e => rfl
    | ok bs1 =>
      simp only [liftG]
      exact addResponsesA_dir fs cwd ps bs1 (fun q hq => h q (List.mem_cons_of_mem _ hq))

theorem flushedA_dir :
    ∀ (bs : Buckets), (∀ o m, (o, m) ∈ bs → outKind o = .dir) →
      flushedA bs = (flushed bs).map fun x => Obj.file (diskPath x.1 x.2.1) x.2.2
  | [], _ => rfl
  | (o, m) :: rest, h => by
    have ih := flushedA_dir rest (fun o' m' hm => h o' m' (List.mem_cons_of_mem _ hm))
    have ho : outKind o = .dir := h o m (by simp)
    unfold flushedA flushed at *
    simp only [List.flatMap_cons, List.map_append, ih, ho, List.map_map]
    congr 1

/-! ### The flush -/

theorem archive_mem_flushedA {bs : Buckets} {o : Str} {m : Mem} (hm : (o, m) ∈ bs)
    (hk : outKind o ≠ .dir) : Obj.archive o m ∈ flushedA bs := by
  unfold flushedA
  refine List.mem_flatMap.mpr ⟨(o, m), hm, ?_⟩
  cases h : outKind o with
  | dir => exact absurd h hk
  | zip => simp
  | jar => simp

end BufModel.Generate
