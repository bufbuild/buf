import BufProofs.Lemmas.GenerateArchiveLemmas
/-
  Field presence in `CodeGeneratorResponse` (C17).  The model carries presence explicitly
  (`Option`); the code as written decides everything through the generated getters.  `canon`
  forgets presence (every field present, with the getter's value); the lemmas below show that
  every stage of the pipeline commutes with `canon`.
-/
namespace BufProofs.C17
open BufModel.Path BufModel.Bucket BufModel.Generate

/-- The file with every optional field present and holding what the getter returns. -/
def canon (f : RFile) : RFile := ⟨some f.getName, some f.getIP, some f.getContent⟩

@[simp] theorem canon_getName (f : RFile) : (canon f).getName = f.getName := rfl
@[simp] theorem canon_getIP (f : RFile) : (canon f).getIP = f.getIP := rfl
@[simp] theorem canon_getContent (f : RFile) : (canon f).getContent = f.getContent := rfl

theorem canon_idem (f : RFile) : canon (canon f) = canon f := rfl

/-! ### response writer and duplicate check -/

theorem writeFile_canon (m : Mem) (f : RFile) : writeFile m (canon f) = writeFile m f := by
  unfold writeFile
  simp only [canon_getName, canon_getIP, canon_getContent]
  rfl

theorem writeResponse_canon : ∀ (fs : List RFile) (m : Mem),
    writeResponse m (fs.map canon) = writeResponse m fs := by
  intro fs
  induction fs with
  | nil => intro m; rfl
  | cons f fs ih =>
    intro m
    simp only [List.map_cons]
    unfold writeResponse
    rw [writeFile_canon]
    cases writeFile m f with
    | error e => rfl
    | ok m' => exact ih m'

/-- Forget presence in every file of a plugin's (normalised) response. -/
def canonP (p : PluginResp) : PluginResp := ⟨p.out, p.files.map canon⟩

theorem allKeys_canon (key : Str → Str → Str) (ps : List PluginResp) :
    allKeys key (ps.map canonP) = allKeys key ps := by
  simp only [allKeys, List.flatMap_map]
  congr 1
  funext p
  simp only [keysOf, canonP, List.filter_map, List.map_map]
  rfl

theorem validatePluginResponses_canon (key : Str → Str → Str) (ps : List PluginResp) (seen : List Str) :
    validatePluginResponses key (ps.map canonP) seen = validatePluginResponses key ps seen := by
  rw [validatePluginResponses_eq, validatePluginResponses_eq, allKeys_canon]

theorem addResponseA_canon (fs : FS) (cwd : Str) (bs : Buckets) (p : PluginResp) :
    addResponseA fs cwd bs (canonP p) = addResponseA fs cwd bs p := by
  unfold addResponseA
  show (match (match bs.find (absPath cwd p.out) with
      | some m => Except.ok m
      | none => newBucket fs (absPath cwd p.out)) with
    | .error e => Except.error e
    | .ok m0 =>
      match writeResponse m0 (p.files.map canon) with
      | .error e => .error (.gen e)
      | .ok m => .ok (bs.set (absPath cwd p.out) m)) = _
  simp only [writeResponse_canon]
  rfl

theorem addResponsesA_canon (fs : FS) (cwd : Str) : ∀ (ps : List PluginResp) (bs : Buckets),
    addResponsesA fs cwd bs (ps.map canonP) = addResponsesA fs cwd bs ps := by
  intro ps
  induction ps with
  | nil => intro bs; rfl
  | cons p ps ih =>
    intro bs
    simp only [List.map_cons]
    unfold addResponsesA
    rw [addResponseA_canon]
    cases addResponseA fs cwd bs p with
    | error e => rfl
    | ok bs' => exact ih bs'

theorem addResponse_canon (cwd : Str) (bs : Buckets) (p : PluginResp) :
    addResponse cwd bs (canonP p) = addResponse cwd bs p := by
  unfold addResponse
  show (match writeResponse ((bs.find (absPath cwd p.out)).getD []) (p.files.map canon) with
    | .error e => Except.error e
    | .ok m => .ok (bs.set (absPath cwd p.out) m)) = _
  rw [writeResponse_canon]
  rfl

theorem addResponses_canon (cwd : Str) : ∀ (ps : List PluginResp) (bs : Buckets),
    addResponses cwd bs (ps.map canonP) = addResponses cwd bs ps := by
  intro ps
  induction ps with
  | nil => intro bs; rfl
  | cons p ps ih =>
    intro bs
    simp only [List.map_cons]
    unfold addResponses
    rw [addResponse_canon]
    cases addResponse cwd bs p with
    | error e => rfl
    | ok bs' => exact ih bs'

/-! ### protoplugin's normalisation -/

def canonE : Except XErr (List RFile) → Except XErr (List RFile)
  | .error e => .error e
  | .ok l => .ok (l.map canon)

theorem canonE_eq {a b : Except XErr (List RFile)} (h : canonE a = canonE b) :
    (∃ e, a = .error e ∧ b = .error e) ∨
      ∃ l l', a = .ok l ∧ b = .ok l' ∧ l.map canon = l'.map canon := by
  cases a <;> cases b <;> simp only [canonE, Except.error.injEq, Except.ok.injEq, reduceCtorEq] at h
  · exact .inl ⟨_, h ▸ rfl, rfl⟩
  · exact .inr ⟨_, _, rfl, rfl, h⟩

theorem appendContent_canon (prev cur : RFile) :
    canon (appendContent (canon prev) (canon cur)) = canon (appendContent prev cur) := by
  obtain ⟨pn, pi, pc⟩ := prev
  obtain ⟨cn, ci, cc⟩ := cur
  cases cc <;> cases pc <;>
    simp [appendContent, canon, RFile.getName, RFile.getIP, RFile.getContent]

theorem appendContent_getName (prev cur : RFile) : (appendContent prev cur).getName = prev.getName := by
  unfold appendContent
  cases cur.content <;> cases prev.content <;> rfl

theorem appendContent_getIP (prev cur : RFile) : (appendContent prev cur).getIP = prev.getIP := by
  unfold appendContent
  cases cur.content <;> cases prev.content <;> rfl

theorem appendContent_getContent (prev cur : RFile) :
    (appendContent prev cur).getContent = prev.getContent ++ cur.getContent := by
  obtain ⟨pn, pi, pc⟩ := prev
  obtain ⟨cn, ci, cc⟩ := cur
  cases cc <;> cases pc <;> simp [appendContent, RFile.getContent]

theorem mergeLoop_named {prev cur : RFile} {rest : List RFile} (h : cur.getName ≠ []) :
    mergeLoop prev (cur :: rest) =
      match mergeLoop cur rest with
      | .error e => .error e
      | .ok l => .ok (prev :: l) := by
  rw [mergeLoop, if_pos h]
  cases mergeLoop cur rest <;> rfl

theorem mergeLoop_nameless_ip {prev cur : RFile} {rest : List RFile} (h : ¬ cur.getName ≠ [])
    (hip : cur.getIP ≠ []) : mergeLoop prev (cur :: rest) = .error .namelessInsertion := by
  rw [mergeLoop, if_neg h, if_pos hip]

theorem mergeLoop_nameless {prev cur : RFile} {rest : List RFile} (h : ¬ cur.getName ≠ [])
    (hip : ¬ cur.getIP ≠ []) : mergeLoop prev (cur :: rest) = mergeLoop (appendContent prev cur) rest := by
  rw [mergeLoop, if_neg h, if_neg hip]

/-- `mergeLoop` only looks at `canon prev`. -/
theorem mergeLoop_canon : ∀ (rest : List RFile) (prev prev' : RFile), canon prev = canon prev' →
    canonE (mergeLoop prev' (rest.map canon)) = canonE (mergeLoop prev rest) := by
  intro rest
  induction rest with
  | nil =>
    intro prev prev' h
    simp only [List.map_nil, mergeLoop, canonE, List.map_cons, h]
  | cons cur rest ih =>
    intro prev prev' h
    simp only [List.map_cons]
    by_cases hn : cur.getName ≠ []
    · rw [mergeLoop_named (prev := prev') (cur := canon cur) (by simpa using hn), mergeLoop_named hn]
      have := ih cur (canon cur) (canon_idem cur).symm
      revert this
      cases mergeLoop (canon cur) (rest.map canon) <;> cases mergeLoop cur rest <;>
        simp [canonE, h]
    · by_cases hip : cur.getIP ≠ []
      · rw [mergeLoop_nameless_ip (cur := canon cur) (by simpa using hn) (by simpa using hip),
          mergeLoop_nameless_ip hn hip]
      · rw [mergeLoop_nameless (cur := canon cur) (by simpa using hn) (by simpa using hip),
          mergeLoop_nameless hn hip]
        apply ih
        have h1 := appendContent_canon prev cur
        have h2 := appendContent_canon prev' (canon cur)
        rw [canon_idem] at h2
        rw [← h1, ← h2, h]

theorem mergeNameless_cons_nameless {f : RFile} {fs : List RFile} (h : f.getName = []) :
    mergeNameless (f :: fs) = .error .firstNameless := by
  rw [mergeNameless, if_pos h]

theorem mergeNameless_cons_named {f : RFile} {fs : List RFile} (h : ¬ f.getName = []) :
    mergeNameless (f :: fs) = mergeLoop f fs := by
  rw [mergeNameless, if_neg h]

theorem mergeNameless_canon (fs : List RFile) :
    canonE (mergeNameless (fs.map canon)) = canonE (mergeNameless fs) := by
  cases fs with
  | nil => rfl
  | cons f fs =>
    simp only [List.map_cons]
    by_cases hn : f.getName = []
    · rw [mergeNameless_cons_nameless (f := canon f) hn, mergeNameless_cons_nameless hn]
    · rw [mergeNameless_cons_named (f := canon f) hn, mergeNameless_cons_named hn]
      exact mergeLoop_canon fs f (canon f) (canon_idem f).symm

theorem normLoop_cons_err {f : RFile} {fs : List RFile} {seen : List Str} {e : XErr}
    (h : normalizeName f.getName = .error e) : normLoop (f :: fs) seen = .error e := by
  rw [normLoop, h]

theorem normLoop_cons_drop {f : RFile} {fs : List RFile} {seen : List Str} {n : Str}
    (h : normalizeName f.getName = .ok n) (hd : n ∈ seen ∧ f.getIP = []) :
    normLoop (f :: fs) seen = normLoop fs seen := by
  rw [normLoop, h]; simp only; rw [if_pos hd]

theorem normLoop_cons_keep {f : RFile} {fs : List RFile} {seen : List Str} {n : Str}
    (h : normalizeName f.getName = .ok n) (hd : ¬ (n ∈ seen ∧ f.getIP = [])) :
    normLoop (f :: fs) seen =
      match normLoop fs (n :: seen) with
      | .error e => .error e
      | .ok l => .ok ({ f with name := some n } :: l) := by
  rw [normLoop, h]; simp only; rw [if_neg hd]
  cases normLoop fs (n :: seen) <;> rfl

theorem normLoop_canon : ∀ (fs : List RFile) (seen : List Str),
    canonE (normLoop (fs.map canon) seen) = canonE (normLoop fs seen) := by
  intro fs
  induction fs with
  | nil => intro seen; rfl
  | cons f fs ih =>
    intro seen
    simp only [List.map_cons]
    cases hnn : normalizeName f.getName with
    | error e => rw [normLoop_cons_err (f := canon f) hnn, normLoop_cons_err hnn]
    | ok n =>
      by_cases hd : n ∈ seen ∧ f.getIP = []
      · rw [normLoop_cons_drop (f := canon f) hnn hd, normLoop_cons_drop hnn hd]
        exact ih seen
      · rw [normLoop_cons_keep (f := canon f) hnn hd, normLoop_cons_keep hnn hd]
        have := ih (n :: seen)
        revert this
        cases normLoop (fs.map canon) (n :: seen) <;> cases normLoop fs (n :: seen) <;>
          simp [canonE, canon, RFile.getName, RFile.getIP, RFile.getContent]

theorem normLoop_congr (l l' : List RFile) (h : l.map canon = l'.map canon) (seen : List Str) :
    canonE (normLoop l seen) = canonE (normLoop l' seen) := by
  rw [← normLoop_canon l, ← normLoop_canon l', h]

theorem normalizeFiles_canon (fs : List RFile) :
    canonE (normalizeFiles (fs.map canon)) = canonE (normalizeFiles fs) := by
  unfold normalizeFiles
  rcases canonE_eq (mergeNameless_canon fs) with ⟨e, ha, hb⟩ | ⟨l, l', ha, hb, h⟩
  · rw [ha, hb]
  · rw [ha, hb]
    exact normLoop_congr l l' h []

/-! ### response level -/

/-- Forget presence in a whole response: every field present, holding what its getter returns. -/
def canonR (x : Str × Resp) : Str × Resp :=
  (x.1, { files := x.2.files.map canon, error := some (x.2.error.getD []),
          features := some x.2.feat, minEdition := some x.2.minEd, maxEdition := some x.2.maxEd })

/-- Names of the plain files of `l`. -/
def plainNames (l : List RFile) : List Str := (l.filter fun f => f.getIP = []).map (·.getName)

theorem plainNames_cons (g : RFile) (l : List RFile) :
    plainNames (g :: l) = if g.getIP = [] then g.getName :: plainNames l else plainNames l := by
  by_cases h : g.getIP = [] <;> simp [plainNames, h]

theorem normLoop_spec : ∀ (fs : List RFile) (seen : List Str) (l : List RFile),
    normLoop fs seen = .ok l →
    (∀ f ∈ l, ∃ n0 n, normalizeName n0 = .ok n ∧ f.name = some n) ∧
    (plainNames l).Nodup ∧ (∀ n ∈ plainNames l, n ∉ seen) := by
  intro fs
  induction fs with
  | nil =>
    intro seen l h
    cases h
    simp [plainNames]
  | cons f fs ih =>
    intro seen l h
    cases hnn : normalizeName f.getName with
    | error e => rw [normLoop_cons_err hnn] at h; cases h
    | ok n =>
      by_cases hd : n ∈ seen ∧ f.getIP = []
      · rw [normLoop_cons_drop hnn hd] at h
        exact ih seen l h
      · rw [normLoop_cons_keep hnn hd] at h
        cases hrest : normLoop fs (n :: seen) with
        | error e => rw [hrest] at h; cases h
        | ok l' =>
          rw [hrest] at h
          cases h
          obtain ⟨i1, i2, i3⟩ := ih (n :: seen) l' hrest
          have i3' : ∀ x ∈ plainNames l', x ∉ seen := fun x hx hs => i3 x hx (List.mem_cons_of_mem _ hs)
          refine ⟨List.forall_mem_cons.mpr ⟨⟨f.getName, n, hnn, rfl⟩, i1⟩, ?_⟩
          -- the kept file contributes its normalised name iff it is a plain file
          rw [plainNames_cons]
          split
          · rename_i hip
            exact ⟨List.nodup_cons.mpr ⟨fun hmem => i3 n hmem List.mem_cons_self, i2⟩,
              List.forall_mem_cons.mpr ⟨fun hs => hd ⟨hs, hip⟩, i3'⟩⟩
          · exact ⟨i2, i3'⟩

def canonPE : Except GenErr (List PluginResp) → Except GenErr (List PluginResp)
  | .error e => .error e
  | .ok ps => .ok (ps.map canonP)

theorem pluginGenerate_canon (x : Str × Resp) :
    canonE (pluginGenerate (canonR x).2) = canonE (pluginGenerate x.2) := by
  -- the checks read the response through its getters only, which `canonR` leaves alone
  have e1 : (canonR x).2.files = x.2.files.map canon := rfl
  have e2 : (canonR x).2.feat = x.2.feat := rfl
  have e3 : (canonR x).2.minEd = x.2.minEd := rfl
  have e4 : (canonR x).2.maxEd = x.2.maxEd := rfl
  have e5 : (canonR x).2.error.getD [] = x.2.error.getD [] := rfl
  unfold pluginGenerate
  rw [e1, e2, e3, e4, e5]
  rcases canonE_eq (normalizeFiles_canon x.2.files) with ⟨e, ha, hb⟩ | ⟨l, l', ha, hb, h⟩
  · rw [ha, hb]
  · rw [ha, hb]
    simp only [apply_ite canonE]
    simp only [canonE, h]

theorem execSeq_canon : ∀ (rs : List (Str × Resp)),
    canonPE (execSeq (rs.map canonR)) = canonPE (execSeq rs) := by
  intro rs
  induction rs with
  | nil => rfl
  | cons x rs ih =>
    obtain ⟨out, r⟩ := x
    simp only [List.map_cons]
    unfold execSeq
    show canonPE (match pluginGenerate (canonR (out, r)).2 with
      | .error e => .error (.exec e)
      | .ok fs =>
        match execSeq (rs.map canonR) with
        | .error e => .error e
        | .ok ps => .ok (⟨out, fs⟩ :: ps)) = _
    rcases canonE_eq (pluginGenerate_canon (out, r)) with ⟨e, ha, hb⟩ | ⟨l, l', ha, hb, h⟩
    · rw [ha, hb]
    · rw [ha, hb]
      simp only
      revert ih
      cases execSeq (rs.map canonR) <;> cases execSeq rs <;> intro ih
      · simpa [canonPE] using ih
      · simp [canonPE] at ih
      · simp [canonPE] at ih
      · simp only [canonPE, Except.ok.injEq] at ih
        simp only [canonPE, List.map_cons, canonP, ih, h]

theorem execFailures_canon (rs : List (Str × Resp)) :
    execFailures (rs.map canonR) = execFailures rs := by
  unfold execFailures
  rw [List.filterMap_map]
  congr 1
  funext x
  have h := pluginGenerate_canon x
  simp only [Function.comp]
  revert h
  cases pluginGenerate (canonR x).2 <;> cases pluginGenerate x.2 <;> simp [canonE]

/-- The sequential driver reports the first failure. -/
theorem execSeq_of_failures {rs : List (Str × Resp)} {e : XErr} {es : List XErr}
    (h : execFailures rs = e :: es) : execSeq rs = .error (.exec e) := by
  induction rs with
  | nil => cases h
  | cons x rs ih =>
    unfold execFailures at h
    rw [List.filterMap_cons] at h
    unfold execSeq
    cases hr : pluginGenerate x.2 with
    | error e' => rw [hr] at h; cases h; rfl
    | ok fs => rw [hr] at h; rw [ih h]

theorem execPar_canon (rs : List (Str × Resp)) :
    canonPE (execPar (rs.map canonR)) = canonPE (execPar rs) := by
  unfold execPar
  rw [execFailures_canon]
  cases execFailures rs with
  | nil => exact execSeq_canon rs
  | cons e es => cases es <;> rfl

end BufProofs.C17
