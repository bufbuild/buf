import BufProofs.Lemmas.ConfigLemmas
import BufProofs.Lemmas.ListLemmas
/-
  C16, the build section shared by the buf.yaml readers: `getRootToExcludes` (roots and excludes of a
  v1beta1 / v1 file; the v2 module reader calls it with the single root "."), with what its success
  means, what it returns, and that it splits again what the writers join.
-/
namespace BufModel.Config
open BufModel.Path

/-! ### lists of paths -/

theorem protoExt_append (d k : Key) (hk : k ≠ []) : protoExt (d ++ k) = protoExt k := by
  unfold protoExt
  rw [List.getLast?_append]
  cases hk' : k.getLast? with
  | none => exact absurd (List.getLast?_eq_none_iff.mp hk') hk
  | some c => simp

theorem normCheckPaths_ok (l : List Key) : normCheckPaths (l.map P.ok) = normCheckKeys l := by
  unfold normCheckPaths
  rw [BufProofs.ListLemmas.mapM_map_some P.ok P.strict id l (fun _ _ => rfl), List.map_id]

theorem normCheckPaths_dot : normCheckPaths [P.ok ([] : Key)] = some [[]] := by
  simp [normCheckPaths, P.strict, normCheckKeys, antichain, sortU, insertU]

theorem normCheckPaths_some {ps : List P} {s : List Key} (h : normCheckPaths ps = some s) :
    ∃ ks, ps.mapM P.strict = some ks ∧ antichain ks = true ∧ s = sortU keyLt ks := by
  unfold normCheckPaths at h
  cases hk : ps.mapM P.strict with
  | none => simp [hk] at h
  | some ks =>
    simp only [hk] at h
    obtain ⟨ha, hs⟩ := normCheckKeys_some h
    exact ⟨ks, rfl, ha, hs⟩

/-! ### antichains of joined paths -/

theorem related_of_prefix {a b c : Key} (ha : a <+: c) (hb : b <+: c) : unrelated a b = false := by
  unfold unrelated
  rcases List.prefix_or_prefix_of_prefix ha hb with h | h <;> simp [List.isPrefixOf_iff_prefix.mpr h]

theorem unrelated_lift {a b : Key} (x y : Key) (h : unrelated a b = true) :
    unrelated (a ++ x) (b ++ y) = true := by
  unfold unrelated
  simp only [Bool.and_eq_true, Bool.not_eq_true']
  constructor
  · cases hp : (a ++ x).isPrefixOf (b ++ y) with
    | false => rfl
    | true =>
      rw [related_of_prefix ((List.prefix_append a x).trans (List.isPrefixOf_iff_prefix.mp hp)) (List.prefix_append b y)] at h
      cases h
  · cases hp : (b ++ y).isPrefixOf (a ++ x) with
    | false => rfl
    | true =>
      rw [related_of_prefix (List.prefix_append a x) ((List.prefix_append b y).trans (List.isPrefixOf_iff_prefix.mp hp))] at h
      cases h

theorem antichain_append_of (A B : List Key) (ha : antichain A = true) (hb : antichain B = true)
    (hab : ∀ a ∈ A, ∀ b ∈ B, unrelated a b = true) : antichain (A ++ B) = true := by
  induction A with
  | nil => simpa using hb
  | cons a A ih =>
    simp only [antichain, Bool.and_eq_true, List.all_eq_true] at ha
    simp only [List.cons_append, antichain, Bool.and_eq_true, List.all_eq_true]
    refine ⟨?_, ih ha.2 (fun a' ha' => hab a' (by simp [ha']))⟩
    intro z hz
    rcases List.mem_append.mp hz with hz | hz
    · exact ha.1 z hz
    · exact hab a (by simp) z hz

/-- The workspace-relative excludes the v1beta1 writer emits: root ++ exclude, root by root. -/
def fullEx (R : List Root) : List Key := R.flatMap fun r => r.excludes.map (r.root ++ ·)

theorem mem_fullEx {R : List Root} {e : Key} : e ∈ fullEx R ↔ ∃ r ∈ R, ∃ x ∈ r.excludes, e = r.root ++ x := by
  unfold fullEx
  simp only [List.mem_flatMap, List.mem_map]
  constructor
  · rintro ⟨r, hr, x, hx, rfl⟩; exact ⟨r, hr, x, hx, rfl⟩
  · rintro ⟨r, hr, x, hx, rfl⟩; exact ⟨r, hr, x, hx, rfl⟩

theorem antichain_fullEx (R : List Root) (hroots : antichain (R.map (·.root)) = true)
    (hex : ∀ r ∈ R, antichain r.excludes = true) : antichain (fullEx R) = true := by
  induction R with
  | nil => rfl
  | cons r R ih =>
    simp only [List.map_cons, antichain, Bool.and_eq_true, List.all_eq_true] at hroots
    have h1 : fullEx (r :: R) = r.excludes.map (r.root ++ ·) ++ fullEx R := by simp [fullEx]
    rw [h1]
    apply antichain_append_of
    · rw [antichain_map_append]; exact hex r (by simp)
    · exact ih hroots.2 (fun r' hr' => hex r' (by simp [hr']))
    · intro a ha b hb
      obtain ⟨x, _, rfl⟩ := List.mem_map.mp ha
      obtain ⟨r', hr', x', _, rfl⟩ := mem_fullEx.mp hb
      exact unrelated_lift x x' (hroots.1 r'.root (List.mem_map.mpr ⟨r', hr', rfl⟩))

/-! ### the reader's assignment of excludes to roots -/

theorem matchingRoots_below (rs : List Key) (ha : antichain rs = true) (ρ x : Key) (hρ : ρ ∈ rs) :
    matchingRoots rs (ρ ++ x) = [ρ] := by
  -- two roots above `ρ ++ x` are comparable, which an antichain allows of none but `ρ` itself
  have hno : ∀ b, unrelated ρ b = true → b.isPrefixOf (ρ ++ x) ≠ true := fun b hu hp => by
    rw [related_of_prefix (List.prefix_append ρ x) (List.isPrefixOf_iff_prefix.mp hp)] at hu
    cases hu
  induction rs with
  | nil => cases hρ
  | cons a rest ih =>
    simp only [antichain, Bool.and_eq_true, List.all_eq_true] at ha
    unfold matchingRoots at ih ⊢
    rcases List.mem_cons.mp hρ with rfl | h
    · rw [List.filter_cons, if_pos (isPrefixOf_self_append ρ x),
        List.filter_eq_nil_iff.mpr fun b hb => hno b (ha.1 b hb)]
    · rw [List.filter_cons, if_neg (hno a (unrelated_symm a ρ ▸ ha.1 ρ h)), ih ha.2 h]

theorem assignExcludes_isSome {rs es : List Key} :
    (assignExcludes rs es).isSome ↔ ∀ e ∈ es, ∃ r, matchingRoots rs e = [r] := by
  induction es with
  | nil => simp [assignExcludes]
  | cons e rest ih =>
    rw [List.forall_mem_cons, ← ih, assignExcludes]
    split
    · rename_i r out hmr hout
      simp [hmr, hout]
    · rename_i hno
      simp only [Option.isSome_none, Bool.false_eq_true, false_iff, not_and, forall_exists_index]
      intro r hmr hs
      obtain ⟨out, hout⟩ := Option.isSome_iff_exists.mp hs
      exact hno r out hmr hout

theorem mem_assignExcludes {rs es : List Key} {as : List (Key × Key)} (h : assignExcludes rs es = some as)
    {r : Key} (hr : r ∈ rs) (x : Key) :
    x ∈ (as.filter fun a => a.1 = r).map (·.2) ↔ r ++ x ∈ es := by
  suffices hp : (r, x) ∈ as ↔ r ++ x ∈ es by simpa using hp
  induction es generalizing as with
  | nil => obtain rfl := Option.some.inj h; simp
  | cons e rest ih =>
    unfold assignExcludes at h
    split at h
    · rename_i r' out hmr hout
      obtain rfl := Option.some.inj h
      rw [List.mem_cons, List.mem_cons, ih hout, Prod.mk.injEq]
      refine or_congr_left ⟨?_, ?_⟩
      · rintro ⟨rfl, rfl⟩
        exact append_drop_of_prefix (List.mem_filter.mp (hmr ▸ List.mem_singleton_self r : r ∈ matchingRoots rs e)).2
      · rintro rfl
        have : r ∈ matchingRoots rs (r ++ x) := List.mem_filter.mpr ⟨hr, isPrefixOf_self_append r x⟩
        rw [hmr] at this
        obtain rfl := List.mem_singleton.mp this
        exact ⟨rfl, (drop_append_self r x).symm⟩
    · cases h

/-! ### what success of `getRootToExcludes` means -/

theorem getRootToExcludes_eq_some {roots excludes : List P} {rte : List (Key × List Key)} :
    getRootToExcludes roots excludes = some rte ↔
      ∃ es, normCheckPaths excludes = some es ∧
        normCheckPaths (if roots = [] then [P.ok []] else roots) = some (rte.map (·.1)) ∧
        (∀ e ∈ es, protoExt e = false ∧ e ∉ rte.map (·.1) ∧ ∃ r, matchingRoots (rte.map (·.1)) e = [r]) ∧
        ∀ re ∈ rte, Sorted keyLt re.2 ∧ ∀ x, x ∈ re.2 ↔ re.1 ++ x ∈ es := by
  unfold getRootToExcludes
  rcases normCheckPaths (if roots = [] then [P.ok []] else roots) with _ | rs
  · exact ⟨nofun, fun ⟨_, _, h, _⟩ => nomatch h⟩
  dsimp only
  -- without excludes the loop below returns what the shortcut does
  rw [ite_eq_right_iff.mpr (by rintro rfl; rfl)]
  rcases normCheckPaths excludes with _ | es
  · exact ⟨nofun, fun ⟨_, h, _⟩ => nomatch h⟩
  simp only [Option.some.injEq, exists_eq_left', Option.ite_none_left_eq_some, List.any_eq_true, not_exists, not_and,
    Bool.not_eq_true, List.contains_iff_mem]
  constructor
  · rintro ⟨hp, hr, h⟩
    rcases has : assignExcludes rs es with _ | as <;> simp only [has, reduceCtorEq, Option.some.injEq] at h
    subst h
    rw [List.map_map, show (_ ∘ _) = id from rfl, List.map_id]
    refine ⟨rfl, fun e he => ⟨hp e he, hr e he, assignExcludes_isSome.mp (has ▸ rfl) e he⟩, fun re hre => ?_⟩
    obtain ⟨r, hr', rfl⟩ := List.mem_map.mp hre
    exact ⟨sorted_sortU keyLt_total.trans _, fun x => (mem_sortU keyLt_total x _).trans (mem_assignExcludes has hr' x)⟩
  · rintro ⟨rfl, hall, hrte⟩
    obtain ⟨as, has⟩ := Option.isSome_iff_exists.mp (assignExcludes_isSome.mpr fun e he => (hall e he).2.2)
    refine ⟨fun e he => (hall e he).1, fun e he => (hall e he).2.1, ?_⟩
    simp only [has, List.map_map]
    refine congrArg some (BufProofs.ListLemmas.map_id_of_forall _ _ fun re hre => ?_)
    obtain ⟨hs, hm⟩ := hrte re hre
    exact Prod.ext rfl (sortU_eq_of_mem keyLt_total _ _ hs fun x =>
      (mem_assignExcludes has (List.mem_map_of_mem hre) x).trans (hm x).symm)

theorem getRootToExcludes_nil_eq (excludes : List P) :
    getRootToExcludes [] excludes = getRootToExcludes [P.ok []] excludes :=
  rfl

theorem getRootToExcludes_fst {roots excludes : List P} {rte : List (Key × List Key)}
    (h : getRootToExcludes roots excludes = some rte) :
    normCheckPaths (if roots = [] then [P.ok []] else roots) = some (rte.map (·.1)) :=
  let ⟨_, _, hrs, _⟩ := getRootToExcludes_eq_some.mp h
  hrs

/-! ### what it returns: per root a sorted antichain of non-empty, non-`.proto` excludes, each of them
  (joined to its root) an exclude of the document -/

/-- `inter`: when there are includes, every exclude lies strictly inside one of them and neither equals nor
    contains any. -/
structure WFRootV2 (incs excl : List Key) : Prop where
  wi : WFKeys incs
  iok : ∀ i ∈ incs, i ≠ [] ∧ protoExt i = false
  we : WFKeys excl
  eok : ∀ x ∈ excl, x ≠ [] ∧ protoExt x = false
  inter : incs ≠ [] → ∀ x ∈ excl,
    (∀ i ∈ incs, i ≠ x ∧ containsStrict x i = false) ∧ ∃ i ∈ incs, containsStrict i x = true

theorem wfRootV2_nil_of (excl : List Key) (hw : WFKeys excl)
    (hok : ∀ x ∈ excl, x ≠ [] ∧ protoExt x = false) : WFRootV2 [] excl :=
  { wi := ⟨(by simp [Sorted]), (by simp [antichain])⟩
    iok := fun i hi => nomatch hi
    we := hw
    eok := hok
    inter := fun h => absurd rfl h }

theorem getRootToExcludes_wf {roots excludes : List P} {rte : List (Key × List Key)}
    (h : getRootToExcludes roots excludes = some rte) :
    ∀ re ∈ rte, WFRootV2 [] (sortU keyLt re.2) ∧ ∀ x ∈ re.2, ∃ p ∈ excludes, p.strict = some (re.1 ++ x) := by
  obtain ⟨es, hes, -, hall, hrte⟩ := getRootToExcludes_eq_some.mp h
  obtain ⟨ks, hks, hka, rfl⟩ := normCheckPaths_some hes
  intro re hre
  obtain ⟨hs, hm⟩ := hrte re hre
  rw [sortU_eq_self _ hs]
  refine ⟨wfRootV2_nil_of _ ⟨hs, (antichain_iff _).mpr ⟨sorted_nodup keyLt_total.irrefl _ hs, fun a ha b hb hab => ?_⟩⟩
      fun x hx => ?_,
    fun x hx => (BufProofs.ListLemmas.mapM_some hks).2.1 _ (mem_sortU_imp _ _ _ ((hm x).mp hx))⟩
  · rw [← unrelated_append re.1]
    exact ((antichain_iff _).mp (antichain_sortU ks hka)).2 _ ((hm a).mp ha) _ ((hm b).mp hb)
      fun e => hab (List.append_cancel_left e)
  · obtain ⟨hp, hnr, -⟩ := hall _ ((hm x).mp hx)
    have hne : x ≠ [] := fun e => hnr (by rw [e, List.append_nil]; exact List.mem_map_of_mem hre)
    exact ⟨hne, by rwa [protoExt_append _ x hne] at hp⟩

theorem getRootToExcludes_dot_eq {roots excludes : List P} {rte : List (Key × List Key)}
    (hr : roots = [] ∨ roots = [P.ok []]) (h : getRootToExcludes roots excludes = some rte) :
    ∃ ex, rte = [([], ex)] := by
  have hfst := getRootToExcludes_fst h
  rw [show (if roots = [] then [P.ok []] else roots) = [P.ok []] by rcases hr with rfl | rfl <;> rfl,
    normCheckPaths_dot] at hfst
  match rte, Option.some.inj hfst with
  | [(r, ex)], hfst =>
    obtain rfl : [] = r := by simpa using hfst
    exact ⟨ex, rfl⟩

/-! ### roots and joined excludes as the writers emit them are split again -/

structure WFRootsList (R : List Root) : Prop where
  ne : R ≠ []
  sorted : Sorted keyLt (R.map (·.root))
  anti : antichain (R.map (·.root)) = true
  each : ∀ r ∈ R, r.includes = [] ∧ WFKeys r.excludes ∧ ∀ x ∈ r.excludes, x ≠ [] ∧ protoExt x = false

theorem mem_fullEx_root {R : List Root} (ha : antichain (R.map (·.root)) = true) {r : Root} (hr : r ∈ R) (z : Key) :
    r.root ++ z ∈ fullEx R ↔ z ∈ r.excludes := by
  refine mem_fullEx.trans ⟨?_, fun hz => ⟨r, hr, z, hz, rfl⟩⟩
  rintro ⟨r', hr', x', hx', e⟩
  have hm := matchingRoots_below _ ha r.root z (List.mem_map_of_mem hr)
  rw [e, matchingRoots_below _ ha r'.root x' (List.mem_map_of_mem hr')] at hm
  obtain rfl := BufProofs.ListLemmas.eq_of_nodup_map (·.root) ((antichain_iff _).mp ha).1 hr' hr (List.singleton_inj.mp hm)
  rwa [List.append_cancel_left e]

theorem getRootToExcludes_rt (R : List Root) (hw : WFRootsList R) :
    getRootToExcludes (R.map fun r => P.ok r.root)
        (R.flatMap fun r => r.excludes.map fun x => P.ok (r.root ++ x)) =
      some (R.map fun r => (r.root, r.excludes)) := by
  have hfst : (R.map fun r => (r.root, r.excludes)).map (·.1) = R.map (·.root) := by rw [List.map_map]; rfl
  rw [getRootToExcludes_eq_some, hfst]
  refine ⟨sortU keyLt (fullEx R), ?_, ?_, fun e he => ?_, fun re hre => ?_⟩
  · rw [show (R.flatMap fun r => r.excludes.map fun x => P.ok (r.root ++ x)) = (fullEx R).map P.ok by
        rw [fullEx, List.map_flatMap]; simp only [List.map_map]; rfl,
      normCheckPaths_ok, normCheckKeys, if_pos (antichain_fullEx R hw.anti fun r hr => (hw.each r hr).2.1.anti)]
  · rw [if_neg fun e => hw.ne (List.map_eq_nil_iff.mp e),
      show (R.map fun r => P.ok r.root) = (R.map (·.root)).map P.ok by rw [List.map_map]; rfl, normCheckPaths_ok]
    exact normCheckKeys_self _ hw.sorted hw.anti
  · obtain ⟨r, hr, x, hx, rfl⟩ := mem_fullEx.mp ((mem_sortU keyLt_total e _).mp he)
    have hm := matchingRoots_below _ hw.anti r.root x (List.mem_map_of_mem hr)
    obtain ⟨hne, hp⟩ := (hw.each r hr).2.2 x hx
    refine ⟨by rwa [protoExt_append _ x hne], fun hc => hne ?_, r.root, hm⟩
    -- a root `r.root ++ x` would be the only root above itself
    have := matchingRoots_below _ hw.anti (r.root ++ x) [] hc
    rw [List.append_nil, hm] at this
    exact List.append_right_eq_self.mp (List.singleton_inj.mp this).symm
  · obtain ⟨r, hr, rfl⟩ := List.mem_map.mp hre
    exact ⟨(hw.each r hr).2.1.sorted, fun x =>
      (mem_fullEx_root hw.anti hr x).symm.trans (mem_sortU keyLt_total _ _).symm⟩

/-- The single root ".", as the v2 module reader asks for it. -/
theorem getRootToExcludes_dot (excl : List Key) (hw : WFKeys excl)
    (hok : ∀ x ∈ excl, x ≠ [] ∧ protoExt x = false) :
    getRootToExcludes [P.ok []] (excl.map P.ok) = some [([], excl)] := by
  have := getRootToExcludes_rt [⟨[], [], excl⟩]
    ⟨by simp, by simp [Sorted], by simp [antichain], fun r hr => by
      obtain rfl := List.mem_singleton.mp hr
      exact ⟨rfl, hw, hok⟩⟩
  simpa using this

end BufModel.Config
