import BufModel.Reader
import BufProofs.Lemmas.BucketLemmas
import BufProofs.Lemmas.ArchiveLemmas
/-
  Reader handles: a handle that holds a snapshot is left alone by every write.  Archive members:
  `lastMember` is `find` in the reversed list of what the archive writes (`lastMember_eq_find`).
-/
namespace BufModel.Reader
open BufModel.Path BufModel.Bucket BufModel.Archive BufModel.Disk

/-! ### reader handles -/

theorem detach_snapshot (d : Disk) (i : Nat) (sel : Str → Bool) (h : Handle) (c : Content)
    (hs : h.snap = some c) : detach d i sel [h] = [h] := by
  simp [detach, hs]

theorem afterWrites_snapshot (ws : List (Disk × Nat × Write)) (h : Handle) (c : Content)
    (hs : h.snap = some c) : afterWrites ws [h] = [h] := by
  induction ws with
  | nil => rfl
  | cons w rest ih =>
    obtain ⟨d, i, w⟩ := w
    simp only [afterWrites, afterWrite, detach_snapshot d i _ h c hs, ih]

theorem take_append_drop_min (l : List Char) (n : Nat) :
    l.take n ++ l.drop (min n l.length) = l := by
  by_cases h : n ≤ l.length
  · rw [Nat.min_eq_left h]; exact List.take_append_drop n l
  · have h' : l.length ≤ n := Nat.le_of_lt (Nat.lt_of_not_le h)
    rw [Nat.min_eq_right h', List.take_of_length_le h', List.drop_length, List.append_nil]

/-! ### archive members -/

theorem lastMember_eq_find (fmt : Fmt) (n : Nat) (f : Str → Bool) (q : Str) (a : Archive) :
    lastMember fmt n f q a = Mem.find (written fmt n f a).reverse q := by
  induction a with
  | nil => rfl
  | cons e rest ih =>
    simp only [lastMember, ih, written, List.filterMap_cons]
    cases ht : entryTarget fmt n f e with
    | none => simp only [Option.map_none]; cases Mem.find _ q <;> rfl
    | some p =>
      simp only [Option.map_some, List.reverse_cons, find_append]
      cases Mem.find _ q with
      | some c => rfl
      | none => by_cases hpq : p = q <;> simp [Mem.find, hpq]

theorem lastMember_append (fmt : Fmt) (strip : Nat) (matcher : Str → Bool) (q : Str) (l1 l2 : Archive) :
    lastMember fmt strip matcher q (l1 ++ l2) =
      match lastMember fmt strip matcher q l2 with
      | some c => some c
      | none => lastMember fmt strip matcher q l1 := by
  simp only [lastMember_eq_find, written, List.filterMap_append, List.reverse_append, find_append]
  cases Mem.find _ q <;> rfl

theorem lastMember_none_of_no_target (fmt : Fmt) (strip : Nat) (matcher : Str → Bool) (q : Str) (l : Archive)
    (h : ∀ e ∈ l, entryTarget fmt strip matcher e ≠ some q) : lastMember fmt strip matcher q l = none := by
  rw [lastMember_eq_find]
  refine find_none_of_not_mem_keys fun hq => ?_
  obtain ⟨kv, hkv, rfl⟩ := List.mem_map.mp hq
  obtain ⟨e, he, ht, _⟩ := mem_written.mp (List.mem_reverse.mp hkv)
  exact h e he ht

end BufModel.Reader
