import BufProofs.Lemmas.FilterRewriteLemmas
/-
  C12 — source locations at FILE level: `remapLocs` runs `fixPath` over the merged marks of the
  whole file.  `fixPath` equals a plain walk (`walk`) that only looks up `actAt` / `noCommentAt` at
  the nodes along the path; sibling slices and other nesting levels never put a mark on a node
  strictly below a kept message (`Same`-lemmas), so the walk composes level by level.
-/
namespace BufProofs.FilterComment
open BufModel.Filter BufProofs.FilterLemmas BufProofs.FilterClosure BufProofs.FilterRewrite

/-! ### fixPath is a plain walk -/

/-- `fixPath` without the `hasNode` short cut -/
def walk (ms : Marks) : List Nat → List Nat → Option (List Nat × Bool)
  | _, [] => some ([], false)
  | pre, x :: rest =>
    match actAt ms (pre ++ [x]) with
    | some .deleted => none
    | a =>
      let x' := match a with | some (.moved t) => t | _ => x
      match rest with
      | [] => some ([x'], noCommentAt ms (pre ++ [x]))
      | _ :: _ => match walk ms (pre ++ [x]) rest with
        | some (r, nc) => some (x' :: r, nc)
        | none => none

theorem hasNode_snoc (ms : Marks) (p : List Nat) (y : Nat) (h : hasNode ms p = false) : hasNode ms (p ++ [y]) = false := by
  unfold hasNode at h ⊢
  rw [List.any_eq_false] at h ⊢
  intro m hm hp
  apply h m hm
  have := List.isPrefixOf_iff_prefix.mp hp
  exact List.isPrefixOf_iff_prefix.mpr (List.IsPrefix.trans (List.prefix_append p [y]) this)

theorem walk_no_node (ms : Marks) (pre : List Nat) (x : Nat) (rest : List Nat)
    (h : hasNode ms (pre ++ [x]) = false) : walk ms pre (x :: rest) = some (x :: rest, false) := by
  induction rest generalizing pre x with
  | nil =>
    unfold walk
    rw [actAt_of_no_node _ _ h, noCommentAt_of_no_node _ _ h]
  | cons y rest ih =>
    unfold walk
    rw [actAt_of_no_node _ _ h]
    simp only []
    rw [ih (pre ++ [x]) y (hasNode_snoc ms _ y h)]

theorem fixPath_eq_walk (ms : Marks) (pre path : List Nat) : fixPath ms pre path = walk ms pre path := by
  induction path generalizing pre with
  | nil => unfold fixPath walk; rfl
  | cons x rest ih =>
    by_cases hn : hasNode ms (pre ++ [x]) = true
    · unfold fixPath walk
      simp only [hn, Bool.not_true, Bool.false_eq_true, if_false]
      cases rest with
      | nil => cases actAt ms (pre ++ [x]) with
        | none => rfl
        | some a => cases a <;> rfl
      | cons y r =>
        simp only []
        rw [ih]
        cases actAt ms (pre ++ [x]) with
        | none => rfl
        | some a => cases a <;> rfl
    · have hn' : hasNode ms (pre ++ [x]) = false := by simpa using hn
      rw [walk_no_node ms pre x rest hn']
      unfold fixPath
      simp [hn']

/-- the walk only depends on the two lookups at the nodes it passes -/
def Same (q : List Nat) (X Y : Marks) : Prop := actAt X q = actAt Y q ∧ noCommentAt X q = noCommentAt Y q

theorem walk_congr (X Y : Marks) (pre path : List Nat)
    (h : ∀ a b, a ≠ [] → path = a ++ b → Same (pre ++ a) X Y) : walk X pre path = walk Y pre path := by
  induction path generalizing pre with
  | nil => unfold walk; rfl
  | cons x rest ih =>
    have h0 := h [x] rest (by simp) rfl
    unfold walk
    rw [h0.1, h0.2]
    cases rest with
    | nil => rfl
    | cons y r =>
      have := ih (pre ++ [x]) (by
        intro a b ha hab
        have := h (x :: a) b (by simp) (by rw [hab]; rfl)
        simpa using this)
      simp only []
      rw [this]

/-! ### lookups in appended mark lists -/

def NotAt (q : List Nat) (X : Marks) : Prop := ∀ mk ∈ X, mk.1 ≠ q

theorem actAt_notAt (q : List Nat) (X : Marks) (h : NotAt q X) : actAt X q = none := by
  induction X with
  | nil => rfl
  | cons m ms ih =>
    rw [actAt_cons]
    have : ¬ (m.1 = q ∧ m.2 ≠ Act.noComment) := fun hh => h m (by simp) hh.1
    simp only [this, if_false]
    exact ih (fun mk hmk => h mk (by simp [hmk]))

theorem noCommentAt_notAt (q : List Nat) (X : Marks) (h : NotAt q X) : noCommentAt X q = false := by
  unfold noCommentAt
  rw [List.any_eq_false]
  intro m hm
  have := h m hm
  simp [this]

theorem noCommentAt_append (A B : Marks) (q : List Nat) :
    noCommentAt (A ++ B) q = (noCommentAt A q || noCommentAt B q) := by
  unfold noCommentAt; rw [List.any_append]

theorem same_append_left (q : List Nat) (A B : Marks) (h : NotAt q B) : Same q (A ++ B) A := by
  constructor
  · rw [actAt_append, actAt_notAt q B h]; cases actAt A q <;> rfl
  · rw [noCommentAt_append, noCommentAt_notAt q B h]; simp

theorem same_append_right (q : List Nat) (A B : Marks) (h : NotAt q A) : Same q (A ++ B) B := by
  constructor
  · rw [actAt_append, actAt_notAt q A h]
  · rw [noCommentAt_append, noCommentAt_notAt q A h]; simp

theorem Same.trans {q : List Nat} {X Y Z : Marks} (h1 : Same q X Y) (h2 : Same q Y Z) : Same q X Z :=
  ⟨h1.1.trans h2.1, h1.2.trans h2.2⟩

theorem Same.refl (q : List Nat) (X : Marks) : Same q X X := ⟨rfl, rfl⟩

theorem notAt_append {q : List Nat} {A B : Marks} (ha : NotAt q A) (hb : NotAt q B) : NotAt q (A ++ B) := by
  intro mk hmk
  rcases List.mem_append.mp hmk with h | h
  · exact ha mk h
  · exact hb mk h

theorem notAt_of_under (P : List Nat) (a b : Nat) (r : List Nat) (X : Marks) (h : Under (P ++ [a]) X)
    (hab : a ≠ b) : NotAt (P ++ b :: r) X := by
  intro mk hmk e
  obtain ⟨rest, hr⟩ := h mk hmk
  rw [hr, List.append_assoc] at e
  have := List.append_cancel_left e
  simp only [List.singleton_append, List.cons.injEq] at this
  exact hab this.1

theorem notAt_single (q p : List Nat) (a : Act) (h : p ≠ q) : NotAt q [(p, a)] := by
  intro mk hmk
  simp only [List.mem_cons, List.mem_nil_iff, or_false] at hmk
  subst hmk; exact h

/-! ### the marks of a message list, seen from one of its elements -/

/-- every mark sits at `path` or below `path ++ [j]` for some `j ≥ n` -/
def FromIdx (path : List Nat) (n : Nat) (R : Marks) : Prop :=
  ∀ mk ∈ R, mk.1 = path ∨ ∃ j, n ≤ j ∧ ∃ rest, mk.1 = path ++ j :: rest

theorem FromIdx.mono {path : List Nat} {n n' : Nat} {R : Marks} (h : FromIdx path n R) (hn : n' ≤ n) :
    FromIdx path n' R := by
  intro mk hmk
  rcases h mk hmk with h | ⟨j, hj, r⟩
  · exact Or.inl h
  · exact Or.inr ⟨j, by omega, r⟩

theorem FromIdx.append {path : List Nat} {n : Nat} {A B : Marks} (ha : FromIdx path n A) (hb : FromIdx path n B) :
    FromIdx path n (A ++ B) := by
  intro mk hmk
  rcases List.mem_append.mp hmk with h | h
  · exact ha mk h
  · exact hb mk h

theorem fromIdx_of_below (path : List Nat) (fr : Nat) (M : Marks) (h : Below (path ++ [fr]) M) : FromIdx path fr M := by
  intro mk hmk
  obtain ⟨rest, hr⟩ := below_under h mk hmk
  exact Or.inr ⟨fr, Nat.le_refl _, rest, by rw [hr]; simp⟩

theorem fromIdx_remapMsgs (c : RCtx) (path : List Nat) (ms : List Msg) (fr to : Nat) :
    FromIdx path fr (remapMsgs c path ms fr to).2 := by
  rw [remapMsgs_eq]
  induction ms generalizing fr to with
  | nil =>
    unfold remapSlice
    intro mk hmk
    split at hmk
    · simp only [List.mem_cons, List.mem_nil_iff, or_false] at hmk; subst hmk; exact Or.inl rfl
    · cases hmk
  | cons x xs ih =>
    obtain ⟨S, to', e, hS⟩ := remapSlice_cons_shape path (remapMsg c) x xs fr to
    rw [e]
    refine ((fromIdx_of_below path fr _ (below_remapMsg c (path ++ [fr]) x)).append ?_).append
      ((ih (fr + 1) to').mono (by omega))
    exact fun mk hmk => Or.inr ⟨fr, Nat.le_refl _, [], hS mk hmk⟩

theorem notAt_fromIdx (path : List Nat) (n j : Nat) (r : List Nat) (R : Marks) (h : FromIdx path n R) (hj : j < n) :
    NotAt (path ++ j :: r) R := by
  intro mk hmk e
  rcases h mk hmk with h | ⟨j', hj', rest, h⟩
  · rw [h] at e
    simp at e
  · rw [h] at e
    have := List.append_cancel_left e
    simp only [List.cons.injEq] at this
    omega

/-- **Non-interference between siblings**: on a node strictly below element `i` of a message list
    the merged marks of the list are the marks of that element alone. -/
theorem same_remapMsgs (c : RCtx) (path : List Nat) (ms : List Msg) (fr to i : Nat) (hi : i < ms.length)
    (y : Nat) (r : List Nat) :
    Same (path ++ (fr + i) :: y :: r) (remapMsgs c path ms fr to).2 (remapMsg c (path ++ [fr + i]) ms[i]).2 := by
  rw [remapMsgs_eq]
  induction ms generalizing fr to i with
  | nil => simp at hi
  | cons x xs ih =>
    obtain ⟨S, to', e, hS⟩ := remapSlice_cons_shape path (remapMsg c) x xs fr to
    rw [e]
    -- the slice mark of the head sits at `path ++ [fr]`, too short for the node in question
    have hslice : ∀ b, NotAt (path ++ b :: y :: r) S := by
      intro b mk hmk e'
      rw [hS mk hmk] at e'
      simp at e'
    cases i with
    | zero =>
      simp only [Nat.add_zero, List.getElem_cons_zero]
      refine (same_append_left _ _ _ (notAt_fromIdx path (fr + 1) fr _ _ (by rw [← remapMsgs_eq]; exact fromIdx_remapMsgs c path xs (fr + 1) to') (by omega))).trans ?_
      exact same_append_left _ _ _ (hslice fr)
    | succ i =>
      have hi' : i < xs.length := by simpa using hi
      have e2 : fr + (i + 1) = (fr + 1) + i := by omega
      simp only [List.getElem_cons_succ]
      rw [e2]
      have hM0 : NotAt (path ++ (fr + 1 + i) :: y :: r) (remapMsg c (path ++ [fr]) x).2 :=
        notAt_of_under path fr _ _ _ (below_under (below_remapMsg c (path ++ [fr]) x)) (by omega)
      exact (same_append_right _ _ _ (notAt_append hM0 (hslice _))).trans (ih (fr + 1) to' i hi')

theorem actAt_remapMsgs_node (c : RCtx) (path : List Nat) (ms : List Msg) (fr to : Nat) :
    actAt (remapMsgs c path ms fr to).2 path =
      if to = 0 ∧ (msgFlags c ms).all (fun b => !b) = true then some Act.deleted else none := by
  rw [remapMsgs_eq, ← flagsFrom_msgs c path ms fr]
  induction ms generalizing fr to with
  | nil =>
    unfold remapSlice flagsFrom
    by_cases h : to = 0
    · simp [h, actAt_cons]
    · simp [h]; rfl
  | cons x xs ih =>
    have hM0 : NotAt path (remapMsg c (path ++ [fr]) x).2 := by
      intro mk hmk e
      obtain ⟨rest, hr⟩ := below_under (below_remapMsg c (path ++ [fr]) x) mk hmk
      rw [hr] at e
      simp at e
    have hsl : ∀ a, NotAt path [(path ++ [fr], a)] := fun a => notAt_single _ _ _ (path_snoc_ne path fr)
    rw [remapSlice_cons_snd, flagsFrom]
    simp only [List.all_cons]
    cases (remapMsg c (path ++ [fr]) x).1.isSome with
    | false =>
      simp only [Bool.false_eq_true, if_false]
      rw [(same_append_right path _ _ (notAt_append hM0 (hsl _))).1, ih]
      simp
    | true =>
      simp only [if_true]
      have hS : NotAt path (if fr ≠ to then [(path ++ [fr], Act.moved to)] else []) := by
        split
        · exact hsl _
        · intro mk hmk; cases hmk
      rw [(same_append_right path _ _ (notAt_append hM0 hS)).1, ih]
      simp

/-! ### the marks of one kept message, seen from its nested-message section -/

theorem under_to_below_form (P : List Nat) (s : Nat) (X : Marks) (h : Under (P ++ [s]) X) :
    ∀ mk ∈ X, ∃ rest, mk.1 = P ++ s :: rest := by
  intro mk hmk
  obtain ⟨rest, hr⟩ := h mk hmk
  exact ⟨rest, by rw [hr]; simp⟩

theorem remapMsg_marks (c : RCtx) (P : List Nat) (id : Id) (fields : List Field) (oneofs : List Oneof)
    (exts : List Field) (nested : List Msg) (enums : List Enum) (rangeOpts : List (List OptUse))
    (reserved mapEntry : Bool) (opts : List OptUse) (h : c.has (.el id) = true) :
    ∃ H, (remapMsg c P (.mk id fields oneofs exts nested enums rangeOpts reserved mapEntry opts)).2 =
        H ++ (remapSlice (P ++ [6]) (remapField c) exts 0 0).2 ++ (remapMsgs c (P ++ [3]) nested 0 0).2 ++
          (remapSlice (P ++ [4]) (remapEnum c) enums 0 0).2 ∧
      ∀ mk ∈ H, mk.1 = P ∨ ∃ s rest, mk.1 = P ++ s :: rest ∧ s ≠ 3 ∧ s ≠ 4 ∧ s ≠ 6 := by
  unfold remapMsg
  simp only [h, Bool.not_true, Bool.false_eq_true, if_false]
  split
  · split
    · refine ⟨_, rfl, ?_⟩
      intro mk hmk
      simp only [List.mem_cons, List.mem_nil_iff, or_false] at hmk
      rcases hmk with rfl | rfl | rfl | rfl | rfl | rfl
      · exact Or.inl rfl
      · exact Or.inr ⟨2, [], rfl, by omega, by omega, by omega⟩
      · exact Or.inr ⟨8, [], rfl, by omega, by omega, by omega⟩
      · exact Or.inr ⟨5, [], rfl, by omega, by omega, by omega⟩
      · exact Or.inr ⟨9, [], rfl, by omega, by omega, by omega⟩
      · exact Or.inr ⟨10, [], rfl, by omega, by omega, by omega⟩
    · exact ⟨[], rfl, fun mk hmk => by cases hmk⟩
  · refine ⟨_, rfl, ?_⟩
    intro mk hmk
    rcases List.mem_append.mp hmk with hm | hm
    · obtain ⟨rest, hr⟩ := under_to_below_form P 2 _ (under_remapSlice (P ++ [2]) (remapField c) (remapField_leaf c) fields 0 0) mk hm
      exact Or.inr ⟨2, rest, hr, by omega, by omega, by omega⟩
    · obtain ⟨rest, hr⟩ := under_to_below_form P 8 _ (under_remapSlice (P ++ [8]) (remapOneof c id) (remapOneof_leaf c id) oneofs 0 0) mk hm
      exact Or.inr ⟨8, rest, hr, by omega, by omega, by omega⟩

theorem same_msg_nested (c : RCtx) (P : List Nat) (m : Msg) (h : c.has (.el m.id) = true) (r : List Nat) :
    Same (P ++ 3 :: r) (remapMsg c P m).2 (remapMsgs c (P ++ [3]) m.nested 0 0).2 := by
  cases m with
  | mk id fields oneofs exts nested enums rangeOpts reserved mapEntry opts =>
    obtain ⟨H, hM, hH⟩ := remapMsg_marks c P id fields oneofs exts nested enums rangeOpts reserved mapEntry opts h
    rw [hM]
    simp only [Msg.nested]
    refine (same_append_left _ _ _ (notAt_of_under P 4 3 r _
      (under_remapSlice (P ++ [4]) (remapEnum c) (remapEnum_leaf c) enums 0 0) (by omega))).trans ?_
    refine same_append_right _ _ _ (notAt_append ?_ (notAt_of_under P 6 3 r _
      (under_remapSlice (P ++ [6]) (remapField c) (remapField_leaf c) exts 0 0) (by omega)))
    intro mk hmk e
    rcases hH mk hmk with h1 | ⟨s, rest, h1, h3, _, _⟩
    · rw [h1] at e
      simp at e
    · rw [h1] at e
      simp only [List.append_cancel_left_eq, List.cons.injEq] at e
      exact h3 e.1

/-! ### the merged marks of a file -/

def fileMarks (c : RCtx) (f : File) : Marks :=
  (remapMsgs c [4] f.msgs 0 0).2 ++ (remapSlice [5] (remapEnum c) f.enums 0 0).2 ++
    (remapSlice [6] (remapService c) f.svcs 0 0).2 ++ (remapSlice [7] (remapField c) f.exts 0 0).2 ++
    (remapDeps c.st f).2

theorem remapFile_locs (c : RCtx) (f : File) (of : OFile) (h : remapFile c f = some of) :
    of.locs = remapLocs (fileMarks c f) f.locs := by
  unfold remapFile at h
  split at h
  · cases h
  · simp only [Option.some.injEq] at h
    subst h
    rfl

theorem under_remapService (c : RCtx) (p : List Nat) (s : Service) : Under p (remapService c p s).2 := by
  unfold remapService
  split
  · intro mk hmk; cases hmk
  · intro mk hmk
    obtain ⟨rest, hr⟩ := under_remapSlice (p ++ [2]) (remapMethod c) (fun _ _ => by unfold remapMethod; split <;> rfl)
      s.methods 0 0 mk hmk
    exact ⟨2 :: rest, by rw [hr]; simp⟩

/-- the other sections of a file put no mark at or below the message section `[4]` -/
theorem same_file_msgs (c : RCtx) (f : File) (r : List Nat) :
    Same (4 :: r) (fileMarks c f) (remapMsgs c [4] f.msgs 0 0).2 := by
  unfold fileMarks
  have hq : (4 :: r) = [] ++ 4 :: r := rfl
  have h5 : NotAt (4 :: r) (remapSlice [5] (remapEnum c) f.enums 0 0).2 := by
    rw [hq]; exact notAt_of_under [] 5 4 r _ (under_remapSlice [5] (remapEnum c) (remapEnum_leaf c) f.enums 0 0) (by omega)
  have h6 : NotAt (4 :: r) (remapSlice [6] (remapService c) f.svcs 0 0).2 := by
    rw [hq]; exact notAt_of_under [] 6 4 r _ (under_remapSlice_gen [6] (remapService c) f.svcs (fun s _ p => under_remapService c p s) 0 0) (by omega)
  have h7 : NotAt (4 :: r) (remapSlice [7] (remapField c) f.exts 0 0).2 := by
    rw [hq]; exact notAt_of_under [] 7 4 r _ (under_remapSlice [7] (remapField c) (remapField_leaf c) f.exts 0 0) (by omega)
  have hd : NotAt (4 :: r) (remapDeps c.st f).2 := by
    unfold remapDeps
    simp only []
    apply notAt_append
    · intro mk hmk e
      have hmk' := (List.mem_filter.mp hmk).1
      obtain ⟨rest, hr⟩ := under_remapSlice [3] _ (fun _ _ => by split <;> rfl) f.deps 0 0 mk hmk'
      rw [hr] at e
      cases e
    · apply notAt_single
      intro e; cases e
  refine (same_append_left _ _ _ hd).trans ?_
  refine (same_append_left _ _ _ h7).trans ?_
  refine (same_append_left _ _ _ h6).trans ?_
  exact same_append_left _ _ _ h5

/-! ### kept messages at any depth -/

/-- `MsgAt c ms p p' m`: `m` is a kept message reached from the message list `ms` through kept
    messages only; `p` is its old path below the list node (`[i]`, `[i, 3, j]`, …) and `p'` the
    path with the new indexes. -/
inductive MsgAt (c : RCtx) (ms : List Msg) : List Nat → List Nat → Msg → Prop
  | top (i : Nat) (hi : i < ms.length) (hk : c.has (.el ms[i].id) = true) :
      MsgAt c ms [i] [newIdx (msgFlags c ms) i 0] ms[i]
  | nest (p p' : List Nat) (m : Msg) (h : MsgAt c ms p p' m) (i : Nat) (hi : i < m.nested.length)
      (hk : c.has (.el m.nested[i].id) = true) :
      MsgAt c ms (p ++ [3, i]) (p' ++ [3, newIdx (msgFlags c m.nested) i 0]) m.nested[i]

theorem MsgAt.has {c : RCtx} {ms : List Msg} {p p' : List Nat} {m : Msg} (h : MsgAt c ms p p' m) :
    c.has (.el m.id) = true := by
  cases h with
  | top i hi hk => exact hk
  | nest p p' m h i hi hk => exact hk

theorem MsgAt.ne_nil {c : RCtx} {ms : List Msg} {p p' : List Nat} {m : Msg} (h : MsgAt c ms p p' m) : p ≠ [] := by
  cases h <;> simp

/-- **Non-interference across nesting levels**: strictly below a kept message (at any depth) the
    merged marks of the whole file are the marks of that message alone. -/
theorem same_file_msgAt (c : RCtx) (f : File) (p p' : List Nat) (m : Msg) (h : MsgAt c f.msgs p p' m)
    (y : Nat) (r : List Nat) :
    Same (4 :: p ++ y :: r) (fileMarks c f) (remapMsg c (4 :: p) m).2 := by
  induction h generalizing y r with
  | top i hi hk =>
    refine (same_file_msgs c f _).trans ?_
    have := same_remapMsgs c [4] f.msgs 0 0 i hi y r
    simpa using this
  | nest p p' m h i hi hk ih =>
    have e : 4 :: (p ++ [3, i]) ++ y :: r = 4 :: p ++ 3 :: (i :: y :: r) := by simp
    rw [e]
    refine (ih 3 (i :: y :: r)).trans ?_
    have e2 : 4 :: p ++ 3 :: (i :: y :: r) = (4 :: p) ++ 3 :: (i :: y :: r) := rfl
    rw [e2]
    refine (same_msg_nested c (4 :: p) m h.has _).trans ?_
    have := same_remapMsgs c ((4 :: p) ++ [3]) m.nested 0 0 i hi y r
    simp only [Nat.zero_add, List.append_assoc, List.cons_append, List.nil_append] at this ⊢
    exact this

theorem nested_lookups (c : RCtx) (f : File) (p p' : List Nat) (m : Msg) (h : MsgAt c f.msgs p p' m)
    (r : List Nat) :
    actAt (fileMarks c f) ((4 :: p) ++ 3 :: r) =
      actAt (remapMsgs c ((4 :: p) ++ [3]) m.nested 0 0).2 ((4 :: p) ++ 3 :: r) :=
  (same_file_msgAt c f p p' m h 3 r).1.trans (same_msg_nested c (4 :: p) m h.has r).1

/-! ### walking through one list level -/

/-- what remains to be done after the walk has reached the node `Q` (new path so far: `Q'`) -/
def cont (X : Marks) (Q : List Nat) (rest : List Nat) (Q' : List Nat) : Option (List Nat × Bool) :=
  match rest with
  | [] => some (Q', noCommentAt X Q)
  | _ :: _ => match walk X Q rest with
    | some (r, nc) => some (Q' ++ r, nc)
    | none => none

def tgt (a : Option Act) (x : Nat) : Nat := match a with | some (.moved t) => t | _ => x

theorem walk_cons (X : Marks) (pre : List Nat) (x : Nat) (rest : List Nat) :
    walk X pre (x :: rest) = if actAt X (pre ++ [x]) = some .deleted then none
      else cont X (pre ++ [x]) rest [tgt (actAt X (pre ++ [x])) x] := by
  unfold walk cont tgt
  cases actAt X (pre ++ [x]) with
  | none => cases rest <;> rfl
  | some a => cases a <;> cases rest <;> rfl

/-- the path so far is only carried along -/
theorem cont_prefix (X : Marks) (Q rest P Q' : List Nat) :
    (match cont X Q rest Q' with | some (r, nc) => some (P ++ r, nc) | none => none) = cont X Q rest (P ++ Q') := by
  unfold cont
  cases rest with
  | nil => rfl
  | cons y r => cases walk X Q (y :: r) <;> simp

theorem all_not_of_true (bs : List Bool) (i : Nat) (hi : i < bs.length) (h : bs[i] = true) :
    bs.all (fun b => !b) = false := by
  rw [List.all_eq_false]
  exact ⟨bs[i], List.getElem_mem hi, by simp [h]⟩

/-- One list level of the walk.  `X` are the merged marks of the file, `L = pre ++ [s]` the node of
    a message list `ms` whose own marks agree with `X` at and below `L`. -/
theorem walk_list (c : RCtx) (X : Marks) (pre : List Nat) (s : Nat) (ms : List Msg)
    (hsame : ∀ r, actAt X (pre ++ s :: r) = actAt (remapMsgs c (pre ++ [s]) ms 0 0).2 (pre ++ s :: r))
    (i : Nat) (hi : i < ms.length) (rest : List Nat) :
    walk X pre (s :: i :: rest) =
      if c.has (.el ms[i].id) = true then cont X ((pre ++ [s]) ++ [i]) rest [s, newIdx (msgFlags c ms) i 0]
      else none := by
  have hlen : i < (msgFlags c ms).length := by unfold msgFlags; simpa using hi
  have hflag : (msgFlags c ms)[i] = c.has (.el ms[i].id) := by simp only [msgFlags, List.getElem_map]
  have hnode : actAt X (pre ++ [s]) = actAt (remapMsgs c (pre ++ [s]) ms 0 0).2 (pre ++ [s]) := hsame []
  have hn := actAt_remapMsgs_node c (pre ++ [s]) ms 0 0
  have he : actAt X ((pre ++ [s]) ++ [i]) = actAt (remapMsgs c (pre ++ [s]) ms 0 0).2 ((pre ++ [s]) ++ [i]) := by
    simpa using hsame [i]
  rw [remapMsgs_eq, actAt_remapSlice _ _ (below_remapMsg c), flagsFrom_msgs] at he
  have hact := actAt_sliceMarks (pre ++ [s]) (msgFlags c ms) 0 0 i hlen
  simp only [Nat.zero_add] at hact
  rw [hact, hflag] at he
  rw [walk_cons, hnode, hn]
  by_cases hk : c.has (.el ms[i].id) = true
  · -- the list node carries no mark (one item is kept); the item moves to its new index, or is not
    -- marked because that is its old one
    simp only [hk, Bool.true_eq_false, if_false] at he
    have ht : tgt (actAt X (pre ++ [s] ++ [i])) i = newIdx (msgFlags c ms) i 0 := by
      rw [he]
      split
      · rfl
      · simp only [tgt]; omega
    rw [all_not_of_true (msgFlags c ms) i hlen (by rw [hflag]; exact hk)]
    simp only [Bool.false_eq_true, and_false, if_false, reduceCtorEq, hk, if_true]
    rw [cont, walk_cons, if_neg (by rw [he]; split <;> simp), ht]
    exact cont_prefix X _ rest [tgt none s] _
  · -- the item is deleted, if the whole list is not
    simp only [Bool.not_eq_true] at hk
    simp only [hk, if_true] at he
    simp only [hk, Bool.false_eq_true, if_false]
    split
    · rfl
    · rw [cont, walk_cons, if_pos he]; rfl

/-- **File-level source-path theorem for messages at any depth.**  For a kept message reached
    through kept messages, every location at or below it is remapped by first replacing the
    message's own path `4 :: p` by the path with the new indexes `4 :: p'` and then continuing the
    walk below the message. -/
theorem newPath_msgAt (c : RCtx) (f : File) (p p' : List Nat) (m : Msg) (h : MsgAt c f.msgs p p' m)
    (rest : List Nat) :
    newPath (fileMarks c f) (4 :: p ++ rest) = cont (fileMarks c f) (4 :: p) rest (4 :: p') := by
  unfold newPath
  rw [fixPath_eq_walk]
  induction h generalizing rest with
  | top i hi hk =>
    have := walk_list c (fileMarks c f) [] 4 f.msgs (fun r => (same_file_msgs c f r).1) i hi rest
    simp only [List.nil_append, hk, if_true] at this
    exact this
  | nest p p' m h i hi hk ih =>
    have e : 4 :: (p ++ [3, i]) ++ rest = 4 :: p ++ (3 :: i :: rest) := by simp
    rw [e, ih (3 :: i :: rest)]
    have := walk_list c (fileMarks c f) (4 :: p) 3 m.nested (nested_lookups c f p p' m h) i hi rest
    simp only [hk, if_true] at this
    rw [cont, this, cont_prefix]
    simp

theorem newPath_dropped_top (c : RCtx) (f : File) (i : Nat) (hi : i < f.msgs.length)
    (hk : c.has (.el f.msgs[i].id) = false) (rest : List Nat) :
    newPath (fileMarks c f) (4 :: i :: rest) = none := by
  unfold newPath
  rw [fixPath_eq_walk]
  have := walk_list c (fileMarks c f) [] 4 f.msgs (fun r => (same_file_msgs c f r).1) i hi rest
  simp only [List.nil_append, hk, Bool.false_eq_true, if_false] at this
  exact this

theorem newPath_dropped_nested (c : RCtx) (f : File) (p p' : List Nat) (m : Msg) (h : MsgAt c f.msgs p p' m)
    (i : Nat) (hi : i < m.nested.length) (hk : c.has (.el m.nested[i].id) = false) (rest : List Nat) :
    newPath (fileMarks c f) (4 :: p ++ 3 :: i :: rest) = none := by
  rw [newPath_msgAt c f p p' m h (3 :: i :: rest)]
  have := walk_list c (fileMarks c f) (4 :: p) 3 m.nested (nested_lookups c f p p' m h) i hi rest
  simp only [hk, Bool.false_eq_true, if_false] at this
  simp only [cont]
  rw [this]

end BufProofs.FilterComment
