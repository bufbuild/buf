import BufProofs.Lemmas.LintRpcKey
/-
  C05 — schema TRANSFORMERS and how the iteration helpers see them.

  A transformer `Tr` rewrites the declarations of ONE file in place, addressed by SOURCE PATH
  (the same paths the iteration helpers of BufModel.Lint hand to the rules): an enum (whole
  declaration: name, comment, allow_alias, value list), the name / comment of a message, the
  name / comment / `required` label of a field or extension, a oneof, the name / comment of a
  service, an RPC (whole declaration).  `mapFile T f` applies it everywhere in `f`; a planting
  operator is a transformer that is the identity except at one source path.

  This file proves, for every iteration helper `els`, that `els (mapFile T f)` is `els f` mapped
  elementwise (so nothing is added, dropped or reordered, at any nesting depth), and that the
  source paths an iteration helper enumerates are pairwise distinct (so "the element at path p"
  is ONE element).
-/
namespace BufModel.Lint
open BufModel.Case

/-! ### indexed lists -/

/-- map with the running index, matching `indexFrom` -/
def mapIdxFrom {α β} (g : Nat → α → β) : Nat → List α → List β
  | _, [] => []
  | i, x :: xs => g i x :: mapIdxFrom g (i + 1) xs

theorem indexFrom_mapIdxFrom {α β} (g : Nat → α → β) : ∀ (i : Nat) (l : List α),
    indexFrom i (mapIdxFrom g i l) = (indexFrom i l).map (fun jx => (jx.1, g jx.1 jx.2))
  | _, [] => rfl
  | i, x :: xs => by
    simp only [mapIdxFrom, indexFrom, List.map_cons]
    rw [indexFrom_mapIdxFrom g (i + 1) xs]

theorem indexed_mapIdxFrom {α β} (g : Nat → α → β) (l : List α) :
    indexed (mapIdxFrom g 0 l) = (indexed l).map (fun jx => (jx.1, g jx.1 jx.2)) :=
  indexFrom_mapIdxFrom g 0 l

theorem mapIdxFrom_id {α} : ∀ (i : Nat) (l : List α), mapIdxFrom (fun _ x => x) i l = l
  | _, [] => rfl
  | i, x :: xs => by simp only [mapIdxFrom]; rw [mapIdxFrom_id (i + 1) xs]

theorem indexFrom_ge {α} : ∀ (i : Nat) (l : List α) (jx : Nat × α), jx ∈ indexFrom i l → i ≤ jx.1
  | _, [], _, h => by simp [indexFrom] at h
  | i, x :: xs, jx, h => by
    simp only [indexFrom, List.mem_cons] at h
    rcases h with rfl | h
    · exact Nat.le_refl _
    · exact Nat.le_of_succ_le (indexFrom_ge (i + 1) xs jx h)

theorem indexFrom_nodup {α} : ∀ (i : Nat) (l : List α), ((indexFrom i l).map (·.1)).Nodup
  | _, [] => by simp [indexFrom]
  | i, x :: xs => by
    simp only [indexFrom, List.map_cons, List.nodup_cons]
    refine ⟨?_, indexFrom_nodup (i + 1) xs⟩
    intro h
    obtain ⟨jx, hjx, e⟩ := List.mem_map.mp h
    have := indexFrom_ge (i + 1) xs jx hjx
    omega

theorem mem_indexFrom_val {α} : ∀ (i : Nat) (l : List α) (jx : Nat × α), jx ∈ indexFrom i l → jx.2 ∈ l
  | _, [], _, h => by simp [indexFrom] at h
  | i, x :: xs, jx, h => by
    simp only [indexFrom, List.mem_cons] at h
    rcases h with rfl | h
    · simp
    · exact List.mem_cons_of_mem _ (mem_indexFrom_val (i + 1) xs jx h)

/-! ### transformers -/

/-- A path-addressed rewriting of the declarations of one file (identity by default). -/
structure Tr where
  /-- one enum value, addressed by ITS source path (`enum path ++ [2, i]`) -/
  value : List Nat → EnumValue → EnumValue := fun _ v => v
  /-- the enum declaration as a whole (applied after `value`): name, comment, allow_alias, and
      any restructuring of the value list (reorder, append) -/
  enum : List Nat → Enum → Enum := fun _ e => e
  msgName : List Nat → Str → Str := fun _ s => s
  msgComment : List Nat → Str → Str := fun _ s => s
  fieldName : List Nat → Str → Str := fun _ s => s
  fieldComment : List Nat → Str → Str := fun _ s => s
  fieldRequired : List Nat → Bool → Bool := fun _ b => b
  oneof : List Nat → Oneof → Oneof := fun _ x => x
  svcName : List Nat → Str → Str := fun _ s => s
  svcComment : List Nat → Str → Str := fun _ s => s
  rpc : List Nat → Rpc → Rpc := fun _ m => m

/-- fields keep their kind (group / proto3 optional / oneof membership) by construction -/
def Tr.field (T : Tr) (p : List Nat) (fd : Field) : Field :=
  { fd with name := T.fieldName p fd.name, comment := T.fieldComment p fd.comment,
            required := T.fieldRequired p fd.required }

/-- an enum declaration under a transformer: every value, then the declaration -/
def Tr.enumFull (T : Tr) (p : List Nat) (e : Enum) : Enum :=
  T.enum p { e with values := mapIdxFrom (fun i => T.value (p ++ [2, i])) 0 e.values }

mutual
  def mapMsg (T : Tr) (p : List Nat) : Message → Message
    | .mk n c me fs os xs es ms =>
      .mk (T.msgName p n) (T.msgComment p c) me
        (mapIdxFrom (fun i => T.field (p ++ [2, i])) 0 fs)
        (mapIdxFrom (fun i => T.oneof (p ++ [8, i])) 0 os)
        (mapIdxFrom (fun i => T.field (p ++ [6, i])) 0 xs)
        (mapIdxFrom (fun i => T.enumFull (p ++ [4, i])) 0 es)
        (mapMsgs T p 3 0 ms)
  def mapMsgs (T : Tr) (p : List Nat) (tag : Nat) (i : Nat) : List Message → List Message
    | [] => []
    | m :: rest => mapMsg T (p ++ [tag, i]) m :: mapMsgs T p tag (i + 1) rest
end

def mapSvc (T : Tr) (p : List Nat) (s : Service) : Service :=
  { name := T.svcName p s.name, comment := T.svcComment p s.comment,
    rpcs := mapIdxFrom (fun i => T.rpc (p ++ [2, i])) 0 s.rpcs }

/-- apply a transformer to every declaration of a file; the file header (path, package, imports,
    options, syntax) is untouched -/
def mapFile (T : Tr) (f : File) : File :=
  { f with enums := mapIdxFrom (fun i => T.enumFull [5, i]) 0 f.enums,
           msgs := mapMsgs T [] 4 0 f.msgs,
           svcs := mapIdxFrom (fun i => mapSvc T [6, i]) 0 f.svcs,
           exts := mapIdxFrom (fun i => T.field [7, i]) 0 f.exts }

/-! ### projections of a mapped message -/

theorem mapMsg_name (T : Tr) (p : List Nat) (m : Message) : (mapMsg T p m).name = T.msgName p m.name := by
  cases m; rfl
theorem mapMsg_comment (T : Tr) (p : List Nat) (m : Message) :
    (mapMsg T p m).comment = T.msgComment p m.comment := by cases m; rfl
theorem mapMsg_mapEntry (T : Tr) (p : List Nat) (m : Message) : (mapMsg T p m).mapEntry = m.mapEntry := by
  cases m; rfl
theorem mapMsg_fields (T : Tr) (p : List Nat) (m : Message) :
    (mapMsg T p m).fields = mapIdxFrom (fun i => T.field (p ++ [2, i])) 0 m.fields := by cases m; rfl
theorem mapMsg_exts (T : Tr) (p : List Nat) (m : Message) :
    (mapMsg T p m).exts = mapIdxFrom (fun i => T.field (p ++ [6, i])) 0 m.exts := by cases m; rfl
theorem mapMsg_oneofs (T : Tr) (p : List Nat) (m : Message) :
    (mapMsg T p m).oneofs = mapIdxFrom (fun i => T.oneof (p ++ [8, i])) 0 m.oneofs := by cases m; rfl
theorem mapMsg_enums (T : Tr) (p : List Nat) (m : Message) :
    (mapMsg T p m).enums = mapIdxFrom (fun i => T.enumFull (p ++ [4, i])) 0 m.enums := by cases m; rfl

/-! ### the message iterator commutes with a transformer -/

mutual
  theorem visitMsg_map (T : Tr) (p : List Nat) : ∀ m : Message,
      visitMsg p (mapMsg T p m) = (visitMsg p m).map (fun qm => (qm.1, mapMsg T qm.1 qm.2))
    | .mk n c me fs os xs es ms => by
      simp only [mapMsg, visitMsg, List.map_cons]
      rw [visitMsgs_map T p 3 0 ms]
  theorem visitMsgs_map (T : Tr) (p : List Nat) (tag : Nat) : ∀ (i : Nat) (ms : List Message),
      visitMsgs p tag i (mapMsgs T p tag i ms) =
        (visitMsgs p tag i ms).map (fun qm => (qm.1, mapMsg T qm.1 qm.2))
    | _, [] => rfl
    | i, m :: rest => by
      simp only [mapMsgs, visitMsgs, List.map_append]
      rw [visitMsg_map T (p ++ [tag, i]) m, visitMsgs_map T p tag (i + 1) rest]
end

def tauMsg (T : Tr) (qm : List Nat × Message) : List Nat × Message := (qm.1, mapMsg T qm.1 qm.2)
def tauEnum (T : Tr) (qe : List Nat × Enum) : List Nat × Enum := (qe.1, T.enumFull qe.1 qe.2)
def tauField (T : Tr) (x : List Nat × Option Message × Field) : List Nat × Option Message × Field :=
  (x.1, x.2.1.map (mapMsg T x.1.dropLast.dropLast), T.field x.1 x.2.2)
def tauOneof (T : Tr) (x : List Nat × Message × Nat × Oneof) : List Nat × Message × Nat × Oneof :=
  (x.1, mapMsg T x.1.dropLast.dropLast x.2.1, x.2.2.1, T.oneof x.1 x.2.2.2)
def tauSvc (T : Tr) (x : List Nat × Service) : List Nat × Service := (x.1, mapSvc T x.1 x.2)
def tauRpc (T : Tr) (x : List Nat × Service × Rpc) : List Nat × Service × Rpc :=
  (x.1, mapSvc T x.1.dropLast.dropLast x.2.1, T.rpc x.1 x.2.2)

theorem dropLast2 (q : List Nat) (a b : Nat) : (q ++ [a, b]).dropLast.dropLast = q := by
  have : q ++ [a, b] = (q ++ [a]) ++ [b] := by simp
  rw [this, List.dropLast_concat, List.dropLast_concat]

theorem fileMsgs_map (T : Tr) (f : File) : fileMsgs (mapFile T f) = (fileMsgs f).map (tauMsg T) := by
  unfold fileMsgs mapFile
  exact visitMsgs_map T [] 4 0 f.msgs

theorem fileEnums_map (T : Tr) (f : File) : fileEnums (mapFile T f) = (fileEnums f).map (tauEnum T) := by
  unfold fileEnums
  rw [fileMsgs_map, List.map_append, List.flatMap_map, List.map_flatMap]
  congr 1
  · show (indexed (mapIdxFrom (fun i => T.enumFull [5, i]) 0 f.enums)).map _ = _
    rw [indexed_mapIdxFrom]; simp [tauEnum, Function.comp_def]
  · apply BufProofs.ListLemmas.flatMap_congr
    intro qm _
    simp only [tauMsg, mapMsg_enums, indexed_mapIdxFrom, List.map_map]
    simp [tauEnum, Function.comp_def]

theorem fileFields_map (T : Tr) (f : File) : fileFields (mapFile T f) = (fileFields f).map (tauField T) := by
  unfold fileFields
  rw [fileMsgs_map, List.map_append, List.flatMap_map, List.map_flatMap]
  congr 1
  · apply BufProofs.ListLemmas.flatMap_congr
    intro qm _
    simp only [tauMsg, mapMsg_fields, mapMsg_exts, indexed_mapIdxFrom, List.map_map, List.map_append]
    simp [tauField, Function.comp_def]
  · show (indexed (mapIdxFrom (fun i => T.field [7, i]) 0 f.exts)).map _ = _
    rw [indexed_mapIdxFrom]; simp [tauField, Function.comp_def]

theorem fileOneofs_map (T : Tr) (f : File) : fileOneofs (mapFile T f) = (fileOneofs f).map (tauOneof T) := by
  unfold fileOneofs
  rw [fileMsgs_map, List.flatMap_map, List.map_flatMap]
  apply BufProofs.ListLemmas.flatMap_congr
  intro qm _
  simp only [tauMsg, mapMsg_oneofs, indexed_mapIdxFrom, List.map_map]
  simp [tauOneof, Function.comp_def]

theorem fileSvcs_map (T : Tr) (f : File) : fileSvcs (mapFile T f) = (fileSvcs f).map (tauSvc T) := by
  unfold fileSvcs
  show (indexed (mapIdxFrom (fun i => mapSvc T [6, i]) 0 f.svcs)).map _ = _
  rw [indexed_mapIdxFrom]; simp [tauSvc, Function.comp_def]

theorem fileRpcs_map (T : Tr) (f : File) : fileRpcs (mapFile T f) = (fileRpcs f).map (tauRpc T) := by
  unfold fileRpcs
  rw [fileSvcs_map, List.flatMap_map, List.map_flatMap]
  apply BufProofs.ListLemmas.flatMap_congr
  intro qs _
  simp only [tauSvc, mapSvc, indexed_mapIdxFrom, List.map_map]
  simp [tauRpc, Function.comp_def, mapSvc]

/-- the enum values of a transformed file: every (transformed) enum with ITS value list -/
theorem fileEnumValues_map (T : Tr) (f : File) :
    fileEnumValues (mapFile T f) = (fileEnums f).flatMap (fun qe =>
      (indexed (T.enumFull qe.1 qe.2).values).map (fun iv => (qe.1 ++ [2, iv.1], T.enumFull qe.1 qe.2, iv.2))) := by
  unfold fileEnumValues
  rw [fileEnums_map, List.flatMap_map]
  rfl

def tauValue (T : Tr) (x : List Nat × Enum × EnumValue) : List Nat × Enum × EnumValue :=
  (x.1, T.enumFull x.1.dropLast.dropLast x.2.1, T.value x.1 x.2.2)

/-- …and when the transformer leaves the enum declarations alone (only values are rewritten),
    elementwise -/
theorem fileEnumValues_map_value (T : Tr) (hid : T.enum = fun _ e => e) (f : File) :
    fileEnumValues (mapFile T f) = (fileEnumValues f).map (tauValue T) := by
  rw [fileEnumValues_map]
  unfold fileEnumValues
  rw [List.map_flatMap]
  apply BufProofs.ListLemmas.flatMap_congr
  intro qe _
  simp only [Tr.enumFull, hid, indexed_mapIdxFrom, List.map_map]
  simp [tauValue, Function.comp_def, Tr.enumFull, hid]

/-! ### source paths are pairwise distinct -/

theorem append_pair_inj {q q' : List Nat} {a b a' b' : Nat} (h : q ++ [a, b] = q' ++ [a', b']) :
    q = q' ∧ a = a' ∧ b = b' := by
  have hl : q.length = q'.length := by
    have := congrArg List.length h
    simp at this; omega
  have := List.append_inj h hl
  simp at this
  exact ⟨this.1, this.2.1, this.2.2⟩

mutual
  theorem visitMsg_prefix (p : List Nat) : ∀ (m : Message) (y : List Nat × Message),
      y ∈ visitMsg p m → ∃ s, y.1 = p ++ s
    | .mk n c me fs os xs es ms, y, h => by
      simp only [visitMsg, List.mem_cons] at h
      rcases h with rfl | h
      · exact ⟨[], by simp⟩
      · obtain ⟨j, s, _, e⟩ := visitMsgs_prefix p 3 0 ms y h
        exact ⟨[3, j] ++ s, by rw [e]; simp⟩
  theorem visitMsgs_prefix (p : List Nat) (tag : Nat) : ∀ (i : Nat) (ms : List Message)
      (y : List Nat × Message), y ∈ visitMsgs p tag i ms → ∃ j s, i ≤ j ∧ y.1 = p ++ [tag, j] ++ s
    | _, [], _, h => by simp [visitMsgs] at h
    | i, m :: rest, y, h => by
      simp only [visitMsgs, List.mem_append] at h
      rcases h with h | h
      · obtain ⟨s, e⟩ := visitMsg_prefix (p ++ [tag, i]) m y h
        exact ⟨i, s, Nat.le_refl _, e⟩
      · obtain ⟨j, s, hj, e⟩ := visitMsgs_prefix p tag (i + 1) rest y h
        exact ⟨j, s, Nat.le_of_succ_le hj, e⟩
end

mutual
  theorem visitMsg_nodup (p : List Nat) : ∀ m : Message, ((visitMsg p m).map (·.1)).Nodup
    | .mk n c me fs os xs es ms => by
      simp only [visitMsg, List.map_cons, List.nodup_cons]
      refine ⟨?_, visitMsgs_nodup p 3 0 ms⟩
      intro h
      obtain ⟨y, hy, e⟩ := List.mem_map.mp h
      obtain ⟨j, s, _, e2⟩ := visitMsgs_prefix p 3 0 ms y hy
      have := congrArg List.length (e.symm.trans e2)
      simp at this
  theorem visitMsgs_nodup (p : List Nat) (tag : Nat) : ∀ (i : Nat) (ms : List Message),
      ((visitMsgs p tag i ms).map (·.1)).Nodup
    | _, [] => by simp [visitMsgs]
    | i, m :: rest => by
      simp only [visitMsgs, List.map_append]
      rw [List.nodup_append]
      refine ⟨visitMsg_nodup (p ++ [tag, i]) m, visitMsgs_nodup p tag (i + 1) rest, ?_⟩
      intro a ha b hb e
      obtain ⟨y, hy, rfl⟩ := List.mem_map.mp ha
      obtain ⟨z, hz, rfl⟩ := List.mem_map.mp hb
      obtain ⟨s, e1⟩ := visitMsg_prefix (p ++ [tag, i]) m y hy
      obtain ⟨j, s', hj, e2⟩ := visitMsgs_prefix p tag (i + 1) rest z hz
      have e3 : p ++ ([tag, i] ++ s) = p ++ ([tag, j] ++ s') := by
        rw [← List.append_assoc, ← List.append_assoc, ← e1, ← e2]; exact e
      have := List.append_cancel_left e3
      simp at this
      omega
end

theorem fileMsgs_nodup (f : File) : ((fileMsgs f).map (·.1)).Nodup := visitMsgs_nodup [] 4 0 f.msgs

theorem fileMsgs_path_ne_nil (f : File) (y : List Nat × Message) (h : y ∈ fileMsgs f) : y.1 ≠ [] := by
  obtain ⟨j, s, _, e⟩ := visitMsgs_prefix [] 4 0 f.msgs y h
  rw [e]; simp

/-- keys `key x ++ [t, i]` over containers with distinct keys and, per container, distinct
    (tag, index) suffixes are distinct -/
theorem nodup_keys {α} (key : α → List Nat) (sfx : α → List (Nat × Nat)) : ∀ (l : List α),
    (l.map key).Nodup → (∀ x ∈ l, (sfx x).Nodup) →
    (l.flatMap fun x => (sfx x).map fun ti => key x ++ [ti.1, ti.2]).Nodup
  | [], _, _ => by simp
  | x :: rest, hk, hs => by
    simp only [List.map_cons, List.nodup_cons] at hk
    simp only [List.flatMap_cons]
    rw [List.nodup_append]
    refine ⟨?_, nodup_keys key sfx rest hk.2 (fun y hy => hs y (by simp [hy])), ?_⟩
    · exact List.Pairwise.map _ (fun a b hne e => hne (Prod.ext (append_pair_inj e).2.1 (append_pair_inj e).2.2))
        (hs x (by simp))
    · intro a ha b hb e
      obtain ⟨ti, _, rfl⟩ := List.mem_map.mp ha
      obtain ⟨y, hy, hb⟩ := List.mem_flatMap.mp hb
      obtain ⟨tj, _, rfl⟩ := List.mem_map.mp hb
      obtain ⟨e1, _, _⟩ := append_pair_inj e
      exact hk.1 (by rw [e1]; exact List.mem_map.mpr ⟨y, hy, rfl⟩)

theorem nodup_indexed_map {α β} (g : Nat → β) (hg : ∀ i j, g i = g j → i = j) (l : List α) :
    ((indexed l).map (fun ix => g ix.1)).Nodup := by
  have h : (((indexFrom 0 l).map (·.1)).map g).Nodup :=
    List.Pairwise.map g (fun i j hne e => hne (hg i j e)) (indexFrom_nodup 0 l)
  rw [List.map_map] at h
  exact h

theorem nodup_tagged {α} (t : Nat) (l : List α) : ((indexed l).map (fun ix => (t, ix.1))).Nodup :=
  nodup_indexed_map (fun i => (t, i)) (fun _ _ e => (Prod.mk.inj e).2) l

theorem nodup_children {α β} (parents : List α) (key : α → List Nat) (kids : α → List β) (t : Nat)
    (h : (parents.map key).Nodup) :
    (parents.flatMap fun x => (indexed (kids x)).map fun iy => key x ++ [t, iy.1]).Nodup := by
  have := nodup_keys key (fun x => (indexed (kids x)).map fun iy => (t, iy.1)) parents h (fun _ _ => nodup_tagged _ _)
  simpa [List.map_map, Function.comp_def] using this

/-- the containers of a file: the file itself (key `[]`) and every message (key = its path) -/
theorem containers_nodup (f : File) : (([] : List Nat) :: (fileMsgs f).map (·.1)).Nodup := by
  simp only [List.nodup_cons]
  refine ⟨?_, fileMsgs_nodup f⟩
  intro h
  obtain ⟨y, hy, e⟩ := List.mem_map.mp h
  exact fileMsgs_path_ne_nil f y hy e

theorem fileEnums_nodup (f : File) : ((fileEnums f).map (·.1)).Nodup := by
  have h := nodup_keys (α := List Nat × List (Nat × Nat)) (·.1) (·.2)
    (([], (indexed f.enums).map (fun ix => (5, ix.1))) ::
      (fileMsgs f).map (fun qm => (qm.1, (indexed qm.2.enums).map (fun ix => (4, ix.1)))))
    (by simpa [Function.comp_def] using containers_nodup f)
    (by
      intro x hx
      simp only [List.mem_cons, List.mem_map] at hx
      rcases hx with rfl | ⟨qm, _, rfl⟩ <;> exact nodup_tagged _ _)
  unfold fileEnums
  simpa [List.flatMap_map, List.map_flatMap, Function.comp_def] using h

theorem fileOneofs_nodup (f : File) : ((fileOneofs f).map (·.1)).Nodup := by
  unfold fileOneofs
  simpa [List.map_flatMap, Function.comp_def] using nodup_children (fileMsgs f) (·.1) (·.2.oneofs) 8 (fileMsgs_nodup f)

theorem fileSvcs_nodup (f : File) : ((fileSvcs f).map (·.1)).Nodup := by
  unfold fileSvcs
  simpa [Function.comp_def] using nodup_children [f] (fun _ => []) (·.svcs) 6 (by simp)

theorem fileRpcs_nodup (f : File) : ((fileRpcs f).map (·.1)).Nodup := by
  unfold fileRpcs
  simpa [List.map_flatMap, Function.comp_def] using nodup_children (fileSvcs f) (·.1) (·.2.rpcs) 2 (fileSvcs_nodup f)

theorem fileEnumValues_nodup (f : File) : ((fileEnumValues f).map (·.1)).Nodup := by
  unfold fileEnumValues
  simpa [List.map_flatMap, Function.comp_def] using nodup_children (fileEnums f) (·.1) (·.2.values) 2 (fileEnums_nodup f)

theorem nodup_two_tags {α β} (t t' : Nat) (ht : t ≠ t') (l : List α) (l' : List β) :
    ((indexed l).map (fun ix => (t, ix.1)) ++ (indexed l').map (fun ix => (t', ix.1))).Nodup := by
  rw [List.nodup_append]
  refine ⟨nodup_tagged t l, nodup_tagged t' l', ?_⟩
  intro a ha b hb e
  obtain ⟨x, _, rfl⟩ := List.mem_map.mp ha
  obtain ⟨y, _, rfl⟩ := List.mem_map.mp hb
  simp only [Prod.mk.injEq] at e
  exact ht e.1

theorem nodup_append_swap {α} {a b : List α} (h : (b ++ a).Nodup) : (a ++ b).Nodup := by
  rw [List.nodup_append] at h ⊢
  exact ⟨h.2.1, h.1, fun x hx y hy e => h.2.2 y hy x hx e.symm⟩

theorem fileFields_nodup (f : File) : ((fileFields f).map (·.1)).Nodup := by
  have h := nodup_keys (α := List Nat × List (Nat × Nat)) (·.1) (·.2)
    (([], (indexed f.exts).map (fun ix => (7, ix.1))) ::
      (fileMsgs f).map (fun qm => (qm.1, (indexed qm.2.fields).map (fun ix => (2, ix.1)) ++
        (indexed qm.2.exts).map (fun ix => (6, ix.1)))))
    (by simpa [Function.comp_def] using containers_nodup f)
    (by
      intro x hx
      simp only [List.mem_cons, List.mem_map] at hx
      rcases hx with rfl | ⟨qm, _, rfl⟩
      · exact nodup_tagged _ _
      · exact nodup_two_tags 2 6 (by decide) _ _)
  unfold fileFields
  rw [List.map_append]
  apply nodup_append_swap
  simpa [List.flatMap_map, List.map_flatMap, Function.comp_def] using h

end BufModel.Lint
