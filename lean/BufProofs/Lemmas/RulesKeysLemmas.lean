import BufProofs.Lemmas.RulesLemmas
import BufProofs.Lemmas.RulesResolveLemmas
/-
  C06, the configuration-key family (also used by the C16 migration lemmas): membership in `acceptedKeys`,
  and that an unknown id the user wrote is rejected.
-/
namespace BufProofs.C06
open BufModel.Path BufModel.Rules BufGen.RuleTables

theorem rulesInCategory_ne_nil_iff (rs : List RuleRow) (c : Id) :
    rulesInCategory rs c ≠ [] ↔ ∃ r ∈ rs, c ∈ r.categories := by
  unfold rulesInCategory
  simp only [ne_eq, List.map_eq_nil_iff, List.filter_eq_nil_iff, decide_eq_true_eq, Classical.not_forall,
    Classical.not_not, exists_prop]

theorem mem_acceptedKeys_iff (rs : List RuleRow) (id : Id) :
    id ∈ acceptedKeys rs ↔ isRuleId rs id = true ∨ rulesInCategory rs id ≠ [] := by
  rw [rulesInCategory_ne_nil_iff]
  unfold acceptedKeys ruleIdsOf categoryIdsOf isRuleId
  simp only [List.mem_append, List.mem_map, List.mem_flatMap, List.any_eq_true, decide_eq_true_eq]

theorem mem_acceptedKeys_of_expandOne {rs : List RuleRow} {id : Id} {e : List Id} (h0 : id ≠ "")
    (h : expandOne rs id = some e) : id ∈ acceptedKeys rs := by
  rw [mem_acceptedKeys_iff]
  have hk : ¬ Unknown rs id := fun hu => by
    rw [(expandOne_none_iff rs id).2 hu] at h
    cases h
  cases h1 : isRuleId rs id with
  | true => exact Or.inl rfl
  | false => exact Or.inr fun hc => hk ⟨h0, h1, hc⟩

/-- `newRulesConfig_rejects_unknown` for an id the user wrote: a non-blank entry of `use` is an entry
    of the effective `use`. -/
theorem unknown_key_rejected (all : List RuleRow) (lint : Bool) (c : CheckConfig)
    (hrs : rulesForType all lint ≠ []) (id : Id) (hu : Unknown (rulesForType all lint) id)
    (hin : (id ∈ c.use ∧ blankId id = false) ∨ (id ∈ c.except ∧ blankId id = false) ∨
           id ∈ c.ignoreOnly.map (·.1)) :
    ∃ e, newRulesConfig all lint c = .error e := by
  refine newRulesConfig_rejects_unknown all lint c hrs id hu (hin.imp_left fun h => ?_)
  refine (mem_effectiveUse _ _ _).2 (Or.inr ⟨fun hall => ?_, h⟩)
  rw [hall id h.1] at h
  cases h.2

end BufProofs.C06
