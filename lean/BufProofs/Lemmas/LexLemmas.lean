/-! The lexicographic order behind the string and path orders of the models: whatever satisfies the
    equations of the strict (or of the non-strict) lexicographic test is core's `<` (or `≤`) on lists, decided,
    and takes its order laws from core (`List.lt_irrefl`, `List.lt_trans`, `List.le_antisymm`, …).  A model's order is recognised in
    the lemma file that first needs it; its equations hold by `rfl`. -/
namespace BufProofs.LexLemmas
universe u
variable {α : Type u} [DecidableEq α] [LT α] [DecidableLT α]

/-- `r` is the order of the elements, which is irreflexive and trichotomous; `f` tests the heads with
    `r` in both directions before it looks at the tails.  (A model with a Boolean test `lt` has
    `r a b := lt a b = true`.) -/
theorem eq_decide_lt {f : List α → List α → Bool} {r : α → α → Prop} [DecidableRel r] (hr : ∀ a b, r a b ↔ a < b)
    (hirr : ∀ a : α, ¬ a < a) (htri : ∀ a b : α, ¬ a < b → ¬ b < a → a = b)
    (h00 : f [] [] = false) (h01 : ∀ b bs, f [] (b :: bs) = true) (h10 : ∀ a as, f (a :: as) [] = false)
    (hcc : ∀ a as b bs, f (a :: as) (b :: bs) = if r a b then true else if r b a then false else f as bs) :
    ∀ as bs, f as bs = decide (as < bs)
  | [], [] => by simp [h00]
  | [], _ :: _ => by simp [h01]
  | _ :: _, [] => by simp [h10]
  | a :: as, b :: bs => by
    rw [hcc, eq_decide_lt hr hirr htri h00 h01 h10 hcc as bs]
    simp only [hr, List.cons_lt_cons_iff]
    by_cases h1 : a < b
    · simp [h1]
    · by_cases h2 : b < a
      · have : a ≠ b := fun e => hirr a (e ▸ h2)
        simp [h1, h2, this]
      · obtain rfl := htri a b h1 h2
        simp [h1]

/-- The non-strict test: `[]` is below everything, the heads are tested with `r` in both directions first.
    Here `<` on the elements has to be asymmetric: irreflexivity and trichotomy do not give `¬ b < a` from `a < b`. -/
theorem eq_decide_le {f : List α → List α → Bool} {r : α → α → Prop} [DecidableRel r] (hr : ∀ a b, r a b ↔ a < b)
    (hasym : ∀ a b : α, a < b → ¬ b < a) (htri : ∀ a b : α, ¬ a < b → ¬ b < a → a = b)
    (h0 : ∀ bs, f [] bs = true) (h10 : ∀ a as, f (a :: as) [] = false)
    (hcc : ∀ a as b bs, f (a :: as) (b :: bs) = if r a b then true else if r b a then false else f as bs) :
    ∀ as bs, f as bs = decide (as ≤ bs)
  | [], bs => by simp [h0]
  | a :: as, [] => by simp [h10]
  | a :: as, b :: bs => by
    rw [hcc, eq_decide_le hr hasym htri h0 h10 hcc as bs]
    simp only [hr, ← List.not_lt, List.cons_lt_cons_iff, decide_not]
    by_cases h1 : a < b
    · have : ¬ b < a ∧ b ≠ a := ⟨hasym a b h1, fun e => hasym a a (e ▸ h1) (e ▸ h1)⟩
      simp [h1, this]
    · by_cases h2 : b < a
      · simp [h1, h2]
      · obtain rfl := htri a b h1 h2
        simp [h1]

omit [DecidableEq α] [LT α] [DecidableLT α] in
/-- Go compares strings byte by byte, which on valid UTF-8 is by code point. -/
theorem toNat_lt_iff (a b : Char) : a.toNat < b.toNat ↔ a < b := by
  simp only [Char.lt_def, Char.toNat, UInt32.lt_iff_toNat_lt]

omit [DecidableEq α] [LT α] [DecidableLT α] in
theorem char_eq_of_not_lt {a b : Char} (h1 : ¬ a < b) (h2 : ¬ b < a) : a = b :=
  Char.le_antisymm (Char.not_lt.mp h2) (Char.not_lt.mp h1)

end BufProofs.LexLemmas
