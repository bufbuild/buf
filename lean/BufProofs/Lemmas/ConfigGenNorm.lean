import BufProofs.Lemmas.ConfigGenLemmas
/-
  buf.gen.yaml: the EXACT effect of write + read on every configuration a reader produced
  (all three versions), `normalise` of BufModel.ConfigGen (C16); from it, when the round trip is
  the identity (`Representable`, and the same said on the documents of each version) and that
  writing is idempotent.
-/
namespace BufModel.ConfigGen

/-! ## what the three file readers return -/

theorem readV1Beta1_some {env : Env} {d : ExtGenV1Beta1} {c : GenFile}
    (h : readV1Beta1 env d = some c) :
    readManagedV1Beta1 env d.managed d.options = some c.managed ∧
      d.plugins.mapM readPluginV1Beta1 = some c.plugins ∧ c.typeInclude = [] ∧ c.inputs = [] := by
  rw [readV1Beta1, mapOpt_eq_mapM] at h
  rcases hm : readManagedV1Beta1 env d.managed d.options with _ | m <;>
    simp only [hm, reduceCtorEq, Option.ite_none_left_eq_some] at h
  rcases hps : d.plugins.mapM readPluginV1Beta1 with _ | ps <;>
    simp only [hps, reduceCtorEq, Option.some.injEq, and_false] at h
  obtain ⟨-, rfl⟩ := h
  exact ⟨rfl, rfl, rfl, rfl⟩

theorem readV1_some {env : Env} {d : ExtGenV1} {c : GenFile} (h : readV1 env d = some c) :
    readManagedV1 env d.managed = some c.managed ∧
      d.plugins.mapM (readPluginV1 env) = some c.plugins ∧ c.typeInclude = d.typesInclude ∧
      c.inputs = [] := by
  rw [readV1, mapOpt_eq_mapM] at h
  rcases hm : readManagedV1 env d.managed with _ | m <;>
    simp only [hm, reduceCtorEq, Option.ite_none_left_eq_some] at h
  rcases hps : d.plugins.mapM (readPluginV1 env) with _ | ps <;>
    simp only [hps, reduceCtorEq, Option.some.injEq, and_false] at h
  obtain ⟨-, rfl⟩ := h
  exact ⟨rfl, rfl, rfl, rfl⟩

theorem readV2_some {env : Env} {d : ExtGenV2} {c : GenFile} (h : readV2 env d = some c) :
    readManagedV2 env d.managed = some c.managed ∧
      d.plugins.mapM (readPluginV2 env) = some c.plugins ∧
      d.inputs.mapM readInputV2 = some c.inputs ∧ c.typeInclude = [] := by
  rw [readV2, mapOpt_eq_mapM, mapOpt_eq_mapM] at h
  rcases hm : readManagedV2 env d.managed with _ | m <;> simp only [hm, reduceCtorEq] at h
  rcases hps : d.plugins.mapM (readPluginV2 env) with _ | ps <;>
    simp only [hps, reduceCtorEq] at h
  rcases his : d.inputs.mapM readInputV2 with _ | is <;>
    simp only [his, reduceCtorEq, Option.some.injEq] at h
  subst h
  exact ⟨rfl, rfl, rfl, rfl⟩

/-! ## read ∘ write = normalise -/

/-- Every component of `c` is as a reader makes it. -/
def Good (env : Env) (c : GenFile) : Prop :=
  (∀ p ∈ c.plugins, Built env p) ∧ ManagedGood env c.managed ∧ (∀ i ∈ c.inputs, InputNorm i)

theorem readGen_good {env : Env} {e : ExtGen} {c : GenFile} (h : readGen env e = some c) :
    Good env c := by
  cases e with
  | v1beta1 d =>
    obtain ⟨hm, hps, -, hi⟩ := readV1Beta1_some h
    exact ⟨BufProofs.ListLemmas.mapM_forall (fun _ _ => readPluginV1Beta1_built) hps, readManagedV1Beta1_good hm,
      hi ▸ List.forall_mem_nil _⟩
  | v1 d =>
    obtain ⟨hm, hps, -, hi⟩ := readV1_some h
    exact ⟨BufProofs.ListLemmas.mapM_forall (fun _ _ => readPluginV1_built) hps, readManagedV1_good hm,
      hi ▸ List.forall_mem_nil _⟩
  | v2 d =>
    obtain ⟨hm, hps, his, -⟩ := readV2_some h
    exact ⟨BufProofs.ListLemmas.mapM_forall (fun _ _ => readPluginV2_built) hps, readManagedV2_good hm,
      BufProofs.ListLemmas.mapM_forall (fun _ _ => readInputV2_norm) his⟩

theorem good_reread {env : Env} {c : GenFile} (hg : Good env c) :
    readGen env (.v2 (writeGen env c)) = some (normalise env c) := by
  obtain ⟨hp, hm, hi⟩ := hg
  simp only [readGen, readV2, writeGen, mapOpt_eq_mapM]
  rw [managed_roundtrip hm,
    BufProofs.ListLemmas.mapM_map_some _ _ (normPlugin env) c.plugins (fun p hpm => (hp p hpm).norm),
    BufProofs.ListLemmas.mapM_map_some _ _ normInput c.inputs hi]
  rfl

theorem gen_reread_eq_normalise {env : Env} {e : ExtGen} {c : GenFile}
    (h : readGen env e = some c) :
    readGen env (.v2 (writeGen env c)) = some (normalise env c) :=
  good_reread (readGen_good h)

/-! ## `normalise` is a projection and its fixed points are the representable configurations -/

theorem normPlugin_idem (env : Env) (p : Plugin) :
    normPlugin env (normPlugin env p) = normPlugin env p := by
  cases ht : p.type
  · simp only [normPlugin, ht]
  · simp only [normPlugin, ht]
  · simp only [normPlugin, ht]
  · by_cases hc : (env.lookPath (protocGen p.name) || !decide (p.name ∈ protocProxyPluginNames)) = true
    · simp only [normPlugin, ht, hc, if_true, joinSp_singleton]
    · simp only [normPlugin, ht, hc, if_false, Bool.false_eq_true]

theorem normInput_idem (i : Input) : normInput (normInput i) = normInput i := rfl

theorem normalise_idem (env : Env) (c : GenFile) :
    normalise env (normalise env c) = normalise env c := by
  simp only [normalise, List.map_map]
  congr 1
  · apply List.map_congr_left
    intro p _
    exact normPlugin_idem env p

theorem normPlugin_eq_self_iff (env : Env) (p : Plugin) : normPlugin env p = p ↔ RepPlugin p := by
  constructor
  · intro h
    cases ht : p.type
    · simp only [normPlugin, ht] at h
      refine ⟨(by rw [ht]; decide), (by intro hc; rw [ht] at hc; cases hc), ?_, ?_⟩
      · rw [← h]
      · rw [← h]
    · simp only [normPlugin, ht] at h
      refine ⟨(by rw [ht]; decide), fun _ => ?_, ?_, ?_⟩
      · have := congrArg Plugin.name h; simpa using this.symm
      · rw [← h]
      · rw [← h]
    · simp only [normPlugin, ht] at h
      refine ⟨(by rw [ht]; decide), (by intro hc; rw [ht] at hc; cases hc), ?_, ?_⟩
      · rw [← h]
      · rw [← h]
    · exfalso
      simp only [normPlugin, ht] at h
      split at h
      · have := congrArg Plugin.type h; rw [ht] at this; cases this
      · have := congrArg Plugin.type h; rw [ht] at this; cases this
  · intro ⟨h1, h2, h3, h4⟩
    cases ht : p.type
    · simp only [normPlugin, ht]; cases p; simp_all
    · have := h2 ht
      simp only [normPlugin, ht]; cases p; simp_all
    · simp only [normPlugin, ht]; cases p; simp_all
    · exact absurd ht h1

theorem normInput_eq_self_iff (i : Input) : normInput i = i ↔ i.excludeTypes = [] := by
  constructor
  · intro h; rw [← h]; rfl
  · intro h; cases i; simp_all [normInput]

theorem normalise_eq_self_iff (env : Env) (c : GenFile) : normalise env c = c ↔ Representable c := by
  constructor
  · intro h
    have hp : c.plugins.map (normPlugin env) = c.plugins := by
      have := congrArg GenFile.plugins h; simpa [normalise] using this
    have ht : ([] : List Str) = c.typeInclude := by
      have := congrArg GenFile.typeInclude h; simpa [normalise] using this
    have hi : c.inputs.map normInput = c.inputs := by
      have := congrArg GenFile.inputs h; simpa [normalise] using this
    refine ⟨fun p hpm => (normPlugin_eq_self_iff env p).mp ((BufProofs.ListLemmas.map_eq_self_iff _ _).mp hp p hpm),
      ht.symm, fun i him => (normInput_eq_self_iff i).mp ((BufProofs.ListLemmas.map_eq_self_iff _ _).mp hi i him)⟩
  · intro ⟨hp, ht, hi⟩
    have hp' : c.plugins.map (normPlugin env) = c.plugins :=
      (BufProofs.ListLemmas.map_eq_self_iff _ _).mpr fun p hpm => (normPlugin_eq_self_iff env p).mpr (hp p hpm)
    have hi' : c.inputs.map normInput = c.inputs :=
      (BufProofs.ListLemmas.map_eq_self_iff _ _).mpr fun i him => (normInput_eq_self_iff i).mpr (hi i him)
    cases c
    simp_all [normalise]

/-- A normal form is representable: the SECOND write + read is always the identity. -/
theorem representable_normalise (env : Env) (c : GenFile) : Representable (normalise env c) :=
  (normalise_eq_self_iff env _).mp (normalise_idem env c)

theorem gen_roundtrip_iff {env : Env} {e : ExtGen} {c : GenFile} (h : readGen env e = some c) :
    readGen env (.v2 (writeGen env c)) = some c ↔ Representable c := by
  rw [gen_reread_eq_normalise h, Option.some.injEq]
  exact normalise_eq_self_iff env c

theorem gen_roundtrip_partial {env : Env} {e : ExtGen} {c : GenFile}
    (h : readGen env e = some c) (hr : Representable c) :
    readGen env (.v2 (writeGen env c)) = some c :=
  (gen_roundtrip_iff h).mpr hr

/-! ## the writer does not see the difference: writing is idempotent for EVERY accepted document -/

theorem writePlugin_normPlugin (env : Env) (p : Plugin) (hs : LoPBShape p) :
    writePlugin env (normPlugin env p) = writePlugin env p := by
  cases ht : p.type
  · simp only [normPlugin, ht, writePlugin]
  · simp only [normPlugin, ht, writePlugin]
  · simp only [normPlugin, ht, writePlugin]
  · have hpp := hs ht
    by_cases hl : env.lookPath (protocGen p.name) = true
    · simp [normPlugin, ht, writePlugin, hl, fromStrs]
    · by_cases hm : p.name ∈ protocProxyPluginNames
      · simp [normPlugin, ht, writePlugin, hl, hm, hpp, fromStrs]
      · simp [normPlugin, ht, writePlugin, hl, hm, fromStrs]

theorem writeGen_normalise (env : Env) (c : GenFile) (hs : ∀ p ∈ c.plugins, LoPBShape p) :
    writeGen env (normalise env c) = writeGen env c := by
  simp only [writeGen, normalise, List.map_map]
  congr 1
  · apply List.map_congr_left
    intro p hp
    exact writePlugin_normPlugin env p (hs p hp)

theorem gen_write_idempotent {env : Env} {e : ExtGen} {c c' : GenFile}
    (h : readGen env e = some c)
    (h' : readGen env (.v2 (writeGen env c)) = some c') : writeGen env c' = writeGen env c := by
  rw [gen_reread_eq_normalise h] at h'
  injection h' with h'
  rw [← h']
  exact writeGen_normalise env c fun p hp => ((readGen_good h).1 p hp).shape

theorem gen_write_idempotent_partial {env : Env} {e : ExtGen} {c c' : GenFile}
    (h : readGen env e = some c) (hr : Representable c)
    (h' : readGen env (.v2 (writeGen env c)) = some c') : writeGen env c' = writeGen env c :=
  gen_write_idempotent h h'

/-! ## which documents are covered by the identity round trip, stated on the documents -/

theorem gen_roundtrip_v1beta1_iff {env : Env} {d : ExtGenV1Beta1} {c : GenFile}
    (h : readGen env (.v1beta1 d) = some c) :
    readGen env (.v2 (writeGen env c)) = some c ↔ ∀ x ∈ d.plugins, x.path ≠ [] ∧ x.name = x.path := by
  obtain ⟨-, hps, ht, hi⟩ := readV1Beta1_some h
  rw [gen_roundtrip_iff h, BufProofs.ListLemmas.mapM_forall_iff (fun _ _ hxy => (readPluginV1Beta1_rep_iff hxy).symm) hps]
  simp [Representable, ht, hi]

theorem gen_roundtrip_v1_iff {env : Env} {d : ExtGenV1} {c : GenFile}
    (h : readGen env (.v1 d) = some c) :
    readGen env (.v2 (writeGen env c)) = some c ↔
      (d.typesInclude = [] ∧ ∀ x ∈ d.plugins, RepPluginV1 env x) := by
  obtain ⟨-, hps, ht, hi⟩ := readV1_some h
  rw [gen_roundtrip_iff h, BufProofs.ListLemmas.mapM_forall_iff (fun _ _ hxy => (readPluginV1_rep_iff hxy).symm) hps]
  simp only [Representable, ht, hi, List.not_mem_nil, false_imp_iff, implies_true, and_true]
  exact And.comm

theorem gen_roundtrip_v2_iff {env : Env} {d : ExtGenV2} {c : GenFile}
    (h : readGen env (.v2 d) = some c) :
    readGen env (.v2 (writeGen env c)) = some c ↔
      ((∀ x ∈ d.plugins, x.types = [] ∧ x.excludeTypes = []) ∧ ∀ x ∈ d.inputs, x.excludeTypes = []) := by
  obtain ⟨-, hps, his, ht⟩ := readV2_some h
  rw [gen_roundtrip_iff h, BufProofs.ListLemmas.mapM_forall_iff (fun _ _ hxy => (readPluginV2_rep_iff hxy).symm) hps,
    BufProofs.ListLemmas.mapM_forall_iff (P := fun x : ExtInputV2 => x.excludeTypes = [])
      (Q := fun i : Input => i.excludeTypes = [])
      (fun _ _ hxy => by rw [readInputV2_excludeTypes hxy]) his]
  simp [Representable, ht]

/-- **Round trip for v2 documents**, hypothesis on the document only: a v2 buf.gen.yaml whose
    plugins carry no `types` / `exclude_types` and whose inputs carry no `exclude_types` (the
    keys the writer drops, as coded) is read, written and read again to the same configuration. -/
theorem gen_roundtrip_v2 {env : Env} {d : ExtGenV2} {c : GenFile}
    (h : readGen env (.v2 d) = some c)
    (hp : ∀ x ∈ d.plugins, x.types = [] ∧ x.excludeTypes = [])
    (hi : ∀ x ∈ d.inputs, x.excludeTypes = []) :
    readGen env (.v2 (writeGen env c)) = some c :=
  (gen_roundtrip_v2_iff h).mpr ⟨hp, hi⟩

/-! ## witnesses: the normal form of the recorded families -/

/-- v1beta1 `plugins: [{name: go, out: gen}]`. -/
def v1beta1Go : ExtGen :=
  .v1beta1
    { managed := false
      options := ⟨none, none, []⟩
      plugins := [{ name := "go".toList, out := "gen".toList, opt := .nil, path := [], strategy := [] }] }

/-- (nothing on PATH) it reads as LocalOrProtocBuiltin "go" and re-reads as Local
    "protoc-gen-go" with path [protoc-gen-go]. -/
example :
    (∃ c, readGen env0 v1beta1Go = some c ∧
      (c.plugins.map fun p => (p.type, p.name, p.path)) = [(.localOrProtocBuiltin, "go".toList, [])] ∧
      ((normalise env0 c).plugins.map fun p => (p.type, p.name, p.path)) =
        [(.local_, "protoc-gen-go".toList, ["protoc-gen-go".toList])]) :=
  ⟨(readGen env0 v1beta1Go).get (by decide +kernel), by simp, by decide +kernel, by decide +kernel⟩

/-- v1 `plugins: [{name: java, out: gen}]` (nothing on PATH): re-reads as ProtocBuiltin "java". -/
example :
    let e := plugV1 { plugin := [], name := "java".toList, out := "gen".toList, revision := 0,
                      opt := .nil, path := .nil, protocPath := .nil, strategy := [] } []
    (∃ c, readGen env0 e = some c ∧
      ((normalise env0 c).plugins.map fun p => (p.type, p.name, p.path)) =
        [(.protocBuiltin, "java".toList, [])]) := by
  intro e
  exact ⟨(readGen env0 e).get (by decide +kernel), by simp, by decide +kernel⟩

end BufModel.ConfigGen
