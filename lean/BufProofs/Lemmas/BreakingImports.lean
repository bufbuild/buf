import BufModel.Breaking
/-
  Images with import files and the exclude-imports option (BufModel/Breaking.lean, last section).
  * `ruleTableT_ann`, `runRuleT_ann`, `checkT_ann`: the TAGGED rules (annotation + file of its against
    location), projected to the annotation, are the untagged rules the C03 / C04 theorems are about —
    stated once for the whole dispatch table, by pushing the projection through the pair handlers.
  * `mem_exclFilter`, `exclFilter_noImports`: the client's exclude-imports filter.
-/
namespace BufProofs.Breaking
open BufModel.Schema BufModel.Breaking

/-! ### the tagged rules, projected, are the untagged rules -/

theorem map_tag (ag : Option String) (as : List Ann) : (tag ag as).map (·.ann) = as := by
  unfold tag
  induction as with
  | nil => rfl
  | cons a t ih => simp only [List.map_cons, ih]

theorem map_pairwiseG {α κ β γ : Type} [DecidableEq κ] (g : β → γ) (key : α → κ) (cur prev : List α)
    (om : α → List β) (op : α → α → List β) :
    (pairwiseG key cur prev om op).map g =
      pairwiseG key cur prev (fun p => (om p).map g) (fun c p => (op c p).map g) := by
  unfold pairwiseG
  rw [List.map_flatMap]
  congr 1
  funext p
  cases cur.find? (fun c => decide (key c = key p)) <;> rfl

theorem pairwiseG_ann {α κ : Type} [DecidableEq κ] (key : α → κ) (cur prev : List α)
    (om : α → List Ann) (op : α → α → List Ann) :
    pairwiseG key cur prev om op = pairwise key cur prev om op := rfl

theorem ruleTableT_ann :
    ruleTableT.map (fun e => (e.1, fun cur prev => (e.2 cur prev).map (·.ann))) = ruleTable := by
  -- unfold every tagged handler, push `.map (·.ann)` inward through the pair handlers and drop the
  -- tags: what is left of each entry is the body of the untagged handler, which `rfl` unfolds
  simp only [ruleTableT, List.map_cons, List.map_nil,
    ruleEnumNoDeleteT, ruleExtensionNoDeleteT, ruleFileNoDeleteT, ruleMessageNoDeleteT, ruleServiceNoDeleteT,
    ruleEnumSameTypeT, ruleEnumSameJsonFormatT, enumValueNoDeleteT, ruleEnumValueSameNameT,
    ruleReservedEnumNoDeleteT, ruleExtensionMessageNoDeleteT, fieldNoDeleteT, ruleMessageNoRemoveStdAccessorT,
    ruleOneofNoDeleteT, ruleMessageSameJsonFormatT, ruleMessageSameRequiredFieldsT, ruleReservedMessageNoDeleteT,
    cardRuleT, ruleFieldSameTypeT, ruleFieldWireCompatibleTypeT, ruleFieldWireJsonCompatibleTypeT,
    ruleFieldSameJstypeT, ruleFieldSameUtf8ValidationT, ruleFieldSameJsonNameT, ruleFieldSameNameT,
    ruleFieldSameDefaultT, ruleFieldSameOneofT, ruleRpcNoDeleteT, methodSameT, rulePackageEnumNoDeleteT,
    rulePackageExtensionNoDeleteT, rulePackageMessageNoDeleteT, rulePackageServiceNoDeleteT, rulePackageNoDeleteT,
    ruleFileSameSyntaxT, ruleFileSamePackageT, fileSameT,
    filePairsG, enumPairsG, msgPairsG, svcPairsG, fieldPairsG, methodPairsG,
    List.map_append, map_pairwiseG, map_tag, List.map_nil, pairwiseG_ann, List.map_flatMap,
    apply_ite (List.map _), List.map_map]
  rfl

theorem lookup_map_snd {α β : Type} (g : α → β) (id : String) :
    ∀ l : List (String × α), (l.map fun e => (e.1, g e.2)).lookup id = (l.lookup id).map g
  | [] => rfl
  | (k, _) :: l => by
    simp only [List.map_cons, List.lookup_cons]
    cases id == k
    · exact lookup_map_snd g id l
    · rfl

theorem ruleFileSameOptionT_ann (rule : String) (n : Nat) (cur prev : Schema) :
    (ruleFileSameOptionT rule n cur prev).map (·.ann) = ruleFileSameOption rule n cur prev := by
  simp only [ruleFileSameOptionT, ruleFileSameOption, fileSameT, fileSame, filePairsG, filePairs,
    map_pairwiseG, map_tag, List.map_nil, pairwiseG_ann]

theorem runRuleT_ann (id : String) (cur prev : Schema) :
    (runRuleT id cur prev).map (·.ann) = runRule id cur prev := by
  have h := lookup_map_snd (fun (f : Schema → Schema → List TAnn) cur prev => (f cur prev).map (·.ann)) id ruleTableT
  rw [ruleTableT_ann] at h
  unfold runRuleT runRule
  rw [h]
  cases ruleTableT.lookup id
  · cases fileOptRules.lookup id
    · rfl
    · exact ruleFileSameOptionT_ann id _ cur prev
  · rfl

theorem checkT_ann (v : Ver) (cat : String) (cur prev : Schema) :
    (checkT v cat cur prev).map (·.ann) = check v cat cur prev := by
  unfold checkT check
  rw [List.map_flatMap]
  congr 1
  funext id
  exact runRuleT_ann id cur prev

/-! ### the exclude-imports filter -/

theorem mem_exclFilter {cur prev : Schema} {ts : List TAnn} {a : Ann} (h : a ∈ exclFilter cur prev ts) :
    ∃ t ∈ ts, t.ann = a ∧ dropped cur prev t = false := by
  unfold exclFilter at h
  rcases List.mem_map.1 h with ⟨t, ht, rfl⟩
  rcases List.mem_filter.1 ht with ⟨hm, hd⟩
  exact ⟨t, hm, rfl, by simpa using hd⟩

def NoImports (s : Schema) : Prop := ∀ f ∈ s, f.isImport = false

theorem impOf_noImports {s : Schema} (h : NoImports s) (path : String) : impOf s path = false := by
  unfold impOf
  cases hf : s.find? (fun f => decide (f.path = path)) with
  | none => rfl
  | some f => exact h f (List.mem_of_find?_eq_some hf)

theorem dropped_noImports {cur prev : Schema} (hc : NoImports cur) (hp : NoImports prev) (t : TAnn) :
    dropped cur prev t = false := by
  unfold dropped
  rw [impOf_noImports hc]
  cases t.against <;> simp [impOf_noImports hp]

theorem exclFilter_noImports {cur prev : Schema} (hc : NoImports cur) (hp : NoImports prev) (ts : List TAnn) :
    exclFilter cur prev ts = ts.map (·.ann) := by
  unfold exclFilter
  congr 1
  apply List.filter_eq_self.2
  intro t _
  simp [dropped_noImports hc hp t]

theorem checkX_subset (v : Ver) (cat : String) (cur prev : Schema) (a : Ann)
    (h : a ∈ checkX true v cat cur prev) : a ∈ check v cat cur prev := by
  rcases mem_exclFilter h with ⟨t, ht, rfl, _⟩
  rw [← checkT_ann]
  exact List.mem_map.2 ⟨t, ht, rfl⟩

theorem checkX_nil_of_check_nil (excl : Bool) (v : Ver) (cat : String) (cur prev : Schema)
    (h : check v cat cur prev = []) : checkX excl v cat cur prev = [] := by
  cases excl
  · exact h
  · apply List.eq_nil_iff_forall_not_mem.2
    intro a ha
    have := checkX_subset v cat cur prev a ha
    rw [h] at this
    exact absurd this (List.not_mem_nil)


end BufProofs.Breaking
