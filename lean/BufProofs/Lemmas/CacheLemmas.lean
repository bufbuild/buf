import BufModel.Cache
import BufProofs.Lemmas.BucketLemmas
import BufProofs.Props.C15
/-
  The module-cache writer protocol (C09).  `Row`: the transition table of `step` (`step_cases`,
  `Fires.step_eq`); every fact about one step is read off it.  `Inv`: the inductive invariant, for
  every interleaving of any number of writers with crashes and failures; files are written in any
  order, several in flight, each holding an arbitrary prefix.  On top of it: who can change the entry
  and the marker (`Row.active`, `Row.entry`); a fault-free store completes the entry
  (`store_completes`); a complete entry loads as a hit (`complete_loads_hit`); the write phase under a
  C15 fault schedule (`storeRun_ok_eq`: success is the payload put, then the marker put;
  `storeRun_err_marker_untouched`); the tar entry.
-/
namespace BufModel.Cache
open BufModel.Path BufModel.Bucket

/-- Well-formed expectation: payload paths are distinct and none is the marker. -/
structure WF (exp : Expected) : Prop where
  nodup : (exp.payload.map (·.1)).Nodup
  noMarker : markerPath ∉ exp.payload.map (·.1)

def Complete (exp : Expected) (entry : Mem) : Prop :=
  ∀ pc ∈ exp.payload, entry.find pc.1 = some pc.2

def OnlyPayloadKeys (exp : Expected) (entry : Mem) : Prop :=
  ∀ kv ∈ entry, kv.1 = markerPath ∨ kv.1 ∈ exp.payload.map (·.1)

structure Inv (exp : Expected) (s : Sys) : Prop where
  markerComplete : markerOK s.entry = true → Complete exp s.entry ∧ s.entry.find markerPath = some markerCanonical
  /-- the writer inside a store holds the lock, there is no valid marker, every `done` object is
      there in full, every in-flight object is not done and holds exactly the recorded prefix -/
  writing : ∀ w done infl, s.writers[w]? = some (.writing done infl) →
    s.lock = some w ∧ markerOK s.entry = false ∧
      (∀ i ∈ done, ∀ pc, exp.payload[i]? = some pc → s.entry.find pc.1 = some pc.2) ∧
      (∀ ik ∈ infl, ik.1 ∉ done ∧ ∃ pc, exp.payload[ik.1]? = some pc ∧ ik.2 ≤ pc.2.length ∧
          s.entry.find pc.1 = some (takeStr ik.2 pc.2))
  lockHeld : ∀ w, s.lock = some w → ∃ done infl, s.writers[w]? = some (.writing done infl)
  keys : OnlyPayloadKeys exp s.entry
  nodupKeys : NodupKeys s.entry

theorem find_putObj_eq (m : Mem) (p : Str) (c : Content) : (putObj m p c).find p = some c := find_cons_eq _ _ _

theorem find_putObj_ne (m : Mem) (p q : Str) (c : Content) (h : p ≠ q) : (putObj m p c).find q = m.find q := by
  unfold putObj; rw [find_cons_ne _ _ _ _ h, find_erase_ne _ _ _ h]

theorem markerOK_putObj_ne (m : Mem) (p : Str) (c : Content) (h : p ≠ markerPath) :
    markerOK (putObj m p c) = markerOK m := by
  unfold markerOK; rw [find_putObj_ne _ _ _ _ h]

theorem markerGarbled_putObj_ne (m : Mem) (p : Str) (c : Content) (h : p ≠ markerPath) :
    markerGarbled (putObj m p c) = markerGarbled m := by
  unfold markerGarbled; rw [find_putObj_ne _ _ _ _ h]

theorem markerOK_of_garbled {e : Mem} (hg : markerGarbled e = true) : markerOK e = false := by
  unfold markerGarbled at hg; unfold markerOK
  cases hf : e.find markerPath with
  | none => rfl
  | some tok => rw [hf] at hg; simp only [decide_eq_true_eq] at hg; subst hg; decide

theorem markerOK_putObj_canonical (m : Mem) : markerOK (putObj m markerPath markerCanonical) = true := by
  unfold markerOK; rw [find_putObj_eq]; decide

theorem onlyKeys_putObj {exp : Expected} {m : Mem} (h : OnlyPayloadKeys exp m) (p : Str) (c : Content)
    (hp : p = markerPath ∨ p ∈ exp.payload.map (·.1)) : OnlyPayloadKeys exp (putObj m p c) := by
  intro kv hkv
  rcases List.mem_cons.mp hkv with e | hm
  · subst e; exact hp
  · exact h kv (List.mem_filter.mp hm).1

theorem payload_path_mem {exp : Expected} {i : Nat} {pc : Str × Content} (h : exp.payload[i]? = some pc) :
    pc.1 ∈ exp.payload.map (·.1) :=
  List.mem_map.mpr ⟨pc, List.mem_of_getElem? h, rfl⟩

theorem payload_path_ne_marker {exp : Expected} (wf : WF exp) {i : Nat} {pc : Str × Content}
    (h : exp.payload[i]? = some pc) : pc.1 ≠ markerPath := by
  intro e; exact wf.noMarker (e ▸ payload_path_mem h)

theorem payload_paths_distinct {exp : Expected} (wf : WF exp) {i j : Nat} {a b : Str × Content}
    (hi : exp.payload[i]? = some a) (hj : exp.payload[j]? = some b) (hne : i ≠ j) : a.1 ≠ b.1 := by
  intro e
  have hi' : (exp.payload.map (·.1))[i]? = some a.1 := by simp [List.getElem?_map, hi]
  have hj' : (exp.payload.map (·.1))[j]? = some b.1 := by simp [List.getElem?_map, hj]
  rw [e] at hi'
  have hil : i < (exp.payload.map (·.1)).length := by
    rcases List.getElem?_eq_some_iff.mp hi' with ⟨h, _⟩; exact h
  have := (List.getElem?_inj hil wf.nodup (j := j)).mp (by rw [hi', hj'])
  exact hne this

theorem writing_unique {exp : Expected} {s : Sys} (inv : Inv exp s) {w w' : Nat} {d d' : List Nat}
    {f f' : List (Nat × Nat)}
    (h : s.writers[w]? = some (.writing d f)) (h' : s.writers[w']? = some (.writing d' f')) : w = w' := by
  have a := (inv.writing w d f h).1
  have b := (inv.writing w' d' f' h').1
  rw [a] at b; exact Option.some.inj b

theorem lt_of_getElem?_some {α : Type} {l : List α} {i : Nat} {a : α} (h : l[i]? = some a) : i < l.length :=
  let ⟨h, _⟩ := List.getElem?_eq_some_iff.mp h; h

/-! ### in-flight bookkeeping -/

theorem takeStr_zero (c : Content) : takeStr 0 c = "" := by simp [takeStr]

theorem takeStr_length (c : Content) : takeStr c.length c = c := by
  unfold takeStr
  rw [← String.length_toList, List.take_length, String.ofList_toList]

theorem inflK_some_mem {infl : List (Nat × Nat)} {i k : Nat} (h : inflK infl i = some k) : (i, k) ∈ infl := by
  induction infl with
  | nil => cases h
  | cons jk rest ih =>
    obtain ⟨j, k'⟩ := jk
    unfold inflK at h
    split at h
    · rename_i e; subst e; injection h with h; subst h; exact List.mem_cons_self
    · exact List.mem_cons_of_mem _ (ih h)

theorem inflK_none_ne {infl : List (Nat × Nat)} {i : Nat} (h : inflK infl i = none) :
    ∀ ik ∈ infl, ik.1 ≠ i := by
  induction infl with
  | nil => intro ik hik; cases hik
  | cons jk rest ih =>
    obtain ⟨j, k'⟩ := jk
    unfold inflK at h
    split at h
    · cases h
    · rename_i hne
      intro ik hik
      rcases List.mem_cons.mp hik with e | hr
      · subst e; exact hne
      · exact ih h ik hr

theorem inflK_cons_eq (infl : List (Nat × Nat)) (i k : Nat) : inflK ((i, k) :: infl) i = some k := by
  simp [inflK]

theorem inflK_cons_ne (infl : List (Nat × Nat)) (i j k : Nat) (h : j ≠ i) :
    inflK ((j, k) :: infl) i = inflK infl i := by
  simp [inflK, h]

theorem inflK_dropIdx_ne (infl : List (Nat × Nat)) (i j : Nat) (h : i ≠ j) :
    inflK (dropIdx infl i) j = inflK infl j := by
  induction infl with
  | nil => rfl
  | cons jk rest ih =>
    obtain ⟨a, k'⟩ := jk
    by_cases ha : a = i
    · subst ha
      have : dropIdx ((a, k') :: rest) a = dropIdx rest a := by simp [dropIdx]
      rw [this, ih, inflK_cons_ne _ _ _ _ h]
    · have : dropIdx ((a, k') :: rest) i = (a, k') :: dropIdx rest i := by simp [dropIdx, ha]
      rw [this]
      by_cases haj : a = j
      · subst haj; rw [inflK_cons_eq, inflK_cons_eq]
      · rw [inflK_cons_ne _ _ _ _ haj, inflK_cons_ne _ _ _ _ haj]; exact ih

theorem mem_dropIdx {infl : List (Nat × Nat)} {i : Nat} {ik : Nat × Nat} (h : ik ∈ dropIdx infl i) :
    ik ∈ infl ∧ ik.1 ≠ i := by
  have := List.mem_filter.mp h
  exact ⟨this.1, by simpa using this.2⟩

theorem allDone_iff (n : Nat) (done : List Nat) : allDone n done = true ↔ ∀ i, i < n → i ∈ done := by
  unfold allDone
  simp [List.all_eq_true, List.mem_range]

/-! ### the transition table -/

theorem commit_guard {n : Nat} {done : List Nat} {infl : List (Nat × Nat)} :
    (infl.isEmpty && allDone n done) = true ↔ infl = [] ∧ ∀ i, i < n → i ∈ done := by
  rw [Bool.and_eq_true, List.isEmpty_iff, allDone_iff]

theorem truncate_guard {done : List Nat} {infl : List (Nat × Nat)} {i : Nat} :
    ¬ (done.contains i || (inflK infl i).isSome) = true ↔ i ∉ done ∧ inflK infl i = none := by
  simp

/-- The transition table of `step`: `Row exp s w a pc pc' entry' lock'` — writer `w`, being at `pc`,
    may do `a`; it goes to `pc'` and leaves entry `entry'` and lock `lock'`.  One constructor per
    branch of `step` that changes the system, the guard of the branch as hypotheses. -/
inductive Row (exp : Expected) (s : Sys) (w : Nat) : Act → WPc → WPc → Mem → Option Nat → Prop
  | acquireValid (hl : s.lock = none) (hm : markerOK s.entry = true) :
    Row exp s w (.acquire w) .start (.finished true) s.entry s.lock
  | acquireGarbled (hl : s.lock = none) (hm : markerOK s.entry = false) (hg : markerGarbled s.entry = true) :
    Row exp s w (.acquire w) .start (.finished false) s.entry s.lock
  | acquire (hl : s.lock = none) (hm : markerOK s.entry = false) (hg : markerGarbled s.entry = false) :
    Row exp s w (.acquire w) .start (.writing [] []) s.entry (some w)
  | truncate {i done infl p c} (hp : exp.payload[i]? = some (p, c)) (hd : i ∉ done) (hf : inflK infl i = none) :
    Row exp s w (.truncate w i) (.writing done infl) (.writing done ((i, 0) :: infl)) (putObj s.entry p "") s.lock
  | grow {i k done infl p c k0} (hp : exp.payload[i]? = some (p, c)) (hf : inflK infl i = some k0)
      (hk : k0 ≤ k ∧ k ≤ c.length) :
    Row exp s w (.grow w i k) (.writing done infl) (.writing done ((i, k) :: dropIdx infl i))
      (putObj s.entry p (takeStr k c)) s.lock
  | fill {i done infl p c k0} (hp : exp.payload[i]? = some (p, c)) (hf : inflK infl i = some k0) :
    Row exp s w (.fill w i) (.writing done infl) (.writing (i :: done) (dropIdx infl i)) (putObj s.entry p c) s.lock
  | fail {done infl} : Row exp s w (.fail w) (.writing done infl) (.finished false) s.entry none
  | commit {done} (hall : ∀ i, i < exp.payload.length → i ∈ done) :
    Row exp s w (.commit w) (.writing done []) (.finished true) (putObj s.entry markerPath markerCanonical) none
  | commitFail {done} (hall : ∀ i, i < exp.payload.length → i ∈ done) :
    Row exp s w (.commitFail w) (.writing done []) (.finished false) s.entry none
  | crashWriting {done infl} : Row exp s w (.crash w) (.writing done infl) .crashed s.entry none
  | crashStart : Row exp s w (.crash w) .start .crashed s.entry s.lock

/-- `step` is the table made total: an action without a row does nothing (`step_cases`, `Fires.step_eq`). -/
inductive Fires (exp : Expected) (s : Sys) (a : Act) : Sys → Prop
  | intro {w : Nat} {pc pc' : WPc} {e' : Mem} {l' : Option Nat} (at_pc : s.writers[w]? = some pc)
      (row : Row exp s w a pc pc' e' l') : Fires exp s a ⟨e', l', setPc s.writers w pc'⟩

/-- The one case analysis of `step`. -/
theorem step_cases (exp : Expected) (s : Sys) (a : Act) : step exp s a = s ∨ Fires exp s a (step exp s a) := by
  cases a <;> simp only [step] <;> repeat' split
  all_goals first | exact Or.inl rfl | right
  · exact ⟨‹_›, .acquireValid ‹_› ‹_›⟩
  · exact ⟨‹_›, .acquireGarbled ‹_› (by simpa using ‹¬ markerOK s.entry = true›) ‹_›⟩
  · exact ⟨‹_›, .acquire ‹_› (by simpa using ‹¬ markerOK s.entry = true›) (by simpa using ‹¬ markerGarbled s.entry = true›)⟩
  · rename_i hg; exact ⟨‹_›, .truncate ‹_› (truncate_guard.mp hg).1 (truncate_guard.mp hg).2⟩
  · exact ⟨‹_›, .grow ‹_› ‹_› ‹_›⟩
  · exact ⟨‹_›, .fill ‹_› ‹_›⟩
  · exact ⟨‹_›, .fail⟩
  · rename_i hw hg; obtain ⟨rfl, hall⟩ := commit_guard.mp hg; exact ⟨hw, .commit hall⟩
  · rename_i hw hg; obtain ⟨rfl, hall⟩ := commit_guard.mp hg; exact ⟨hw, .commitFail hall⟩
  · exact ⟨‹_›, .crashWriting⟩
  · exact ⟨‹_›, .crashStart⟩

theorem Fires.step_eq {exp : Expected} {s s' : Sys} {a : Act} (h : Fires exp s a s') : step exp s a = s' := by
  obtain ⟨hw, row⟩ := h
  cases row
  case commit hall => simp only [step, hw]; exact if_pos (commit_guard.mpr ⟨rfl, hall⟩)
  case commitFail hall => simp only [step, hw]; exact if_pos (commit_guard.mpr ⟨rfl, hall⟩)
  all_goals simp only [step, *] <;> simp [*]

@[elab_as_elim]
theorem step_ind {exp : Expected} {s : Sys} {a : Act} {motive : Sys → Prop} (h0 : motive s)
    (h1 : ∀ s', Fires exp s a s' → motive s') : motive (step exp s a) := by
  rcases step_cases exp s a with e | h
  · rw [e]; exact h0
  · exact h1 _ h

theorem getElem?_setPc {ws : List WPc} {w : Nat} {pc : WPc} (hw : ws[w]? = some pc) (pc' : WPc) (w' : Nat) :
    (setPc ws w pc')[w']? = if w = w' then some pc' else ws[w']? := by
  unfold setPc
  split
  · next e => rw [← e, List.getElem?_set_self (lt_of_getElem?_some hw)]
  · next e => rw [List.getElem?_set_ne e]

theorem getElem?_setPc_self {ws : List WPc} {w : Nat} {pc : WPc} (hw : ws[w]? = some pc) (pc' : WPc) :
    (setPc ws w pc')[w]? = some pc' := by
  rw [getElem?_setPc hw, if_pos rfl]

/-! ### the invariant is inductive -/

/-- Writer `w` leaves (returns or dies) without touching the entry; a writer inside its store gives
    the lock back. -/
theorem inv_leave {exp : Expected} {s : Sys} (inv : Inv exp s) {w : Nat} {pcOld pcNew : WPc} {lock' : Option Nat}
    (hw : s.writers[w]? = some pcOld) (hnew : ∀ d f, pcNew ≠ .writing d f)
    (hlock : lock' = match pcOld with | .writing _ _ => none | _ => s.lock) :
    Inv exp { s with lock := lock', writers := setPc s.writers w pcNew } := by
  by_cases hc : ∃ d f, pcOld = .writing d f
  · -- `w` held the lock: nobody else is inside a store
    obtain ⟨d0, f0, rfl⟩ := hc
    subst hlock
    refine ⟨inv.markerComplete, fun w' d f h => ?_, nofun, inv.keys, inv.nodupKeys⟩
    rw [getElem?_setPc hw] at h
    split at h
    · exact absurd (Option.some.inj h) (hnew d f)
    · next e => exact absurd (writing_unique inv hw h) e
  · -- the lock stays with its holder, who is not `w`
    have hl : lock' = s.lock := by
      cases pcOld <;> first | exact hlock | exact absurd ⟨_, _, rfl⟩ hc
    subst hl
    refine ⟨inv.markerComplete, fun w' d f h => ?_, fun w' hl => ?_, inv.keys, inv.nodupKeys⟩
    · rw [getElem?_setPc hw] at h
      split at h
      · exact absurd (Option.some.inj h) (hnew d f)
      · exact inv.writing w' d f h
    · obtain ⟨d, f, h⟩ := inv.lockHeld w' hl
      refine ⟨d, f, ?_⟩
      rw [getElem?_setPc hw, if_neg]; · exact h
      rintro rfl; rw [hw] at h; exact hc ⟨d, f, Option.some.inj h⟩

/-- The lock holder `w` writes content `c` to payload object `k` (not done) and moves to
    `writing done' infl'`, where every index of `done'` is one of `done` or `k` written in full, and
    every entry of `infl'` is one of `infl` (other than `k`) or `k`, not in `done'`, holding the prefix `c`. -/
theorem inv_write {exp : Expected} (wf : WF exp) {s : Sys} (inv : Inv exp s) {w : Nat}
    {done : List Nat} {infl : List (Nat × Nat)}
    (hw : s.writers[w]? = some (.writing done infl)) {k : Nat} {p : Str} {cfull c : Content}
    (hk : exp.payload[k]? = some (p, cfull)) (hkd : k ∉ done)
    {done' : List Nat} {infl' : List (Nat × Nat)}
    (hdone' : ∀ i ∈ done', i ∈ done ∨ (i = k ∧ c = cfull))
    (hinfl' : ∀ ik ∈ infl', (ik ∈ infl ∧ ik.1 ≠ k) ∨
      (ik.1 = k ∧ k ∉ done' ∧ ik.2 ≤ cfull.length ∧ c = takeStr ik.2 cfull)) :
    Inv exp { s with entry := putObj s.entry p c, writers := setPc s.writers w (.writing done' infl') } := by
  have old := inv.writing w done infl hw
  have hpm : p ≠ markerPath := payload_path_ne_marker wf hk
  have hmk : markerOK (putObj s.entry p c) = false := by rw [markerOK_putObj_ne _ _ _ hpm]; exact old.2.1
  -- the other payload objects are where they were
  have frame : ∀ {i pc}, exp.payload[i]? = some pc → i ≠ k → (putObj s.entry p c).find pc.1 = s.entry.find pc.1 :=
    fun hpc hne => find_putObj_ne _ _ _ _ (payload_paths_distinct wf hk hpc (Ne.symm hne))
  refine ⟨?_, ?_, ?_, onlyKeys_putObj inv.keys p c (Or.inr (payload_path_mem hk)), nodupKeys_put inv.nodupKeys p c⟩
  · intro h; simp only at h; rw [hmk] at h; cases h
  · intro w' d0 f0 h
    rw [getElem?_setPc hw] at h
    split at h
    · next e =>
      cases e; cases h
      refine ⟨old.1, hmk, ?_, ?_⟩
      · intro i hi pc hpc
        rcases hdone' i hi with hold | ⟨hik, hc⟩
        · exact (frame hpc fun e => hkd (e ▸ hold)).trans (old.2.2.1 i hold pc hpc)
        · subst hik; rw [hk] at hpc; have := Option.some.inj hpc; subst this; subst hc
          exact find_putObj_eq _ _ _
      · intro ik hik
        rcases hinfl' ik hik with ⟨hold, hne⟩ | ⟨hik1, hnd, hlen, hc⟩
        · obtain ⟨hnd, pc, hpc, hl, hf⟩ := old.2.2.2 ik hold
          exact ⟨fun h => (hdone' _ h).elim hnd fun e => hne e.1, pc, hpc, hl, (frame hpc hne).trans hf⟩
        · exact ⟨hik1 ▸ hnd, (p, cfull), by rw [hik1]; exact hk, hlen, by rw [hc]; exact find_putObj_eq _ _ _⟩
    · next e => exact absurd (writing_unique inv hw h) e
  · intro w' hl
    simp only at hl
    rw [old.1] at hl
    cases hl
    exact ⟨done', infl', getElem?_setPc_self hw _⟩

theorem Fires.inv {exp : Expected} (wf : WF exp) {s s' : Sys} {a : Act} (inv : Inv exp s)
    (h : Fires exp s a s') : Inv exp s' := by
  obtain @⟨w, _, _, _, _, hw, row⟩ := h
  cases row with
  -- the store returns, or the process dies, without the entry changing
  | acquireValid | acquireGarbled | fail | commitFail | crashWriting | crashStart =>
    exact inv_leave inv hw nofun rfl
  | acquire hl hm =>
    refine ⟨inv.markerComplete, ?_, ?_, inv.keys, inv.nodupKeys⟩
    · intro w' d f h
      rw [getElem?_setPc hw] at h
      split at h
      · next e => cases e; cases h; exact ⟨rfl, hm, nofun, nofun⟩
      · have := (inv.writing w' d f h).1
        rw [hl] at this; cases this
    · rintro w' ⟨⟩
      exact ⟨[], [], getElem?_setPc_self hw _⟩
  | @truncate i done infl p c hp hd hf =>
    refine inv_write wf inv hw hp hd (fun j hj => Or.inl hj) ?_
    intro ik hik
    rcases List.mem_cons.mp hik with rfl | hr
    · exact Or.inr ⟨rfl, hd, Nat.zero_le _, (takeStr_zero c).symm⟩
    · exact Or.inl ⟨hr, inflK_none_ne hf ik hr⟩
  | @grow i k done infl p c k0 hp hf hk =>
    have hd : i ∉ done := ((inv.writing w done infl hw).2.2.2 _ (inflK_some_mem hf)).1
    refine inv_write wf inv hw hp hd (fun j hj => Or.inl hj) ?_
    intro ik hik
    rcases List.mem_cons.mp hik with rfl | hr
    · exact Or.inr ⟨rfl, hd, hk.2, rfl⟩
    · exact Or.inl (mem_dropIdx hr)
  | @fill i done infl p c k0 hp hf =>
    have hd : i ∉ done := ((inv.writing w done infl hw).2.2.2 _ (inflK_some_mem hf)).1
    exact inv_write wf inv hw hp hd (fun j hj => (List.mem_cons.mp hj).symm.imp_right fun e => ⟨e, rfl⟩)
      fun ik hik => Or.inl (mem_dropIdx hik)
  | @commit done hall =>
    -- everything is done, nothing in flight
    have old := inv.writing w done [] hw
    refine ⟨fun _ => ⟨?_, find_putObj_eq _ _ _⟩, ?_, nofun,
      onlyKeys_putObj inv.keys markerPath markerCanonical (Or.inl rfl), nodupKeys_put inv.nodupKeys _ _⟩
    · intro pc hpc
      obtain ⟨j, hj⟩ := List.getElem?_of_mem hpc
      have hne : markerPath ≠ pc.1 := fun e => payload_path_ne_marker wf hj e.symm
      simp only
      rw [find_putObj_ne _ _ _ _ hne]
      exact old.2.2.1 j (hall j (lt_of_getElem?_some hj)) pc hj
    · intro w' d0 f0 h
      rw [getElem?_setPc hw] at h
      split at h
      · cases h
      · next e => exact absurd (writing_unique inv hw h) e

theorem step_inv {exp : Expected} (wf : WF exp) (s : Sys) (inv : Inv exp s) (a : Act) :
    Inv exp (step exp s a) :=
  step_ind inv fun _ h => h.inv wf inv

theorem runActs_inv {exp : Expected} (wf : WF exp) (acts : List Act) (s : Sys) (inv : Inv exp s) :
    Inv exp (runActs exp s acts) := by
  induction acts generalizing s with
  | nil => exact inv
  | cons a rest ih => exact ih _ (step_inv wf s inv a)

theorem runActs_append (exp : Expected) (s : Sys) (a b : List Act) :
    runActs exp s (a ++ b) = runActs exp (runActs exp s a) b := by
  simp [runActs, List.foldl_append]

theorem runActs_cons (exp : Expected) (s : Sys) (a : Act) (rest : List Act) :
    runActs exp s (a :: rest) = runActs exp (step exp s a) rest := rfl

/-! ### Who can change what -/

/-- The writer of a row is `start` or `writing`; it ends `finished true` only over a valid marker. -/
theorem Row.active {exp : Expected} {s : Sys} {w : Nat} {a : Act} {pc pc' : WPc} {e' : Mem} {l' : Option Nat}
    (h : Row exp s w a pc pc' e' l') :
    (∀ b, pc ≠ .finished b) ∧ pc ≠ .crashed ∧ (pc' = .finished true → markerOK e' = true) := by
  cases h with
  | acquireValid _ hm => exact ⟨nofun, nofun, fun _ => hm⟩
  | commit => exact ⟨nofun, nofun, fun _ => markerOK_putObj_canonical _⟩
  | _ => exact ⟨nofun, nofun, nofun⟩

/-- Only a writer inside its store changes the entry: a payload object, or the marker on commit. -/
theorem Row.entry {exp : Expected} {s : Sys} {w : Nat} {a : Act} {pc pc' : WPc} {e' : Mem} {l' : Option Nat}
    (h : Row exp s w a pc pc' e' l') :
    e' = s.entry ∨ ∃ done infl, pc = .writing done infl ∧
      ((∃ (i : Nat) (pl : Str × Content) (c : Content), exp.payload[i]? = some pl ∧ e' = putObj s.entry pl.1 c) ∨
        (pc' = .finished true ∧ e' = putObj s.entry markerPath markerCanonical)) := by
  cases h with
  | truncate hp | grow hp | fill hp => exact Or.inr ⟨_, _, rfl, Or.inl ⟨_, _, _, hp, rfl⟩⟩
  | commit => exact Or.inr ⟨_, _, rfl, Or.inr ⟨rfl, rfl⟩⟩
  | _ => exact Or.inl rfl

theorem finished_stays (exp : Expected) (s : Sys) (a : Act) (w0 : Nat) (b : Bool)
    (h : s.writers[w0]? = some (WPc.finished b)) : (step exp s a).writers[w0]? = some (WPc.finished b) := by
  refine step_ind h fun _ ⟨hw, row⟩ => ?_
  rw [getElem?_setPc hw, if_neg]; · exact h
  rintro rfl; rw [h] at hw; exact row.active.1 b (Option.some.inj hw).symm

theorem step_entry_stable (exp : Expected) (s : Sys) (inv : Inv exp s) (hm : markerOK s.entry = true) (a : Act) :
    (step exp s a).entry = s.entry :=
  step_ind rfl fun _ ⟨hw, row⟩ => row.entry.resolve_right fun ⟨d, f, e, _⟩ => by
    have := (inv.writing _ d f (e ▸ hw)).2.1; rw [hm] at this; cases this

theorem step_marker (exp : Expected) (wf : WF exp) (s : Sys) (a : Act)
    (h : markerOK (step exp s a).entry = true) :
    markerOK s.entry = true ∨ ∃ w : Nat, (step exp s a).writers[w]? = some (WPc.finished true) := by
  revert h
  refine step_ind Or.inl fun s' ⟨hw, row⟩ h => ?_
  rcases row.entry with e | ⟨_, _, _, ⟨_, _, _, hp, e⟩ | ⟨rfl, _⟩⟩
  · exact Or.inl (e ▸ h)
  · rw [e, markerOK_putObj_ne _ _ _ (payload_path_ne_marker wf hp)] at h; exact Or.inl h
  · exact Or.inr ⟨_, getElem?_setPc_self hw _⟩

theorem marker_needs_success (exp : Expected) (wf : WF exp) (acts : List Act) (s : Sys)
    (hs : markerOK s.entry = true → ∃ w : Nat, s.writers[w]? = some (WPc.finished true))
    (h : markerOK (runActs exp s acts).entry = true) :
    ∃ w : Nat, (runActs exp s acts).writers[w]? = some (WPc.finished true) := by
  induction acts generalizing s with
  | nil => exact hs h
  | cons a rest ih =>
    apply ih (step exp s a) _ h
    intro hm
    rcases step_marker exp wf s a hm with hold | hnew
    · obtain ⟨w0, hw0⟩ := hs hold
      exact ⟨w0, finished_stays exp s a w0 true hw0⟩
    · exact hnew

/-- A store returns success only by seeing a valid marker (acquire) or by writing it (commit). -/
theorem step_new_success (exp : Expected) (s : Sys) (a : Act) (w0 : Nat)
    (h : (step exp s a).writers[w0]? = some (WPc.finished true)) :
    s.writers[w0]? = some (WPc.finished true) ∨ markerOK (step exp s a).entry = true := by
  revert h
  refine step_ind Or.inl fun _ ⟨hw, row⟩ h => ?_
  rw [getElem?_setPc hw] at h
  split at h
  · exact Or.inr (row.active.2.2 (Option.some.inj h))
  · exact Or.inl h

theorem success_needs_marker (exp : Expected) (wf : WF exp) (acts : List Act) (s : Sys) (inv : Inv exp s)
    (hs : ∀ w : Nat, s.writers[w]? = some (WPc.finished true) → markerOK s.entry = true)
    (w : Nat) (h : (runActs exp s acts).writers[w]? = some (WPc.finished true)) :
    markerOK (runActs exp s acts).entry = true := by
  induction acts generalizing s with
  | nil => exact hs w h
  | cons a rest ih =>
    apply ih (step exp s a) (step_inv wf s inv a) _ h
    intro w0 hw0
    rcases step_new_success exp s a w0 hw0 with hold | hnew
    · have hm := hs w0 hold
      rw [step_entry_stable exp s inv hm a]; exact hm
    · exact hnew

/-- An unparsable marker never appears by itself: payload writes do not touch the marker and a
    commit writes the canonical one. -/
theorem step_garbled (exp : Expected) (wf : WF exp) (s : Sys) (a : Act)
    (hg : markerGarbled s.entry = false) : markerGarbled (step exp s a).entry = false := by
  refine step_ind hg fun s' ⟨hw, row⟩ => ?_
  rcases row.entry with e | ⟨_, _, _, ⟨_, _, _, hp, e⟩ | ⟨_, e⟩⟩
  · rw [e]; exact hg
  · rw [e, markerGarbled_putObj_ne _ _ _ (payload_path_ne_marker wf hp)]; exact hg
  · rw [e]; unfold markerGarbled; rw [find_putObj_eq]; decide

theorem runActs_garbled (exp : Expected) (wf : WF exp) (acts : List Act) (s : Sys)
    (h : markerGarbled s.entry = false) : markerGarbled (runActs exp s acts).entry = false := by
  induction acts generalizing s with
  | nil => exact h
  | cons a rest ih => exact ih _ (step_garbled exp wf s a h)


/-! ### A fault-free store completes the entry — files in any order, any number in flight -/

/-- An action by which writer `w` writes payload data (no failure, no crash, no commit). -/
def OwnWrite (w : Nat) : Act → Prop
  | .truncate w' _ => w' = w
  | .grow w' _ _ => w' = w
  | .fill w' _ => w' = w
  | _ => False

instance (w : Nat) : DecidablePred (OwnWrite w) := by
  intro a; cases a <;> simp only [OwnWrite] <;> infer_instance

/-- Object `i` has been started (it is in flight or done). -/
def Started (done : List Nat) (infl : List (Nat × Nat)) (i : Nat) : Prop :=
  i ∈ done ∨ (inflK infl i).isSome = true

/-- A fault-free write phase of writer `w`: only its own truncate/grow/fill actions, in ANY order
    and interleaving, such that every payload object is started and later filled.  (Actions that
    are not enabled are no-ops, so repeated or premature ones are harmless.) -/
structure FaultFree (exp : Expected) (w : Nat) (acts : List Act) : Prop where
  own : ∀ a ∈ acts, OwnWrite w a
  all : ∀ i, i < exp.payload.length →
    ∃ l1 l2 l3, acts = l1 ++ Act.truncate w i :: (l2 ++ Act.fill w i :: l3)

/-- One whole store by writer `w` with the given write phase. -/
def storeWith (w : Nat) (acts : List Act) : List Act := Act.acquire w :: (acts ++ [Act.commit w])

theorem Started.cons {done : List Nat} {infl : List (Nat × Nat)} {i0 : Nat} (h : Started done infl i0) (i k : Nat) :
    Started done ((i, k) :: infl) i0 := by
  refine h.imp_right fun h => ?_
  by_cases e : i = i0
  · subst e; rw [inflK_cons_eq]; rfl
  · rw [inflK_cons_ne _ _ _ _ e]; exact h

theorem Started.cons_dropIdx {done : List Nat} {infl : List (Nat × Nat)} {i0 : Nat} (h : Started done infl i0)
    (i k : Nat) : Started done ((i, k) :: dropIdx infl i) i0 := by
  refine h.imp_right fun h => ?_
  by_cases e : i = i0
  · subst e; rw [inflK_cons_eq]; rfl
  · rw [inflK_cons_ne _ _ _ _ e, inflK_dropIdx_ne _ _ _ e]; exact h

theorem Started.fill {done : List Nat} {infl : List (Nat × Nat)} {i0 : Nat} (h : Started done infl i0) (i : Nat) :
    Started (i :: done) (dropIdx infl i) i0 := by
  by_cases e : i = i0
  · exact Or.inl (e ▸ List.mem_cons_self)
  · exact h.imp (List.mem_cons_of_mem _) fun h => by rw [inflK_dropIdx_ne _ _ _ e]; exact h

theorem Fires.own {exp : Expected} {s s' : Sys} {a : Act} (h : Fires exp s a s') {w : Nat} (ha : OwnWrite w a)
    {done : List Nat} {infl : List (Nat × Nat)} (hw : s.writers[w]? = some (.writing done infl)) :
    ∃ done' infl', s'.writers[w]? = some (.writing done' infl') ∧
      (∀ i, i ∈ done → i ∈ done') ∧ (∀ i, Started done infl i → Started done' infl' i) := by
  obtain ⟨hw', row⟩ := h
  cases row with
  | truncate =>
    cases ha; rw [hw] at hw'; cases hw'
    exact ⟨_, _, getElem?_setPc_self hw _, fun _ h => h, fun _ h => h.cons _ _⟩
  | grow =>
    cases ha; rw [hw] at hw'; cases hw'
    exact ⟨_, _, getElem?_setPc_self hw _, fun _ h => h, fun _ h => h.cons_dropIdx _ _⟩
  | fill =>
    cases ha; rw [hw] at hw'; cases hw'
    exact ⟨_, _, getElem?_setPc_self hw _, fun _ h => List.mem_cons_of_mem _ h, fun _ h => h.fill _⟩
  | _ => exact ha.elim

theorem step_own (exp : Expected) (s : Sys) (inv : Inv exp s) (w : Nat) (done : List Nat) (infl : List (Nat × Nat))
    (hw : s.writers[w]? = some (.writing done infl)) (a : Act) (ha : OwnWrite w a) :
    ∃ done' infl', (step exp s a).writers[w]? = some (.writing done' infl') ∧
      (∀ i, i ∈ done → i ∈ done') ∧ (∀ i, Started done infl i → Started done' infl' i) ∧
      (∀ i, a = .truncate w i → i < exp.payload.length → Started done' infl' i) ∧
      (∀ i, a = .fill w i → Started done infl i → i ∈ done') := by
  obtain ⟨done', infl', hw', hd, hs⟩ : ∃ done' infl', (step exp s a).writers[w]? = some (.writing done' infl') ∧
      (∀ i, i ∈ done → i ∈ done') ∧ (∀ i, Started done infl i → Started done' infl' i) :=
    step_ind ⟨done, infl, hw, fun _ h => h, fun _ h => h⟩ fun _ h => h.own ha hw
  refine ⟨done', infl', hw', hd, hs, ?_, ?_⟩
  -- progress: an object not yet started can be truncated, one in flight can be filled
  · rintro i rfl hi
    by_cases hst : Started done infl i
    · exact hs i hst
    · obtain ⟨pc, hp⟩ : ∃ pc, exp.payload[i]? = some pc := ⟨_, List.getElem?_eq_getElem hi⟩
      have hf : inflK infl i = none := Option.not_isSome_iff_eq_none.mp fun h => hst (Or.inr h)
      rw [(Fires.intro hw (.truncate hp (fun h => hst (Or.inl h)) hf)).step_eq, getElem?_setPc_self hw] at hw'
      cases hw'
      exact Or.inr (by rw [inflK_cons_eq]; rfl)
  · rintro i rfl (h | h)
    · exact hd i h
    · obtain ⟨k0, hf⟩ := Option.isSome_iff_exists.mp h
      obtain ⟨_, pc, hp, _⟩ := (inv.writing w done infl hw).2.2.2 _ (inflK_some_mem hf)
      rw [(Fires.intro hw (.fill hp hf)).step_eq, getElem?_setPc_self hw] at hw'
      cases hw'
      exact List.mem_cons_self

/-- What a run of own payload writes of the lock holder `w` achieves: an object that is done stays
    done; one that is started and later filled, or truncated and later filled, is done. -/
theorem run_own (exp : Expected) (wf : WF exp) (acts : List Act) (s : Sys) (inv : Inv exp s) (w : Nat)
    (done : List Nat) (infl : List (Nat × Nat))
    (hw : s.writers[w]? = some (.writing done infl)) (hown : ∀ a ∈ acts, OwnWrite w a) :
    ∃ done' infl', (runActs exp s acts).writers[w]? = some (.writing done' infl') ∧
      ∀ i, i < exp.payload.length →
        i ∈ done ∨ (Started done infl i ∧ Act.fill w i ∈ acts) ∨
          (∃ l1 l2 l3, acts = l1 ++ Act.truncate w i :: (l2 ++ Act.fill w i :: l3)) → i ∈ done' := by
  induction acts generalizing s done infl with
  | nil =>
    refine ⟨done, infl, hw, fun i _ h => ?_⟩
    rcases h with h | ⟨_, h⟩ | ⟨l1, _, _, h⟩
    · exact h
    · cases h
    · cases l1 <;> cases h
  | cons a rest ih =>
    obtain ⟨d1, f1, h1, hd1, hs1, ht, hf⟩ := step_own exp s inv w done infl hw a (hown a List.mem_cons_self)
    obtain ⟨d2, f2, h2, H⟩ := ih (step exp s a) (step_inv wf s inv a) d1 f1 h1
      (fun x hx => hown x (List.mem_cons_of_mem _ hx))
    refine ⟨d2, f2, h2, fun i hi h => H i hi ?_⟩
    rcases h with h | ⟨hst, h⟩ | ⟨l1, l2, l3, h⟩
    · exact Or.inl (hd1 i h)
    · rcases List.mem_cons.mp h with rfl | h
      · exact Or.inl (hf i rfl hst)
      · exact Or.inr (Or.inl ⟨hs1 i hst, h⟩)
    · cases l1 with
      | nil => cases h; exact Or.inr (Or.inl ⟨ht i rfl hi, List.mem_append_right _ List.mem_cons_self⟩)
      | cons b l1 => cases h; exact Or.inr (Or.inr ⟨l1, l2, l3, rfl⟩)

/-- From ANY state satisfying the invariant in which the lock is free, writer `w` has not started,
    there is no valid marker and the marker (if any) parses, one fault-free store — files written
    in any order, any number in flight, growing by arbitrary prefixes — ends with a valid marker,
    returns success and releases the lock. -/
theorem store_completes (exp : Expected) (wf : WF exp) (s : Sys) (inv : Inv exp s) (w : Nat)
    (hlock : s.lock = none) (hw : s.writers[w]? = some WPc.start)
    (hm : markerOK s.entry = false) (hg : markerGarbled s.entry = false)
    (acts : List Act) (hff : FaultFree exp w acts) :
    markerOK (runActs exp s (storeWith w acts)).entry = true ∧
      (runActs exp s (storeWith w acts)).writers[w]? = some (WPc.finished true) ∧
      (runActs exp s (storeWith w acts)).lock = none := by
  unfold storeWith
  rw [runActs_cons, runActs_append]
  have hw1 : (step exp s (Act.acquire w)).writers[w]? = some (WPc.writing [] []) := by
    rw [(Fires.intro hw (.acquire hlock hm hg)).step_eq]; exact getElem?_setPc_self hw _
  have inv1 := step_inv wf s inv (Act.acquire w)
  obtain ⟨d, f, hw2, hd⟩ := run_own exp wf acts _ inv1 w [] [] hw1 hff.own
  have inv2 := runActs_inv wf acts _ inv1
  have hall : ∀ i, i < exp.payload.length → i ∈ d := fun i hi => hd i hi (Or.inr (Or.inr (hff.all i hi)))
  -- nothing is in flight any more: an in-flight object is not done
  have hnil : f = [] := by
    apply List.eq_nil_iff_forall_not_mem.mpr
    intro ik hik
    obtain ⟨hnd, pc, hpc, _, _⟩ := (inv2.writing w d f hw2).2.2.2 ik hik
    exact hnd (hall ik.1 (lt_of_getElem?_some hpc))
  subst hnil
  rw [show runActs exp _ [Act.commit w] = _ from (Fires.intro hw2 (.commit hall)).step_eq]
  exact ⟨markerOK_putObj_canonical _, getElem?_setPc_self hw2 _, rfl⟩

/-! ### Concrete fault-free schedules: one file after the other in any order; all files in flight -/

/-- One object after the other, in the given order. -/
def seqSchedule (w : Nat) : List Nat → List Act
  | [] => []
  | i :: rest => Act.truncate w i :: Act.fill w i :: seqSchedule w rest

/-- Everything is started (in `order1`), then everything is completed (in `order2`). -/
def parSchedule (w : Nat) (order1 order2 : List Nat) : List Act :=
  order1.map (Act.truncate w) ++ order2.map (Act.fill w)

theorem seqSchedule_own (w : Nat) (order : List Nat) : ∀ a ∈ seqSchedule w order, OwnWrite w a := by
  induction order with
  | nil => intro a h; cases h
  | cons i rest ih =>
    intro a h
    simp only [seqSchedule, List.mem_cons] at h
    rcases h with e | e | h
    · subst e; rfl
    · subst e; rfl
    · exact ih a h

theorem seqSchedule_split (w : Nat) (order : List Nat) (i : Nat) (hi : i ∈ order) :
    ∃ l1 l2 l3, seqSchedule w order = l1 ++ Act.truncate w i :: (l2 ++ Act.fill w i :: l3) := by
  induction order with
  | nil => cases hi
  | cons j rest ih =>
    rcases List.mem_cons.mp hi with e | hr
    · subst e; exact ⟨[], [], seqSchedule w rest, rfl⟩
    · obtain ⟨l1, l2, l3, e⟩ := ih hr
      exact ⟨Act.truncate w j :: Act.fill w j :: l1, l2, l3, by simp only [seqSchedule, e, List.cons_append]⟩

/-- Any order that mentions every payload index gives a fault-free write phase. -/
theorem seqSchedule_faultFree (exp : Expected) (w : Nat) (order : List Nat)
    (h : ∀ i, i < exp.payload.length → i ∈ order) : FaultFree exp w (seqSchedule w order) :=
  ⟨seqSchedule_own w order, fun i hi => seqSchedule_split w order i (h i hi)⟩

theorem parSchedule_faultFree (exp : Expected) (w : Nat) (order1 order2 : List Nat)
    (h1 : ∀ i, i < exp.payload.length → i ∈ order1) (h2 : ∀ i, i < exp.payload.length → i ∈ order2) :
    FaultFree exp w (parSchedule w order1 order2) := by
  refine ⟨?_, ?_⟩
  · intro a ha
    rcases List.mem_append.mp ha with h | h
    · obtain ⟨i, _, e⟩ := List.mem_map.mp h; subst e; rfl
    · obtain ⟨i, _, e⟩ := List.mem_map.mp h; subst e; rfl
  · intro i hi
    obtain ⟨a1, b1, e1⟩ := List.append_of_mem (h1 i hi)
    obtain ⟨a2, b2, e2⟩ := List.append_of_mem (h2 i hi)
    refine ⟨a1.map (Act.truncate w), b1.map (Act.truncate w) ++ a2.map (Act.fill w), b2.map (Act.fill w), ?_⟩
    unfold parSchedule
    rw [e1, e2]
    simp [List.map_append, List.append_assoc]

/-! ### A complete entry loads as a hit with exactly the pinned module files -/

theorem stripFiles_prefix (x : Str) : stripFiles (filesPrefix ++ x) = some x := by
  unfold stripFiles
  have : filesPrefix.isPrefixOf (filesPrefix ++ x) = true :=
    List.isPrefixOf_iff_prefix.mpr (List.prefix_append _ _)
  simp [this]

/-- Side files do not live under files/. -/
def SidesOutsideFiles (exp : Expected) : Prop := ∀ s ∈ exp.sides, stripFiles s.1 = none

theorem files_key_of_onlyKeys {exp : Expected} (hside : SidesOutsideFiles exp) {entry : Mem}
    (hk : OnlyPayloadKeys exp entry) {kv : Str × Content} (hkv : kv ∈ entry) {rel : Str}
    (hst : stripFiles kv.1 = some rel) : ∃ f ∈ exp.files, kv.1 = filesPrefix ++ f.1 ∧ rel = f.1 := by
  rcases hk kv hkv with hmk | hpay
  · have hnone : stripFiles markerPath = none := by decide
    rw [hmk, hnone] at hst; cases hst
  · obtain ⟨pc, hpc, hpe⟩ := List.mem_map.mp hpay
    rcases List.mem_append.mp hpc with hf | hs
    · obtain ⟨f0, hf0, hfe⟩ := List.mem_map.mp hf
      have hp : kv.1 = filesPrefix ++ f0.1 := by rw [← hpe, ← hfe]
      rw [hp, stripFiles_prefix] at hst
      exact ⟨f0, hf0, hp, (Option.some.inj hst).symm⟩
    · have := hside pc hs
      rw [hpe, hst] at this; cases this

theorem subsetOf_iff (a b : List (Str × Content)) : subsetOf a b = true ↔ ∀ x ∈ a, x ∈ b := by
  unfold subsetOf
  simp [List.all_eq_true]

theorem sameSet_iff (a b : List (Str × Content)) : sameSet a b = true ↔ ∀ x, x ∈ a ↔ x ∈ b := by
  unfold sameSet
  rw [Bool.and_eq_true, subsetOf_iff, subsetOf_iff]
  exact ⟨fun ⟨h1, h2⟩ x => ⟨h1 x, h2 x⟩, fun h => ⟨fun x => (h x).mp, fun x => (h x).mpr⟩⟩

theorem stripFiles_some {p rel : Str} (h : stripFiles p = some rel) : p = filesPrefix ++ rel := by
  unfold stripFiles at h
  split at h
  · rename_i hp
    injection h with h
    obtain ⟨t, ht⟩ := List.isPrefixOf_iff_prefix.mp hp
    rw [← ht] at h ⊢
    rw [List.drop_left] at h
    rw [h]
  · cases h

theorem mem_moduleFilesOf {entry : Mem} {x : Str × Content} :
    x ∈ moduleFilesOf entry ↔ (filesPrefix ++ x.1, x.2) ∈ entry ∧ isModuleFile x.1 = true := by
  unfold moduleFilesOf
  rw [List.mem_filterMap]
  constructor
  · rintro ⟨kv, hkv, he⟩
    cases hs : stripFiles kv.1 with
    | none => rw [hs] at he; cases he
    | some rel =>
      rw [hs] at he
      simp only at he
      split at he
      · next hm => cases he; exact ⟨by rw [← stripFiles_some hs]; exact hkv, hm⟩
      · cases he
  · rintro ⟨h, hm⟩
    exact ⟨_, h, by simp only [stripFiles_prefix, hm, if_true]⟩

theorem under_files_iff {files : List (Str × Content)} {entry : Mem} (hn : NodupKeys entry)
    (hfiles : ∀ f ∈ files, entry.find (filesPrefix ++ f.1) = some f.2)
    (honly : ∀ kv ∈ entry, ∀ rel, stripFiles kv.1 = some rel → rel ∈ files.map (·.1)) (x : Str × Content) :
    (filesPrefix ++ x.1, x.2) ∈ entry ↔ x ∈ files := by
  constructor
  · intro hx
    obtain ⟨f, hf, hfe⟩ := List.mem_map.mp (honly _ hx x.1 (stripFiles_prefix x.1))
    have h1 := hfiles f hf
    rw [hfe, (mem_iff_find hn _ _).mp hx] at h1
    exact (Prod.ext hfe (Option.some.inj h1).symm : f = x) ▸ hf
  · intro hx
    exact find_some_mem (hfiles x hx)

theorem load_eq_gate (exp : Expected) (entry : Mem) (tok : Content)
    (hm : entry.find markerPath = some tok) (hv : markerValid tok = true)
    (hs : (exp.sides.all fun s => (entry.find s.1).isSome) = true) :
    load exp entry =
      if (sameSet (moduleFilesOf entry) (exp.files.filter fun f => isModuleFile f.1) && decide (tok = markerCanonical)) = true
      then .hit (moduleFilesOf entry) else .mismatch := by
  unfold load
  rw [hm]
  simp only [hv, hs, Bool.not_true, Bool.false_eq_true, if_false]

theorem complete_loads_hit (exp : Expected) (hside : SidesOutsideFiles exp) (entry : Mem)
    (hc : Complete exp entry) (hm : entry.find markerPath = some markerCanonical)
    (hk : OnlyPayloadKeys exp entry) (hn : NodupKeys entry) :
    load exp entry = .hit (moduleFilesOf entry) ∧
      sameSet (moduleFilesOf entry) (exp.files.filter fun f => isModuleFile f.1) = true := by
  have hsides : (exp.sides.all fun s => (entry.find s.1).isSome) = true := by
    rw [List.all_eq_true]
    intro s hs
    have : s ∈ exp.payload := List.mem_append.mpr (Or.inr hs)
    rw [hc s this]; rfl
  have hsame : sameSet (moduleFilesOf entry) (exp.files.filter fun f => isModuleFile f.1) = true := by
    rw [sameSet_iff]
    intro x
    rw [mem_moduleFilesOf, List.mem_filter, under_files_iff hn
      (fun f hf => hc (filesPrefix ++ f.1, f.2) (List.mem_append.mpr (Or.inl (List.mem_map.mpr ⟨f, hf, rfl⟩))))
      fun kv hkv rel hst => by
        obtain ⟨f0, hf0, _, hrel⟩ := files_key_of_onlyKeys hside hk hkv hst
        exact List.mem_map.mpr ⟨f0, hf0, hrel.symm⟩]
  refine ⟨?_, hsame⟩
  rw [load_eq_gate exp entry _ hm (by decide) hsides, hsame]
  rfl

/-! ### The write phase under a fault schedule: link to the C15 model -/

section FaultLink
open BufModel.Faults BufProofs.C15

/-- Payload paths are validated normal paths (what a bucket walk yields and the store joins). -/
def PayloadValid (exp : Expected) : Prop := ∀ pc ∈ exp.payload, validatePath pc.1 = .ok pc.1

theorem copyAll_frame (fx : Facts) (s : Sched) (d : Dest) (jobs : List (Str × List Content))
    (hvalid : ∀ j ∈ jobs, validatePath j.1 = .ok j.1) (k : Str) (hk : k ∉ jobs.map (·.1)) :
    (copyAll fx s d jobs).2.1.mem.find k = d.mem.find k := by
  induction jobs generalizing d with
  | nil => rfl
  | cons j rest ih =>
    obtain ⟨p, cs⟩ := j
    simp only [List.map, List.mem_cons, not_or] at hk
    simp only [copyAll]
    rw [ih _ (fun j hj => hvalid j (List.mem_cons_of_mem _ hj)) hk.2]
    unfold copyPath
    exact plain_put_overwrite_frame _ s d p p k cs (hvalid (p, cs) List.mem_cons_self) (fun e => hk.1 e.symm)

theorem putSides_frame (fx : Facts) (s : Sched) (d : Dest) (jobs : List (Str × List Content))
    (hvalid : ∀ j ∈ jobs, validatePath j.1 = .ok j.1) (k : Str) (hk : k ∉ jobs.map (·.1)) :
    (putSides fx s d jobs).2.mem.find k = d.mem.find k := by
  induction jobs generalizing d with
  | nil => rfl
  | cons j rest ih =>
    obtain ⟨p, cs⟩ := j
    simp only [List.map, List.mem_cons, not_or] at hk
    have h1 : (putPath fx s d p cs).2.mem.find k = d.mem.find k :=
      plain_put_overwrite_frame _ s d p p k cs (hvalid (p, cs) List.mem_cons_self) (fun e => hk.1 e.symm)
    simp only [putSides]
    split
    · exact h1
    · rw [ih _ (fun j hj => hvalid j (List.mem_cons_of_mem _ hj)) hk.2]; exact h1

/-- With the error plumbing as coded, `copyPath` is `putPath`. -/
theorem copyPath_allTrue (s : Sched) (d : Dest) (p : Str) (cs : List Content) :
    copyPath Facts.allTrue s d p cs = putPath Facts.allTrue s d p cs := by
  show (deferJoin true (writeObj true s d p cs).1 false false, (writeObj true s d p cs).2) = writeObj true s d p cs
  rw [deferJoin_true, Bool.or_false]

/-- A side-file phase that reports success did what `storage.Copy` does on the same jobs. -/
theorem copyAll_of_putSides (s : Sched) (jobs : List (Str × List Content)) (d d' : Dest)
    (h : putSides Facts.allTrue s d jobs = (false, d')) :
    copyAll Facts.allTrue s d jobs = (false, d', jobs.length) := by
  induction jobs generalizing d with
  | nil => cases h; rfl
  | cons j rest ih =>
    obtain ⟨p, cs⟩ := j
    simp only [putSides] at h
    split at h
    · cases h
    · next hne =>
      have hne : (putPath Facts.allTrue s d p cs).1 = false := by simpa using hne
      simp only [copyAll, copyPath_allTrue, hne, ih _ h, List.length_cons]
      simp [Nat.add_comm]

theorem fileJobs_paths (exp : Expected) (chunk : Content → List Content) :
    (fileJobs exp chunk).map (·.1) ++ (sideJobs exp chunk).map (·.1) = exp.payload.map (·.1) := by
  simp [fileJobs, sideJobs, Expected.payload, List.map_append, List.map_map, Function.comp_def]

theorem fileJobs_valid {exp : Expected} (hv : PayloadValid exp) (chunk : Content → List Content) :
    ∀ j ∈ fileJobs exp chunk, validatePath j.1 = .ok j.1 := by
  intro j hj
  obtain ⟨f, hf, e⟩ := List.mem_map.mp hj
  subst e
  exact hv (filesPrefix ++ f.1, f.2) (List.mem_append.mpr (Or.inl (List.mem_map.mpr ⟨f, hf, rfl⟩)))

theorem sideJobs_valid {exp : Expected} (hv : PayloadValid exp) (chunk : Content → List Content) :
    ∀ j ∈ sideJobs exp chunk, validatePath j.1 = .ok j.1 := by
  intro j hj
  obtain ⟨f, hf, e⟩ := List.mem_map.mp hj
  subst e
  exact hv f (List.mem_append.mpr (Or.inr hf))

theorem marker_not_job {exp : Expected} (wf : WF exp) (chunk : Content → List Content) :
    markerPath ∉ (fileJobs exp chunk).map (·.1) ∧ markerPath ∉ (sideJobs exp chunk).map (·.1) := by
  have := wf.noMarker
  rw [← fileJobs_paths exp chunk] at this
  exact ⟨fun h => this (List.mem_append_left _ h), fun h => this (List.mem_append_right _ h)⟩

/-- A failing step index names an actual step of the atomic put. -/
def FailAtInRange (chunks : List Content) (failAt : Option Nat) : Prop :=
  ∀ k, failAt = some k → k ≤ chunks.length + 2

theorem atomicRun_ok_final (old : Option Content) (chunks : List Content) (failAt : Option Nat)
    (hr : FailAtInRange chunks failAt) (h : (atomicRun old chunks failAt).1 = false) :
    failAt = none ∧ (atomicRun old chunks failAt).2.final = some (joinContent chunks) := by
  cases failAt with
  | none => rw [atomic_success]; exact ⟨rfl, rfl⟩
  | some k => rw [atomic_failed_leaves_old old chunks k (hr k rfl)] at h; cases h

theorem jobs_eq (exp : Expected) (chunk : Content → List Content) :
    fileJobs exp chunk ++ sideJobs exp chunk = exp.payload.map fun pc => (pc.1, chunk pc.2) := by
  simp [fileJobs, sideJobs, Expected.payload, List.map_append, List.map_map, Function.comp_def]

/-- A write phase that reports success has put the payload, then the marker, and nothing else happened. -/
theorem storeRun_ok_eq (exp : Expected) (hv : PayloadValid exp)
    (chunk : Content → List Content) (hchunk : ∀ c, joinContent (chunk c) = c)
    (s : Sched) (mch : List Content) (mfail : Option Nat) (hr : FailAtInRange mch mfail) (d d' : Dest)
    (h : storeRun Facts.allTrue s mch mfail d (fileJobs exp chunk) (sideJobs exp chunk) = (false, d')) :
    mfail = none ∧
      d' = { d with mem := putObj (putList d.mem exp.payload) markerPath (joinContent mch) } := by
  unfold storeRun at h
  rcases hc : copyAll Facts.allTrue s d (fileJobs exp chunk) with ⟨b1, d1, n⟩
  rcases hs : putSides Facts.allTrue s d1 (sideJobs exp chunk) with ⟨b2, d2⟩
  simp only [hc, hs] at h
  -- both phases reported success, so each is the put of its jobs
  cases b1
  case true => cases h
  cases b2
  case true => cases h
  obtain ⟨rfl, _⟩ := copyAll_ok_eq s _ d _ _ (fileJobs_valid hv chunk) hc
  obtain ⟨rfl, _⟩ := copyAll_ok_eq s _ _ _ _ (sideJobs_valid hv chunk) (copyAll_of_putSides s _ _ _ hs)
  simp only [← putList_append, ← List.map_append, jobs_eq, List.map_map, Function.comp_def, hchunk,
    List.map_id'] at h
  obtain ⟨hnone, hfinal⟩ := atomicRun_ok_final _ mch mfail hr (congrArg Prod.fst h)
  rw [hfinal] at h
  exact ⟨hnone, (congrArg Prod.snd h).symm⟩

theorem atomicRun_err_final (old : Option Content) (chunks : List Content) (failAt : Option Nat)
    (h : (atomicRun old chunks failAt).1 = true) : (atomicRun old chunks failAt).2.final = old := by
  rw [atomicRun_eq] at h ⊢
  split at h
  · next hc => rw [if_pos hc]
  · cases h

/-- A store that reports an error has not touched the marker: whichever phase failed — a file
    copy, a side file, or a step of the atomic marker put — the object at `module.yaml` is the one
    that was there before. -/
theorem storeRun_err_marker_untouched (exp : Expected) (wf : WF exp) (hv : PayloadValid exp)
    (chunk : Content → List Content) (fx : Facts)
    (s : Sched) (mch : List Content) (mfail : Option Nat) (d : Dest)
    (h : (storeRun fx s mch mfail d (fileJobs exp chunk) (sideJobs exp chunk)).1 = true) :
    (storeRun fx s mch mfail d (fileJobs exp chunk) (sideJobs exp chunk)).2.mem.find markerPath =
      d.mem.find markerPath := by
  obtain ⟨hmf, hms⟩ := marker_not_job wf chunk
  have e1 := copyAll_frame fx s d (fileJobs exp chunk) (fileJobs_valid hv chunk) markerPath hmf
  have e2 := putSides_frame fx s (copyAll fx s d (fileJobs exp chunk)).2.1 (sideJobs exp chunk)
    (sideJobs_valid hv chunk) markerPath hms
  unfold storeRun at h ⊢
  rcases hc : copyAll fx s d (fileJobs exp chunk) with ⟨b1, d1, n⟩
  rcases hs : putSides fx s d1 (sideJobs exp chunk) with ⟨b2, d2⟩
  simp only [hc, hs] at e1 e2 h ⊢
  cases b1
  case true => exact e1
  cases b2
  case true => exact e2.trans e1
  simp only [Bool.false_eq_true, if_false] at h ⊢
  rw [atomicRun_err_final _ mch mfail h]
  cases hold : d2.mem.find markerPath with
  | none => simp only; rw [find_erase_eq, ← e1, ← e2, hold]
  | some c => simp only; rw [find_putObj_eq, ← e1, ← e2, hold]

end FaultLink

/-! ### Tar layout -/

theorem tarEntry_nodup {exp : Expected} (wf : WF exp) : NodupKeys (tarEntry exp) := by
  unfold NodupKeys tarEntry
  simp only [List.map]
  exact List.nodup_cons.mpr ⟨wf.noMarker, wf.nodup⟩

theorem tarEntry_onlyKeys (exp : Expected) : OnlyPayloadKeys exp (tarEntry exp) := by
  intro kv hkv
  rcases List.mem_cons.mp hkv with e | h
  · subst e; exact Or.inl rfl
  · exact Or.inr (List.mem_map.mpr ⟨kv, h, rfl⟩)

theorem tarEntry_complete {exp : Expected} (wf : WF exp) : Complete exp (tarEntry exp) := by
  intro pc hpc
  exact (mem_iff_find (tarEntry_nodup wf) pc.1 pc.2).mp (List.mem_cons_of_mem _ hpc)

theorem tarEntry_marker (exp : Expected) : (tarEntry exp).find markerPath = some markerCanonical :=
  find_cons_eq _ _ _

end BufModel.Cache
