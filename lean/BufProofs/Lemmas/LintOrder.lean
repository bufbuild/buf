import BufProofs.Lemmas.LintLemmas
/-
  C05 — DECLARATION ORDER: the iteration helpers enumerate the element that stands at position
  `|l₁|` of a list `l₁ ++ x :: l₂` with index `|l₁|`, whatever `l₁` and `l₂` are.  One lemma per list
  the helpers walk (top-level and nested messages / enums, fields, nested and file-level extensions,
  oneofs, enum values, services, RPCs).
-/
namespace BufModel.Lint
open BufModel.Case

theorem indexFrom_at {α} : ∀ (l₁ : List α) (x : α) (l₂ : List α) (i : Nat),
    (i + l₁.length, x) ∈ indexFrom i (l₁ ++ x :: l₂)
  | [], x, l₂, i => by simp [indexFrom]
  | a :: t, x, l₂, i => by
    have h := indexFrom_at t x l₂ (i + 1)
    have e : i + (a :: t).length = i + 1 + t.length := by simp only [List.length_cons]; omega
    rw [e]
    simp only [List.cons_append, indexFrom, List.mem_cons]
    exact Or.inr h

theorem indexed_at {α} (l₁ : List α) (x : α) (l₂ : List α) :
    (l₁.length, x) ∈ indexed (l₁ ++ x :: l₂) := by
  have h := indexFrom_at l₁ x l₂ 0
  simpa [indexed] using h

theorem indexFrom_split {α} : ∀ (l : List α) (i j : Nat) (x : α), (j, x) ∈ indexFrom i l →
    ∃ l₁ l₂, l = l₁ ++ x :: l₂ ∧ j = i + l₁.length
  | [], _, _, _, h => by simp [indexFrom] at h
  | a :: t, i, j, x, h => by
    simp only [indexFrom, List.mem_cons, Prod.mk.injEq] at h
    rcases h with ⟨rfl, rfl⟩ | h
    · exact ⟨[], t, rfl, by simp⟩
    · obtain ⟨l₁, l₂, e, hj⟩ := indexFrom_split t (i + 1) j x h
      exact ⟨a :: l₁, l₂, by rw [e]; rfl, by simp only [List.length_cons]; omega⟩

theorem indexed_split {α} (l : List α) (j : Nat) (x : α) (h : (j, x) ∈ indexed l) :
    ∃ l₁ l₂, l = l₁ ++ x :: l₂ ∧ j = l₁.length := by
  obtain ⟨l₁, l₂, e, hj⟩ := indexFrom_split l 0 j x h
  exact ⟨l₁, l₂, e, by omega⟩

/-! ### messages -/

theorem visitMsgs_at (p : List Nat) (tag : Nat) : ∀ (l₁ : List Message) (x : Message) (l₂ : List Message) (i : Nat),
    ∀ y ∈ visitMsg (p ++ [tag, i + l₁.length]) x, y ∈ visitMsgs p tag i (l₁ ++ x :: l₂)
  | [], x, l₂, i => by
    intro y hy
    simp only [List.nil_append, visitMsgs, List.mem_append]
    exact Or.inl (by simpa using hy)
  | a :: t, x, l₂, i => by
    intro y hy
    have e : i + (a :: t).length = i + 1 + t.length := by simp only [List.length_cons]; omega
    rw [e] at hy
    simp only [List.cons_append, visitMsgs, List.mem_append]
    exact Or.inr (visitMsgs_at p tag t x l₂ (i + 1) y hy)

theorem fileMsgs_top_at (f : File) (l₁ : List Message) (m : Message) (l₂ : List Message)
    (h : f.msgs = l₁ ++ m :: l₂) : ([4, l₁.length], m) ∈ fileMsgs f := by
  unfold fileMsgs
  rw [h]
  have := visitMsgs_at [] 4 l₁ m l₂ 0 ([4, l₁.length], m) (by simpa using visitMsg_self [4, l₁.length] m)
  simpa using this

mutual
  theorem visitMsg_closed (p : List Nat) : ∀ (m : Message) (q : List Nat) (x : Message),
      (q, x) ∈ visitMsg p m → ∀ y ∈ visitMsgs q 3 0 x.msgs, y ∈ visitMsg p m
    | .mk n c me fs os xs es ms, q, x, h => by
      simp only [visitMsg, List.mem_cons] at h
      intro y hy
      simp only [visitMsg, List.mem_cons]
      right
      rcases h with h | h
      · cases h
        simpa [Message.msgs] using hy
      · exact visitMsgs_closed p 3 0 ms q x h y hy
  theorem visitMsgs_closed (p : List Nat) (tag : Nat) : ∀ (i : Nat) (ms : List Message) (q : List Nat) (x : Message),
      (q, x) ∈ visitMsgs p tag i ms → ∀ y ∈ visitMsgs q 3 0 x.msgs, y ∈ visitMsgs p tag i ms
    | _, [], _, _, h => by simp [visitMsgs] at h
    | i, m :: rest, q, x, h => by
      simp only [visitMsgs, List.mem_append] at h
      intro y hy
      simp only [visitMsgs, List.mem_append]
      rcases h with h | h
      · exact Or.inl (visitMsg_closed (p ++ [tag, i]) m q x h y hy)
      · exact Or.inr (visitMsgs_closed p tag (i + 1) rest q x h y hy)
end

theorem fileMsgs_nested_at (f : File) (p : List Nat) (m : Message) (hm : (p, m) ∈ fileMsgs f)
    (l₁ : List Message) (x : Message) (l₂ : List Message) (h : m.msgs = l₁ ++ x :: l₂) :
    (p ++ [3, l₁.length], x) ∈ fileMsgs f := by
  apply visitMsgs_closed [] 4 0 f.msgs p m hm
  rw [h]
  have := visitMsgs_at p 3 l₁ x l₂ 0 (p ++ [3, l₁.length], x) (by simpa using visitMsg_self (p ++ [3, l₁.length]) x)
  simpa using this

/-! ### enums and enum values -/

theorem fileEnums_top_at (f : File) (l₁ : List Enum) (e : Enum) (l₂ : List Enum)
    (h : f.enums = l₁ ++ e :: l₂) : ([5, l₁.length], e) ∈ fileEnums f :=
  List.mem_append_left _ (List.mem_map.mpr ⟨(l₁.length, e), h ▸ indexed_at l₁ e l₂, rfl⟩)

theorem fileEnums_nested_at (f : File) (p : List Nat) (m : Message) (hm : (p, m) ∈ fileMsgs f)
    (l₁ : List Enum) (e : Enum) (l₂ : List Enum) (h : m.enums = l₁ ++ e :: l₂) :
    (p ++ [4, l₁.length], e) ∈ fileEnums f :=
  List.mem_append_right _ (List.mem_flatMap.mpr ⟨(p, m), hm,
    List.mem_map.mpr ⟨(l₁.length, e), h ▸ indexed_at l₁ e l₂, rfl⟩⟩)

theorem fileEnumValues_at (f : File) (p : List Nat) (e : Enum) (he : (p, e) ∈ fileEnums f)
    (l₁ : List EnumValue) (v : EnumValue) (l₂ : List EnumValue) (h : e.values = l₁ ++ v :: l₂) :
    (p ++ [2, l₁.length], e, v) ∈ fileEnumValues f :=
  List.mem_flatMap.mpr ⟨(p, e), he, List.mem_map.mpr ⟨(l₁.length, v), h ▸ indexed_at l₁ v l₂, rfl⟩⟩

theorem fileEnumValues_split (f : File) (q : List Nat) (e : Enum) (v : EnumValue)
    (h : (q, e, v) ∈ fileEnumValues f) :
    ∃ p l₁ l₂, (p, e) ∈ fileEnums f ∧ e.values = l₁ ++ v :: l₂ ∧ q = p ++ [2, l₁.length] := by
  unfold fileEnumValues at h
  obtain ⟨⟨p, e'⟩, he, hx⟩ := List.mem_flatMap.mp h
  obtain ⟨⟨i, v'⟩, hi, hq⟩ := List.mem_map.mp hx
  simp only [Prod.mk.injEq] at hq
  obtain ⟨rfl, rfl, rfl⟩ := hq
  obtain ⟨l₁, l₂, hv, rfl⟩ := indexed_split _ _ _ hi
  exact ⟨p, l₁, l₂, he, hv, rfl⟩

/-! ### fields, extensions, oneofs -/

theorem fileFields_field_at (f : File) (p : List Nat) (m : Message) (hm : (p, m) ∈ fileMsgs f)
    (l₁ : List Field) (fd : Field) (l₂ : List Field) (h : m.fields = l₁ ++ fd :: l₂) :
    (p ++ [2, l₁.length], some m, fd) ∈ fileFields f :=
  List.mem_append_left _ (List.mem_flatMap.mpr ⟨(p, m), hm,
    List.mem_append_left _ (List.mem_map.mpr ⟨(l₁.length, fd), h ▸ indexed_at l₁ fd l₂, rfl⟩)⟩)

theorem fileFields_nestedExt_at (f : File) (p : List Nat) (m : Message) (hm : (p, m) ∈ fileMsgs f)
    (l₁ : List Field) (fd : Field) (l₂ : List Field) (h : m.exts = l₁ ++ fd :: l₂) :
    (p ++ [6, l₁.length], some m, fd) ∈ fileFields f :=
  List.mem_append_left _ (List.mem_flatMap.mpr ⟨(p, m), hm,
    List.mem_append_right _ (List.mem_map.mpr ⟨(l₁.length, fd), h ▸ indexed_at l₁ fd l₂, rfl⟩)⟩)

theorem fileFields_fileExt_at (f : File) (l₁ : List Field) (fd : Field) (l₂ : List Field)
    (h : f.exts = l₁ ++ fd :: l₂) : ([7, l₁.length], (none : Option Message), fd) ∈ fileFields f :=
  List.mem_append_right _ (List.mem_map.mpr ⟨(l₁.length, fd), h ▸ indexed_at l₁ fd l₂, rfl⟩)

theorem fileOneofs_at (f : File) (p : List Nat) (m : Message) (hm : (p, m) ∈ fileMsgs f)
    (l₁ : List Oneof) (oo : Oneof) (l₂ : List Oneof) (h : m.oneofs = l₁ ++ oo :: l₂) :
    (p ++ [8, l₁.length], m, l₁.length, oo) ∈ fileOneofs f :=
  List.mem_flatMap.mpr ⟨(p, m), hm, List.mem_map.mpr ⟨(l₁.length, oo), h ▸ indexed_at l₁ oo l₂, rfl⟩⟩

/-! ### services, RPCs -/

theorem fileSvcs_at (f : File) (l₁ : List Service) (s : Service) (l₂ : List Service)
    (h : f.svcs = l₁ ++ s :: l₂) : ([6, l₁.length], s) ∈ fileSvcs f :=
  List.mem_map.mpr ⟨(l₁.length, s), h ▸ indexed_at l₁ s l₂, rfl⟩

theorem fileRpcs_at (f : File) (s₁ : List Service) (s : Service) (s₂ : List Service)
    (hs : f.svcs = s₁ ++ s :: s₂) (r₁ : List Rpc) (r : Rpc) (r₂ : List Rpc) (hr : s.rpcs = r₁ ++ r :: r₂) :
    ([6, s₁.length, 2, r₁.length], s, r) ∈ fileRpcs f :=
  List.mem_flatMap.mpr ⟨([6, s₁.length], s), fileSvcs_at f s₁ s s₂ hs,
    List.mem_map.mpr ⟨(r₁.length, r), hr ▸ indexed_at r₁ r r₂, rfl⟩⟩

end BufModel.Lint
