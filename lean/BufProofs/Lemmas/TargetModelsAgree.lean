import BufModel.ImagePaths
import BufProofs.Lemmas.TargetCharLemmas
/-
  The two models of `moduleReadBucket.getIsTargetFileForPathUncached` — `BufModel.Targeting.isTargetFile`
  (C01 / C10: Dir-walk `mapHasLoop`, proto-file reference) and `BufModel.ImagePaths.isTargetFile`
  (C11: `List.any` over `equalsOrContainsPath`, no proto-file reference) — agree wherever both are
  defined, i.e. without a proto-file reference.
-/
namespace BufModel.Targeting
open BufModel.Path BufModel.Graph

theorem mapHas_eq_any (m : List Str) (p : Str) :
    mapHasEqualOrContainingPath m p = m.any (fun v => equalsOrContainsPath v p) := by
  rw [Bool.eq_iff_iff, mapHas_iff, List.any_eq_true]

theorem isTargetFile_eq_imagePaths (mt : Bool) (cfg : TCfg) (files : List PFile) (f : PFile)
    (fs : List BufModel.ImagePaths.File) (hpf : cfg.protoFile = []) :
    isTargetFile mt cfg files f =
      BufModel.ImagePaths.isTargetFile
        { isTarget := mt, targetPaths := cfg.paths, excludePaths := cfg.excludes, files := fs } f.path := by
  unfold isTargetFile BufModel.ImagePaths.isTargetFile BufModel.ImagePaths.mapHas
  simp only [hpf, ne_eq, not_true_eq_false, ↓reduceIte, mapHas_eq_any]
  cases mt
  · simp
  · cases hp : cfg.paths <;> cases he : cfg.excludes <;> simp

end BufModel.Targeting
