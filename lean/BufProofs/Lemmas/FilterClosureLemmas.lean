import BufProofs.Lemmas.FilterLemmas
/-
  The closure traversal of C12 (BufModel.Filter.run) — step characterisation, the rank order on
  modes, the termination potential (fuel bound), the writes a step makes to the state (`Write`,
  `step_spec`) and the worklist invariant (`Post`, `Reqs`, `run_closed`, `Closed`; at the level of
  keys: `Refers`, `Reqs.refers`).
-/
namespace BufProofs.FilterClosure
open BufModel.Filter BufProofs.FilterLemmas

theorem sum_map_le {α} (l : List α) (f g : α → Nat) (h : ∀ x ∈ l, f x ≤ g x) :
    (l.map f).sum ≤ (l.map g).sum := by
  induction l with
  | nil => simp
  | cons a as ih =>
    simp only [List.map_cons, List.sum_cons]
    have h1 := h a (by simp)
    have h2 := ih (fun x hx => h x (by simp [hx]))
    omega

theorem sum_map_le_add {α} (l : List α) (f g : α → Nat) (h : ∀ x ∈ l, f x ≤ g x)
    (a : α) (ha : a ∈ l) (d : Nat) (hd : f a + d ≤ g a) :
    (l.map f).sum + d ≤ (l.map g).sum := by
  induction l with
  | nil => cases ha
  | cons b bs ih =>
    simp only [List.map_cons, List.sum_cons]
    cases ha with
    | head =>
      have h2 := sum_map_le bs f g (fun x hx => h x (by simp [hx]))
      omega
    | tail _ ha =>
      have h1 := h b (by simp)
      have h2 := ih (fun x hx => h x (by simp [hx])) ha
      omega

/-! ### the rank order on modes: none < enclosing < implicit < explicit < excluded -/

def rank : Option Mode → Nat
  | none => 0
  | some .enclosing => 1
  | some .implicit => 2
  | some .explicit => 3
  | some .excluded => 4

/-- How the statements read a state: `rk st k = 4` excluded; `2 ≤ rk st k` visited (implicit,
    explicit) or excluded; `1 ≤ rk st k`, `rk st k ≤ 3` has a mode and is not excluded. -/
def rk (st : St) (k : Key) : Nat := rank (st.get k)

theorem rk_set (st : St) (k k' : Key) (m : Mode) :
    rk (st.set k' m) k = if k = k' then rank (some m) else rk st k := by
  unfold rk; rw [get_set]; split <;> rfl

theorem rk_addImport (st : St) (fr : Option Id) (to : Id) (k : Key) :
    rk (st.addImport fr to) k = rk st k := by
  unfold rk; rw [get_addImport]

theorem rk_of_get {st : St} {k : Key} {m : Option Mode} (h : st.get k = m) : rk st k = rank m := by
  unfold rk; rw [h]

theorem rk_excl {st : St} {k : Key} : rk st k = 4 ↔ st.get k = some .excluded := by
  unfold rk
  cases h : st.get k with
  | none => simp [rank]
  | some m => cases m <;> simp [rank]

theorem rk_encl {st : St} {k : Key} : rk st k = 1 ↔ st.get k = some .enclosing := by
  unfold rk
  cases h : st.get k with
  | none => simp [rank]
  | some m => cases m <;> simp [rank]

theorem isExcl_iff {st : St} {k : Key} : st.isExcl k = true ↔ rk st k = 4 := by
  rw [rk_excl]; unfold St.isExcl; simp

theorem isExcl_false_iff {st : St} {k : Key} : st.isExcl k = false ↔ rk st k ≠ 4 := by
  rw [Ne, ← isExcl_iff]; cases st.isExcl k <;> simp

/-! ### step characterisation -/

/-- the types a file expansion visits -/
def fileTys (c : Ctx) (i : Info) : List Id :=
  if c.cfg.svcMarksInput then i.types
  else i.types.filter (fun t => (c.idx.find (.el t)).map (·.kind) != some Kind.method)

theorem fileTys_sub (c : Ctx) (i : Info) : ∀ t ∈ fileTys c i, t ∈ i.types := by
  intro t ht
  unfold fileTys at ht
  split at ht
  · exact ht
  · exact (List.mem_filter.mp ht).1

theorem fileTys_length (c : Ctx) (i : Info) : (fileTys c i).length ≤ i.types.length := by
  unfold fileTys
  split
  · exact Nat.le_refl _
  · exact List.length_filter_le _ _

/-- what an expansion pushes for the kind of the element, in front of the common tail (`expand` treats
    extensions apart) -/
def kindTasks (c : Ctx) (i : Info) : List Task :=
  match i.kind with
  | .file => (fileTys c i).map (fun t => Task.add (.el t) none false)
  | .msg => i.fields.map (fun f => Task.field f i.file) ++ [Task.oneofs i.key] ++
      i.rangeOpts.map (fun us => Task.opts us i.file)
  | .enum => i.valueOpts.map (fun us => Task.opts us i.file)
  | .svc => i.methods.map Task.svcMethod
  | .method => [Task.add (.el i.input) (some i.file) false, Task.add (.el i.output) (some i.file) false]
  | .ext => []

theorem expand_cases (c : Ctx) (st st1 : St) (k : Key) (ref : Option Id) (implied : Bool) (i : Info)
    (new : List Task) (hkey : i.key = k) (h : expand c st k ref implied i = .ok (st1, new)) :
    (i.kind ≠ .ext ∧ st1 = st ∧ new = kindTasks c i ++ postTasks i ref) ∨
    (i.kind = .ext ∧ ∃ f e, i.fld = some f ∧ f.extendee = some e ∧
        (((st.isExcl (.el e) = true ∨
            (c.cfg.extendeeFirst = false ∧ st.isExcl (.el e) = false ∧ typeExcluded st f = true)) ∧
           st1 = st.set k .excluded ∧ new = []) ∨
         (st.isExcl (.el e) = false ∧ st1 = st ∧
            new = [Task.add (.el e) (some i.file) implied, Task.extType k ref]))) := by
  subst hkey
  unfold expand at h
  unfold kindTasks fileTys
  cases hk : i.kind <;> simp only [hk] at h ⊢
  case ext =>
    right
    leaves h
    · rename_i _ f hf _ e he hx
      cases h
      exact ⟨trivial, f, e, hf, he, Or.inl ⟨Or.inl hx, rfl, rfl⟩⟩
    · rename_i _ f hf _ e he hx hy
      cases h
      simp only [Bool.not_eq_true] at hx
      simp only [Bool.and_eq_true, Bool.not_eq_true'] at hy
      exact ⟨trivial, f, e, hf, he, Or.inl ⟨Or.inr ⟨hy.1, hx, hy.2⟩, rfl, rfl⟩⟩
    · rename_i _ f hf _ e he hx _
      cases h
      simp only [Bool.not_eq_true] at hx
      exact ⟨trivial, f, e, hf, he, Or.inr ⟨hx, rfl, rfl⟩⟩
  -- every other kind: the branch of `expand` is the clause of `kindTasks`, for two of them behind a guard
  case file | method =>
    split at h
    · cases h
    · cases h
      exact Or.inl ⟨nofun, rfl, rfl⟩
  all_goals
    cases h
    exact Or.inl ⟨nofun, rfl, rfl⟩

theorem step_add_cases (c : Ctx) (st st1 : St) (k : Key) (ref : Option Id) (implied : Bool)
    (new : List Task) (h : step c st (.add k ref implied) = .ok (st1, new)) :
    ∃ i, c.idx.find k = some i ∧
      ((st.get k = some .excluded ∧ st1 = st ∧ new = []) ∨
       (st.get k = some .explicit ∧ st1 = st.addImport ref i.file ∧ new = []) ∨
       (st.get k = some .implicit ∧
          st1 = (if implied then st else st.set k .explicit).addImport ref i.file ∧ new = []) ∨
       ((st.get k = none ∨ st.get k = some .enclosing) ∧
          expand c (st.set k (newMode implied)) k ref implied i = .ok (st1, new))) := by
  simp only [step] at h
  split at h
  · cases h
  · rename_i i hi
    refine ⟨i, hi, ?_⟩
    split at h
    · rename_i hm; cases h; exact Or.inl ⟨hm, rfl, rfl⟩
    · rename_i hm; cases h; exact Or.inr (Or.inl ⟨hm, rfl, rfl⟩)
    · rename_i hm; cases h; exact Or.inr (Or.inr (Or.inl ⟨hm, rfl, rfl⟩))
    · rename_i hm; exact Or.inr (Or.inr (Or.inr ⟨Or.inr hm, h⟩))
    · rename_i hm; exact Or.inr (Or.inr (Or.inr ⟨Or.inl hm, h⟩))

theorem step_field_cases (c : Ctx) (st st1 : St) (f : Field) (file : Id) (new : List Task)
    (h : step c st (.field f file) = .ok (st1, new)) :
    st1 = st ∧
    ((f.ty = none ∧ new = [.opts f.opts file]) ∨
     (∃ t, f.ty = some t ∧ st.isExcl (.el t) = true ∧ new = []) ∨
     (∃ t, f.ty = some t ∧ st.isExcl (.el t) = false ∧
        new = [.add (.el t) (some file) false, .opts f.opts file])) := by
  simp only [step] at h
  split at h
  · rename_i ht; cases h; exact ⟨rfl, Or.inl ⟨ht, rfl⟩⟩
  · rename_i t ht
    split at h
    · rename_i hx; cases h; exact ⟨rfl, Or.inr (Or.inl ⟨t, ht, hx, rfl⟩)⟩
    · rename_i hx; cases h
      simp only [Bool.not_eq_true] at hx
      exact ⟨rfl, Or.inr (Or.inr ⟨t, ht, hx, rfl⟩)⟩

theorem step_oneofs_cases (c : Ctx) (st st1 : St) (k : Key) (new : List Task)
    (h : step c st (.oneofs k) = .ok (st1, new)) :
    ∃ i, c.idx.find k = some i ∧ oneofsStep st i i.oneofs 0 = (st1, new) := by
  simp only [step] at h
  split at h
  · cases h
  · rename_i i hi
    refine ⟨i, hi, ?_⟩
    injection h

theorem step_svcMethod_cases (c : Ctx) (st st1 : St) (m : Method) (new : List Task)
    (h : step c st (.svcMethod m) = .ok (st1, new)) :
    ((st.isExcl (.el m.input) = true ∨ st.isExcl (.el m.output) = true) ∧ new = [] ∧
        st1 = (if c.cfg.svcMarksInput then st.set (.el m.input) .excluded else st)) ∨
    (st.isExcl (.el m.input) = false ∧ st.isExcl (.el m.output) = false ∧ st1 = st ∧
        new = [.add (.el m.id) none false]) := by
  simp only [step] at h
  split at h
  · rename_i hx; cases h
    simp only [Bool.or_eq_true] at hx
    exact Or.inl ⟨hx, rfl, rfl⟩
  · rename_i hx; cases h
    simp only [Bool.or_eq_true, not_or, Bool.not_eq_true] at hx
    exact Or.inr ⟨hx.1, hx.2, rfl, rfl⟩

theorem step_extType_cases (c : Ctx) (st st1 : St) (k : Key) (ref : Option Id) (new : List Task)
    (h : step c st (.extType k ref) = .ok (st1, new)) :
    ∃ i f, c.idx.find k = some i ∧ i.fld = some f ∧
      ((f.ty = none ∧ st1 = st ∧ new = postTasks i ref) ∨
       (∃ t, f.ty = some t ∧ st.isExcl (.el t) = true ∧ st1 = st.set k .excluded ∧ new = []) ∨
       (∃ t, f.ty = some t ∧ st.isExcl (.el t) = false ∧ st1 = st ∧
          new = .add (.el t) (some i.file) false :: postTasks i ref)) := by
  simp only [step] at h
  split at h
  · cases h
  · rename_i i hi
    split at h
    · cases h
    · rename_i f hf
      refine ⟨i, f, hi, hf, ?_⟩
      split at h
      · rename_i ht; cases h; exact Or.inl ⟨ht, rfl, rfl⟩
      · rename_i t ht
        split at h
        · rename_i hx; cases h; exact Or.inr (Or.inl ⟨t, ht, hx, rfl, rfl⟩)
        · rename_i hx; cases h
          simp only [Bool.not_eq_true] at hx
          exact Or.inr (Or.inr ⟨t, ht, hx, rfl, rfl⟩)

theorem step_encl_cases (c : Ctx) (st st1 : St) (p : Option Key) (file : Id) (new : List Task)
    (h : step c st (.encl p file) = .ok (st1, new)) :
    (st1 = st ∧ new = [] ∧ ∀ k, p = some k → 1 ≤ rk st k) ∨
    (∃ k i, p = some k ∧ st.get k = none ∧ c.idx.find k = some i ∧ st1 = st.set k .enclosing ∧
        new = [.opts i.opts file, .encl i.parent file]) := by
  simp only [step] at h
  split at h
  · cases h; exact Or.inl ⟨rfl, rfl, nofun⟩
  · rename_i k
    split at h
    · rename_i m hm; cases h
      refine Or.inl ⟨rfl, rfl, fun k' hk' => ?_⟩
      cases hk'; rw [rk_of_get hm]; cases m <;> simp [rank]
    · rename_i hm
      split at h
      · cases h
      · rename_i i hi; cases h
        exact Or.inr ⟨k, i, rfl, hm, hi, rfl, rfl⟩

theorem step_opts_cases (c : Ctx) (st st1 : St) (us : List OptUse) (file : Id) (new : List Task)
    (h : step c st (.opts us file) = .ok (st1, new)) :
    st1 = st ∧ ((c.customOpts = true ∧ new = us.map (fun u => Task.opt u file)) ∨
      (c.customOpts = false ∧ new = [])) := by
  simp only [step] at h
  split at h
  · rename_i hc; cases h; exact ⟨rfl, Or.inl ⟨hc, rfl⟩⟩
  · rename_i hc; cases h
    simp only [Bool.not_eq_true] at hc
    exact ⟨rfl, Or.inr ⟨hc, rfl⟩⟩

/-- the sub-tasks of one option use that is not skipped -/
def optTasks (u : OptUse) (file : Id) : List Task :=
  u.anys.map (fun a => Task.add (.el a) (some file) false) ++
    (match u.ext with | some e => [Task.add (.el e) (some file) true] | none => [])

theorem step_opt_cases (c : Ctx) (st st1 : St) (u : OptUse) (file : Id) (new : List Task)
    (h : step c st (.opt u file) = .ok (st1, new)) :
    st1 = st ∧ ((∃ e, u.ext = some e ∧ st.isExcl (.el e) = true ∧ new = []) ∨
      ((∀ e, u.ext = some e → st.isExcl (.el e) = false) ∧ new = optTasks u file)) := by
  simp only [step] at h
  cases hu : u.ext with
  | none =>
    rw [hu] at h
    simp only [Bool.false_eq_true, if_false] at h
    cases h
    refine ⟨rfl, Or.inr ⟨(by intro e he; cases he), ?_⟩⟩
    unfold optTasks; rw [hu]
  | some e =>
    rw [hu] at h
    simp only [] at h
    by_cases hx : st.isExcl (.el e) = true
    · rw [if_pos hx] at h
      cases h
      exact ⟨rfl, Or.inl ⟨e, rfl, hx, rfl⟩⟩
    · rw [if_neg hx] at h
      cases h
      simp only [Bool.not_eq_true] at hx
      refine ⟨rfl, Or.inr ⟨(by intro e' he'; cases he'; exact hx), ?_⟩⟩
      unfold optTasks; rw [hu]

theorem step_imp_cases (c : Ctx) (st st1 : St) (fr : Option Id) (to : Id) (new : List Task)
    (h : step c st (.imp fr to) = .ok (st1, new)) : st1 = st.addImport fr to ∧ new = [] := by
  simp only [step] at h
  cases h; exact ⟨rfl, rfl⟩

/-! ### termination: a potential that every machine step decreases -/

def wOpt (u : OptUse) : Nat := u.anys.length + 2
def wOpts (us : List OptUse) : Nat := 1 + (us.map wOpt).sum
def wPost (i : Info) : Nat := 2 + wOpts i.opts

/-- an upper bound on the machine steps a task costs (1 for its own step + the weights of the
    tasks that step pushes), *not* counting the expansion of elements (paid for by the element, see
    `eCost`) and the marking of enclosing elements (`cCost`). -/
def wTask (c : Ctx) : Task → Nat
  | .add .. => 1
  | .field f _ => 2 + wOpts f.opts
  | .oneofs k => 1 + (match c.idx.find k with
      | some i => (i.oneofs.map (fun o => wOpts o.opts)).sum
      | none => 0)
  | .svcMethod _ => 2
  | .extType k _ => 2 + (match c.idx.find k with | some i => wPost i | none => 0)
  | .imp .. => 1
  | .encl .. => 1
  | .opts us _ => wOpts us
  | .opt u _ => wOpt u

def wTasks (c : Ctx) (ts : List Task) : Nat := (ts.map (wTask c)).sum

theorem wTasks_append (c : Ctx) (a b : List Task) : wTasks c (a ++ b) = wTasks c a + wTasks c b := by
  unfold wTasks; simp

theorem wTasks_cons (c : Ctx) (t : Task) (ts : List Task) : wTasks c (t :: ts) = wTask c t + wTasks c ts := by
  unfold wTasks; simp

theorem wTasks_nil (c : Ctx) : wTasks c [] = 0 := rfl

theorem wTask_pos (c : Ctx) (t : Task) : 1 ≤ wTask c t := by
  cases t <;> simp only [wTask, wOpts, wOpt] <;> omega

/-- cost of expanding an element: the `wTask` weights of the sub-tasks `expand` pushes, summed over
    ALL kinds (so no case on `i.kind` is needed) — file: an `add` per type; message: a `field` per
    field, the `oneofs` task, an `opts` per extension range; enum: an `opts` per value; service: a
    `svcMethod` (2) per method; method: two `add`; extension: `add` extendee + `extType`
    (`3 + wPost i`); every kind: `postTasks` (`wPost i` = `imp` + `encl` + `opts i.opts`). -/
def eCost (i : Info) : Nat :=
  i.types.length + (i.fields.map (fun f => 2 + wOpts f.opts)).sum +
    (1 + (i.oneofs.map (fun o => wOpts o.opts)).sum) + (i.rangeOpts.map wOpts).sum +
    (i.valueOpts.map wOpts).sum + 2 * i.methods.length + 2 + (3 + wPost i) + wPost i

/-- cost of marking an element as enclosing -/
def cCost (i : Info) : Nat := wOpts i.opts + 1

def pot (st : St) (i : Info) : Nat :=
  match st.get i.key with
  | none => eCost i + cCost i
  | some .enclosing => eCost i
  | _ => 0

def potSum (c : Ctx) (st : St) : Nat := (c.idx.map (pot st)).sum

theorem wTasks_postTasks (c : Ctx) (i : Info) (ref : Option Id) : wTasks c (postTasks i ref) = wPost i := by
  simp [postTasks, wTasks, wTask, wPost]; omega

theorem wTasks_map_const (c : Ctx) {α} (l : List α) (f : α → Task) (n : Nat) (h : ∀ a, wTask c (f a) = n) :
    wTasks c (l.map f) = n * l.length := by
  induction l with
  | nil => simp [wTasks]
  | cons a as ih =>
    simp only [List.map_cons, wTasks_cons, ih, h, List.length_cons]
    rw [Nat.mul_succ]; omega

theorem wTasks_map (c : Ctx) {α} (l : List α) (f : α → Task) :
    wTasks c (l.map f) = (l.map (fun a => wTask c (f a))).sum := by
  unfold wTasks; simp [List.map_map, Function.comp_def]

theorem pot_addImport (st : St) (fr : Option Id) (to : Id) (i : Info) :
    pot (st.addImport fr to) i = pot st i := by
  unfold pot; rw [get_addImport]

theorem potSum_addImport (c : Ctx) (st : St) (fr : Option Id) (to : Id) :
    potSum c (st.addImport fr to) = potSum c st := by
  unfold potSum
  congr 1
  apply List.map_congr_left
  intro i _
  exact pot_addImport st fr to i

/-- writing a mode never increases an element's potential, except `enclosing` over a set mode -/
theorem pot_set_le (st : St) (k : Key) (m : Mode) (h : m ≠ .enclosing ∨ st.get k = none) (i : Info) :
    pot (st.set k m) i ≤ pot st i := by
  unfold pot
  rw [get_set]
  by_cases e : i.key = k
  · simp only [e, if_true]
    rcases h with h | h
    · cases m <;> simp at h ⊢
    · rw [h]; cases m <;> simp
  · simp [e]

theorem potSum_set_le (c : Ctx) (st : St) (k : Key) (m : Mode) (h : m ≠ .enclosing ∨ st.get k = none) :
    potSum c (st.set k m) ≤ potSum c st :=
  sum_map_le _ _ _ (fun i _ => pot_set_le st k m h i)

theorem potSum_expand (c : Ctx) (st : St) (k : Key) (m : Mode) (i : Info)
    (hi : c.idx.find k = some i) (hm : m = .explicit ∨ m = .implicit)
    (hk : st.get k = none ∨ st.get k = some .enclosing) :
    potSum c (st.set k m) + eCost i ≤ potSum c st := by
  refine sum_map_le_add _ _ _ (fun j _ => pot_set_le st k m (by rcases hm with h | h <;> simp [h]) j)
    i (find_mem hi) _ ?_
  have hkey := find_key _ _ _ hi
  unfold pot
  rw [get_set, hkey]
  simp only [if_true]
  rcases hk with hk | hk <;> rcases hm with hm | hm <;> simp [hk, hm]

theorem potSum_encl (c : Ctx) (st : St) (k : Key) (i : Info)
    (hi : c.idx.find k = some i) (hk : st.get k = none) :
    potSum c (st.set k .enclosing) + cCost i ≤ potSum c st := by
  refine sum_map_le_add _ _ _ (fun j _ => pot_set_le st k .enclosing (Or.inr hk) j)
    i (find_mem hi) _ ?_
  have hkey := find_key _ _ _ hi
  unfold pot
  rw [get_set, hkey]
  simp [hk]

theorem oneofsStep_cost (c : Ctx) (st : St) (i : Info) (os : List Oneof) (n : Nat) :
    wTasks c (oneofsStep st i os n).2 ≤ (os.map (fun o => wOpts o.opts)).sum ∧
    potSum c (oneofsStep st i os n).1 ≤ potSum c st := by
  induction os generalizing st n with
  | nil => simp [oneofsStep, wTasks]
  | cons o os ih =>
    unfold oneofsStep
    split
    · simp only [List.map_cons, List.sum_cons]
      refine ⟨Nat.le_trans (ih _ _).1 (by omega), Nat.le_trans (ih _ _).2 ?_⟩
      exact potSum_set_le c st _ .excluded (Or.inl (by simp))
    · have := ih st (n + 1)
      simp only [List.map_cons, List.sum_cons, wTasks_cons, wTask]
      constructor
      · omega
      · exact this.2

theorem wTasks_kindTasks (c : Ctx) (i : Info) (hi : c.idx.find i.key = some i) :
    wTasks c (kindTasks c i) + wPost i ≤ eCost i := by
  unfold kindTasks
  split
  · rw [wTasks_map_const c _ _ 1 (fun _ => rfl)]
    have := fileTys_length c i
    unfold eCost; omega
  · have e1 : wTasks c (i.rangeOpts.map (fun us => Task.opts us i.file)) = (i.rangeOpts.map wOpts).sum := by
      rw [wTasks_map]; rfl
    have e2 : wTasks c (i.fields.map (fun f => Task.field f i.file)) =
        (i.fields.map (fun f => 2 + wOpts f.opts)).sum := by rw [wTasks_map]; rfl
    rw [wTasks_append, wTasks_append, e1, e2]
    simp only [wTask, wTasks_cons, wTasks_nil, hi]
    unfold eCost; omega
  · have e1 : wTasks c (i.valueOpts.map (fun us => Task.opts us i.file)) = (i.valueOpts.map wOpts).sum := by
      rw [wTasks_map]; rfl
    rw [e1]
    unfold eCost; omega
  · rw [wTasks_map_const c _ _ 2 (fun _ => rfl)]
    unfold eCost; omega
  · simp only [wTasks_cons, wTasks_nil, wTask]
    unfold eCost; omega
  · simp only [wTasks_nil]
    unfold eCost; omega

theorem expand_cost (c : Ctx) (st st1 : St) (k : Key) (ref : Option Id) (implied : Bool) (i : Info)
    (new : List Task) (hi : c.idx.find k = some i)
    (h : expand c st k ref implied i = .ok (st1, new)) :
    wTasks c new + potSum c st1 ≤ eCost i + potSum c st := by
  have hkey := find_key _ _ _ hi
  rcases expand_cases c st st1 k ref implied i new hkey h with ⟨_, rfl, rfl⟩ | ⟨_, f, e, _, _, h⟩
  · have := wTasks_kindTasks c i (hkey ▸ hi)
    rw [wTasks_append, wTasks_postTasks]; omega
  · rcases h with ⟨_, rfl, rfl⟩ | ⟨_, rfl, rfl⟩
    · have := potSum_set_le c st k .excluded (Or.inl (by simp))
      simp only [wTasks_nil]; omega
    · simp only [wTasks_cons, wTasks_nil, wTask, hi]
      unfold eCost; omega

theorem step_cost (c : Ctx) (st st1 : St) (t : Task) (new : List Task)
    (h : step c st t = .ok (st1, new)) :
    wTasks c new + potSum c st1 + 1 ≤ wTask c t + potSum c st := by
  cases t with
  | add k ref implied =>
    obtain ⟨i, hi, hc⟩ := step_add_cases c st st1 k ref implied new h
    simp only [wTask]
    rcases hc with ⟨_, rfl, rfl⟩ | ⟨_, rfl, rfl⟩ | ⟨hm, rfl, rfl⟩ | ⟨hk, he⟩
    · simp only [wTasks_nil]; omega
    · rw [potSum_addImport]; simp only [wTasks_nil]; omega
    · rw [potSum_addImport]
      simp only [wTasks_nil]
      split
      · omega
      · have := potSum_set_le c st k .explicit (Or.inl (by simp)); omega
    · have h1 := expand_cost c _ st1 k ref implied i new hi he
      have h2 := potSum_expand c st k (newMode implied) i hi
        (by unfold newMode; cases implied <;> simp) hk
      omega
  | field f file =>
    obtain ⟨rfl, hc⟩ := step_field_cases c st st1 f file new h
    simp only [wTask]
    rcases hc with ⟨_, rfl⟩ | ⟨t, _, _, rfl⟩ | ⟨t, _, _, rfl⟩ <;>
      simp only [wTasks_cons, wTasks_nil, wTask] <;> omega
  | oneofs k =>
    obtain ⟨i, hi, he⟩ := step_oneofs_cases c st st1 k new h
    have := oneofsStep_cost c st i i.oneofs 0
    rw [he] at this
    simp only [wTask, hi]
    simp only [] at this
    omega
  | svcMethod m =>
    simp only [wTask]
    rcases step_svcMethod_cases c st st1 m new h with ⟨_, rfl, rfl⟩ | ⟨_, _, rfl, rfl⟩
    · simp only [wTasks_nil]
      split
      · have := potSum_set_le c st (.el m.input) .excluded (Or.inl (by simp)); omega
      · omega
    · simp only [wTasks_cons, wTasks_nil, wTask]; omega
  | extType k ref =>
    obtain ⟨i, f, hi, _, hc⟩ := step_extType_cases c st st1 k ref new h
    simp only [wTask, hi]
    rcases hc with ⟨_, rfl, rfl⟩ | ⟨t, _, _, rfl, rfl⟩ | ⟨t, _, _, rfl, rfl⟩
    · rw [wTasks_postTasks]; omega
    · have := potSum_set_le c st k .excluded (Or.inl (by simp))
      simp only [wTasks_nil]; omega
    · rw [wTasks_cons, wTasks_postTasks]; simp only [wTask]; omega
  | imp fr to =>
    obtain ⟨rfl, rfl⟩ := step_imp_cases c st st1 fr to new h
    rw [potSum_addImport]; simp only [wTasks_nil, wTask]; omega
  | encl p file =>
    simp only [wTask]
    rcases step_encl_cases c st st1 p file new h with ⟨rfl, rfl, _⟩ | ⟨k, i, _, hk, hi, rfl, rfl⟩
    · simp only [wTasks_nil]; omega
    · have := potSum_encl c st k i hi hk
      simp only [wTasks_cons, wTasks_nil, wTask]
      unfold cCost at this; omega
  | opts us file =>
    obtain ⟨rfl, hc⟩ := step_opts_cases c st st1 us file new h
    simp only [wTask]
    rcases hc with ⟨_, rfl⟩ | ⟨_, rfl⟩
    · rw [wTasks_map]
      show (us.map wOpt).sum + potSum c st1 + 1 ≤ wOpts us + potSum c st1
      unfold wOpts; omega
    · simp only [wTasks_nil]; unfold wOpts; omega
  | opt u file =>
    obtain ⟨rfl, hc⟩ := step_opt_cases c st st1 u file new h
    simp only [wTask]
    rcases hc with ⟨e, _, _, rfl⟩ | ⟨_, rfl⟩
    · simp only [wTasks_nil]; unfold wOpt; omega
    · unfold optTasks
      rw [wTasks_append, wTasks_map_const c _ _ 1 (fun _ => rfl)]
      have : wTasks c (match u.ext with | some e => [Task.add (.el e) (some file) true] | none => []) ≤ 1 := by
        split <;> simp [wTasks, wTask]
      unfold wOpt; omega

theorem step_ne_fuel (c : Ctx) (st : St) (t : Task) : step c st t ≠ .error .fuel := by
  intro h
  cases t with
  | add k ref implied =>
    simp only [step] at h
    split at h
    · cases h
    · rename_i i _
      have hx : ∀ st', expand c st' k ref implied i ≠ .error .fuel := by
        intro st' hh
        unfold expand at hh
        leaves hh
      split at h
      · cases h
      · cases h
      · cases h
      · exact hx _ h
      · exact hx _ h
  | _ =>
    simp only [step] at h
    leaves h

theorem run_ne_fuel (c : Ctx) (n : Nat) (st : St) (ts : List Task)
    (h : wTasks c ts + potSum c st ≤ n) : run c n st ts ≠ .error .fuel := by
  induction n generalizing st ts with
  | zero =>
    cases ts with
    | nil => simp [run]
    | cons t ts =>
      have := wTask_pos c t
      rw [wTasks_cons] at h; omega
  | succ n ih =>
    cases ts with
    | nil => simp [run]
    | cons t ts =>
      intro hh
      simp only [run] at hh
      split at hh
      · rename_i hs; cases hh; exact step_ne_fuel c st t hs
      · rename_i st1 new hs
        refine ih _ _ ?_ hh
        have := step_cost c st st1 t new hs
        rw [wTasks_cons] at h
        rw [wTasks_append]
        omega

/-- The bound: one `add` task plus the full potential of the index. -/
def idxBound (idx : Index) : Nat := 1 + (idx.map (fun i => eCost i + cCost i)).sum

theorem potSum_le (c : Ctx) (st : St) : 1 + potSum c st ≤ idxBound c.idx := by
  unfold idxBound potSum
  have := sum_map_le c.idx (pot st) (fun i => eCost i + cCost i) (by
    intro i _
    unfold pot
    split <;> omega)
  omega

theorem run_add_ne_fuel (c : Ctx) (n : Nat) (st : St) (k : Key) (ref : Option Id) (implied : Bool)
    (h : idxBound c.idx ≤ n) : run c n st [.add k ref implied] ≠ .error .fuel := by
  apply run_ne_fuel
  have := potSum_le c st
  simp only [wTasks_cons, wTasks_nil, wTask]
  omega

def fuelBound (img : Image) : Nat := idxBound (buildIndex img)

theorem foldlE_ne {α β ε} (f : β → α → Except ε β) (e : ε) (hf : ∀ b a, f b a ≠ .error e)
    (b : β) (l : List α) : foldlE f b l ≠ .error e := by
  induction l generalizing b with
  | nil => simp [foldlE]
  | cons a as ih =>
    intro hh
    simp only [foldlE] at hh
    split at hh
    · rename_i h; cases hh; exact hf b a h
    · exact ih _ hh

theorem closure_ne_fuel (cfg : Cfg) (img : Image) (o : Opts) (fuel : Nat)
    (h : fuelBound img ≤ fuel) : closure cfg img o fuel ≠ .error .fuel := by
  unfold closure
  simp only []
  have hrun : ∀ st k ref implied,
      run ⟨cfg, buildIndex img, o.customOpts⟩ fuel st [.add k ref implied] ≠ .error .fuel :=
    fun st k ref implied => run_add_ne_fuel _ _ _ _ _ _ h
  have h0 : ∀ st, foldlE (excludeType img (buildIndex img)) st o.excludes ≠ .error .fuel := by
    intro st
    apply foldlE_ne
    intro b a hh
    unfold excludeType at hh
    leaves hh
  have h1 : ∀ st, foldlE (includeType ⟨cfg, buildIndex img, o.customOpts⟩ img o fuel) st o.includes ≠ .error .fuel := by
    intro st
    apply foldlE_ne
    intro b a hh
    unfold includeType at hh
    split at hh
    · leaves hh
      exact hrun _ _ _ _ hh
    · split at hh
      · cases hh
      · split at hh
        · cases hh
        · refine foldlE_ne _ _ ?_ _ _ hh
          intro b2 f hf
          unfold includeFile at hf
          split at hf
          · cases hf
          · exact hrun _ _ _ _ hf
  have h2 : ∀ st, includeEverything ⟨cfg, buildIndex img, o.customOpts⟩ img fuel st ≠ .error .fuel := by
    intro st
    unfold includeEverything
    apply foldlE_ne
    intro b f hf
    leaves hf
    exact hrun _ _ _ _ hf
  have h3 : ∀ st, addExtensions ⟨cfg, buildIndex img, o.customOpts⟩ fuel st ≠ .error .fuel := by
    intro st
    unfold addExtensions
    simp only []
    apply foldlE_ne
    intro b m
    apply foldlE_ne
    intro b2 x hx
    split at hx
    · cases hx
    · exact hrun _ _ _ _ hx
  intro hh
  -- the branches that remain hand on the error of one phase
  leaves hh
  · rename_i e0; cases hh; exact h0 _ e0
  · rename_i e1; cases hh; exact h1 _ e1
  · rename_i e2; cases hh
    split at e2
    · exact h2 _ e2
    · cases e2
  · exact h3 _ hh

theorem rewrite_ne_fuel (cfg : Cfg) (st : St) (noInc : Bool) (img : Image) :
    rewrite cfg st noInc img ≠ .error .fuel := by
  unfold rewrite
  simp only []
  repeat' split
  all_goals simp

theorem filterWith_ne_fuel (cfg : Cfg) (img : Image) (o : Opts) (fuel : Nat)
    (h : fuelBound img ≤ fuel) : filterWith cfg img o fuel ≠ .error .fuel := by
  intro hh
  unfold filterWith at hh
  split at hh
  · rename_i e; cases hh; exact closure_ne_fuel cfg img o fuel h e
  · exact rewrite_ne_fuel _ _ _ _ hh

/-! ### the worklist invariant

  `Post c st t` — the (shallow, monotone) post-condition of task `t`: what must hold of the state
  once `t` and everything it pushed has been processed.  For `add k` it only says "k is visited
  (implicit, explicit or excluded) and the import is recorded"; that the *requirements* of a visited
  element hold is the global invariant `Closed`, proved for the depth-first machine by induction on
  the fuel (cycles in the type graph are harmless: a key that is being expanded is already marked).
-/

theorem rk_le_four (st : St) (k : Key) : rk st k ≤ 4 := by
  unfold rk
  cases st.get k with
  | none => simp [rank]
  | some m => cases m <;> simp [rank]

theorem rk_le_three {st : St} {k : Key} (h : rk st k ≠ 4) : rk st k ≤ 3 := by
  have := rk_le_four st k; omega

/-- keys that no step (with `svcMarksInput = false`) excludes after the exclude phase: file and element
    keys whose index entry (if there is one) is not an extension. -/
def NonExt (c : Ctx) (k : Key) : Prop := (∀ m n, k ≠ .oneof m n) ∧ ∀ i, c.idx.find k = some i → i.fld = none

/-- the order in which closure states evolve -/
structure Le (c : Ctx) (a b : St) : Prop where
  mono : ∀ k, rk a k ≤ rk b k
  seen : ∀ x, x ∈ a.seen → x ∈ b.seen
  edges : ∀ e, e ∈ a.edges → e ∈ b.edges
  frozen : c.cfg.svcMarksInput = false → ∀ k, NonExt c k → rk b k = 4 → rk a k = 4

theorem Le.refl (c : Ctx) (a : St) : Le c a a :=
  ⟨fun _ => Nat.le_refl _, fun _ h => h, fun _ h => h, fun _ _ _ h => h⟩

theorem Le.trans {c : Ctx} {a b d : St} (h1 : Le c a b) (h2 : Le c b d) : Le c a d :=
  ⟨fun k => Nat.le_trans (h1.mono k) (h2.mono k), fun x h => h2.seen x (h1.seen x h),
   fun e h => h2.edges e (h1.edges e h), fun hc id hn h => h1.frozen hc id hn (h2.frozen hc id hn h)⟩

theorem Le.excl {c : Ctx} {a b : St} (h : Le c a b) {k : Key} (hk : rk a k = 4) : rk b k = 4 := by
  have := h.mono k; have := rk_le_four b k; omega

theorem le_addImport (c : Ctx) (st : St) (fr : Option Id) (to : Id) : Le c st (st.addImport fr to) :=
  ⟨fun k => by rw [rk_addImport]; exact Nat.le_refl _, (addImport_spec st fr to).2.1, (addImport_spec st fr to).2.2,
   fun _ id _ h => by rw [rk_addImport] at h; exact h⟩

/-- setting a mode of at least the current rank; a key that becomes excluded is not `NonExt`. -/
theorem le_set (c : Ctx) (st : St) (k : Key) (m : Mode) (h : rk st k ≤ rank (some m))
    (hx : c.cfg.svcMarksInput = false → m = .excluded → rk st k = 4 ∨ ¬ NonExt c k) :
    Le c st (st.set k m) := by
  refine ⟨?_, fun _ h => h, fun _ h => h, ?_⟩
  · intro k'; rw [rk_set]; split
    · rename_i e; rw [e]; exact h
    · exact Nat.le_refl _
  · intro hc k' hn hr
    rw [rk_set] at hr
    split at hr
    · rename_i e
      have hm : m = .excluded := by cases m <;> simp [rank] at hr ⊢
      rcases hx hc hm with h4 | h5
      · rw [e]; exact h4
      · rw [e] at hn; exact absurd hn h5
    · exact hr

/-- the import `ref → file` is recorded -/
def EdgeOK (st : St) (ref : Option Id) (file : Id) : Prop :=
  file ∈ st.seen ∧ ∀ r, ref = some r → r = file ∨ (r, file) ∈ st.edges

theorem edgeOK_addImport (st : St) (ref : Option Id) (file : Id) : EdgeOK (st.addImport ref file) ref file := by
  have hseen : file ∈ (if st.seen.contains file = true then st else { st with seen := file :: st.seen }).seen := by
    split
    · rename_i h; simpa using h
    · simp
  unfold EdgeOK St.addImport
  simp only []
  generalize (if st.seen.contains file = true then st else { st with seen := file :: st.seen }) = s0 at hseen ⊢
  cases ref with
  | none => exact ⟨hseen, by intro r hr; cases hr⟩
  | some f =>
    simp only []
    by_cases e : f = file
    · simp only [e, if_true]
      exact ⟨hseen, fun r hr => by cases hr; exact Or.inl rfl⟩
    · simp only [e, if_false]
      split
      · rename_i h
        exact ⟨hseen, fun r hr => by cases hr; exact Or.inr (by simpa using h)⟩
      · exact ⟨hseen, fun r hr => by cases hr; exact Or.inr (by simp)⟩

theorem EdgeOK.mono {c : Ctx} {a b : St} (h : Le c a b) {ref : Option Id} {file : Id} (e : EdgeOK a ref file) :
    EdgeOK b ref file :=
  ⟨h.seen _ e.1, fun r hr => (e.2 r hr).imp id (h.edges _)⟩

theorem EdgeOK.weaken {st : St} {ref : Option Id} {file : Id} (e : EdgeOK st ref file) : EdgeOK st none file :=
  ⟨e.1, by intro r hr; cases hr⟩

def PostAdd (c : Ctx) (st : St) (k : Key) (ref : Option Id) : Prop :=
  ∀ i, c.idx.find k = some i → 2 ≤ rk st k ∧ (rk st k = 4 ∨ EdgeOK st ref i.file)

def PostEncl (st : St) (p : Option Key) : Prop := ∀ k, p = some k → 1 ≤ rk st k

def PostOpt (c : Ctx) (st : St) (u : OptUse) (file : Id) : Prop :=
  (∃ e, u.ext = some e ∧ rk st (.el e) = 4) ∨
  ((∀ a ∈ u.anys, PostAdd c st (.el a) (some file)) ∧ ∀ e, u.ext = some e → PostAdd c st (.el e) (some file))

def PostOpts (c : Ctx) (st : St) (us : List OptUse) (file : Id) : Prop :=
  c.customOpts = true → ∀ u ∈ us, PostOpt c st u file

def PostTail (c : Ctx) (st : St) (i : Info) (ref : Option Id) : Prop :=
  EdgeOK st ref i.file ∧ PostEncl st i.parent ∧ PostOpts c st i.opts i.file

/-- a field whose type is not excluded when the oneof loop runs -/
def liveField (st : St) (f : Field) : Prop := ∀ t, f.ty = some t → rk st (.el t) ≠ 4

theorem fieldIncluded_iff {st : St} {f : Field} : fieldIncluded st f = true ↔ liveField st f := by
  unfold fieldIncluded liveField
  cases f.ty <;> simp [isExcl_false_iff]

theorem fieldIncluded_false_iff {st : St} {f : Field} :
    fieldIncluded st f = false ↔ ∃ t, f.ty = some t ∧ rk st (.el t) = 4 := by
  unfold fieldIncluded
  cases f.ty <;> simp [isExcl_iff]

def oneofMsg (k : Key) : Id := match k with | .el m => m | _ => 0

/-- every oneof is excluded or has a member whose type is not excluded; `¬ NonExt` (a type key that
    a later step may still exclude) is there so that the clause is monotone along `Le` -/
def PostOneofs (c : Ctx) (st : St) (i : Info) : Prop :=
  ∀ n, n < i.oneofs.length → rk st (.oneof (oneofMsg i.key) n) = 4 ∨
    ∃ f ∈ i.fields, f.oneof = some n ∧ (∀ t, f.ty = some t → rk st (.el t) ≠ 4 ∨ ¬ NonExt c (.el t))

def Post (c : Ctx) (st : St) : Task → Prop
  | .add k ref _ => PostAdd c st k ref
  | .field f file =>
      (∃ t, f.ty = some t ∧ rk st (.el t) = 4) ∨
      ((∀ t, f.ty = some t → PostAdd c st (.el t) (some file)) ∧ PostOpts c st f.opts file)
  | .oneofs k => ∀ i, c.idx.find k = some i → PostOneofs c st i
  | .svcMethod m => rk st (.el m.input) = 4 ∨ rk st (.el m.output) = 4 ∨ PostAdd c st (.el m.id) none
  | .extType k ref => ∀ i f, c.idx.find k = some i → i.fld = some f →
      rk st k = 4 ∨ ((∀ t, f.ty = some t → PostAdd c st (.el t) (some i.file)) ∧ PostTail c st i ref)
  | .imp fr to => EdgeOK st fr to
  | .encl p _ => PostEncl st p
  | .opts us file => PostOpts c st us file
  | .opt u file => PostOpt c st u file

theorem PostAdd.mono {c : Ctx} {a b : St} (h : Le c a b) {k : Key} {ref : Option Id} (p : PostAdd c a k ref) :
    PostAdd c b k ref := by
  intro i hi
  obtain ⟨h2, h4⟩ := p i hi
  refine ⟨Nat.le_trans h2 (h.mono k), ?_⟩
  rcases h4 with h4 | h4
  · exact Or.inl (h.excl h4)
  · exact Or.inr (h4.mono h)

theorem PostEncl.mono {c : Ctx} {a b : St} (h : Le c a b) {p : Option Key} (q : PostEncl a p) : PostEncl b p :=
  fun k hk => Nat.le_trans (q k hk) (h.mono k)

theorem PostOpt.mono {c : Ctx} {a b : St} (h : Le c a b) {u : OptUse} {file : Id} (p : PostOpt c a u file) :
    PostOpt c b u file := by
  rcases p with ⟨e, he, hx⟩ | ⟨h1, h2⟩
  · exact Or.inl ⟨e, he, h.excl hx⟩
  · exact Or.inr ⟨fun a ha => (h1 a ha).mono h, fun e he => (h2 e he).mono h⟩

theorem PostOpts.mono {c : Ctx} {a b : St} (h : Le c a b) {us : List OptUse} {file : Id}
    (p : PostOpts c a us file) : PostOpts c b us file :=
  fun hc u hu => (p hc u hu).mono h

theorem PostTail.mono {c : Ctx} {a b : St} (h : Le c a b) {i : Info} {ref : Option Id}
    (p : PostTail c a i ref) : PostTail c b i ref :=
  ⟨p.1.mono h, p.2.1.mono h, p.2.2.mono h⟩

theorem PostOneofs.mono {c : Ctx} (hc : c.cfg.svcMarksInput = false) {a b : St} (h : Le c a b) {i : Info}
    (p : PostOneofs c a i) :
    PostOneofs c b i := by
  intro n hn
  rcases p n hn with hx | ⟨f, hf, ho, ht⟩
  · exact Or.inl (h.excl hx)
  · refine Or.inr ⟨f, hf, ho, ?_⟩
    intro t htt
    rcases ht t htt with h1 | h1
    · by_cases hne : NonExt c (.el t)
      · left; intro h4; exact h1 (h.frozen hc _ hne h4)
      · exact Or.inr hne
    · exact Or.inr h1

theorem Post.mono {c : Ctx} (hc : c.cfg.svcMarksInput = false) {a b : St} (h : Le c a b) {t : Task}
    (p : Post c a t) : Post c b t := by
  cases t with
  | add k ref implied => exact PostAdd.mono h p
  | field f file =>
    rcases p with ⟨t, ht, hx⟩ | ⟨h1, h2⟩
    · exact Or.inl ⟨t, ht, h.excl hx⟩
    · exact Or.inr ⟨fun t ht => (h1 t ht).mono h, h2.mono h⟩
  | oneofs k => exact fun i hi => (p i hi).mono hc h
  | svcMethod m =>
    rcases p with p | p | p
    · exact Or.inl (h.excl p)
    · exact Or.inr (Or.inl (h.excl p))
    · exact Or.inr (Or.inr (p.mono h))
  | extType k ref =>
    intro i f hi hf
    rcases p i f hi hf with p | ⟨p1, p2⟩
    · exact Or.inl (h.excl p)
    · exact Or.inr ⟨fun t ht => (p1 t ht).mono h, p2.mono h⟩
  | imp fr to => exact EdgeOK.mono h p
  | encl q file => exact PostEncl.mono h p
  | opts us file => exact PostOpts.mono h p
  | opt u file => exact PostOpt.mono h p

theorem postTail_iff {c : Ctx} {st : St} {i : Info} {ref : Option Id} :
    PostTail c st i ref ↔ ∀ u ∈ postTasks i ref, Post c st u := by
  simp only [postTasks, PostTail, List.forall_mem_cons, Post, List.not_mem_nil, false_imp_iff, implies_true, and_true]

theorem PostTail.weaken {c : Ctx} {st : St} {i : Info} {ref : Option Id} (p : PostTail c st i ref) :
    PostTail c st i none :=
  ⟨p.1.weaken, p.2⟩

/-! #### the oneof loop excludes oneof keys and nothing else; an expansion moves the state up in `Le` -/

theorem oneofsStep_cons (st : St) (i : Info) (o : Oneof) (os : List Oneof) (n : Nat) :
    oneofsStep st i (o :: os) n =
      if (i.fields.filter (fun f => f.oneof = some n && fieldIncluded st f)).isEmpty then
        oneofsStep (st.set (.oneof (oneofMsg i.key) n) .excluded) i os (n + 1)
      else ((oneofsStep st i os (n + 1)).1, .opts o.opts i.file :: (oneofsStep st i os (n + 1)).2) := by
  rw [oneofsStep]
  unfold oneofMsg
  cases i.key <;> rfl

theorem not_nonExt_oneof (c : Ctx) (m : Id) (n : Nat) : ¬ NonExt c (.oneof m n) :=
  fun h => h.1 m n rfl

theorem oneofsStep_rk (st : St) (i : Info) (os : List Oneof) (n : Nat) (k : Key) :
    rk (oneofsStep st i os n).1 k = rk st k ∨ (rk (oneofsStep st i os n).1 k = 4 ∧ ∃ m j, k = .oneof m j) := by
  induction os generalizing st n with
  | nil => exact Or.inl rfl
  | cons o os ih =>
    rw [oneofsStep_cons]
    split
    · rcases ih (st.set (.oneof (oneofMsg i.key) n) .excluded) (n + 1) with h | h
      · rw [h, rk_set]
        split
        · rename_i e; exact Or.inr ⟨rfl, _, _, e⟩
        · exact Or.inl rfl
      · exact Or.inr h
    · exact ih _ _

theorem expand_le (c : Ctx) (st st1 : St) (k : Key) (ref : Option Id) (implied : Bool) (i : Info)
    (new : List Task) (hi : c.idx.find k = some i) (h : expand c st k ref implied i = .ok (st1, new)) :
    Le c st st1 := by
  rcases expand_cases c st st1 k ref implied i new (find_key _ _ _ hi) h with ⟨_, rfl, _⟩ | ⟨_, f, e, hf, _, h⟩
  · exact Le.refl _ _
  · rcases h with ⟨_, rfl, _⟩ | ⟨_, rfl, _⟩
    · refine le_set c st k .excluded (rk_le_four _ _) (fun _ _ => Or.inr ?_)
      intro hn
      have := hn.2 i hi
      rw [hf] at this; cases this
    · exact Le.refl _ _

/-- what a task on the stack carries from the step that pushed it; the writes `encl` and
    `dropOneof` rest on it -/
def Pushable (c : Ctx) : Task → Prop
  | .encl (some p) _ => ∃ i ∈ c.idx, i.parent = some p
  | .oneofs k => ∃ i, c.idx.find k = some i ∧ i.kind = .msg
  | _ => True

theorem oneofsStep_pushes (c : Ctx) (st : St) (i : Info) (os : List Oneof) (n : Nat) :
    ∀ u ∈ (oneofsStep st i os n).2, Pushable c u := by
  induction os generalizing st n with
  | nil => intro u hu; cases hu
  | cons o os ih =>
    rw [oneofsStep_cons]
    split
    · exact ih _ _
    · intro u hu
      rcases List.mem_cons.mp hu with rfl | hu
      · trivial
      · exact ih _ _ u hu

theorem postTasks_pushes (c : Ctx) (i : Info) (hi : i ∈ c.idx) (ref : Option Id) :
    ∀ u ∈ postTasks i ref, Pushable c u := by
  intro u hu
  simp only [postTasks, List.mem_cons, List.mem_nil_iff, or_false] at hu
  rcases hu with rfl | rfl | rfl
  · trivial
  · cases hp : i.parent with
    | none => trivial
    | some p => exact ⟨i, hi, hp⟩
  · trivial

/-! #### what the machine does to the state

  Every change of the closure state is one of eight justified writes; a state invariant is checked
  against the writes (`Writes.pres`, `closure_pres`) and never looks at `step`. -/

/-- One justified change of the closure state.  `k ↦ i` is the index entry the machine looked up
    before it wrote; the side conditions are what it had checked (or, for `encl` / `dropOneof`, what
    `Pushable` says of the task that wrote). -/
inductive Write (c : Ctx) (st : St) : St → Prop
  | imp (fr : Option Id) (to : Id) : Write c st (st.addImport fr to)
  | encl {k : Key} {i : Info} : st.get k = none → c.idx.find k = some i → (∃ j ∈ c.idx, j.parent = some k) →
      Write c st (st.set k .enclosing)
  | visit {k : Key} {i : Info} (implied : Bool) : (st.get k = none ∨ st.get k = some .enclosing) →
      c.idx.find k = some i →
      (i.kind = .ext → ∀ f e, i.fld = some f → f.extendee = some e → rk (st.set k (newMode implied)) (.el e) ≠ 4) →
      Write c st (st.set k (newMode implied))
  | visitDrop {k : Key} {i : Info} {f : Field} (implied : Bool) : (st.get k = none ∨ st.get k = some .enclosing) →
      c.idx.find k = some i → i.fld = some f → Write c st ((st.set k (newMode implied)).set k .excluded)
  | promote {k : Key} {i : Info} : st.get k = some .implicit → c.idx.find k = some i → Write c st (st.set k .explicit)
  | dropExt {k : Key} {i : Info} {f : Field} : c.idx.find k = some i → i.fld = some f → Write c st (st.set k .excluded)
  | dropOneof {k : Key} {i : Info} (n : Nat) : c.idx.find k = some i → i.kind = .msg →
      (∀ f ∈ i.fields, f.oneof = some n → ∃ t, f.ty = some t ∧ rk st (.el t) = 4) →
      Write c st (st.set (.oneof (oneofMsg k) n) .excluded)
  | markInput (x : Id) : c.cfg.svcMarksInput = true → Write c st (st.set (.el x) .excluded)

inductive Writes (c : Ctx) : St → St → Prop
  | refl (st : St) : Writes c st st
  | cons {a b d : St} : Write c a b → Writes c b d → Writes c a d

theorem Writes.one {c : Ctx} {a b : St} (w : Write c a b) : Writes c a b := .cons w (.refl _)

theorem Writes.trans {c : Ctx} {a b d : St} (h1 : Writes c a b) (h2 : Writes c b d) : Writes c a d := by
  induction h1 with
  | refl => exact h2
  | cons w _ ih => exact .cons w (ih h2)

theorem Writes.pres {c : Ctx} {a b : St} (h : Writes c a b) (P : St → Prop)
    (hw : ∀ s s', Write c s s' → P s → P s') (ha : P a) : P b := by
  induction h with
  | refl => exact ha
  | cons w _ ih => exact ih (hw _ _ w ha)

theorem oneofsStep_writes (c : Ctx) (k : Key) (i : Info) (hi : c.idx.find k = some i) (hk : i.kind = .msg)
    (st : St) (os : List Oneof) (n : Nat) : Writes c st (oneofsStep st i os n).1 := by
  induction os generalizing st n with
  | nil => exact .refl _
  | cons o os ih =>
    rw [oneofsStep_cons]
    split
    · rename_i hemp
      refine .cons ?_ (ih _ _)
      rw [find_key _ _ _ hi]
      refine .dropOneof n hi hk fun f hf ho => fieldIncluded_false_iff.mp ?_
      simpa [ho] using List.filter_eq_nil_iff.mp (List.isEmpty_iff.mp hemp) f hf
    · exact ih _ _

theorem pushable_map {α} (c : Ctx) (l : List α) (g : α → Task) (h : ∀ a, Pushable c (g a)) :
    ∀ u ∈ l.map g, Pushable c u := List.forall_mem_map.mpr fun a _ => h a

theorem kindTasks_pushes (c : Ctx) (i : Info) (hi : c.idx.find i.key = some i) : ∀ u ∈ kindTasks c i, Pushable c u := by
  have nil : ∀ u ∈ ([] : List Task), Pushable c u := fun _ h => nomatch h
  unfold kindTasks
  split
  · exact pushable_map c _ _ fun _ => trivial
  · rename_i hkind
    exact List.forall_mem_append.mpr ⟨List.forall_mem_append.mpr ⟨pushable_map c _ _ fun _ => trivial,
      List.forall_mem_cons.mpr ⟨⟨i, hi, hkind⟩, nil⟩⟩, pushable_map c _ _ fun _ => trivial⟩
  · exact pushable_map c _ _ fun _ => trivial
  · exact pushable_map c _ _ fun _ => trivial
  · exact List.forall_mem_cons.mpr ⟨trivial, List.forall_mem_cons.mpr ⟨trivial, nil⟩⟩
  · exact nil

/-- What a step does to the state and which tasks it pushes, as far as the invariants need it. -/
theorem step_spec (c : Ctx) (st st1 : St) (t : Task) (new : List Task)
    (h : step c st t = .ok (st1, new)) (hp : Pushable c t) : Writes c st st1 ∧ ∀ u ∈ new, Pushable c u := by
  have nil : ∀ u ∈ ([] : List Task), Pushable c u := fun _ h => nomatch h
  cases t with
  | add k ref implied =>
    obtain ⟨i, hi, hc⟩ := step_add_cases c st st1 k ref implied new h
    have hpost := postTasks_pushes c i (find_mem hi) ref
    rcases hc with ⟨_, rfl, rfl⟩ | ⟨_, rfl, rfl⟩ | ⟨hm, rfl, rfl⟩ | ⟨hk, he⟩
    · exact ⟨.refl _, nil⟩
    · exact ⟨.one (.imp _ _), nil⟩
    · refine ⟨?_, nil⟩
      split
      · exact .one (.imp _ _)
      · exact .cons (.promote hm hi) (.one (.imp _ _))
    · have hkey := find_key _ _ _ hi
      rcases expand_cases c _ st1 k ref implied i new hkey he with ⟨hkind, rfl, rfl⟩ | ⟨_, f, e, hf, hfe, hx⟩
      · exact ⟨.one (.visit implied hk hi (fun hx => absurd hx hkind)),
          List.forall_mem_append.mpr ⟨kindTasks_pushes c i (hkey ▸ hi), hpost⟩⟩
      · rcases hx with ⟨_, rfl, rfl⟩ | ⟨hx, rfl, rfl⟩
        · exact ⟨.one (.visitDrop implied hk hi hf), nil⟩
        · refine ⟨.one (.visit implied hk hi fun _ f' e' hf' hfe' => ?_),
            List.forall_mem_cons.mpr ⟨trivial, List.forall_mem_cons.mpr ⟨trivial, nil⟩⟩⟩
          rw [hf] at hf'; cases hf'
          rw [hfe] at hfe'; cases hfe'
          exact isExcl_false_iff.mp hx
  | field f file =>
    obtain ⟨rfl, hc⟩ := step_field_cases c st st1 f file new h
    refine ⟨.refl _, ?_⟩
    rcases hc with ⟨_, rfl⟩ | ⟨t, _, _, rfl⟩ | ⟨t, _, _, rfl⟩
    · exact List.forall_mem_cons.mpr ⟨trivial, nil⟩
    · exact nil
    · exact List.forall_mem_cons.mpr ⟨trivial, List.forall_mem_cons.mpr ⟨trivial, nil⟩⟩
  | oneofs k =>
    obtain ⟨i, hi, he⟩ := step_oneofs_cases c st st1 k new h
    obtain ⟨i', hi', hk⟩ := hp
    rw [hi] at hi'; cases hi'
    have h1 := oneofsStep_writes c k i hi hk st i.oneofs 0
    have h2 := oneofsStep_pushes c st i i.oneofs 0
    rw [he] at h1 h2; exact ⟨h1, h2⟩
  | svcMethod m =>
    rcases step_svcMethod_cases c st st1 m new h with ⟨_, rfl, rfl⟩ | ⟨_, _, rfl, rfl⟩
    · refine ⟨?_, nil⟩
      split
      · rename_i hs; exact .one (.markInput _ hs)
      · exact .refl _
    · exact ⟨.refl _, List.forall_mem_cons.mpr ⟨trivial, nil⟩⟩
  | extType k ref =>
    obtain ⟨i, f, hi, hf, hc⟩ := step_extType_cases c st st1 k ref new h
    have hpost := postTasks_pushes c i (find_mem hi) ref
    rcases hc with ⟨_, rfl, rfl⟩ | ⟨t, _, _, rfl, rfl⟩ | ⟨t, _, _, rfl, rfl⟩
    · exact ⟨.refl _, hpost⟩
    · exact ⟨.one (.dropExt hi hf), nil⟩
    · exact ⟨.refl _, List.forall_mem_cons.mpr ⟨trivial, hpost⟩⟩
  | imp fr to => obtain ⟨rfl, rfl⟩ := step_imp_cases c st st1 fr to new h; exact ⟨.one (.imp _ _), nil⟩
  | encl p file =>
    rcases step_encl_cases c st st1 p file new h with ⟨rfl, rfl, _⟩ | ⟨k, i, rfl, hk, hi, rfl, rfl⟩
    · exact ⟨.refl _, nil⟩
    · refine ⟨.one (.encl hk hi hp), List.forall_mem_cons.mpr ⟨trivial, List.forall_mem_cons.mpr ⟨?_, nil⟩⟩⟩
      cases hpar : i.parent with
      | none => trivial
      | some p => exact ⟨i, find_mem hi, hpar⟩
  | opts us file =>
    obtain ⟨rfl, hc⟩ := step_opts_cases c st st1 us file new h
    refine ⟨.refl _, ?_⟩
    rcases hc with ⟨_, rfl⟩ | ⟨_, rfl⟩
    · exact pushable_map c _ _ fun _ => trivial
    · exact nil
  | opt u' file =>
    obtain ⟨rfl, hc⟩ := step_opt_cases c st st1 u' file new h
    refine ⟨.refl _, ?_⟩
    rcases hc with ⟨e, _, _, rfl⟩ | ⟨_, rfl⟩
    · exact nil
    · unfold optTasks
      refine List.forall_mem_append.mpr ⟨pushable_map c _ _ fun _ => trivial, ?_⟩
      cases u'.ext with
      | none => exact nil
      | some e => exact List.forall_mem_cons.mpr ⟨trivial, nil⟩

theorem pushable_add (c : Ctx) (k : Key) (ref : Option Id) (implied : Bool) :
    ∀ t ∈ [Task.add k ref implied], Pushable c t :=
  fun t ht => by rw [List.mem_singleton.mp ht]; trivial

theorem run_writes (c : Ctx) (n : Nat) (st st' : St) (ts : List Task)
    (h : run c n st ts = .ok st') (ht : ∀ t ∈ ts, Pushable c t) : Writes c st st' :=
  run_ind c st' (fun st ts => (∀ t ∈ ts, Pushable c t) → Writes c st st') (fun _ => .refl _)
    (fun _ st t _ st1 new hs _ ih hp =>
      have sp := step_spec c st st1 t new hs (hp t List.mem_cons_self)
      sp.1.trans (ih (List.forall_mem_append.mpr ⟨sp.2, fun u hu => hp u (List.mem_cons_of_mem _ hu)⟩)))
    n st ts h ht

theorem runs_writes {c : Ctx} {fuel : Nat} {a b : St} (hr : Runs c fuel a b) : Writes c a b :=
  hr.pres (Writes c a) (fun _ _ _ h hw => hw.trans (run_writes c _ _ _ _ h (pushable_add c _ _ _))) (.refl _)

theorem closure_pres (cfg : Cfg) (img : Image) (o : Opts) (fuel : Nat) (st : St)
    (h : closure cfg img o fuel = .ok st) (P : St → Prop)
    (hw : ∀ s s', Write ⟨cfg, buildIndex img, o.customOpts⟩ s s' → P s → P s')
    (h0 : ∀ st0, foldlE (excludeType img (buildIndex img)) {} o.excludes = .ok st0 → P st0) : P st := by
  obtain ⟨st0, e0, hr⟩ := closure_runs cfg img o fuel st h
  exact (runs_writes hr).pres P hw (h0 st0 e0)

theorem not_nonExt_of_fld {c : Ctx} {k : Key} {i : Info} {f : Field} (hi : c.idx.find k = some i)
    (hf : i.fld = some f) : ¬ NonExt c k := fun hn => by
  have := hn.2 i hi; rw [hf] at this; cases this

theorem write_le {c : Ctx} {a b : St} (w : Write c a b) : Le c a b := by
  cases w with
  | imp fr to => exact le_addImport _ _ _ _
  | encl hk _ _ => exact le_set c a _ .enclosing (by rw [rk_of_get hk]; simp [rank]) (by simp)
  | visit implied hk _ _ =>
    refine le_set c a _ _ ?_ (by cases implied <;> simp [newMode])
    rcases hk with hk | hk <;> rw [rk_of_get hk] <;> cases implied <;> simp [rank, newMode]
  | visitDrop implied hk hi hf =>
    refine (le_set c a _ _ ?_ (by cases implied <;> simp [newMode])).trans
      (le_set c _ _ .excluded (rk_le_four _ _) fun _ _ => Or.inr (not_nonExt_of_fld hi hf))
    rcases hk with hk | hk <;> rw [rk_of_get hk] <;> cases implied <;> simp [rank, newMode]
  | promote hm _ => exact le_set c a _ .explicit (by rw [rk_of_get hm]; simp [rank]) (by simp)
  | dropExt hi hf => exact le_set c a _ .excluded (rk_le_four _ _) fun _ _ => Or.inr (not_nonExt_of_fld hi hf)
  | dropOneof n _ _ _ => exact le_set c a _ .excluded (rk_le_four _ _) fun _ _ => Or.inr (not_nonExt_oneof c _ _)
  | markInput x hs => exact le_set c a _ .excluded (rk_le_four _ _) fun hc => by rw [hc] at hs; cases hs

theorem writes_le {c : Ctx} {a b : St} (h : Writes c a b) : Le c a b :=
  h.pres (Le c a) (fun _ _ w hl => hl.trans (write_le w)) (Le.refl _ _)

theorem run_le (c : Ctx) (n : Nat) (st st' : St) (ts : List Task)
    (h : run c n st ts = .ok st') (hp : ∀ t ∈ ts, Pushable c t) : Le c st st' :=
  writes_le (run_writes c n st st' ts h hp)

theorem runs_le {c : Ctx} {fuel : Nat} {a b : St} (hr : Runs c fuel a b) : Le c a b :=
  writes_le (runs_writes hr)

/-! #### requirements of a visited element -/

/-- the sub-tasks an expansion of `i` pushes, with the import reference forgotten (`reqTasks_of_ne`) -/
def reqTasks (c : Ctx) (i : Info) : List Task :=
  (match i.kind with
    | .ext => match i.fld with
      | some f => (f.extendee.toList ++ f.ty.toList).map fun x => Task.add (.el x) (some i.file) false
      | none => []
    | _ => kindTasks c i) ++ postTasks i none

theorem reqTasks_of_ne {c : Ctx} {i : Info} (h : i.kind ≠ .ext) : reqTasks c i = kindTasks c i ++ postTasks i none := by
  unfold reqTasks
  split
  · rename_i hk; exact absurd hk h
  · rfl

def Reqs (c : Ctx) (st : St) (i : Info) : Prop := ∀ t ∈ reqTasks c i, Post c st t

theorem reqs_iff_of_ne {c : Ctx} {st : St} {i : Info} (hk : i.kind ≠ .ext) :
    Reqs c st i ↔ (∀ t ∈ kindTasks c i, Post c st t) ∧ PostTail c st i none := by
  unfold Reqs
  rw [reqTasks_of_ne hk, postTail_iff]
  exact List.forall_mem_append

theorem reqs_iff_of_ext {c : Ctx} {st : St} {i : Info} {f : Field} (hk : i.kind = .ext) (hf : i.fld = some f) :
    Reqs c st i ↔ (∀ x, f.extendee = some x ∨ f.ty = some x → PostAdd c st (.el x) (some i.file)) ∧
      PostTail c st i none := by
  unfold Reqs reqTasks
  simp only [hk, hf]
  rw [List.forall_mem_append, List.forall_mem_map, postTail_iff]
  simp only [List.mem_append, Option.mem_toList]
  rfl

theorem Reqs.seen {c : Ctx} {st : St} {i : Info} (h : Reqs c st i) : i.file ∈ st.seen :=
  (h (.imp none i.file) (by unfold reqTasks postTasks; simp)).1

theorem Reqs.kind {c : Ctx} {st : St} {i : Info} (h : Reqs c st i) (hk : i.kind ≠ .ext) :
    ∀ t ∈ kindTasks c i, Post c st t :=
  ((reqs_iff_of_ne hk).mp h).1

theorem Reqs.fileTy {c : Ctx} {st : St} {i : Info} (h : Reqs c st i) (hk : i.kind = .file) {t : Id}
    (ht : t ∈ fileTys c i) : PostAdd c st (.el t) none :=
  h.kind (by rw [hk]; simp) (.add (.el t) none false) (by
    unfold kindTasks; rw [hk]; exact List.mem_map.mpr ⟨t, ht, rfl⟩)

theorem Reqs.field {c : Ctx} {st : St} {i : Info} (h : Reqs c st i) (hk : i.kind = .msg) {f : Field}
    (hf : f ∈ i.fields) : Post c st (.field f i.file) :=
  h.kind (by rw [hk]; simp) _ (by
    unfold kindTasks; rw [hk]
    simp only [List.mem_append, List.mem_map]
    exact Or.inl (Or.inl ⟨f, hf, rfl⟩))

theorem Reqs.oneofs {c : Ctx} {st : St} {i : Info} (h : Reqs c st i) (hk : i.kind = .msg) :
    Post c st (.oneofs i.key) :=
  h.kind (by rw [hk]; simp) _ (by unfold kindTasks; rw [hk]; simp)

theorem Reqs.svcMethod {c : Ctx} {st : St} {i : Info} (h : Reqs c st i) (hk : i.kind = .svc) {m : Method}
    (hm : m ∈ i.methods) : Post c st (.svcMethod m) :=
  h.kind (by rw [hk]; simp) _ (by unfold kindTasks; rw [hk]; exact List.mem_map.mpr ⟨m, hm, rfl⟩)

theorem Reqs.methodIO {c : Ctx} {st : St} {i : Info} (h : Reqs c st i) (hk : i.kind = .method) :
    PostAdd c st (.el i.input) (some i.file) ∧ PostAdd c st (.el i.output) (some i.file) :=
  ⟨h.kind (by rw [hk]; simp) (.add (.el i.input) (some i.file) false) (by unfold kindTasks; rw [hk]; simp),
   h.kind (by rw [hk]; simp) (.add (.el i.output) (some i.file) false) (by unfold kindTasks; rw [hk]; simp)⟩

/-- index entry `i` refers to element `x`: the type of a field of a message, the value type or the
    extendee of an extension, the request or response type of a method -/
inductive Refers (i : Info) (x : Id) : Prop
  | field {g : Field} : i.kind = .msg → g ∈ i.fields → g.ty = some x → Refers i x
  | extTy {g : Field} : i.kind = .ext → i.fld = some g → g.ty = some x → Refers i x
  | extendee {g : Field} : i.kind = .ext → i.fld = some g → g.extendee = some x → Refers i x
  | input : i.kind = .method → i.input = x → Refers i x
  | output : i.kind = .method → i.output = x → Refers i x

/-- what a visited element refers to has been added with the import of its file (`PostAdd` holds
    outright of an excluded key, so the guard of the field loop does not show) -/
theorem Reqs.refers {c : Ctx} {st : St} {i : Info} {x : Id} (h : Reqs c st i) (r : Refers i x) :
    PostAdd c st (.el x) (some i.file) := by
  cases r with
  | field hk hg ht =>
    rcases h.field hk hg with ⟨t, ht', h4⟩ | ⟨h1, _⟩
    · rw [ht] at ht'; cases ht'
      exact fun _ _ => ⟨by omega, Or.inl h4⟩
    · exact h1 x ht
  | extTy hk hf ht => exact ((reqs_iff_of_ext hk hf).mp h).1 x (.inr ht)
  | extendee hk hf he => exact ((reqs_iff_of_ext hk hf).mp h).1 x (.inl he)
  | input hk e => exact e ▸ (h.methodIO hk).1
  | output hk e => exact e ▸ (h.methodIO hk).2

theorem Reqs.mono {c : Ctx} (hc : c.cfg.svcMarksInput = false) {a b : St} (h : Le c a b) {i : Info}
    (p : Reqs c a i) : Reqs c b i :=
  fun t ht => (p t ht).mono hc h

/-- what one step owes to the keys whose rank it raises -/
def KeyClauses (c : Ctx) (st st1 st' : St) : Prop :=
  ∀ k i, c.idx.find k = some i →
    (rk st k < 1 → 1 ≤ rk st1 k → rk st' k ≤ 3 → PostEncl st' i.parent) ∧
    (rk st k < 2 → 2 ≤ rk st1 k → rk st' k ≤ 3 → Reqs c st' i)

theorem keyClauses_same (c : Ctx) (st st' : St) : KeyClauses c st st st' :=
  fun _ _ _ => ⟨fun a b _ => by omega, fun a b _ => by omega⟩

theorem keyClauses_of_unch (c : Ctx) (st st1 st' : St) (hle : Le c st1 st')
    (hu : ∀ k, rk st1 k = rk st k ∨ rk st1 k = 4 ∨ 2 ≤ rk st k) : KeyClauses c st st1 st' := by
  intro k i _
  have h4 : rk st1 k = 4 → rk st' k = 4 := fun h => hle.excl h
  rcases hu k with h | h | h
  · exact ⟨fun a b _ => by omega, fun a b _ => by omega⟩
  · exact ⟨fun _ _ c => by have := h4 h; omega, fun _ _ c => by have := h4 h; omega⟩
  · exact ⟨fun a _ _ => by omega, fun a _ _ => by omega⟩

theorem oneofsStep_post (st : St) (i : Info) (os : List Oneof) (n : Nat) :
    ∀ j, j < os.length → rk (oneofsStep st i os n).1 (.oneof (oneofMsg i.key) (n + j)) = 4 ∨
      ∃ f ∈ i.fields, f.oneof = some (n + j) ∧ ∀ t, f.ty = some t → rk (oneofsStep st i os n).1 (.el t) ≠ 4 := by
  induction os generalizing st n with
  | nil => intro j hj; simp at hj
  | cons o os ih =>
    intro j hj
    rw [oneofsStep_cons]
    cases j with
    | zero =>
      simp only [Nat.add_zero]
      split
      · left
        rcases oneofsStep_rk (st.set (.oneof (oneofMsg i.key) n) .excluded) i os (n + 1) (.oneof (oneofMsg i.key) n) with h | h
        · rw [h, rk_set]; simp [rank]
        · exact h.1
      · rename_i hne
        obtain ⟨f, hf, ho, hl⟩ : ∃ f ∈ i.fields, f.oneof = some n ∧ liveField st f := by
          simpa [fieldIncluded_iff] using hne
        refine Or.inr ⟨f, hf, ho, fun t ht => ?_⟩
        rw [(oneofsStep_rk st i os (n + 1) (.el t)).resolve_right (fun h => nomatch h.2)]
        exact hl t ht
    | succ j =>
      have hj' : j < os.length := by simpa using hj
      have e : n + (j + 1) = (n + 1) + j := by omega
      rw [e]
      split
      · exact ih _ _ j hj'
      · exact ih _ _ j hj'

/-- Soundness of one step with respect to the post-conditions: if the pushed tasks get their
    post-conditions in a later state, so does the task itself, and the keys whose rank the step
    raised get their requirements. -/
theorem step_sound (c : Ctx) (hcfg : c.cfg.svcMarksInput = false) (st st1 : St) (t : Task) (new : List Task)
    (h : step c st t = .ok (st1, new)) (st' : St) (hle : Le c st1 st')
    (hnew : ∀ u ∈ new, Post c st' u) :
    Post c st' t ∧ KeyClauses c st st1 st' := by
  cases t with
  | add k ref implied =>
    obtain ⟨i, hi, hc⟩ := step_add_cases c st st1 k ref implied new h
    have hkey := find_key _ _ _ hi
    rcases hc with ⟨hm, rfl, rfl⟩ | ⟨hm, rfl, rfl⟩ | ⟨hm, rfl, rfl⟩ | ⟨hk, he⟩
    · have h4 : rk st' k = 4 := hle.excl (by rw [rk_of_get hm]; rfl)
      refine ⟨fun i' _ => ⟨by omega, Or.inl h4⟩, keyClauses_same c _ _⟩
    · have h3 : 3 ≤ rk st' k := by
        have := hle.mono k; rw [rk_addImport, rk_of_get hm] at this; exact this
      refine ⟨fun i' hi' => ⟨by omega, Or.inr ?_⟩,
        keyClauses_of_unch c _ _ _ hle (fun _ => Or.inl (rk_addImport _ _ _ _))⟩
      rw [hi] at hi'; cases hi'
      exact (edgeOK_addImport _ _ _).mono hle
    · have h2 : 2 ≤ rk st' k := by
        have := hle.mono k; rw [rk_addImport] at this
        split at this
        · rw [rk_of_get hm] at this; exact this
        · rw [rk_set] at this; simp [rank] at this; omega
      refine ⟨fun i' hi' => ⟨h2, Or.inr ?_⟩, keyClauses_of_unch c _ _ _ hle ?_⟩
      · rw [hi] at hi'; cases hi'
        exact (edgeOK_addImport _ _ _).mono hle
      · intro k'
        rw [rk_addImport]
        split
        · exact Or.inl rfl
        · rw [rk_set]
          split
          · rename_i e; right; right; rw [e, rk_of_get hm]; simp [rank]
          · exact Or.inl rfl
    · -- expansion
      have hr2 : rk (st.set k (newMode implied)) k ≥ 2 := by
        rw [rk_set]; cases implied <;> simp [newMode, rank]
      have hother : ∀ k', k' ≠ k → rk (st.set k (newMode implied)) k' = rk st k' := by
        intro k' hne; rw [rk_set]; simp [hne]
      have hle2 := expand_le c _ st1 k ref implied i new hi he
      have h2' : 2 ≤ rk st' k := Nat.le_trans hr2 (Nat.le_trans (hle2.mono k) (hle.mono k))
      -- generic finishing move once the obligations of `k` itself are known
      have fin : (rk st' k ≤ 3 → EdgeOK st' ref i.file ∧ PostEncl st' i.parent ∧ Reqs c st' i) →
          (∀ k', k' ≠ k → rk st1 k' = rk st k') →
          Post c st' (.add k ref implied) ∧ KeyClauses c st st1 st' := by
        intro hk3 hoth
        constructor
        · intro i' hi'
          rw [hi] at hi'; cases hi'
          refine ⟨h2', ?_⟩
          by_cases h4 : rk st' k = 4
          · exact Or.inl h4
          · exact Or.inr (hk3 (rk_le_three h4)).1
        · intro k' i' hi'
          by_cases e : k' = k
          · subst e
            rw [hi] at hi'; cases hi'
            exact ⟨fun _ _ h3 => (hk3 h3).2.1, fun _ _ h3 => (hk3 h3).2.2⟩
          · have := hoth k' e
            exact ⟨fun _ _ _ => by omega, fun _ _ _ => by omega⟩
      rcases expand_cases c _ st1 k ref implied i new hkey he with ⟨hkind, hst, hn⟩ | ⟨hkind, f, e, hf, hfe, hx⟩
      · -- every kind but `ext` pushes the tasks `reqTasks` lists, with the tail for `ref`
        subst hst
        refine fin (fun _ => ?_) hother
        rw [hn, List.forall_mem_append, ← postTail_iff] at hnew
        exact ⟨hnew.2.1, hnew.2.2.1, (reqs_iff_of_ne hkind).mpr ⟨hnew.1, hnew.2.weaken⟩⟩
      · rcases hx with ⟨_, rfl, rfl⟩ | ⟨_, rfl, rfl⟩
        · have h4 : rk st' k = 4 := hle.excl (by rw [rk_set]; simp [rank])
          refine fin (fun h3 => by omega) ?_
          intro k' hne; rw [rk_set]; simp only [hne, if_false]; exact hother k' hne
        · refine fin (fun h3 => ?_) hother
          have hext := hnew (.extType k ref) (by simp)
          have hadd : Post c st' (.add (.el e) (some i.file) implied) := hnew _ (by simp)
          rcases hext i f hi hf with h4 | ⟨hty, htail⟩
          · omega
          · refine ⟨htail.1, htail.2.1, (reqs_iff_of_ext hkind hf).mpr ⟨fun x hx => ?_, htail.weaken⟩⟩
            rcases hx with hx | hx
            · rw [hfe] at hx; cases hx
              exact hadd
            · exact hty x hx
  | field f file =>
    obtain ⟨rfl, hc⟩ := step_field_cases c st st1 f file new h
    refine ⟨?_, keyClauses_same c _ _⟩
    rcases hc with ⟨hty, rfl⟩ | ⟨t, hty, hx, rfl⟩ | ⟨t, hty, hx, rfl⟩
    · exact Or.inr ⟨(fun t ht => by rw [hty] at ht; cases ht), hnew (.opts f.opts file) (by simp)⟩
    · exact Or.inl ⟨t, hty, hle.excl (isExcl_iff.mp hx)⟩
    · refine Or.inr ⟨fun t' ht' => ?_, hnew (.opts f.opts file) (by simp)⟩
      rw [hty] at ht'; cases ht'
      exact hnew (.add (.el t) (some file) false) (by simp)
  | oneofs k =>
    obtain ⟨i, hi, he⟩ := step_oneofs_cases c st st1 k new h
    have hst1 : st1 = (oneofsStep st i i.oneofs 0).1 := by rw [he]
    constructor
    · intro i' hi'
      rw [hi] at hi'; cases hi'
      apply PostOneofs.mono hcfg hle
      intro n hn
      have := oneofsStep_post st i i.oneofs 0 n hn
      rw [← hst1] at this
      simp only [Nat.zero_add] at this
      rcases this with h4 | ⟨f, hf, ho, ht⟩
      · exact Or.inl h4
      · exact Or.inr ⟨f, hf, ho, fun t htt => Or.inl (ht t htt)⟩
    · apply keyClauses_of_unch c _ _ _ hle
      intro k'
      rw [hst1]
      exact (oneofsStep_rk st i i.oneofs 0 k').imp id fun h => Or.inl h.1
  | svcMethod m =>
    rcases step_svcMethod_cases c st st1 m new h with ⟨hx, rfl, rfl⟩ | ⟨_, _, rfl, rfl⟩
    · have e : (if c.cfg.svcMarksInput = true then st.set (.el m.input) .excluded else st) = st := by
        rw [hcfg]; rfl
      rw [e] at hle ⊢
      refine ⟨?_, keyClauses_same c _ _⟩
      rcases hx with hx | hx
      · exact Or.inl (hle.excl (isExcl_iff.mp hx))
      · exact Or.inr (Or.inl (hle.excl (isExcl_iff.mp hx)))
    · exact ⟨Or.inr (Or.inr (hnew (.add (.el m.id) none false) (by simp))),
        keyClauses_same c _ _⟩
  | extType k ref =>
    obtain ⟨i, f, hi, hf, hc⟩ := step_extType_cases c st st1 k ref new h
    rcases hc with ⟨hty, rfl, rfl⟩ | ⟨t, hty, hx, rfl, rfl⟩ | ⟨t, hty, hx, rfl, rfl⟩
    · refine ⟨?_, keyClauses_same c _ _⟩
      intro i' f' hi' hf'
      rw [hi] at hi'; cases hi'
      rw [hf] at hf'; cases hf'
      exact Or.inr ⟨(fun t ht => by rw [hty] at ht; cases ht), postTail_iff.mpr hnew⟩
    · refine ⟨?_, keyClauses_of_unch c _ _ _ hle ?_⟩
      · intro i' f' _ _
        exact Or.inl (hle.excl (by rw [rk_set]; simp [rank]))
      · intro k'; rw [rk_set]; split
        · right; left; rfl
        · left; rfl
    · refine ⟨?_, keyClauses_same c _ _⟩
      intro i' f' hi' hf'
      rw [hi] at hi'; cases hi'
      rw [hf] at hf'; cases hf'
      refine Or.inr ⟨fun t' ht' => ?_, postTail_iff.mpr fun u hu => hnew u (List.mem_cons_of_mem _ hu)⟩
      rw [hty] at ht'; cases ht'
      exact hnew (.add (.el t) (some i.file) false) (by simp)
  | imp fr to =>
    obtain ⟨rfl, rfl⟩ := step_imp_cases c st st1 fr to new h
    exact ⟨(edgeOK_addImport _ _ _).mono hle,
      keyClauses_of_unch c _ _ _ hle (fun _ => Or.inl (rk_addImport _ _ _ _))⟩
  | encl p file =>
    rcases step_encl_cases c st st1 p file new h with ⟨rfl, rfl, hp⟩ | ⟨k, i, rfl, hk, hi, rfl, rfl⟩
    · exact ⟨fun k hk => Nat.le_trans (hp k hk) (hle.mono k), keyClauses_same c _ _⟩
    · constructor
      · intro k' hk'
        cases hk'
        have := hle.mono k
        rw [rk_set] at this; simp [rank] at this; exact this
      · intro k' i' hi'
        by_cases e : k' = k
        · subst e
          rw [hi] at hi'; cases hi'
          refine ⟨fun _ _ _ => hnew (.encl i.parent file) (by simp), fun _ h2 _ => ?_⟩
          rw [rk_set] at h2; simp [rank] at h2
        · have : rk (st.set k .enclosing) k' = rk st k' := by rw [rk_set]; simp [e]
          exact ⟨fun _ _ _ => by omega, fun _ _ _ => by omega⟩
  | opts us file =>
    obtain ⟨rfl, hc⟩ := step_opts_cases c st st1 us file new h
    refine ⟨?_, keyClauses_same c _ _⟩
    rcases hc with ⟨_, rfl⟩ | ⟨hc, rfl⟩
    · intro _ u hu
      exact hnew (.opt u file) (by simp only [List.mem_map]; exact ⟨u, hu, rfl⟩)
    · intro hc'; rw [hc] at hc'; cases hc'
  | opt u file =>
    obtain ⟨rfl, hc⟩ := step_opt_cases c st st1 u file new h
    refine ⟨?_, keyClauses_same c _ _⟩
    rcases hc with ⟨e, he, hx, rfl⟩ | ⟨_, rfl⟩
    · exact Or.inl ⟨e, he, hle.excl (isExcl_iff.mp hx)⟩
    · refine Or.inr ⟨fun a ha => ?_, fun e he => ?_⟩
      · exact hnew (.add (.el a) (some file) false) (by unfold optTasks; simp only [List.mem_append, List.mem_map]; exact Or.inl ⟨a, ha, rfl⟩)
      · exact hnew (.add (.el e) (some file) true) (by unfold optTasks; rw [he]; simp)

/-- **The worklist invariant of the depth-first machine.**  When a run finishes, every task that
    was on the initial stack has its post-condition, and every key whose rank the run raised has
    its requirements (`PostEncl` of the parent for anything that got a mode, `Reqs` for anything
    that was visited). -/
theorem run_closed (c : Ctx) (hcfg : c.cfg.svcMarksInput = false) (n : Nat) (st st' : St) (ts : List Task)
    (h : run c n st ts = .ok st') (hp : ∀ t ∈ ts, Pushable c t) :
    (∀ t ∈ ts, Post c st' t) ∧ KeyClauses c st st' st' := by
  refine run_ind c st' (fun st ts => (∀ t ∈ ts, Pushable c t) → (∀ t ∈ ts, Post c st' t) ∧ KeyClauses c st st' st')
    (fun _ => ⟨nofun, keyClauses_same c _ _⟩) ?_ n st ts h hp
  intro m st t ts st1 new hs h ih hp
  have hp1 : ∀ u ∈ new ++ ts, Pushable c u := List.forall_mem_append.mpr
    ⟨(step_spec c st st1 t new hs (hp t List.mem_cons_self)).2, fun u hu => hp u (List.mem_cons_of_mem _ hu)⟩
  obtain ⟨hposts, hkeys⟩ := ih hp1
  obtain ⟨hpt, hk0⟩ := step_sound c hcfg st st1 t new hs st' (run_le c _ _ _ _ h hp1)
    (fun u hu => hposts u (List.mem_append_left _ hu))
  refine ⟨List.forall_mem_cons.mpr ⟨hpt, fun u hu => hposts u (List.mem_append_right _ hu)⟩, fun k i hi => ?_⟩
  obtain ⟨a1, a2⟩ := hk0 k i hi
  obtain ⟨b1, b2⟩ := hkeys k i hi
  constructor
  · intro h0 h1 h3
    by_cases hm : rk st1 k < 1
    · exact b1 hm h1 h3
    · exact a1 h0 (by omega) h3
  · intro h0 h1 h3
    by_cases hm : rk st1 k < 2
    · exact b2 hm h1 h3
    · exact a2 h0 (by omega) h3

/-- the closure state is closed: everything that has a (non-excluded) mode has a parent with a
    mode, and everything visited has all its requirements. -/
def Closed (c : Ctx) (st : St) : Prop :=
  ∀ k i, c.idx.find k = some i →
    (1 ≤ rk st k → rk st k ≤ 3 → PostEncl st i.parent) ∧
    (2 ≤ rk st k → rk st k ≤ 3 → Reqs c st i)

theorem Closed.reqs {c : Ctx} {st : St} (hc : Closed c st) {k : Key} {i : Info} (hi : c.idx.find k = some i)
    (h2 : 2 ≤ rk st k) (h4 : rk st k ≠ 4) : Reqs c st i :=
  (hc k i hi).2 h2 (rk_le_three h4)

theorem closed_of_onlyExcl (c : Ctx) (st : St) (h : OnlyExcl st) : Closed c st := by
  intro k i _
  have : rk st k = 0 ∨ rk st k = 4 := by
    rcases h k with h | h <;> rw [rk_of_get h] <;> simp [rank]
  exact ⟨fun _ _ => by omega, fun _ _ => by omega⟩

theorem closed_run (c : Ctx) (hcfg : c.cfg.svcMarksInput = false) (n : Nat) (st st' : St) (ts : List Task)
    (hc : Closed c st) (h : run c n st ts = .ok st') (hp : ∀ t ∈ ts, Pushable c t) : Closed c st' := by
  have hle := run_le c _ _ _ _ h hp
  obtain ⟨_, hk⟩ := run_closed c hcfg n st st' ts h hp
  intro k i hi
  obtain ⟨a1, a2⟩ := hk k i hi
  obtain ⟨b1, b2⟩ := hc k i hi
  have := hle.mono k
  constructor
  · intro h1 h3
    by_cases hm : rk st k < 1
    · exact a1 hm h1 h3
    · exact (b1 (by omega) (by omega)).mono hle
  · intro h2 h3
    by_cases hm : rk st k < 2
    · exact a2 hm h2 h3
    · exact (b2 (by omega) (by omega)).mono hcfg hle

/-- a state reachable from `s0` by runs of the machine: closed and above `s0` -/
def Good (c : Ctx) (s0 st : St) : Prop := Closed c st ∧ Le c s0 st

theorem runs_good {c : Ctx} (hcfg : c.cfg.svcMarksInput = false) {fuel : Nat} {s0 st st' : St}
    (hr : Runs c fuel st st') (hg : Good c s0 st) : Good c s0 st' :=
  hr.pres (Good c s0) (fun _ _ _ h g =>
    ⟨closed_run c hcfg _ _ _ _ g.1 h (pushable_add c _ _ _), g.2.trans (run_le c _ _ _ _ h (pushable_add c _ _ _))⟩) hg

theorem closure_good (cfg : Cfg) (hcfg : cfg.svcMarksInput = false) (img : Image) (o : Opts) (fuel : Nat) (st : St)
    (h : closure cfg img o fuel = .ok st) :
    ∃ st0, foldlE (excludeType img (buildIndex img)) {} o.excludes = .ok st0 ∧ OnlyExcl st0 ∧
      Good ⟨cfg, buildIndex img, o.customOpts⟩ st0 st := by
  obtain ⟨st0, h0, hr⟩ := closure_runs cfg img o fuel st h
  have ho := excludePhase_onlyExcl h0
  exact ⟨st0, h0, ho, runs_good hcfg hr ⟨closed_of_onlyExcl _ _ ho, Le.refl _ _⟩⟩

/-! ### includes are kept (closure level) -/

theorem run_add_explicit (c : Ctx) (n : Nat) (st st' : St) (k : Key)
    (ref : Option Id) (h : run c n st [.add k ref false] = .ok st') (hx : rk st k ≠ 4) : 3 ≤ rk st' k := by
  cases n with
  | zero => simp [run] at h
  | succ n =>
    simp only [run] at h
    split at h
    · cases h
    · rename_i st1 new hs
      have hle := run_le c _ _ _ _ h (fun u hu =>
        (step_spec c st st1 _ new hs trivial).2 u (by simpa using hu))
      refine Nat.le_trans ?_ (hle.mono k)
      obtain ⟨i, hi, hc⟩ := step_add_cases c st st1 k ref false new hs
      rcases hc with ⟨hm, _, _⟩ | ⟨hm, rfl, _⟩ | ⟨hm, rfl, _⟩ | ⟨hk, he⟩
      · exact absurd (rk_excl.mpr hm) hx
      · rw [rk_addImport, rk_of_get hm]; simp [rank]
      · rw [rk_addImport]; simp [rk_set, rank]
      · have := (expand_le c _ st1 k ref false i new hi he).mono k
        rw [rk_set] at this
        simpa [newMode, rank] using this

/-- the include-everything pass leaves every file that is not an import visited or excluded -/
theorem includeEverything_visits {c : Ctx} {img : Image} {fuel : Nat} {st st' : St}
    (h : includeEverything c img fuel st = .ok st') : ∀ g ∈ img.files, g.isImport = false → 2 ≤ rk st' (.file g.id) :=
  (foldlE_each (Le c) (fun (g : File) (s : St) => g.isImport = false → 2 ≤ rk s (.file g.id)) _
    (Le.refl c) (fun _ _ _ => Le.trans) (fun g b b' q hle hg => Nat.le_trans (q hg) (hle.mono _))
    (by
      intro b g b' hh
      split at hh
      · rename_i hg
        cases hh
        exact ⟨Le.refl _ _, fun hg' => by rw [hg'] at hg; cases hg⟩
      · split at hh
        · rename_i hx
          cases hh
          exact ⟨Le.refl _ _, fun _ => by rw [isExcl_iff.mp hx]; omega⟩
        · rename_i hx
          refine ⟨run_le c _ _ _ _ hh (pushable_add c _ _ _), fun _ => ?_⟩
          have := run_add_explicit c fuel b b' (.file g.id) none hh (isExcl_false_iff.mp (by simpa using hx))
          omega)
    st st' img.files h).2

theorem run_add_explicit_nonExt (c : Ctx) (hcfg : c.cfg.svcMarksInput = false) (n : Nat) (st st' : St) (k : Key)
    (ref : Option Id) (h : run c n st [.add k ref false] = .ok st') (hx : rk st k ≠ 4) (hn : NonExt c k) :
    rk st' k = 3 := by
  have h3 := run_add_explicit c n st st' k ref h hx
  have hle := run_le c _ _ _ _ h (pushable_add c _ _ _)
  have := rk_le_four st' k
  by_cases h4 : rk st' k = 4
  · exact absurd (hle.frozen hcfg k hn h4) hx
  · omega

theorem explicit_stable {c : Ctx} (hc : c.cfg.svcMarksInput = false) {a b : St} (h : Le c a b) {k : Key}
    (hn : NonExt c k) (h3 : rk a k = 3) :
    rk b k = 3 := by
  have := h.mono k
  have := rk_le_four b k
  by_cases h4 : rk b k = 4
  · have := h.frozen hc k hn h4; omega
  · omega

theorem closure_keeps_includes (cfg : Cfg) (hcfg : cfg.svcMarksInput = false) (img : Image) (o : Opts)
    (fuel : Nat) (st : St) (h : closure cfg img o fuel = .ok st) (n : Id) (hn : n ∈ o.includes)
    (i : Info) (hi : (buildIndex img).find (.el n) = some i) (hne : i.fld = none) :
    st.get (.el n) = some .explicit := by
  obtain ⟨st0, st1, st2, h0, h1, h2, h3⟩ := closure_phases cfg img o fuel st h
  let c : Ctx := ⟨cfg, buildIndex img, o.customOpts⟩
  have hnonExt : ∀ m j, c.idx.find (.el m) = some j → j.fld = none → NonExt c (.el m) :=
    fun m j hj hjn => ⟨by intro m j; simp, by intro j' hj'; rw [hj] at hj'; cases hj'; exact hjn⟩
  -- the include phase: the run of include `m` leaves `m` explicit, and so it stays
  have key := foldlE_each (Le c)
    (fun (m : Id) (s : St) => ∀ j, c.idx.find (.el m) = some j → j.fld = none → rk s (.el m) = 3)
    (includeType c img o fuel) (Le.refl c) (fun _ _ _ => Le.trans)
    (fun m b b' q hle j hj hjn => explicit_stable hcfg hle (hnonExt m j hj hjn) (q j hj hjn))
    (by
      intro b m b' hh
      refine ⟨runs_le (includeType_runs hh), ?_⟩
      intro j hj hjn
      obtain ⟨hx, hrun⟩ := includeType_el hj hh
      rw [find_key _ _ _ hj] at hrun hx
      exact run_add_explicit_nonExt c hcfg fuel b b' (.el m) none hrun (isExcl_false_iff.mp hx) (hnonExt m j hj hjn))
    st0 st1 o.includes h1
  have hle : Le c st1 st :=
    runs_le ((includeEverythingPhase_runs h2).trans (addExtensionsPhase_runs h3))
  have e3 : rk st (.el n) = 3 := explicit_stable hcfg hle (hnonExt n i hi hne) (key.2 n hn i hi hne)
  unfold rk at e3
  cases hm : st.get (.el n) with
  | none => rw [hm] at e3; simp [rank] at e3
  | some m => rw [hm] at e3; cases m <;> simp [rank] at e3 ⊢

end BufProofs.FilterClosure
