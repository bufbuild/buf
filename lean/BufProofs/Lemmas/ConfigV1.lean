import BufProofs.Lemmas.ConfigMigrate
/-
  C16: buf.yaml v1beta1 / v1 in full — the build section (roots × excludes, which the
  writer re-joins and the reader splits again: ConfigRoots), name, deps, lint, breaking:
  `readV1 ver e = some c → readV1 ver (writeV1 c) = some c`.
-/
namespace BufModel.Config
open BufModel.Path

/-! ### what the v1beta1 / v1 reader returns -/

theorem readV1_some {ver : Ver} {e : ExtV1} {c : BufYAML} (h : readV1 ver e = some c) :
    ∃ name rte deps lint brk, (ver = .v1 → e.roots = []) ∧
      getRootToExcludes e.roots e.excludes = some rte ∧
      readLint false e.lint [] true = some lint ∧ readBreaking e.breaking [] true = some brk ∧
      c = ⟨ver, [⟨[], name, rte.map fun (r, ex) => ⟨r, [], sortU keyLt ex⟩, lint, brk⟩],
           sortU depLt deps, []⟩ := by
  unfold readV1 at h
  obtain ⟨hv1, h⟩ := Option.ite_none_left_eq_some.mp h
  split at h
  · rename_i name rte deps lint brk _ hrte _ hl hb
    obtain ⟨-, -, -, rfl⟩ := newBufYAML_eq_some.mp h
    refine ⟨name, rte, deps, lint, brk, ?_, hrte, hl, hb, by simp [sortStable, insertS]⟩
    rintro rfl
    simpa using hv1
  · cases h

/-- What `migrate_workspace_owners` assumes of a workspace holds of everything the v1beta1 / v1 reader returns. -/
theorem readV1_roots_wf {ver : Ver} {e : ExtV1} {c : BufYAML} (h : readV1 ver e = some c) :
    ∀ m ∈ c.modules, WFRootsV1 m := by
  obtain ⟨name, rte, deps, lint, brk, -, hrte, -, -, rfl⟩ := readV1_some h
  intro m hm
  obtain rfl := List.mem_singleton.mp hm
  intro r hr
  obtain ⟨re, hre, rfl⟩ := List.mem_map.mp hr
  exact (getRootToExcludes_wf hrte re hre).1

structure WFFileV1 (ver : Ver) (c : BufYAML) : Prop where
  hver : c.version = ver
  mod : ∃ m, c.modules = [m] ∧ m.dirPath = [] ∧ WFRootsList m.roots ∧ WFLint m.lint ∧ WFBreaking m.breaking ∧
    (ver = .v1 → ∃ ex, m.roots = [⟨[], [], ex⟩])
  depsSorted : Sorted depLt c.deps
  depsUnique : uniqueNonEmpty (c.deps.map (·.full)) = true
  plugins : c.plugins = []

theorem readV1_wf {ver : Ver} {e : ExtV1} {c : BufYAML} (h : readV1 ver e = some c) : WFFileV1 ver c := by
  have hroots := readV1_roots_wf h
  obtain ⟨name, rte, deps, lint, brk, hv1, hrte, hl, hb, rfl⟩ := readV1_some h
  have hroots := hroots _ (List.mem_singleton.mpr rfl)
  obtain ⟨hs, hu⟩ := sortU_keyed (lt := depLt) Dep.full (fun _ _ => rfl) deps
  have hfst := getRootToExcludes_fst hrte
  obtain ⟨ks, hks, hka, hrs⟩ := normCheckPaths_some hfst
  have hrootmap : (rte.map fun (r, ex) => (⟨r, [], sortU keyLt ex⟩ : Root)).map (·.root) = rte.map (·.1) := by
    rw [List.map_map]; apply List.map_congr_left; intro a _; rfl
  refine ⟨rfl, ⟨_, rfl, rfl, ⟨?_, ?_, ?_, ?_⟩, readLint_wf hl, readBreaking_wf hb, ?_⟩, hs,
    hu, rfl⟩
  · -- non-empty: the reader's root list is, and `sortU` keeps that
    intro e0
    have hks0 : ks ≠ [] := fun e1 => by
      have hlen := (BufProofs.ListLemmas.mapM_some hks).1
      rw [e1] at hlen
      have := List.length_eq_zero_iff.mp hlen.symm
      split at this
      · cases this
      · contradiction
    rw [List.map_eq_nil_iff.mp e0] at hrs
    exact sortU_ne_nil keyLt ks hks0 hrs.symm
  · rw [hrootmap, hrs]; exact sorted_sortU keyLt_total.trans ks
  · rw [hrootmap, hrs]; exact antichain_sortU ks hka
  · intro r hr
    obtain ⟨re, _, rfl⟩ := List.mem_map.mp hr
    have hwf := hroots _ hr
    exact ⟨rfl, hwf.we, hwf.eok⟩
  · intro hver
    obtain ⟨ex, rfl⟩ := getRootToExcludes_dot_eq (.inl (hv1 hver)) hrte
    exact ⟨sortU keyLt ex, rfl⟩

/-! ### the round trip -/

theorem newBufYAML_selfV1 {ver : Ver} (c : BufYAML) (h : WFFileV1 ver c) :
    newBufYAML ver c.modules [] c.deps = some c := by
  obtain ⟨m, hm, _⟩ := h.mod
  unfold newBufYAML
  rw [hm]
  simp only [List.cons_ne_self, if_false, List.map_cons, List.map_nil, h.depsUnique]
  have hu : uniqueNonEmpty [m.name] = true := by simp [uniqueNonEmpty]
  simp only [hu, Bool.not_true, Bool.false_eq_true, if_false]
  rw [sortU_eq_self _ h.depsSorted]
  have hs : sortStable moduleLt [m] = [m] := by simp [sortStable, insertS]
  rw [hs]
  have hv := h.hver
  have hp := h.plugins
  cases c
  simp only at hv hp hm
  simp [hv, hp, hm]

/-- The writer's two abbreviations of the build section — `roots` left out for the single root ".", no joining
    there — read like the full form. -/
theorem getRootToExcludes_writeV1 {c : BufYAML} {m : Module} {rest : List Module} (hm : c.modules = m :: rest)
    (hv1 : c.version = .v1 → ∃ ex, m.roots = [⟨[], [], ex⟩]) :
    (c.version = .v1 → (writeV1 c).roots = []) ∧
      getRootToExcludes (writeV1 c).roots (writeV1 c).excludes =
        getRootToExcludes (m.roots.map fun r => P.ok r.root)
          (m.roots.flatMap fun r => r.excludes.map fun x => P.ok (r.root ++ x)) := by
  unfold writeV1 writeV1With
  rw [hm]
  dsimp only
  by_cases hv : c.version = .v1
  · obtain ⟨ex, hex⟩ := hv1 hv
    simp [hv, hex, getRootToExcludes_nil_eq]
  · refine ⟨fun e => absurd e hv, ?_⟩
    simp only [hv, decide_false, Bool.false_or]
    split
    · rename_i r hr
      by_cases ht : r.root = [] ∧ r.excludes = []
      · simp [hr, ht.1, ht.2, getRootToExcludes_nil_eq]
      · simp [hr, ht]
    · rfl

theorem readV1_writeV1_wf (ver : Ver) (c : BufYAML) (h : WFFileV1 ver c) :
    readV1 ver (writeV1 c) = some c := by
  obtain ⟨m, hm, hdir, hR, hl, hb, hv1⟩ := h.mod
  obtain rfl := h.hver
  have hself := newBufYAML_selfV1 c h
  rw [hm] at hself
  obtain ⟨hrv1, hg⟩ := getRootToExcludes_writeV1 hm hv1
  rw [getRootToExcludes_rt m.roots hR] at hg
  have hrte : ((m.roots.map fun r => (r.root, r.excludes)).map fun (r, ex) => (⟨r, [], sortU keyLt ex⟩ : Root)) = m.roots := by
    rw [List.map_map]
    refine BufProofs.ListLemmas.map_id_of_forall _ _ fun r hr => ?_
    obtain ⟨hi, hwk, -⟩ := hR.each r hr
    simp only [Function.comp]
    rw [sortU_eq_self _ hwk.sorted]
    cases r
    simp only at hi
    simp [hi]
  have hw : writeV1 c = ⟨extNameOf m.name, c.deps.map extDepOf, (writeV1 c).roots, (writeV1 c).excludes,
      extLintOf false m.lint [], extBreakingOf m.breaking []⟩ := by
    unfold writeV1 writeV1With; rw [hm]
  have hguard : (decide (c.version = .v1) && decide ((writeV1 c).roots ≠ [])) = false := by
    by_cases hver1 : c.version = .v1
    · rw [hrv1 hver1]; simp
    · simp [hver1]
  unfold readV1
  rw [hguard, hw]
  simp only [Bool.false_eq_true, if_false, readName_extNameOf, hg,
    readDeps_ext, readLint_extLintOf false m.lint [] true hl, readBreaking_extBreakingOf m.breaking [] true hb, hrte]
  have hmeq : (⟨[], m.name, m.roots, m.lint, m.breaking⟩ : Module) = m := by
    cases m; simp only at hdir; simp [hdir]
  rw [hmeq]
  exact hself

theorem readV1_writeV1 (ver : Ver) (e : ExtV1) (c : BufYAML) (h : readV1 ver e = some c) :
    readV1 ver (writeV1 c) = some c :=
  readV1_writeV1_wf ver c (readV1_wf h)

end BufModel.Config
