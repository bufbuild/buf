import BufModel.Generate
import BufProofs.Lemmas.PathLemmas
/-
  The response side of C17: what `generateCode` does with the plugins' responses.

  One `writeResponse` changes the key set of a bucket in exactly one way: the validated names of its
  plain files are added (an insertion point needs its target and creates nothing).  The two writers
  (directories only; with archives) apply one response after the other and differ only in the bucket
  a location starts with, so per output location the result is ONE `writeResponse`, into a fresh
  bucket, over the files of that location's plugins in configuration order.  Provenance, the forward
  direction and the insertion-point clause of the property theorems are read off these two
  statements.  `ValidatePluginResponses` is a scan of the list of keys for a repetition.  Last, the
  disk path of a flushed object.
-/
namespace BufModel.Generate
open BufModel.Path BufModel.Bucket

/-! ### One bucket -/

/-- A bucket key that is a validated relative path: proper name components only, at least one. -/
def KeyOK (k : Str) : Prop := ∃ ns : Key, AllProper ns ∧ ns ≠ [] ∧ k = renderKey ns

theorem validatePath_keyOK {s k : Str} (h : validatePath s = .ok k) : KeyOK k := by
  unfold validatePath at h
  split at h
  · cases h
  · rename_i p hp
    split at h
    · cases h
    · rename_i hne
      injection h with h; subst h
      obtain ⟨ns, hns, e⟩ := validate_sound s p hp
      refine ⟨ns, hns, ?_, e⟩
      intro hnil; subst hnil
      apply hne; rw [e]; rfl

theorem find_some_mem_keys {m : Mem} {p : Str} {c : Content} (h : m.find p = some c) : p ∈ m.keys := by
  induction m with
  | nil => simp [Mem.find] at h
  | cons kv rest ih =>
    obtain ⟨k, v⟩ := kv
    unfold Mem.find at h
    split at h
    · rename_i hk; subst hk; simp [Mem.keys]
    · have := ih h
      simp only [Mem.keys, List.map_cons, List.mem_cons] at this ⊢
      exact Or.inr this

theorem mem_keys_erase {m : Mem} {p k : Str} : k ∈ (m.erase p).keys ↔ k ∈ m.keys ∧ k ≠ p := by
  unfold Mem.erase Mem.keys
  constructor
  · intro h
    obtain ⟨kv, hkv, rfl⟩ := List.mem_map.mp h
    have := List.mem_filter.mp hkv
    exact ⟨List.mem_map_of_mem this.1, by simpa using this.2⟩
  · rintro ⟨h, hne⟩
    obtain ⟨kv, hkv, rfl⟩ := List.mem_map.mp h
    exact List.mem_map.mpr ⟨kv, List.mem_filter.mpr ⟨hkv, by simpa using hne⟩, rfl⟩

theorem memPut_keys {m m' : Mem} {name : Str} {c : Content} (h : memPut m name c = .ok m') :
    ∃ p, validatePath name = .ok p ∧ ∀ k, k ∈ m'.keys ↔ k = p ∨ k ∈ m.keys := by
  unfold memPut at h
  split at h
  · cases h
  · rename_i p hp
    injection h with h; subst h
    refine ⟨p, hp, fun k => ?_⟩
    show k ∈ p :: (m.erase p).keys ↔ _
    rw [List.mem_cons, mem_keys_erase]
    by_cases e : k = p <;> simp [e]

theorem memGet_key {m : Mem} {name : Str} {c : Content} (h : memGet m name = .ok c) :
    ∃ p, validatePath name = .ok p ∧ p ∈ m.keys := by
  unfold memGet at h
  split at h
  · cases h
  · rename_i p hp
    split at h
    · rename_i c' hf
      exact ⟨p, hp, find_some_mem_keys hf⟩
    · cases h

theorem liftP_ok {α : Type} {r : Except PErr α} {a : α} (h : liftP r = .ok a) : r = .ok a := by
  cases r with
  | error e => simp [liftP] at h
  | ok b => simp [liftP] at h; subst h; rfl

/-- One response file: its validated name is a key afterwards; a plain file creates/overwrites
    exactly that key; an insertion point needs its target to be in the same bucket already and
    creates nothing. -/
theorem writeFile_keys {m m' : Mem} {f : RFile} (h : writeFile m f = .ok m') :
    (∃ p, validatePath f.getName = .ok p ∧ p ∈ m'.keys ∧ (f.getIP ≠ [] → p ∈ m.keys)) ∧
      ∀ k, k ∈ m'.keys ↔ k ∈ m.keys ∨ f.getIP = [] ∧ validatePath f.getName = .ok k := by
  unfold writeFile at h
  split at h
  · rename_i hip
    split at h
    · cases h
    · rename_i target hget
      split at h
      · cases h
      · obtain ⟨p, hp, hk⟩ := memGet_key hget
        obtain ⟨p', hp', hk'⟩ := memPut_keys (liftP_ok h)
        cases hp.symm.trans hp'
        refine ⟨⟨p, hp, (hk' p).mpr (Or.inl rfl), fun _ => hk⟩, fun k => ?_⟩
        rw [hk' k]
        exact ⟨fun h => Or.inl (h.elim (· ▸ hk) id), fun h => Or.inr (h.resolve_right fun h => hip h.1)⟩
  · rename_i hip
    obtain ⟨p, hp, hk⟩ := memPut_keys (liftP_ok h)
    refine ⟨⟨p, hp, (hk p).mpr (Or.inl rfl), fun hne => absurd hne hip⟩, fun k => ?_⟩
    rw [hk k, hp, Or.comm]
    simp [Decidable.not_not.mp hip, eq_comm]

/-- A successful `writeResponse`: the keys afterwards are the keys before and the validated names
    of the plain files (an insertion point creates nothing: its target is there already), and every
    file's validated name is a key afterwards. -/
theorem writeResponse_keys : ∀ (fs : List RFile) (m m' : Mem), writeResponse m fs = .ok m' →
    (∀ k, k ∈ m'.keys ↔ k ∈ m.keys ∨ ∃ f ∈ fs, f.getIP = [] ∧ validatePath f.getName = .ok k) ∧
    ∀ f ∈ fs, ∃ k, validatePath f.getName = .ok k ∧ k ∈ m'.keys
  | [], m, m', h => by
    simp only [writeResponse, Except.ok.injEq] at h; subst h
    simp
  | f :: fs, m, m', h => by
    unfold writeResponse at h
    split at h
    · cases h
    · rename_i m1 hw
      obtain ⟨⟨p, hp, hp1, _⟩, hkeys⟩ := writeFile_keys hw
      obtain ⟨r1, r2⟩ := writeResponse_keys fs m1 m' h
      refine ⟨fun k => ?_, List.forall_mem_cons.mpr ⟨⟨p, hp, (r1 p).mpr (Or.inl hp1)⟩, r2⟩⟩
      rw [r1 k, hkeys k, or_assoc]
      simp only [List.mem_cons, exists_eq_or_imp]

theorem writeResponse_append : ∀ (a b : List RFile) (m : Mem),
    writeResponse m (a ++ b) =
      match writeResponse m a with
      | .error e => .error e
      | .ok m1 => writeResponse m1 b
  | [], _, _ => rfl
  | f :: a, b, m => by
    simp only [List.cons_append, writeResponse]
    cases writeFile m f with
    | error e => rfl
    | ok m1 => exact writeResponse_append a b m1

/-! ### The buckets are a map -/

theorem find_mem {bs : Buckets} {o : Str} {m : Mem} (h : bs.find o = some m) : (o, m) ∈ bs := by
  induction bs with
  | nil => simp [Buckets.find] at h
  | cons kv rest ih =>
    obtain ⟨k, v⟩ := kv
    unfold Buckets.find at h
    split at h
    · rename_i hk; injection h with h; subst hk; subst h; simp
    · exact List.mem_cons_of_mem _ (ih h)

theorem find_set_same (bs : Buckets) (o : Str) (m : Mem) : (bs.set o m).find o = some m := by
  induction bs with
  | nil => simp [Buckets.set, Buckets.find]
  | cons kv rest ih =>
    obtain ⟨k, v⟩ := kv
    unfold Buckets.set
    by_cases hk : k = o
    · simp [hk, Buckets.find]
    · simp [hk, Buckets.find, ih]

theorem find_set_ne (bs : Buckets) {o o' : Str} (m : Mem) (h : o' ≠ o) : (bs.set o m).find o' = bs.find o' := by
  induction bs with
  | nil => simp [Buckets.set, Buckets.find, Ne.symm h]
  | cons kv rest ih =>
    obtain ⟨k, v⟩ := kv
    unfold Buckets.set
    by_cases hk : k = o
    · subst hk; simp [Buckets.find, Ne.symm h]
    · by_cases hk' : k = o'
      · subst hk'; simp [hk, Buckets.find]
      · simp [hk, hk', Buckets.find, ih]

def bkeys (bs : Buckets) : List Str := bs.map (·.1)

theorem find_none_not_mem {bs : Buckets} {o : Str} (h : bs.find o = none) : o ∉ bkeys bs := by
  induction bs with
  | nil => simp [bkeys]
  | cons kv rest ih =>
    obtain ⟨k, v⟩ := kv
    unfold Buckets.find at h
    split at h
    · cases h
    · rename_i hk
      simp only [bkeys, List.map_cons, List.mem_cons, not_or]
      exact ⟨fun e => hk e.symm, ih h⟩

theorem bkeys_set (bs : Buckets) (o : Str) (m : Mem) :
    bkeys (bs.set o m) = if o ∈ bkeys bs then bkeys bs else bkeys bs ++ [o] := by
  induction bs with
  | nil => simp [Buckets.set, bkeys]
  | cons kv rest ih =>
    obtain ⟨k, v⟩ := kv
    unfold Buckets.set
    by_cases hk : k = o
    · subst hk; simp [bkeys]
    · have hne : ¬ o = k := fun e => hk e.symm
      have hs : bkeys ((k, v) :: Buckets.set rest o m) = k :: bkeys (Buckets.set rest o m) := rfl
      have hb : bkeys ((k, v) :: rest) = k :: bkeys rest := rfl
      simp only [hk, if_false]
      rw [hs, ih, hb]
      by_cases hmem : o ∈ bkeys rest
      · simp [hmem]
      · simp [hmem, hne]

theorem nodup_bkeys_set {bs : Buckets} (o : Str) (m : Mem) (h : (bkeys bs).Nodup) :
    (bkeys (bs.set o m)).Nodup := by
  rw [bkeys_set]
  split
  · exact h
  · rename_i hno
    exact List.nodup_append.mpr ⟨h, by simp, by
      intro a ha b hb
      simp at hb; subst hb
      exact fun e => hno (e ▸ ha)⟩

theorem mem_iff_find {bs : Buckets} (hn : (bkeys bs).Nodup) {o : Str} {m : Mem} :
    (o, m) ∈ bs ↔ bs.find o = some m := by
  refine ⟨fun hm => ?_, find_mem⟩
  induction bs with
  | nil => cases hm
  | cons kv rest ih =>
    obtain ⟨k, v⟩ := kv
    have hn' := List.nodup_cons.mp hn
    unfold Buckets.find
    rcases List.mem_cons.mp hm with e | hm
    · injection e with e1 e2; subst e1; subst e2; simp
    · have hne : k ≠ o := fun e => hn'.1 (e ▸ List.mem_map_of_mem (f := (·.1)) hm)
      rw [if_neg hne]; exact ih hn'.2 hm

def HasKey (bs : Buckets) (o k : Str) : Prop := ∃ m, bs.find o = some m ∧ k ∈ m.keys

theorem hasKey_flushed {bs : Buckets} {o k : Str} (h : HasKey bs o k) :
    ∃ c, (o, k, c) ∈ flushed bs := by
  obtain ⟨m, hf, hk⟩ := h
  unfold Mem.keys at hk
  obtain ⟨⟨k', c⟩, hkc, rfl⟩ := List.mem_map.mp hk
  refine ⟨c, ?_⟩
  unfold flushed
  exact List.mem_flatMap.mpr ⟨(o, m), find_mem hf, List.mem_map.mpr ⟨(k', c), hkc, rfl⟩⟩

/-! ### One response, both writers -/

theorem liftG_ok {α : Type} {r : Except GErr α} {a : α} (h : liftG r = .ok a) : r = .ok a := by
  cases r with
  | error e => simp [liftG] at h
  | ok b => simp [liftG] at h; rw [h]

theorem newBucket_keys {fs : FS} {o : Str} {m : Mem} (h : newBucket fs o = .ok m) :
    ∀ k ∈ m.keys, outKind o = .jar ∧ k = manifestKey := by
  unfold newBucket at h
  split at h
  · cases h; nofun
  · split at h
    · cases h
    · cases h
    · split at h
      · rename_i hj
        obtain ⟨p, hp, hkeys⟩ := memPut_keys (liftP_ok (liftG_ok h))
        rw [show validatePath manifestKey = .ok manifestKey by decide] at hp
        cases hp
        exact fun k hk => ⟨hj, ((hkeys k).mp hk).resolve_right nofun⟩
      · cases h; nofun

/-- The bucket a response for location `o` is written into: the one `o` has, else a fresh one. -/
def Start (fresh : Str → Mem → Prop) (bs : Buckets) (o : Str) (m0 : Mem) : Prop :=
  match bs.find o with
  | some m => m0 = m
  | none => fresh o m0

/-- What applying one plugin's response does, for both writers. -/
def Applied (fresh : Str → Mem → Prop) (cwd : Str) (bs : Buckets) (p : PluginResp) (bs' : Buckets) : Prop :=
  ∃ m0 m, Start fresh bs (absPath cwd p.out) m0 ∧ writeResponse m0 p.files = .ok m ∧
    bs' = bs.set (absPath cwd p.out) m

inductive Run (fresh : Str → Mem → Prop) (cwd : Str) : Buckets → List PluginResp → Buckets → Prop
  | nil (bs : Buckets) : Run fresh cwd bs [] bs
  | cons {bs b1 bs' : Buckets} {p : PluginResp} {ps : List PluginResp} :
      Applied fresh cwd bs p b1 → Run fresh cwd b1 ps bs' → Run fresh cwd bs (p :: ps) bs'

/-- the directory-only writer makes empty buckets -/
def freshDir (_ : Str) (m0 : Mem) : Prop := m0 = []

theorem addResponse_applied {cwd : Str} {bs bs' : Buckets} {p : PluginResp}
    (h : addResponse cwd bs p = .ok bs') : Applied freshDir cwd bs p bs' := by
  unfold addResponse at h
  simp only at h
  split at h
  · cases h
  · rename_i m hw
    injection h with h
    refine ⟨_, m, ?_, hw, h.symm⟩
    unfold Start freshDir
    cases bs.find (absPath cwd p.out) <;> rfl

theorem addResponses_run {cwd : Str} : ∀ {ps : List PluginResp} {bs bs' : Buckets},
    addResponses cwd bs ps = .ok bs' → Run freshDir cwd bs ps bs'
  | [], bs, bs', h => by simp only [addResponses, Except.ok.injEq] at h; subst h; exact .nil _
  | p :: ps, bs, bs', h => by
    unfold addResponses at h
    split at h
    · cases h
    · rename_i b1 hadd
      exact .cons (addResponse_applied hadd) (addResponses_run h)

theorem addResponseA_applied {fs : FS} {cwd : Str} {bs bs' : Buckets} {p : PluginResp}
    (h : addResponseA fs cwd bs p = .ok bs') : Applied (fun o m0 => newBucket fs o = .ok m0) cwd bs p bs' := by
  unfold addResponseA at h
  simp only at h
  split at h
  · cases h
  · rename_i m0 hstart
    split at h
    · cases h
    · rename_i m hw
      injection h with h
      refine ⟨m0, m, ?_, hw, h.symm⟩
      unfold Start
      cases hf : bs.find (absPath cwd p.out) with
      | none => rw [hf] at hstart; exact hstart
      | some mm => rw [hf] at hstart; injection hstart with hstart; exact hstart.symm

theorem addResponsesA_run {fs : FS} {cwd : Str} : ∀ {ps : List PluginResp} {bs bs' : Buckets},
    addResponsesA fs cwd bs ps = .ok bs' → Run (fun o m0 => newBucket fs o = .ok m0) cwd bs ps bs'
  | [], bs, bs', h => by simp only [addResponsesA, Except.ok.injEq] at h; subst h; exact .nil _
  | p :: ps, bs, bs', h => by
    unfold addResponsesA at h
    split at h
    · cases h
    · rename_i b1 hadd
      exact .cons (addResponseA_applied hadd) (addResponsesA_run h)

/-! ### The whole run, per output location -/

/-- Where a key of the bucket of out directory `o` comes from: a non-insertion file of a
    plugin in `D` whose out directory is `o` and whose validated name is the key. -/
def Source (cwd : Str) (D : List PluginResp) (o k : Str) : Prop :=
  ∃ p ∈ D, absPath cwd p.out = o ∧ ∃ f ∈ p.files, f.getIP = [] ∧ validatePath f.getName = .ok k

theorem source_mono {cwd : Str} {D D' : List PluginResp} {o k : Str} (hsub : ∀ p ∈ D, p ∈ D')
    (h : Source cwd D o k) : Source cwd D' o k := by
  obtain ⟨p, hp, rest⟩ := h
  exact ⟨p, hsub p hp, rest⟩

/-- the files of the plugins of `ps` configured with location `o`, in configuration order -/
def filesAt (cwd : Str) (ps : List PluginResp) (o : Str) : List RFile :=
  (ps.filter fun p => absPath cwd p.out = o).flatMap (·.files)

theorem mem_filesAt {cwd : Str} {ps : List PluginResp} {o : Str} {f : RFile} :
    f ∈ filesAt cwd ps o ↔ ∃ p ∈ ps, absPath cwd p.out = o ∧ f ∈ p.files := by
  simp only [filesAt, List.mem_flatMap, List.mem_filter, decide_eq_true_eq]
  exact ⟨fun ⟨p, ⟨hp, ho⟩, hf⟩ => ⟨p, hp, ho, hf⟩, fun ⟨p, hp, ho, hf⟩ => ⟨p, ⟨hp, ho⟩, hf⟩⟩

/-- A location none of the responses is for keeps its bucket (or stays without); one that has a
    bucket or gets a response holds ONE `writeResponse` over the files of its plugins, into the
    bucket it had or a fresh one.  (With "has a bucket" among the cases the induction needs no look
    ahead: after its first response a location has one.) -/
theorem Run.find {fresh : Str → Mem → Prop} {cwd : Str} {ps : List PluginResp} {bs bs' : Buckets}
    (h : Run fresh cwd bs ps bs') (o : Str) :
    ((∀ p ∈ ps, absPath cwd p.out ≠ o) → bs'.find o = bs.find o) ∧
    ((bs.find o).isSome ∨ (∃ p ∈ ps, absPath cwd p.out = o) → ∃ m0 m, Start fresh bs o m0 ∧
      writeResponse m0 (filesAt cwd ps o) = .ok m ∧ bs'.find o = some m) := by
  induction h with
  | nil bs =>
    refine ⟨fun _ => rfl, fun h => ?_⟩
    obtain ⟨m, hm⟩ := Option.isSome_iff_exists.mp (h.resolve_right fun ⟨_, hp, _⟩ => nomatch hp)
    exact ⟨m, m, by unfold Start; rw [hm], rfl, hm⟩
  | @cons bs b1 bs' p ps happ _ ih =>
    obtain ⟨m0, m1, hst, hw, rfl⟩ := happ
    obtain ⟨ih1, ih2⟩ := ih
    by_cases ho : absPath cwd p.out = o
    · subst ho
      refine ⟨fun hno => absurd rfl (hno p List.mem_cons_self), fun _ => ?_⟩
      obtain ⟨m0', m, hst', hw', hf'⟩ := ih2 (Or.inl (by rw [find_set_same]; rfl))
      unfold Start at hst'
      rw [find_set_same] at hst'
      subst hst'
      have hfa : filesAt cwd (p :: ps) (absPath cwd p.out) = p.files ++ filesAt cwd ps (absPath cwd p.out) := by
        simp [filesAt]
      exact ⟨m0, m, hst, by rw [hfa, writeResponse_append, hw]; exact hw', hf'⟩
    · have hfa : filesAt cwd (p :: ps) o = filesAt cwd ps o := by
        simp [filesAt, ho]
      have hfind : (bs.set (absPath cwd p.out) m1).find o = bs.find o := find_set_ne _ _ (Ne.symm ho)
      refine ⟨fun hno => by rw [ih1 (fun q hq => hno q (List.mem_cons_of_mem _ hq)), hfind], fun hex => ?_⟩
      unfold Start at ih2 ⊢
      rw [hfind] at ih2
      rw [hfa]
      exact ih2 (hex.imp_right fun ⟨q, hq, hqo⟩ => ⟨q, (List.mem_cons.mp hq).resolve_left fun e => ho (e ▸ hqo), hqo⟩)

theorem Run.nodup {fresh : Str → Mem → Prop} {cwd : Str} {ps : List PluginResp} {bs bs' : Buckets}
    (h : Run fresh cwd bs ps bs') (hn : (bkeys bs).Nodup) : (bkeys bs').Nodup := by
  induction h with
  | nil => exact hn
  | cons happ _ ih =>
    obtain ⟨_, _, _, _, rfl⟩ := happ
    exact ih (nodup_bkeys_set _ _ hn)

/-- A whole run from no buckets: a bucket of the result belongs to a configured location and is
    ONE `writeResponse` into a fresh bucket over the files of that location's plugins; and every
    configured location has its bucket. -/
theorem Run.result {fresh : Str → Mem → Prop} {cwd : Str} {ps : List PluginResp} {bs : Buckets}
    (h : Run fresh cwd [] ps bs) :
    (∀ o m, (o, m) ∈ bs → (∃ p ∈ ps, absPath cwd p.out = o) ∧
      ∃ m0, fresh o m0 ∧ writeResponse m0 (filesAt cwd ps o) = .ok m) ∧
    (∀ p ∈ ps, ∃ m0 m, fresh (absPath cwd p.out) m0 ∧
      writeResponse m0 (filesAt cwd ps (absPath cwd p.out)) = .ok m ∧ bs.find (absPath cwd p.out) = some m) := by
  constructor
  · intro o m hm
    have hf := (mem_iff_find (h.nodup List.nodup_nil)).mp hm
    have hex : ∃ p ∈ ps, absPath cwd p.out = o := by
      apply Classical.byContradiction
      intro hno
      have := (h.find o).1 (fun p hp hpo => hno ⟨p, hp, hpo⟩)
      rw [hf] at this; cases this
    obtain ⟨m0, m', hst, hw, hf'⟩ := (h.find o).2 (Or.inr hex)
    rw [hf] at hf'; injection hf' with hf'; subst hf'
    exact ⟨hex, m0, hst, hw⟩
  · intro p hp
    obtain ⟨m0, m, hst, hw, hf⟩ := (h.find _).2 (Or.inr ⟨p, hp, rfl⟩)
    exact ⟨m0, m, hst, hw, hf⟩

/-! ### ValidatePluginResponses -/

def keysOf (key : Str → Str → Str) (p : PluginResp) : List Str :=
  (p.files.filter fun f => f.getIP = []).map fun f => key p.out f.getName

def allKeys (key : Str → Str → Str) (ps : List PluginResp) : List Str := ps.flatMap (keysOf key)

/-- The scan both loops of `ValidatePluginResponses` perform, on the keys of the plain files. -/
def dupScan : List Str → List Str → Except GErr (List Str)
  | [], seen => .ok seen
  | k :: ks, seen => if k ∈ seen then .error .duplicate else dupScan ks (k :: seen)

theorem dupScan_append : ∀ (a b seen : List Str),
    dupScan (a ++ b) seen =
      match dupScan a seen with
      | .error e => .error e
      | .ok s => dupScan b s
  | [], _, _ => rfl
  | k :: a, b, seen => by
    simp only [List.cons_append, dupScan]
    split
    · rfl
    · exact dupScan_append a b _

theorem dupScan_eq : ∀ (ks seen : List Str),
    dupScan ks seen =
      if ks.Nodup ∧ ∀ k ∈ ks, k ∉ seen then .ok (ks.reverse ++ seen) else .error .duplicate
  | [], seen => by simp [dupScan]
  | k :: ks, seen => by
    unfold dupScan
    by_cases hk : k ∈ seen
    · rw [if_pos hk, if_neg (fun h => h.2 k List.mem_cons_self hk)]
    · rw [if_neg hk, dupScan_eq ks (k :: seen)]
      by_cases hc : ks.Nodup ∧ ∀ x ∈ ks, x ∉ k :: seen
      · rw [if_pos hc, if_pos ⟨List.nodup_cons.mpr ⟨fun hm => hc.2 k hm List.mem_cons_self, hc.1⟩,
          fun x hx => (List.mem_cons.mp hx).elim (fun e => e ▸ hk)
            (fun hx' hs => hc.2 x hx' (List.mem_cons_of_mem _ hs))⟩,
          List.reverse_cons, List.append_assoc]
        rfl
      · rw [if_neg hc, if_neg (fun h => hc ⟨(List.nodup_cons.mp h.1).2, fun x hx hs =>
          (List.mem_cons.mp hs).elim (fun e => (List.nodup_cons.mp h.1).1 (e ▸ hx))
            (h.2 x (List.mem_cons_of_mem _ hx))⟩)]

theorem validateFiles_eq (key : Str → Str → Str) (out : Str) : ∀ (fs : List RFile) (seen : List Str),
    validateFiles key out fs seen = dupScan (keysOf key ⟨out, fs⟩) seen
  | [], _ => rfl
  | f :: fs, seen => by
    unfold validateFiles
    by_cases hip : f.getIP = []
    · simp only [hip, ne_eq, not_true_eq_false, if_false, keysOf, List.filter_cons, decide_true, if_true,
        List.map_cons, dupScan]
      split
      · rfl
      · exact validateFiles_eq key out fs _
    · simp only [hip, ne_eq, not_false_eq_true, if_true, keysOf, List.filter_cons, decide_false]
      exact validateFiles_eq key out fs seen

/-- `ValidatePluginResponses` is a function of the list of keys of the plain files. -/
theorem validatePluginResponses_eq (key : Str → Str → Str) : ∀ (ps : List PluginResp) (seen : List Str),
    validatePluginResponses key ps seen = dupScan (allKeys key ps) seen
  | [], _ => rfl
  | p :: ps, seen => by
    unfold validatePluginResponses
    rw [show allKeys key (p :: ps) = keysOf key p ++ allKeys key ps from List.flatMap_cons .., dupScan_append,
      validateFiles_eq]
    cases dupScan (keysOf key ⟨p.out, p.files⟩) seen with
    | error e => rfl
    | ok s => exact validatePluginResponses_eq key ps s

theorem validate_duplicate (key : Str → Str → Str) (ps : List PluginResp)
    (hdup : ¬ (allKeys key ps).Nodup) : validatePluginResponses key ps [] = .error .duplicate := by
  rw [validatePluginResponses_eq, dupScan_eq, if_neg (fun h => hdup h.1)]

/-! ### From bucket keys to disk paths -/

/-- An absolute path cleans to `/` followed by proper name components (no `..` survives at the
    root). -/
theorem clean_abs_shape (s : Str) (h : isAbs s = true) :
    ∃ os : List Comp, AllProper os ∧ clean s = '/' :: joinSlash os := by
  obtain ⟨k, names, hr, hp, hk⟩ := reduce_shape true (splitSlash s) (splitSlash_no_slash s)
  have hk0 : k = 0 := hk rfl
  subst hk0
  refine ⟨names, hp, ?_⟩
  unfold clean
  rw [h, hr]
  simp [render]

theorem isAbs_ne_nil {s : Str} (h : isAbs s = true) : s ≠ [] := by
  intro e; subst e; simp [isAbs] at h

theorem isAbs_append {s : Str} (h : isAbs s = true) (t : Str) : isAbs (s ++ t) = true := by
  cases s with
  | nil => simp [isAbs] at h
  | cons c cs => simpa [isAbs] using h

/-- `filepath.Abs(out)` against an absolute working directory is `/` followed by proper name
    components. -/
theorem absPath_shape (cwd out : Str) (hc : isAbs cwd = true) :
    ∃ os : List Comp, AllProper os ∧ absPath cwd out = '/' :: joinSlash os := by
  unfold absPath
  by_cases ho : isAbs out = true
  · simp only [ho, if_true]; exact clean_abs_shape out ho
  · simp only [ho, Bool.false_eq_true, if_false]
    unfold join
    have hcn := isAbs_ne_nil hc
    by_cases hon : out = []
    · subst hon
      simp only [List.filter, hcn, ne_eq, not_false_eq_true, decide_true, not_true_eq_false, decide_false]
      exact clean_abs_shape _ (by simpa [joinSlash] using hc)
    · simp only [List.filter, hcn, hon, ne_eq, not_false_eq_true, decide_true]
      exact clean_abs_shape _ (by
        show isAbs (cwd ++ '/' :: out) = true
        exact isAbs_append hc _)

/-- The components of an absolute root below `/`: nothing for `clean` to cancel. -/
theorem plain_joinSlash {os : List Comp} (h : AllProper os) :
    PlainPath (joinSlash os) ∧ (splitSlash (joinSlash os)).filter (fun c => decide (Proper c)) = os := by
  cases os with
  | nil => exact ⟨plain_nil, filter_splitSlash_nil⟩
  | cons o os' =>
    rw [← renderKey_cons]
    exact ⟨splitSlash_renderKey_plain h, filter_splitSlash_renderKey h⟩

/-- The file `storageos` writes for bucket key `k` under root `o`: the root's components
    followed by the key's components — no `..`, at least one component below the root. -/
theorem diskPath_shape {os ns : List Comp} (ho : AllProper os) (hn : AllProper ns) :
    diskPath ('/' :: joinSlash os) (renderKey ns) = '/' :: joinSlash (os ++ ns) := by
  unfold diskPath join
  simp only [List.filter, renderKey_ne_nil hn, ne_eq, not_false_eq_true, decide_true, reduceCtorEq]
  show clean ([] ++ '/' :: (joinSlash os ++ '/' :: renderKey ns)) = _
  rw [clean_plain (plain_nil.slash ((plain_joinSlash ho).1.slash (splitSlash_renderKey_plain hn))),
    splitSlash_append, splitSlash_append, List.filter_append, List.filter_append, (plain_joinSlash ho).2,
    filter_splitSlash_renderKey hn, filter_splitSlash_nil]
  simp [render, isAbs]

end BufModel.Generate
