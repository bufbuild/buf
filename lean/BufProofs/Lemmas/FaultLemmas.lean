import BufModel.Faults
import BufProofs.Lemmas.BucketLemmas
/-
  Write paths under fault schedules: the one case analysis of a put through a helper
  (`realPut_outcome`), a loop that succeeds as `putList` of its targets, the atomic put in closed
  form (`atomicRun_eq`), two interleaved atomic puts (`WInv`), a reader open across an overwrite (`RInv`).
-/
namespace BufProofs.C15
open BufModel.Path BufModel.Bucket BufModel.Faults

theorem writeChunks_none (s : Sched) (path : Str) (i : Nat) (cs : List Content)
    (h : (writeChunks s path i cs).2 = none) : (writeChunks s path i cs).1 = cs := by
  induction cs generalizing i with
  | nil => simp [writeChunks]
  | cons c rest ih =>
    unfold writeChunks at h ⊢
    split
    · rename_i hf; simp [hf] at h
    · rename_i hf
      simp only [hf] at h
      simp only [ih (i + 1) h]

theorem writeChunks_fault (s : Sched) (path : Str) (i0 : Nat) (cs : List Content) (k : Nat)
    (hk : k < cs.length) (h : s.has ⟨path, .write, i0 + k⟩ = true) :
    (writeChunks s path i0 cs).2.isSome = true := by
  induction cs generalizing i0 k with
  | nil => simp at hk
  | cons c rest ih =>
    unfold writeChunks
    split
    · simp
    · cases k with
      | zero => rename_i hf; simp at h; exact absurd h hf
      | succ k' =>
        simp only
        have : i0 + (k' + 1) = (i0 + 1) + k' := by omega
        rw [this] at h
        exact ih (i0 + 1) k' (by simp at hk; omega) h

/-! ### One object through a helper "Put; defer Close-join; write"

`writeObj` (a fault-injecting wrapper above the bucket) is the plain-put instance of `realPut`
(the file itself failing), so the facts are proved once, for `realPut .asCoded`. -/

theorem realPut_plain_eq_writeObj (joins : Bool) (s : Sched) (d : Dest) (path : Str)
    (chunks : List Content) :
    realPut .asCoded joins false s d path chunks = writeObj joins s d path chunks := by
  unfold realPut writeObj
  split
  · rfl
  · cases validatePath path with
    | error e => rfl
    | ok p => simp [osClose]

/-- Every put through such a helper into a disk bucket as coded ends in one of two ways, whatever
    the schedule.  Nothing on its way was scheduled: success, the complete content, nothing fired.
    Or something failed: then a helper whose deferred Close joins the named return reports it, and
    an atomic put has left the bucket as it was. -/
theorem realPut_outcome (joins atomic : Bool) (s : Sched) (d : Dest) (path : Str) (chunks : List Content) :
    (s.has ⟨path, .put, 0⟩ = false ∧ (writeChunks s path 0 chunks).2 = none ∧ s.has ⟨path, .close, 0⟩ = false ∧
      ∃ p, validatePath path = .ok p ∧ realPut .asCoded joins atomic s d path chunks =
        (false, { d with mem := (p, joinContent chunks) :: d.mem.erase p })) ∨
    ((s.has ⟨path, .put, 0⟩ = true ∨ (∃ e, validatePath path = .error e) ∨
        (writeChunks s path 0 chunks).2.isSome = true ∨ s.has ⟨path, .close, 0⟩ = true) ∧
      (joins = true → (realPut .asCoded joins atomic s d path chunks).1 = true) ∧
      (atomic = true → (realPut .asCoded joins atomic s d path chunks).2.mem = d.mem)) := by
  unfold realPut
  cases hp : s.has ⟨path, .put, 0⟩ with
  | true => exact Or.inr ⟨Or.inl rfl, fun _ => rfl, fun _ => rfl⟩
  | false =>
    cases hv : validatePath path with
    | error e => exact Or.inr ⟨Or.inr (Or.inl ⟨e, rfl⟩), fun _ => rfl, fun _ => rfl⟩
    | ok p =>
      cases hw : (writeChunks s path 0 chunks).2 with
      | some f => exact Or.inr ⟨by simp, by rintro rfl; simp [hw], by rintro rfl; simp [osClose, hw]⟩
      | none =>
        cases hc : s.has ⟨path, .close, 0⟩ with
        | true => exact Or.inr ⟨by simp, by rintro rfl; cases atomic <;> simp [osClose], by rintro rfl; simp [osClose]⟩
        | false =>
          refine Or.inl ⟨rfl, rfl, rfl, p, rfl, ?_⟩
          cases atomic <;> cases joins <;> simp [osClose, deferJoin, hw, writeChunks_none s path 0 chunks hw]

theorem copyPath_err_indep (fx : Facts) (s : Sched) (d₁ d₂ : Dest) (path : Str) (chunks : List Content) :
    (copyPath fx s d₁ path chunks).1 = (copyPath fx s d₂ path chunks).1 := by
  unfold copyPath writeObj
  split
  · rfl
  · cases hv : validatePath path <;> rfl

def jobErr (fx : Facts) (s : Sched) (j : Str × List Content) : Bool :=
  (copyPath fx s ⟨[], []⟩ j.1 j.2).1

/-- storage.Copy runs every job and fails iff some job failed (`jobErr` does not look at the destination). -/
theorem copyAll_err_iff_any (fx : Facts) (s : Sched) (d : Dest) (jobs : List (Str × List Content)) :
    (copyAll fx s d jobs).1 = jobs.any (jobErr fx s) := by
  induction jobs generalizing d with
  | nil => simp [copyAll]
  | cons j rest ih =>
    obtain ⟨p, cs⟩ := j
    simp only [copyAll, List.any_cons, ih]
    congr 1
    exact copyPath_err_indep fx s d ⟨[], []⟩ p cs

theorem copyAll_ok_eq (s : Sched) (jobs : List (Str × List Content)) (d d' : Dest) (n : Nat)
    (hvalid : ∀ j ∈ jobs, validatePath j.1 = .ok j.1)
    (h : copyAll Facts.allTrue s d jobs = (false, d', n)) :
    d' = { d with mem := putList d.mem (jobs.map fun j => (j.1, joinContent j.2)) } ∧ n = jobs.length := by
  induction jobs generalizing d n with
  | nil => cases h; exact ⟨rfl, rfl⟩
  | cons j rest ih =>
    obtain ⟨p, cs⟩ := j
    have hcp : copyPath Facts.allTrue s d p cs = realPut .asCoded true false s d p cs := by
      simp [copyPath, Facts.allTrue, realPut_plain_eq_writeObj]
    simp only [copyAll, hcp] at h
    rcases realPut_outcome true false s d p cs with ⟨_, _, _, q, hq, e⟩ | ⟨_, he, _⟩
    · cases (hvalid (p, cs) List.mem_cons_self).symm.trans hq
      rw [e] at h
      generalize hrr : copyAll Facts.allTrue s _ rest = rr at h
      obtain ⟨er, d2, n2⟩ := rr
      cases h
      obtain ⟨rfl, rfl⟩ := ih _ _ (fun j hj => hvalid j (List.mem_cons_of_mem _ hj)) hrr
      exact ⟨rfl, by simp [Nat.add_comm]⟩
    · simp [he rfl] at h

/-- the write phase without faults -/
def wfold (d : ADir) (cs : List Content) : ADir := cs.foldl (fun d c => aStep d (.write c)) d

theorem wfold_nil (d : ADir) : wfold d [] = d := rfl

theorem wfold_cons (d : ADir) (c : Content) (cs : List Content) :
    wfold d (c :: cs) = wfold (aStep d (.write c)) cs := rfl

theorem wfold_final (d : ADir) (cs : List Content) : (wfold d cs).final = d.final := by
  induction cs generalizing d with
  | nil => rfl
  | cons c rest ih => rw [wfold_cons, ih]; rfl

theorem wfold_some (fin : Option Content) (t : Content) (cs : List Content) :
    wfold { final := fin, temp := some t } cs = { final := fin, temp := some (t ++ joinContent cs) } := by
  induction cs generalizing t with
  | nil => simp [wfold_nil, joinContent]
  | cons c rest ih =>
    rw [wfold_cons]
    have : aStep { final := fin, temp := some t } (.write c) = { final := fin, temp := some (t ++ c) } := rfl
    rw [this, ih]; simp [joinContent, String.append_assoc]

/-- The write phase in closed form: a failing write is skipped and remembered. -/
theorem atomicWrites_eq (failAt : Option Nat) (d : ADir) (i : Nat) (bad : Bool) (cs : List Content) :
    atomicWrites failAt d i bad cs =
      match failAt with
      | some k => if i ≤ k ∧ k < i + cs.length then (wfold d (cs.eraseIdx (k - i)), true) else (wfold d cs, bad)
      | none => (wfold d cs, bad) := by
  induction cs generalizing d i bad with
  | nil =>
    cases failAt with
    | none => rfl
    | some k => rw [atomicWrites]; simp only [List.length_nil, Nat.add_zero]; rw [if_neg (by omega)]; rfl
  | cons c rest ih =>
    unfold atomicWrites
    cases failAt with
    | none => simp only [reduceCtorEq, if_false, ih, wfold_cons]
    | some k =>
      by_cases hk : k = i
      · subst hk
        rw [if_pos rfl, ih]
        simp only [List.length_cons]
        rw [if_neg (by omega), if_pos (by omega), Nat.sub_self, List.eraseIdx_cons_zero]
      · have hne : ¬ (some k = some i) := by simp [hk]
        rw [if_neg hne, ih]
        simp only [wfold_cons, List.length_cons]
        by_cases hr : i + 1 ≤ k ∧ k < i + 1 + rest.length
        · rw [if_pos hr, if_pos (by omega), show k - i = (k - (i + 1)) + 1 by omega, List.eraseIdx_cons_succ, wfold_cons]
        · rw [if_neg hr, if_neg (by omega)]
/-- atomic_all_or_nothing for `atomicRun`, whatever step is told to fail: a failing step of the put
    (createTemp, a write, the file close, the rename: indices `0 … n+2`) makes it report an error
    and leave the previous object and no temp file; otherwise it succeeds with the complete content. -/
theorem atomicRun_eq (old : Option Content) (chunks : List Content) (failAt : Option Nat) :
    atomicRun old chunks failAt =
      if failAt.any (fun k => decide (k ≤ chunks.length + 2)) then (true, { final := old, temp := none })
      else (false, { final := some (joinContent chunks), temp := none }) := by
  unfold atomicRun
  simp only [atomicWrites_eq]
  have ht : wfold { final := old, temp := some "" } chunks = { final := old, temp := some (joinContent chunks) } := by
    rw [wfold_some]; simp
  cases failAt with
  | none => simp [aStep, ht]
  | some k =>
    simp only [Option.any_some]
    by_cases h0 : k = 0
    · subst h0; simp
    · rw [if_neg (by simp [h0])]
      by_cases hw : 1 ≤ k ∧ k < 1 + chunks.length
      · simp only [if_pos hw, Bool.true_or, if_true, wfold_final, decide_eq_true (show k ≤ chunks.length + 2 by omega)]
        rfl
      · simp only [if_neg hw, Bool.false_or, decide_eq_true_eq, Option.some.injEq, aStep, ht]
        by_cases h1 : k = chunks.length + 1
        · simp [h1]
        · by_cases h2 : k = chunks.length + 2
          · simp [h2]
          · rw [if_neg h1, if_neg h2, if_neg (by simp; omega)]
theorem foldl_no_rename_final (steps : List AStep) (d : ADir) (hno : ∀ st ∈ steps, st ≠ AStep.rename) :
    (steps.foldl aStep d).final = d.final := by
  induction steps generalizing d with
  | nil => rfl
  | cons st rest ih =>
    simp only [List.foldl]
    rw [ih _ (fun x hx => hno x (List.mem_cons_of_mem _ hx))]
    have := hno st (by simp)
    cases st with
    | createTemp => rfl
    | write c => rfl
    | closeFile => rfl
    | rename => exact absurd rfl this

theorem atomicPrefix_full (old : Option Content) (chunks : List Content) (j : Nat)
    (hj : chunks.length + 3 ≤ j) :
    atomicPrefix old chunks j = { final := some (joinContent chunks), temp := none } := by
  unfold atomicPrefix
  rw [List.take_of_length_le (by simp [atomicSteps]; omega)]
  simp only [atomicSteps, List.foldl_append, List.foldl_cons, List.foldl_nil, List.foldl_map]
  have h1 : aStep { final := old, temp := none } AStep.createTemp = { final := old, temp := some "" } := rfl
  have h2 : (wfold { final := old, temp := some "" } chunks).temp = some (joinContent chunks) := by
    rw [wfold_some]; simp
  rw [h1]
  show aStep (aStep (wfold _ chunks) .closeFile) .rename = _
  simp only [aStep, h2]

/-! ### Two concurrent atomic puts -/

theorem joinContent_append (a b : List Content) : joinContent (a ++ b) = joinContent a ++ joinContent b := by
  induction a with
  | nil => simp [joinContent]
  | cons c rest ih => simp [joinContent, ih, String.append_assoc]

/-- What one writer's remaining program `r` and temp file `t` look like while it puts `cs`. -/
def WInv (cs : List Content) (r : List AStep) (t : Option Content) : Prop :=
  (r = atomicSteps cs ∧ t = none) ∨
  (∃ pre suf, cs = pre ++ suf ∧ r = suf.map AStep.write ++ [.closeFile, .rename] ∧ t = some (joinContent pre)) ∨
  (r = [.rename] ∧ t = some (joinContent cs)) ∨
  (r = [] ∧ t = none)

def ownStep (t : Option Content) : AStep → Option Content
  | .createTemp => some ""
  | .write c => t.map (· ++ c)
  | .closeFile => t
  | .rename => none

theorem winv_start (cs : List Content) : WInv cs (atomicSteps cs) none := Or.inl ⟨rfl, rfl⟩

theorem winv_step (cs : List Content) (x : AStep) (r : List AStep) (t : Option Content)
    (h : WInv cs (x :: r) t) :
    WInv cs r (ownStep t x) ∧ (x = .rename → t = some (joinContent cs)) := by
  rcases h with ⟨hr, rfl⟩ | ⟨pre, suf, rfl, hr, rfl⟩ | ⟨hr, rfl⟩ | ⟨hr, _⟩
  · -- not started: x = createTemp
    obtain ⟨rfl, rfl⟩ := List.cons.inj hr
    exact ⟨Or.inr (Or.inl ⟨[], cs, rfl, rfl, rfl⟩), nofun⟩
  · cases suf with
    | nil =>
      obtain ⟨rfl, rfl⟩ := List.cons.inj hr
      exact ⟨Or.inr (Or.inr (Or.inl ⟨rfl, by rw [List.append_nil]; rfl⟩)), nofun⟩
    | cons c suf =>
      obtain ⟨rfl, rfl⟩ := List.cons.inj hr
      refine ⟨Or.inr (Or.inl ⟨pre ++ [c], suf, by simp, rfl, ?_⟩), nofun⟩
      simp [ownStep, joinContent_append, joinContent]
  · obtain ⟨rfl, rfl⟩ := List.cons.inj hr
    exact ⟨Or.inr (Or.inr (Or.inr ⟨rfl, rfl⟩)), fun _ => rfl⟩
  · cases hr

def Good (old : Option Content) (ca cb : List Content) (f : Option Content) : Prop :=
  f = old ∨ f = some (joinContent ca) ∨ f = some (joinContent cb)

def own (w : Who) (d : CDir) : Option Content := match w with | .a => d.ta | .b => d.tb
def oth (w : Who) (d : CDir) : Option Content := match w with | .a => d.tb | .b => d.ta

theorem cStep_own (w : Who) (d : CDir) (x : AStep) :
    own w (cStep false d (w, x)) = ownStep (own w d) x ∧ oth w (cStep false d (w, x)) = oth w d ∧
    ((cStep false d (w, x)).final = d.final ∨ (x = .rename ∧ (cStep false d (w, x)).final = own w d)) := by
  cases w <;> cases x <;> cases hta : d.ta <;> cases htb : d.tb <;>
    simp [cStep, ownStep, own, oth, hta, htb]

theorem good_after (w : Who) (old : Option Content) (ca cb cw : List Content) (hcw : cw = ca ∨ cw = cb)
    (d : CDir) (x : AStep) (r : List AStep)
    (hw : WInv cw (x :: r) (own w d)) (hg : Good old ca cb d.final) :
    WInv cw r (own w (cStep false d (w, x))) ∧ oth w (cStep false d (w, x)) = oth w d ∧
      Good old ca cb (cStep false d (w, x)).final := by
  obtain ⟨h1, h2, h3⟩ := cStep_own w d x
  obtain ⟨hw', hren⟩ := winv_step cw x r (own w d) hw
  refine ⟨by rw [h1]; exact hw', h2, ?_⟩
  rcases h3 with h | ⟨hx, h⟩
  · rw [h]; exact hg
  · rw [h, hren hx]
    rcases hcw with rfl | rfl
    · exact Or.inr (Or.inl rfl)
    · exact Or.inr (Or.inr rfl)

/-- `l` runs the programs `ra` and `rb` to their ends, each in its own order. -/
inductive Interleave : List AStep → List AStep → List (Who × AStep) → Prop
  | nil : Interleave [] [] []
  | a {x xs rb l} : Interleave xs rb l → Interleave (x :: xs) rb ((.a, x) :: l)
  | b {ra y ys l} : Interleave ra ys l → Interleave ra (y :: ys) ((.b, y) :: l)

theorem merge2_interleave (sched : List Bool) (ra rb : List AStep) : Interleave ra rb (merge2 sched ra rb) := by
  induction sched, ra, rb using merge2.induct with
  | case1 => rw [merge2]; exact .nil
  | case2 s y ys ih => rw [merge2]; exact .b ih
  | case3 s x xs ih => rw [merge2]; exact .a ih
  | case4 x xs y ys ih => rw [merge2]; exact .a ih
  | case5 s x xs y ys ih => rw [merge2]; exact .a ih
  | case6 s x xs y ys ih => rw [merge2]; exact .b ih

/-- Whatever the interleaving, every prefix of it leaves a `Good` content at the final path: each
    step is one writer's next step (`good_after`) and leaves the other's temp file alone. -/
theorem interleave_good (old : Option Content) (ca cb : List Content) {ra rb : List AStep}
    {l : List (Who × AStep)} (h : Interleave ra rb l) :
    ∀ (d : CDir), WInv ca ra d.ta → WInv cb rb d.tb → Good old ca cb d.final →
      ∀ j, Good old ca cb ((l.take j).foldl (cStep false) d).final := by
  induction h with
  | nil => intro d _ _ hg j; simpa using hg
  | a _ ih =>
    intro d ha hb hg j
    cases j with
    | zero => exact hg
    | succ j =>
      obtain ⟨hw, htb, hg'⟩ := good_after .a old ca cb ca (Or.inl rfl) d _ _ ha hg
      exact ih _ hw (htb ▸ hb : WInv cb _ (oth .a _)) hg' j
  | b _ ih =>
    intro d ha hb hg j
    cases j with
    | zero => exact hg
    | succ j =>
      obtain ⟨hw, hta, hg'⟩ := good_after .b old ca cb cb (Or.inr rfl) d _ _ hb hg
      exact ih _ (hta ▸ ha : WInv ca _ (oth .b _)) hw hg' j

/-! ### A reader open across an overwrite: invariant of `rStep .asCoded` -/

/-- What an open reader has delivered is a prefix of the content it was opened on, and its bytes
    are still that content. -/
def RInv (old : List Char) (st : RSt) : Prop := st.snap = old ∧ st.got = old.take st.pos

theorem rinv_init (old : List Char) : RInv old (RSt.init old) := ⟨rfl, by simp [RSt.init]⟩

theorem rStep_closeW_fields (st : RSt) :
    (rStep .asCoded st .closeW).snap = st.snap ∧ (rStep .asCoded st .closeW).got = st.got ∧
      (rStep .asCoded st .closeW).pos = st.pos := by
  cases hf : st.flight with
  | nil => simp [rStep, hf]
  | cons x rest =>
    obtain ⟨same, c⟩ := x
    cases same <;> simp [rStep, hf, donate]

theorem rStep_inv (old : List Char) (st : RSt) (op : ROp) (h : RInv old st) :
    RInv old (rStep .asCoded st op) := by
  obtain ⟨hs, hg⟩ := h
  cases op with
  | read n =>
    refine ⟨hs, ?_⟩
    show st.got ++ (st.snap.drop st.pos).take n = old.take (st.pos + n)
    rw [hs, hg]
    exact (List.take_add).symm
  | put c => exact ⟨hs, hg⟩
  | other c => exact ⟨hs, hg⟩
  | wSame c => exact ⟨hs, hg⟩
  | wOther c => exact ⟨hs, hg⟩
  | closeW =>
    obtain ⟨h1, h2, h3⟩ := rStep_closeW_fields st
    exact ⟨h1.trans hs, by rw [h2, h3]; exact hg⟩

theorem rfold_inv (old : List Char) (ops : List ROp) (st : RSt) (h : RInv old st) :
    RInv old (ops.foldl (rStep .asCoded) st) := by
  induction ops generalizing st with
  | nil => exact h
  | cons op rest ih => exact ih _ (rStep_inv old st op h)

theorem closeAll_got (l : List (Bool × List Char)) (st : RSt) :
    (l.foldl (fun s _ => rStep .asCoded s .closeW) st).got = st.got := by
  induction l generalizing st with
  | nil => rfl
  | cons x rest ih =>
    rw [List.foldl_cons, ih]
    exact (rStep_closeW_fields st).2.1

end BufProofs.C15
