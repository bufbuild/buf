import BufModel.Config
import BufProofs.Lemmas.SortLemmas
import BufProofs.Lemmas.LexLemmas
import BufProofs.Lemmas.PathLemmas
/-
  C16: the orders of the configuration model (`strLt`, `keyLt`) are strict total orders; the sort
  functions, the antichain predicate, and `normCheckKeys` with its fixed points (`WFKeys`).
-/
namespace BufModel.Config
open BufModel.Path

/-! ### strict total orders -/

structure StrictTotal {α : Type} (lt : α → α → Bool) : Prop where
  irrefl : ∀ a, lt a a = false
  trans : ∀ a b c, lt a b = true → lt b c = true → lt a c = true
  tri : ∀ a b, lt a b = false → lt b a = false → a = b

theorem StrictTotal.asymm {α : Type} {lt : α → α → Bool} (h : StrictTotal lt) (a b : α)
    (hab : lt a b = true) : lt b a = false := by
  cases hba : lt b a with
  | false => rfl
  | true => have := h.trans a b a hab hba; rw [h.irrefl] at this; cases this

theorem StrictTotal.negtrans {α : Type} {lt : α → α → Bool} (h : StrictTotal lt) (a b c : α)
    (hab : lt a b = false) (hbc : lt b c = false) : lt a c = false := by
  cases hac : lt a c with
  | false => rfl
  | true =>
    cases hcb : lt c b with
    | true => rw [h.trans a c b hac hcb] at hab; cases hab
    | false => rw [h.tri b c hbc hcb, hac] at hab; cases hab

theorem strictTotal_of_decide {α : Type} [LT α] [DecidableLT α] {lt : α → α → Bool}
    (hlt : ∀ a b, lt a b = decide (a < b)) (hirr : ∀ a : α, ¬ a < a)
    (htr : ∀ a b c : α, a < b → b < c → a < c) (htri : ∀ a b : α, ¬ a < b → ¬ b < a → a = b) : StrictTotal lt where
  irrefl a := by simp [hlt, hirr]
  trans a b c := by simpa only [hlt, decide_eq_true_eq] using htr a b c
  tri a b := by simpa only [hlt, decide_eq_false_iff_not] using htri a b

theorem lexLt_eq {α : Type} [DecidableEq α] [LT α] [DecidableLT α] {lt : α → α → Bool}
    (hlt : ∀ a b, lt a b = true ↔ a < b) (hirr : ∀ a : α, ¬ a < a) (htri : ∀ a b : α, ¬ a < b → ¬ b < a → a = b) :
    ∀ as bs : List α, lexLt lt as bs = decide (as < bs) :=
  BufProofs.LexLemmas.eq_decide_lt hlt hirr htri rfl (fun _ _ => rfl) (fun _ _ => rfl) (fun _ _ _ _ => rfl)

theorem strLt_eq : ∀ a b : Str, strLt a b = decide (a < b) :=
  lexLt_eq (fun a b => decide_eq_true_iff.trans (BufProofs.LexLemmas.toNat_lt_iff a b)) (fun _ => Char.lt_irrefl _)
    fun _ _ => BufProofs.LexLemmas.char_eq_of_not_lt

theorem strLt_total : StrictTotal strLt :=
  strictTotal_of_decide strLt_eq List.lt_irrefl (fun _ _ _ => List.lt_trans) fun _ _ h1 h2 => List.le_antisymm h2 h1

/-- The component-wise order that breaks the ties of `keyLt`. -/
theorem lexStrLt_total : StrictTotal (lexLt strLt) :=
  strictTotal_of_decide (lexLt_eq (fun a b => by simp [strLt_eq]) List.lt_irrefl fun _ _ h1 h2 => List.le_antisymm h2 h1)
    List.lt_irrefl (fun _ _ _ => List.lt_trans) fun _ _ h1 h2 => List.le_antisymm h2 h1

theorem prod_total {α β : Type} [DecidableEq β] (f : α → β) {ltb : β → β → Bool} {lta : α → α → Bool}
    (hb : StrictTotal ltb) (ha : StrictTotal lta) :
    StrictTotal (fun a b => ltb (f a) (f b) || (decide (f a = f b) && lta a b)) where
  irrefl := by intro a; simp [hb.irrefl, ha.irrefl]
  trans := by
    intro a b c h1 h2
    simp only [Bool.or_eq_true, Bool.and_eq_true, decide_eq_true_eq] at h1 h2 ⊢
    rcases h1 with h1 | ⟨e1, h1⟩
    · rcases h2 with h2 | ⟨e2, -⟩
      · exact Or.inl (hb.trans _ _ _ h1 h2)
      · rw [← e2]; exact Or.inl h1
    · rcases h2 with h2 | ⟨e2, h2⟩
      · rw [e1]; exact Or.inl h2
      · exact Or.inr ⟨e1.trans e2, ha.trans _ _ _ h1 h2⟩
  tri := by
    intro a b h1 h2
    simp only [Bool.or_eq_false_iff, Bool.and_eq_false_iff, decide_eq_false_iff_not] at h1 h2
    have e : f a = f b := hb.tri _ _ h1.1 h2.1
    have l1 : lta a b = false := by rcases h1.2 with h | h; exact absurd e h; exact h
    have l2 : lta b a = false := by rcases h2.2 with h | h; exact absurd e.symm h; exact h
    exact ha.tri a b l1 l2

theorem keyLt_total : StrictTotal keyLt := by
  have h := prod_total renderKey strLt_total lexStrLt_total
  exact ⟨h.irrefl, h.trans, h.tri⟩

/-- On validated paths the tie-break never decides: `keyLt` is the string order of the
    rendered paths, i.e. what `sort.Strings` uses. -/
theorem keyLt_proper {a b : Key} (ha : AllProper a) (hb : AllProper b) :
    keyLt a b = strLt (renderKey a) (renderKey b) := by
  unfold keyLt
  by_cases e : renderKey a = renderKey b
  · have := renderKey_inj ha hb e
    subst this
    simp [lexStrLt_total.irrefl]
  · simp [e]

/-! ### sortU -/

abbrev Sorted {α : Type} (lt : α → α → Bool) (l : List α) : Prop := l.Pairwise (fun a b => lt a b = true)

theorem mem_insertU {α : Type} (lt : α → α → Bool) (x z : α) (l : List α) :
    z ∈ insertU lt x l → z = x ∨ z ∈ l := by
  induction l with
  | nil => simp [insertU]
  | cons y ys ih =>
    unfold insertU
    split
    · simp
    · split
      · intro h
        rcases List.mem_cons.mp h with h | h
        · exact Or.inr (by simp [h])
        · rcases ih h with h | h
          · exact Or.inl h
          · exact Or.inr (by simp [h])
      · intro h; exact Or.inr h

theorem mem_insertU_of_mem {α : Type} (lt : α → α → Bool) (x z : α) (l : List α) (h : z ∈ l) :
    z ∈ insertU lt x l := by
  induction l with
  | nil => cases h
  | cons y ys ih =>
    unfold insertU
    split
    · simp [List.mem_cons.mp h]
    · split
      · rcases List.mem_cons.mp h with h | h
        · simp [h]
        · simp [ih h]
      · exact h

theorem self_mem_insertU {α : Type} {lt : α → α → Bool} (ht : StrictTotal lt) (x : α) (l : List α) :
    x ∈ insertU lt x l := by
  induction l with
  | nil => simp [insertU]
  | cons y ys ih =>
    unfold insertU
    split
    · simp
    · rename_i h1
      split
      · simp [ih]
      · rename_i h2
        have : x = y := ht.tri x y (by simpa using h1) (by simpa using h2)
        simp [this]

theorem mem_sortU_imp {α : Type} (lt : α → α → Bool) (z : α) (l : List α) : z ∈ sortU lt l → z ∈ l := by
  induction l with
  | nil => simp [sortU]
  | cons x xs ih =>
    intro h
    have h' : z ∈ insertU lt x (sortU lt xs) := h
    rcases mem_insertU lt x z _ h' with h | h
    · simp [h]
    · simp [ih h]

theorem mem_sortU {α : Type} {lt : α → α → Bool} (ht : StrictTotal lt) (z : α) (l : List α) :
    z ∈ sortU lt l ↔ z ∈ l := by
  refine ⟨mem_sortU_imp lt z l, ?_⟩
  induction l with
  | nil => simp
  | cons x xs ih =>
    intro h
    show z ∈ insertU lt x (sortU lt xs)
    rcases List.mem_cons.mp h with h | h
    · subst h; exact self_mem_insertU ht _ _
    · exact mem_insertU_of_mem lt x z _ (ih h)

theorem sorted_insertU {α : Type} {lt : α → α → Bool} (htr : ∀ a b c, lt a b = true → lt b c = true → lt a c = true)
    (x : α) (l : List α) (h : Sorted lt l) : Sorted lt (insertU lt x l) := by
  induction l with
  | nil => simp [insertU, Sorted]
  | cons y ys ih =>
    have hy := List.pairwise_cons.mp h
    unfold insertU
    split
    · rename_i hxy
      refine List.pairwise_cons.mpr ⟨?_, h⟩
      intro z hz
      rcases List.mem_cons.mp hz with hz | hz
      · subst hz; exact hxy
      · exact htr _ _ _ hxy (hy.1 z hz)
    · split
      · rename_i hyx
        refine List.pairwise_cons.mpr ⟨?_, ih hy.2⟩
        intro z hz
        rcases mem_insertU lt x z ys hz with hz | hz
        · subst hz; exact hyx
        · exact hy.1 z hz
      · exact h

theorem sorted_sortU {α : Type} {lt : α → α → Bool} (htr : ∀ a b c, lt a b = true → lt b c = true → lt a c = true)
    (l : List α) : Sorted lt (sortU lt l) := by
  induction l with
  | nil => simp [sortU, Sorted]
  | cons x xs ih => exact sorted_insertU htr x _ ih

theorem sortU_eq_self {α : Type} {lt : α → α → Bool} (l : List α) (h : Sorted lt l) : sortU lt l = l := by
  induction l with
  | nil => rfl
  | cons x xs ih =>
    have hx := List.pairwise_cons.mp h
    show insertU lt x (sortU lt xs) = x :: xs
    rw [ih hx.2]
    cases xs with
    | nil => rfl
    | cons y ys => simp [insertU, hx.1 y (by simp)]

theorem sorted_nodup {α : Type} {lt : α → α → Bool} (hirr : ∀ a, lt a a = false) (l : List α) (h : Sorted lt l) :
    l.Nodup := by
  induction l with
  | nil => simp
  | cons x xs ih =>
    have hx := List.pairwise_cons.mp h
    refine List.nodup_cons.mpr ⟨?_, ih hx.2⟩
    intro hm
    have := hx.1 x hm
    rw [hirr] at this; cases this

theorem sorted_ext {α : Type} {lt : α → α → Bool} (ht : StrictTotal lt) (a b : List α) (ha : Sorted lt a)
    (hb : Sorted lt b) (hm : ∀ z, z ∈ a ↔ z ∈ b) : a = b :=
  List.Perm.eq_of_pairwise (fun x y _ _ h1 h2 => absurd h2 (by rw [ht.asymm _ _ h1]; simp)) ha hb
    ((List.perm_ext_iff_of_nodup (sorted_nodup ht.irrefl _ ha) (sorted_nodup ht.irrefl _ hb)).mpr hm)

/-- `sortU` only depends on the set of members; a sorted list with the right members is it. -/
theorem sortU_eq_of_mem {α : Type} {lt : α → α → Bool} (ht : StrictTotal lt) (l s : List α)
    (hs : Sorted lt s) (hm : ∀ z, z ∈ l ↔ z ∈ s) : sortU lt l = s :=
  sorted_ext ht _ _ (sorted_sortU ht.trans l) hs (fun z => (mem_sortU ht z l).trans (hm z))

theorem insertU_ne_nil {α : Type} (lt : α → α → Bool) (x : α) (l : List α) : insertU lt x l ≠ [] := by
  cases l with
  | nil => simp [insertU]
  | cons y ys =>
    unfold insertU
    split
    · simp
    · split <;> simp

theorem sortU_ne_nil {α : Type} (lt : α → α → Bool) (l : List α) (h : l ≠ []) : sortU lt l ≠ [] := by
  cases l with
  | nil => exact absurd rfl h
  | cons x xs => exact insertU_ne_nil lt x _

/-! ### sortStable -/

theorem sortStable_eq {α : Type} (lt : α → α → Bool) : ∀ l, sortStable lt l = isortBy lt l :=
  eq_isortBy _ (eq_insBy (ins := insertS lt) _ (fun _ => rfl) (fun _ _ _ => rfl)) rfl (fun _ _ => rfl)

theorem sortStable_perm {α : Type} (lt : α → α → Bool) (l : List α) : (sortStable lt l).Perm l :=
  sortStable_eq lt l ▸ isortBy_perm lt l

theorem mem_sortStable {α : Type} (lt : α → α → Bool) (z : α) (l : List α) : z ∈ sortStable lt l ↔ z ∈ l :=
  (sortStable_perm lt l).mem_iff

theorem sortStable_eq_self {α : Type} {lt : α → α → Bool} (l : List α)
    (h : l.Pairwise (fun a b => lt b a = false)) : sortStable lt l = l :=
  (sortStable_eq lt l).trans (isortBy_eq_self lt h)

theorem sorted_sortStable {α β : Type} (key : α → β) {ltb : β → β → Bool} (ht : StrictTotal ltb) (l : List α) :
    (sortStable (fun a b => ltb (key a) (key b)) l).Pairwise (fun a b => ltb (key b) (key a) = false) := by
  rw [sortStable_eq]
  exact isortBy_pairwise (R := fun a b => ltb (key b) (key a) = false) (fun _ _ => ht.asymm _ _) (fun _ _ h => h)
    (fun _ _ _ h1 h2 => ht.negtrans _ _ _ h2 h1) l

/-! ### prefixes, antichains -/

theorem isPrefixOf_append_left (d a b : Key) : (d ++ a).isPrefixOf (d ++ b) = a.isPrefixOf b := by
  induction d with
  | nil => rfl
  | cons x xs ih => simp [ih]

theorem isPrefixOf_self_append (d k : Key) : d.isPrefixOf (d ++ k) = true := by
  simp

theorem drop_append_self (d k : Key) : (d ++ k).drop d.length = k := by simp

theorem append_drop_of_prefix {d k : Key} (hp : d.isPrefixOf k = true) : d ++ k.drop d.length = k := by
  obtain ⟨t, rfl⟩ := List.isPrefixOf_iff_prefix.mp hp
  rw [drop_append_self]

theorem unrelated_append (d a b : Key) : unrelated (d ++ a) (d ++ b) = unrelated a b := by
  simp [unrelated, isPrefixOf_append_left]

theorem unrelated_symm (a b : Key) : unrelated a b = unrelated b a := by
  simp [unrelated, Bool.and_comm]

theorem isPrefixOf_refl (a : Key) : a.isPrefixOf a = true := by
  induction a with
  | nil => rfl
  | cons x xs ih => simp [List.isPrefixOf, ih]

theorem unrelated_irrefl (a : Key) : unrelated a a = false := by
  simp [unrelated, isPrefixOf_refl]

def SetAnti (l : List Key) : Prop := ∀ a ∈ l, ∀ b ∈ l, a ≠ b → unrelated a b = true

theorem antichain_iff (l : List Key) : antichain l = true ↔ l.Nodup ∧ SetAnti l := by
  induction l with
  | nil => simp [antichain, SetAnti]
  | cons x xs ih =>
    simp only [antichain, Bool.and_eq_true, List.all_eq_true, ih, List.nodup_cons]
    constructor
    · rintro ⟨hx, hnd, hs⟩
      refine ⟨⟨?_, hnd⟩, ?_⟩
      · intro hm; have := hx x hm; rw [unrelated_irrefl] at this; cases this
      · intro a ha b hb hab
        rcases List.mem_cons.mp ha with ha | ha
        · rcases List.mem_cons.mp hb with hb | hb
          · exact absurd (ha.trans hb.symm) hab
          · rw [ha]; exact hx b hb
        · rcases List.mem_cons.mp hb with hb | hb
          · rw [hb, unrelated_symm]; exact hx a ha
          · exact hs a ha b hb hab
    · rintro ⟨⟨hnx, hnd⟩, hs⟩
      refine ⟨?_, hnd, ?_⟩
      · intro b hb
        exact hs x (by simp) b (by simp [hb]) (by intro e; subst e; exact hnx hb)
      · intro a ha b hb hab
        exact hs a (by simp [ha]) b (by simp [hb]) hab

theorem antichain_sortU (l : List Key) (h : antichain l = true) : antichain (sortU keyLt l) = true := by
  rw [antichain_iff] at h ⊢
  refine ⟨sorted_nodup keyLt_total.irrefl _ (sorted_sortU keyLt_total.trans l), ?_⟩
  intro a ha b hb hab
  exact h.2 a (mem_sortU_imp _ _ _ ha) b (mem_sortU_imp _ _ _ hb) hab

theorem antichain_map_append (d : Key) (l : List Key) : antichain (l.map (d ++ ·)) = antichain l := by
  induction l with
  | nil => rfl
  | cons x xs ih =>
    simp only [List.map_cons, antichain, ih, List.all_map]
    congr 1
    apply List.all_congr rfl
    simp [unrelated_append]

/-! ### normCheckKeys: its fixed points are the sorted antichains, and it returns one -/

structure WFKeys (ks : List Key) : Prop where
  sorted : Sorted keyLt ks
  anti : antichain ks = true

theorem normCheckKeys_self (ks : List Key) (hs : Sorted keyLt ks) (ha : antichain ks = true) :
    normCheckKeys ks = some ks := by
  simp [normCheckKeys, ha, sortU_eq_self ks hs]

theorem normCheckKeys_sortU_self (ks : List Key) (hs : Sorted keyLt ks) (ha : antichain ks = true) :
    normCheckKeys (sortU keyLt ks) = some ks := by
  rw [sortU_eq_self ks hs]; exact normCheckKeys_self ks hs ha

theorem normCheckKeys_some {x y : List Key} (h : normCheckKeys x = some y) :
    antichain x = true ∧ y = sortU keyLt x := by
  unfold normCheckKeys at h
  split at h
  · rename_i ha; exact ⟨ha, by simpa using h.symm⟩
  · cases h

theorem wfKeys_of_normCheck_sortU {ks y : List Key} (h : normCheckKeys (sortU keyLt ks) = some y) : WFKeys y := by
  obtain ⟨ha, hy⟩ := normCheckKeys_some h
  have hs : Sorted keyLt (sortU keyLt ks) := sorted_sortU keyLt_total.trans ks
  rw [sortU_eq_self _ hs] at hy
  subst hy
  exact ⟨hs, ha⟩

end BufModel.Config
