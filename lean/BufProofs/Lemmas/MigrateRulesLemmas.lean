import BufProofs.Lemmas.MigrateRulesBase
/-
  Lemmas for the rule-selection part of C16 (`buf config migrate`): the repair step of
  `equivalentCheckConfigInV2` as set algebra over arbitrary use / except lists (`repair_algebra`,
  `repair_selected`); a rule id as a configuration key (`ruleKey_faithful`); what `migrateCheckW`
  and `migrateCheckFixed` (the code after the repair of the rule selection) select (`…_ok`,
  `…_flag`, `…_selected`), also as the decidable lists the witnesses evaluate (`coveredB`, `selectedIds_*`).
-/
namespace BufModel.MigrateRules
open BufModel.Path BufModel.Rules BufGen.RuleTables

/-! ### more about `denote` -/

theorem isDeprecatedIn_of_replacementsOf_none (rs : List RuleRow) (x : Id) (h : replacementsOf rs x = none) :
    isDeprecatedIn rs x = false := by
  unfold replacementsOf at h
  unfold isDeprecatedIn
  cases hf : rs.find? (fun r => r.id = x) with
  | none => rfl
  | some d =>
    simp only [hf] at h ⊢
    by_cases hd : d.deprecated = true
    · simp [hd] at h
    · simpa using hd

/-- A rule id the old version does not deprecate and v2 has denotes itself in v2: v2 does not deprecate it either. -/
theorem kept_denote_self {old new : List RuleRow} (ok : TablesOK old new) {x : Id}
    (h1 : isRuleId old x = true) (h2 : replacementsOf old x = none) (hr : isRuleId new x = true) :
    blankId x = false ∧ denote new x = [x] := by
  rcases (isRuleId_iff _ _).1 h1 with ⟨r, hr', rfl⟩
  exact denote_rule _ ok.newIdsNonblank r.id hr
    (ok.nondepKept r hr' (isDeprecatedIn_of_replacementsOf_none _ r.id h2) hr)

theorem selected_denote_self {old new : List RuleRow} (ok : TablesOK old new) {use exc : List Id} {x : Id}
    (h : Selected old use exc x ∧ isRuleId new x = true) : blankId x = false ∧ denote new x = [x] :=
  have W := selected_wf _ ok.oldWF _ _ x h.1
  kept_denote_self ok W.1 W.2 h.2

/-! ### a rule id as a key -/

theorem isRuleId_of_existsIn {old new : List RuleRow}
    (hcat : ∀ q ∈ new, ∀ c ∈ q.categories, isRuleId old c = false) {x : Id}
    (hx : isRuleId old x = true) (hex : existsIn new x = true) : isRuleId new x = true := by
  rcases List.any_eq_true.1 hex with ⟨q, hq, h⟩
  rcases Bool.or_eq_true _ _ ▸ h with h | h
  · exact (isRuleId_iff _ _).2 ⟨q, hq, by simpa using h⟩
  · rw [hcat q hq x (by simpa using h)] at hx
    cases hx

/-- **A rule-id key is translated faithfully**, for any pair of tables with the table facts in which no v2
    category bears the name of a rule of the old version: the key denotes itself or its replacements
    (`denote_ruleId`), all of them rule ids the old version does not deprecate; the migrator writes exactly
    those of them that v2 has (`translateId_ruleId`); and each of these, read as a key of the v2 configuration,
    denotes itself (`kept_denote_self`).  So a v2 rule is reached by the translated keys iff the key denoted it. -/
theorem ruleKey_faithful {old new : List RuleRow} (ok : TablesOK old new)
    (hcat : ∀ q ∈ new, ∀ c ∈ q.categories, isRuleId old c = false)
    {k r : Id} (hk : isRuleId old k = true) (hr : isRuleId new r = true) :
    (∃ k' ∈ translateId old new k, r ∈ denote new k') ↔ r ∈ denote old k := by
  have h0 : k ≠ "" := by
    rcases (isRuleId_iff _ _).1 hk with ⟨q, hq, rfl⟩
    exact nonblank_ne_empty (ok.oldIdsNonblank q hq)
  rw [translateId_ruleId hk, ← denote_ruleId old h0 hk]
  have self : ∀ x ∈ denote old k, existsIn new x = true → denote new x = [x] := by
    intro x hx hex
    have W := denote_wf old ok.oldWF k x hx
    exact (kept_denote_self ok W.1 W.2 (isRuleId_of_existsIn hcat W.1 hex)).2
  constructor
  · rintro ⟨k', hk', hrk⟩
    rcases List.mem_filter.1 hk' with ⟨hd, hex⟩
    rw [self k' hd hex, List.mem_singleton] at hrk
    exact hrk ▸ hd
  · intro hd
    have hex := existsIn_of_isRuleId hr
    exact ⟨r, List.mem_filter.2 ⟨hd, hex⟩, by rw [self r hd hex]; exact List.mem_singleton.2 rfl⟩

/-! ### the translated lists -/

theorem expectedIds_mem (oldAll newAll : List RuleRow) (lint : Bool) (c : CheckConfig) (E : List Id)
    (hdb : c.disableBuiltin = false) (hold : rulesForType oldAll lint ≠ [])
    (hwf : ReplacementsWF (rulesForType oldAll lint))
    (h : expectedIds oldAll newAll lint c = .ok E) (x : Id) :
    x ∈ E ↔ Selected (rulesForType oldAll lint) c.use c.except x ∧ isRuleId (rulesForType newAll lint) x = true := by
  unfold expectedIds at h
  cases hc : configuredRules oldAll lint false c with
  | error e => simp [hc] at h
  | ok ids =>
    simp only [hc, Except.ok.injEq] at h
    subst h
    rw [List.mem_filter, configuredRules_mem oldAll lint c ids hdb hold hwf hc x]
    constructor
    · rintro ⟨hs, hf⟩
      simp only [Bool.and_eq_true, Bool.not_eq_true'] at hf
      exact ⟨hs, hf.2⟩
    · rintro ⟨hs, hr⟩
      refine ⟨hs, ?_⟩
      have := isDeprecatedIn_of_replacementsOf_none _ x (selected_wf _ hwf _ _ x hs).2
      simp [this, hr]

theorem simpleConfigW_spec (tio : List (Id × List Str) → List (Id × List Str))
    (oldAll newAll : List RuleRow) (lint : Bool) (c simple : CheckConfig)
    (h : simpleConfigW tio oldAll newAll lint c = .ok simple) :
    (∀ x, x ∈ simple.use ↔ x ∈ translateIds (rulesForType oldAll lint) (rulesForType newAll lint) c.use) ∧
    (∀ x, x ∈ simple.except ↔ x ∈ translateIds (rulesForType oldAll lint) (rulesForType newAll lint) c.except) ∧
    simple.disableBuiltin = c.disableBuiltin := by
  unfold simpleConfigW at h
  have S := newEnabledCheckConfig_spec _ _ h
  exact ⟨S.use, S.except, S.disableBuiltin⟩

/-! ### the repair step of `equivalentCheckConfigInV2` -/

/-- `(U ∪ (E ∖ S)) ∖ (X ∪ (S ∖ E)) = E` for `S = U ∖ X`, when `E` misses `X`. -/
theorem repair_algebra {U U' X S E : Prop} (hS : S ↔ U ∧ ¬ X) (hE : E → ¬ X) (hU : U' ↔ U ∨ (E ∧ ¬ S)) :
    U' ∧ ¬ (X ∨ (S ∧ ¬ E)) ↔ E := by
  by_cases E <;> by_cases U <;> by_cases X <;> simp_all

/-- When no non-blank id of `use` survives the translation, `use` is absent: a v2 rule it selects is a
    default rule of the version migrated, and of v2. -/
theorem TablesOK.default_of_use_lost {old new : List RuleRow} (ok : TablesOK old new) {use : List Id}
    (hb : ∀ t ∈ translateIds old new use, blankId t = true) {m : Id}
    (hm : ∃ u ∈ effectiveUse old use, m ∈ denote old u) (hr : isRuleId new m = true) : m ∈ defaultIds new := by
  rcases hm with ⟨u, hu, hmu⟩
  rcases (mem_effectiveUse _ _ _).1 hu with ⟨-, hud⟩ | ⟨-, huc, hub⟩
  · rcases List.mem_map.1 hud with ⟨r, hr', rfl⟩
    have hr' := List.mem_filter.1 hr'
    have hd := ok.defaults r hr'.1 hr'.2
    rw [(denote_rule _ ok.oldIdsNonblank r.id ((isRuleId_iff _ _).2 ⟨r, hr'.1, rfl⟩) hd.1).2, List.mem_singleton] at hmu
    exact hmu ▸ hd.2 (hmu ▸ hr)
  · -- a non-blank id of `use` keeps a non-blank id
    rcases (mem_denote _ u m).1 hmu with ⟨e, he, -⟩
    have huU := BufProofs.C06.mem_acceptedKeys_of_expandOne (nonblank_ne_empty hub) he
    rcases List.any_eq_true.1 (ok.translateKeeps u huU m hmu hr) with ⟨t, ht, htb⟩
    rw [hb t (List.mem_flatMap.2 ⟨u, huc, ht⟩)] at htb
    cases htb

/-- The repair as set algebra over the two tables: `E` the ids expected, `sids` those the simply
    translated configuration `simple` selects, and `c'` adds `E \ sids` to `use` and `sids \ E` to
    `except` (nothing, when `E = sids`).  "Covered by the translated `except` list" is
    `Covers new (· ∈ translateIds old new c.except)`.  The conclusions are (1) and (2) of
    `migrateCheckW_selected`. -/
theorem repair_selected {old new : List RuleRow} (ok : TablesOK old new) {c simple c' : CheckConfig}
    {E sids : List Id}
    (memE : ∀ x, x ∈ E ↔ Selected old c.use c.except x ∧ isRuleId new x = true)
    (memS : ∀ x, x ∈ sids ↔ Selected new simple.use simple.except x)
    (huse : ∀ x, x ∈ simple.use ↔ x ∈ translateIds old new c.use)
    (hexc : ∀ x, x ∈ simple.except ↔ x ∈ translateIds old new c.except)
    (fuse : ∀ x, x ∈ c'.use ↔ x ∈ simple.use ∨ (x ∈ E ∧ x ∉ sids))
    (fexc : ∀ x, x ∈ c'.except ↔ x ∈ simple.except ∨ (x ∈ sids ∧ x ∉ E)) :
    (∀ x, Selected old c.use c.except x → isRuleId new x = true →
      Covers new (· ∈ translateIds old new c.except) x → ¬ Selected new c'.use c'.except x) ∧
    ((∀ x, Selected old c.use c.except x → isRuleId new x = true →
        ¬ Covers new (· ∈ translateIds old new c.except) x) →
      ∀ x, Selected new c'.use c'.except x ↔ (Selected old c.use c.except x ∧ isRuleId new x = true)) := by
  have cov : ∀ x, Covers new (· ∈ translateIds old new c.except) x ↔ Covers new (· ∈ simple.except) x :=
    Covers.congr fun e => (hexc e).symm
  -- the ids of `E` and of `sids` denote themselves in v2, so what is added to `use` / `except` covers itself
  have selfE : ∀ x, x ∈ E ∧ x ∉ sids → blankId x = false ∧ denote new x = [x] :=
    fun x hx => selected_denote_self ok ((memE x).1 hx.1)
  have selfS : ∀ x, x ∈ sids ∧ x ∉ E → blankId x = false ∧ denote new x = [x] := fun x hx =>
    have W := selected_wf _ ok.newWF _ _ x ((memS x).1 hx.1)
    denote_rule _ ok.newIdsNonblank x W.1 W.2
  have hX : ∀ x, Covers new (· ∈ c'.except) x ↔ Covers new (· ∈ simple.except) x ∨ (x ∈ sids ∧ x ∉ E) :=
    fun x => by rw [Covers.congr fexc, covers_or, covers_self selfS]
  refine ⟨fun x _ _ hcov hsel => ?_, fun hno x => ?_⟩
  · -- (1) `except` wins
    exact ((selected_iff ..).1 hsel).2 ((hX x).2 (Or.inl ((cov x).1 hcov)))
  -- (2)
  have hnoE : ∀ x, x ∈ E → ¬ Covers new (· ∈ simple.except) x := fun x hx hc =>
    hno x ((memE x).1 hx).1 ((memE x).1 hx).2 ((cov x).2 hc)
  have hS := fun x => (memS x).trans (selected_iff ..)
  rw [← memE x, selected_iff, hX]
  by_cases hb : ∀ u ∈ simple.use, blankId u = true
  · -- `use` is absent after translation: then the expected rules are v2 defaults, none is missing …
    simp only [if_pos hb] at hS
    have hsub : ∀ m, m ∈ E → m ∈ sids := fun m hmE => by
      have hm' := (memE m).1 hmE
      have hd := ok.default_of_use_lost (fun t ht => hb t ((huse t).2 ht)) hm'.1.1 hm'.2
      exact (hS m).2 ⟨⟨m, hd, by rw [(selected_denote_self ok hm').2]; exact List.mem_singleton.2 rfl⟩, hnoE m hmE⟩
    -- … and `use` stays absent
    have hb' : ∀ u ∈ c'.use, blankId u = true := fun u hu =>
      ((fuse u).1 hu).elim (hb u) (fun h => absurd (hsub u h.1) h.2)
    rw [if_pos hb']
    exact repair_algebra (hS x) (hnoE x) (or_iff_left fun h => h.2 (hsub x h.1)).symm
  · -- `use` has a non-blank id after translation: the missing ids are added to it
    have hb' : ¬ ∀ u ∈ c'.use, blankId u = true := fun hall => hb fun u hu => hall u ((fuse u).2 (Or.inl hu))
    simp only [if_neg hb] at hS
    rw [if_neg hb']
    exact repair_algebra (hS x) (hnoE x) (by rw [Covers.congr fuse, covers_or, covers_self selfE])

/-! ### `migrateCheckW` -/

/-- What an accepted `migrateCheckW` went through. -/
theorem migrateCheckW_ok {tio : List (Id × List Str) → List (Id × List Str)} {oldAll newAll : List RuleRow}
    {lint : Bool} {c c' : CheckConfig} (hm : migrateCheckW tio oldAll newAll lint c = .ok c') :
    ∃ E simple sids, expectedIds oldAll newAll lint c = .ok E ∧ simpleConfigW tio oldAll newAll lint c = .ok simple ∧
      configuredRules newAll lint false simple = .ok sids ∧
      (E = sids ∧ c' = simple ∨ E ≠ sids ∧ newEnabledCheckConfig { simple with
          use := simple.use ++ E.filter (fun id => !(sids.contains id)),
          except := simple.except ++ sids.filter (fun id => !(E.contains id)) } = .ok c') := by
  unfold migrateCheckW at hm
  split at hm
  · cases hm
  · rename_i E hE
    split at hm
    · cases hm
    · rename_i simple hS
      split at hm
      · cases hm
      · rename_i sids hC
        refine ⟨E, simple, sids, hE, hS, hC, ?_⟩
        split at hm
        · rename_i heq
          cases hm
          exact Or.inl ⟨heq, rfl⟩
        · rename_i hne
          exact Or.inr ⟨hne, hm⟩

theorem migrateCheckW_flag {tio : List (Id × List Str) → List (Id × List Str)} {oldAll newAll : List RuleRow}
    {lint : Bool} {c c' : CheckConfig} (hm : migrateCheckW tio oldAll newAll lint c = .ok c') :
    c'.disableBuiltin = c.disableBuiltin := by
  rcases migrateCheckW_ok hm with ⟨E, simple, sids, _, hS, _, ⟨_, rfl⟩ | ⟨_, hf⟩⟩
  · exact (simpleConfigW_spec _ _ _ _ _ _ hS).2.2
  · rw [(newEnabledCheckConfig_spec _ _ hf).disableBuiltin]
    exact (simpleConfigW_spec _ _ _ _ _ _ hS).2.2

/-- The rule selection of the migrated configuration, for ANY pair of tables satisfying the
    decidable table facts:
      (1) a rule selected before that, in v2, is covered by the translated `except` list is NOT
          selected afterwards (the repair adds it to `use`, `except` wins);
      (2) if no such rule exists, the selection afterwards is exactly the selection before,
          restricted to the rules that exist in v2. -/
theorem migrateCheckW_selected (tio : List (Id × List Str) → List (Id × List Str))
    (oldAll newAll : List RuleRow) (lint : Bool) (c c' : CheckConfig)
    (hdb : c.disableBuiltin = false)
    (hold : rulesForType oldAll lint ≠ []) (hnew : rulesForType newAll lint ≠ [])
    (ok : TablesOK (rulesForType oldAll lint) (rulesForType newAll lint))
    (hm : migrateCheckW tio oldAll newAll lint c = .ok c') :
    (∀ x, Selected (rulesForType oldAll lint) c.use c.except x → isRuleId (rulesForType newAll lint) x = true →
      Covers (rulesForType newAll lint) (· ∈ translateIds (rulesForType oldAll lint) (rulesForType newAll lint) c.except) x →
      ¬ Selected (rulesForType newAll lint) c'.use c'.except x) ∧
    ((∀ x, Selected (rulesForType oldAll lint) c.use c.except x → isRuleId (rulesForType newAll lint) x = true →
        ¬ Covers (rulesForType newAll lint) (· ∈ translateIds (rulesForType oldAll lint) (rulesForType newAll lint) c.except) x) →
      ∀ x, Selected (rulesForType newAll lint) c'.use c'.except x ↔
        (Selected (rulesForType oldAll lint) c.use c.except x ∧ isRuleId (rulesForType newAll lint) x = true)) := by
  rcases migrateCheckW_ok hm with ⟨E, simple, sids, hE, hS, hC, hc'⟩
  have memE := expectedIds_mem oldAll newAll lint c E hdb hold ok.oldWF hE
  have SS := simpleConfigW_spec tio oldAll newAll lint c simple hS
  have memS := configuredRules_mem newAll lint simple sids (SS.2.2.trans hdb) hnew ok.newWF hC
  rcases hc' with ⟨heq, rfl⟩ | ⟨_, hf⟩
  · -- the simple translation already selects the expected rules
    exact repair_selected ok memE memS SS.1 SS.2.1 (fun x => by simp [heq]) (fun x => by simp [heq])
  · have F := newEnabledCheckConfig_spec _ _ hf
    refine repair_selected ok memE memS SS.1 SS.2.1 (fun x => ?_) (fun x => ?_)
    · rw [F.use x]
      simp [List.mem_filter]
    · rw [F.except x]
      simp [List.mem_filter]

/-! ### the side condition as a Bool, and `selectedIds` -/

/-- "Covered, in v2, by the translated `except` list", decidable. -/
def coveredB (old new : List RuleRow) (exc : List Id) (x : Id) : Bool :=
  (translateIds old new exc).any fun e => !blankId e && (denote new e).contains x

theorem coveredB_iff (old new : List RuleRow) (exc : List Id) (x : Id) :
    coveredB old new exc x = true ↔ Covers new (· ∈ translateIds old new exc) x := by
  unfold coveredB Covers
  simp [List.any_eq_true]

theorem selectedIds_mem {all : List RuleRow} {lint : Bool} {c : CheckConfig} {S : List Id}
    (h : selectedIds all lint c = .ok S) (hrs : rulesForType all lint ≠ []) (x : Id) :
    x ∈ S ↔ c.disableBuiltin = false ∧ Selected (rulesForType all lint) c.use c.except x := by
  unfold selectedIds at h
  cases hdb : c.disableBuiltin with
  | true =>
    simp only [hdb, if_true, newRulesConfig_empty_table (all := []) rfl, Except.ok.injEq] at h
    subst h
    simp
  | false =>
    simp only [hdb, Bool.false_eq_true, if_false] at h
    cases hr : newRulesConfig all lint c with
    | error e => simp [hr] at h
    | ok rc =>
      simp only [hr, Except.ok.injEq] at h
      subst h
      simpa using newRulesConfig_sel all lint c rc hrs hr x

theorem selectedIds_of_expectedIds (oldAll newAll : List RuleRow) (lint : Bool) (c : CheckConfig) (E : List Id)
    (hE : expectedIds oldAll newAll lint c = .ok E) : ∃ S, selectedIds oldAll lint c = .ok S := by
  unfold expectedIds at hE
  cases hc : configuredRules oldAll lint false c with
  | error e => simp [hc] at hE
  | ok ids =>
    unfold configuredRules resolve at hc
    simp only [Bool.false_eq_true, if_false] at hc
    unfold selectedIds
    cases hr : newRulesConfig (if c.disableBuiltin = true then [] else oldAll) lint c with
    | error e => simp [hr] at hc
    | ok rc => exact ⟨rc.ruleIDs, rfl⟩

theorem selectedIds_of_migrateCheckW (tio : List (Id × List Str) → List (Id × List Str))
    (oldAll newAll : List RuleRow) (lint : Bool) (c c' : CheckConfig)
    (hm : migrateCheckW tio oldAll newAll lint c = .ok c') : ∃ S, selectedIds oldAll lint c = .ok S := by
  rcases migrateCheckW_ok hm with ⟨E, _, _, hE, _⟩
  exact selectedIds_of_expectedIds oldAll newAll lint c E hE

/-! ### the repaired rule selection (`migrateCheckFixed`) -/

/-- What an accepted `migrateCheckFixed` went through. -/
theorem migrateCheckFixed_ok {fixIo : Bool} {oldAll newAll : List RuleRow} {lint : Bool} {c c' : CheckConfig}
    (hm : migrateCheckFixed fixIo oldAll newAll lint c = .ok c') :
    ∃ E repaired ids, expectedIds oldAll newAll lint c = .ok E ∧
      migrateCheckW (tioOf fixIo (rulesForType oldAll lint) (rulesForType newAll lint)) oldAll newAll lint c = .ok repaired ∧
      configuredRules newAll lint false repaired = .ok ids ∧
      (ids = E ∧ c' = repaired ∨ ids ≠ E ∧ ∃ simple,
        simpleConfigW (tioOf fixIo (rulesForType oldAll lint) (rulesForType newAll lint)) oldAll newAll lint c = .ok simple ∧
        newEnabledCheckConfig { simple with use := E, except := [] } = .ok c') := by
  unfold migrateCheckFixed at hm
  dsimp only at hm
  split at hm
  · cases hm
  · rename_i E hE
    split at hm
    · cases hm
    · rename_i repaired hW
      split at hm
      · cases hm
      · rename_i ids hC
        refine ⟨E, repaired, ids, hE, hW, hC, ?_⟩
        split at hm
        · rename_i heq
          cases hm
          exact Or.inl ⟨heq, rfl⟩
        · rename_i hne
          split at hm
          · cases hm
          · rename_i simple hS
            exact Or.inr ⟨hne, simple, hS, hm⟩

theorem migrateCheckFixed_flag {fixIo : Bool} {oldAll newAll : List RuleRow} {lint : Bool} {c c' : CheckConfig}
    (hm : migrateCheckFixed fixIo oldAll newAll lint c = .ok c') : c'.disableBuiltin = c.disableBuiltin := by
  rcases migrateCheckFixed_ok hm with ⟨_, _, _, _, hW, _, ⟨_, rfl⟩ | ⟨_, simple, hS, hf⟩⟩
  · exact migrateCheckW_flag hW
  · rw [(newEnabledCheckConfig_spec _ _ hf).disableBuiltin]
    exact (simpleConfigW_spec _ _ _ _ _ _ hS).2.2

/-- After the repair the migrated configuration selects EXACTLY the rules selected before that
    exist in v2 — no side condition on `except`. -/
theorem migrateCheckFixed_selected (fixIo : Bool) (oldAll newAll : List RuleRow) (lint : Bool) (c c' : CheckConfig)
    (hdb : c.disableBuiltin = false)
    (hold : rulesForType oldAll lint ≠ []) (hnew : rulesForType newAll lint ≠ [])
    (ok : TablesOK (rulesForType oldAll lint) (rulesForType newAll lint))
    (hm : migrateCheckFixed fixIo oldAll newAll lint c = .ok c') :
    ∀ x, Selected (rulesForType newAll lint) c'.use c'.except x ↔
      (Selected (rulesForType oldAll lint) c.use c.except x ∧ isRuleId (rulesForType newAll lint) x = true) := by
  rcases migrateCheckFixed_ok hm with ⟨E, repaired, ids, hE, hW, hC, hc'⟩
  have memE := expectedIds_mem oldAll newAll lint c E hdb hold ok.oldWF hE
  have W := migrateCheckW_selected _ oldAll newAll lint c repaired hdb hold hnew ok hW
  have memI := configuredRules_mem newAll lint repaired ids ((migrateCheckW_flag hW).trans hdb) hnew ok.newWF hC
  rcases hc' with ⟨heq, rfl⟩ | ⟨heq, simple, hS, hf⟩
  · intro x
    rw [← memI x, heq, memE x]
  · have F := newEnabledCheckConfig_spec _ _ hf
    have selfE : ∀ x, x ∈ E → blankId x = false ∧ denote (rulesForType newAll lint) x = [x] :=
      fun x hx => selected_denote_self ok ((memE x).1 hx)
    -- `use` is not absent: otherwise `E` is empty, and then the first repair already selects nothing
    have hnb : ¬ ∀ u ∈ c'.use, blankId u = true := fun hall => by
      have hE0 : ∀ m, m ∉ E := fun m hm' =>
        absurd ((selfE m hm').1.symm.trans (hall m ((F.use m).2 hm'))) (by simp)
      have hsel := W.2 fun x hs hr _ => hE0 x ((memE x).2 ⟨hs, hr⟩)
      have hI0 : ∀ y, y ∉ ids := fun y hy => hE0 y ((memE y).2 ((hsel y).1 ((memI y).1 hy)))
      exact heq ((List.eq_nil_iff_forall_not_mem.2 hI0).trans (List.eq_nil_iff_forall_not_mem.2 hE0).symm)
    intro x
    rw [← memE x, selected_iff, if_neg hnb, Covers.congr F.use, covers_self selfE]
    exact and_iff_left fun ⟨e, he, _⟩ => nomatch (F.except e).1 he

theorem selectedIds_of_migrateCheckFixed (fixIo : Bool) (oldAll newAll : List RuleRow) (lint : Bool) (c c' : CheckConfig)
    (hm : migrateCheckFixed fixIo oldAll newAll lint c = .ok c') : ∃ S, selectedIds oldAll lint c = .ok S := by
  rcases migrateCheckFixed_ok hm with ⟨E, _, _, hE, _⟩
  exact selectedIds_of_expectedIds oldAll newAll lint c E hE

end BufModel.MigrateRules
