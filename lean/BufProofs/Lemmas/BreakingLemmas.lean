import BufModel.Breaking
import BufProofs.Lemmas.ListLemmas
/-
  About the model alone, for C03 / C04.  A pair handler runs its body on exactly the pairs it visits
  (`PairsOn`), whichever elements it pairs: silence, membership and the monotonicity behind the category
  order follow from that one statement.  A statement about the entries of a flattened message list is one
  about the flattening of a single message tree, proved by induction over the tree.  The tag-range check
  `covers` decides what its docstring says.
-/
namespace BufProofs.Breaking
open BufModel.Schema BufModel.Breaking

theorem indexed_map_snd {α : Type} (xs : List α) : (indexed xs).map (·.2) = xs := by
  unfold indexed
  simp [List.map_map, Function.comp_def]

theorem mem_indexed_snd {α : Type} {xs : List α} {p : Nat × α} (h : p ∈ indexed xs) : p.2 ∈ xs := by
  have : p.2 ∈ (indexed xs).map (·.2) := List.mem_map_of_mem h
  rwa [indexed_map_snd] at this

theorem exists_indexed_of_mem {α : Type} {xs : List α} {x : α} (h : x ∈ xs) : ∃ i, (i, x) ∈ indexed xs := by
  have : x ∈ (indexed xs).map (·.2) := by rw [indexed_map_snd]; exact h
  obtain ⟨p, hp, rfl⟩ := List.mem_map.1 this
  exact ⟨p.1, hp⟩

theorem find_key_some {α κ : Type} [DecidableEq κ] (key : α → κ) (xs : List α) (k : κ)
    (h : ∃ c ∈ xs, key c = k) : ∃ c, xs.find? (fun c => decide (key c = k)) = some c ∧ c ∈ xs ∧ key c = k := by
  obtain ⟨c0, hc0, hk0⟩ := h
  obtain ⟨c, hc⟩ := Option.isSome_iff_exists.mp
    (ListLemmas.find?_key_isSome.mpr (List.mem_map.2 ⟨c0, hc0, hk0⟩))
  exact ⟨c, hc, ListLemmas.find?_key_some hc⟩

theorem find_key_none {α κ : Type} [DecidableEq κ] (key : α → κ) (xs : List α) (k : κ)
    (h : ∀ c ∈ xs, key c ≠ k) : xs.find? (fun c => decide (key c = k)) = none := by
  apply List.find?_eq_none.2
  intro c hc
  simp [h c hc]

/-! ### pairwise: which pairs a pair handler visits -/

section
variable {α κ : Type} [DecidableEq κ] {key : α → κ} {cur prev : List α} {c p : α}

/-- the pairs `pairwise` visits: a previous element and the FIRST current element with its key -/
def Paired (key : α → κ) (cur prev : List α) (c p : α) : Prop :=
  p ∈ prev ∧ cur.find? (fun c => decide (key c = key p)) = some c

theorem Paired.mem (h : Paired key cur prev c p) : c ∈ cur := List.mem_of_find?_eq_some h.2

theorem Paired.key_eq (h : Paired key cur prev c p) : key c = key p := by
  simpa using List.find?_some h.2

theorem Paired.of_nodup (hnd : (cur.map key).Nodup) (hp : p ∈ prev) (hc : c ∈ cur) (hk : key c = key p) :
    Paired key cur prev c p :=
  ⟨hp, hk ▸ ListLemmas.find?_key_of_nodup hnd hc⟩

theorem Paired.unique (h : Paired key cur prev c p) (hnd : (cur.map key).Nodup) {c' : α} (hc' : c' ∈ cur)
    (hk : key c' = key p) : c' = c :=
  ListLemmas.eq_of_nodup_map key hnd hc' h.mem (hk.trans h.key_eq.symm)

theorem mem_pairwise {m : α → List Ann} {f : α → α → List Ann} {a : Ann} :
    a ∈ pairwise key cur prev m f ↔
      (∃ p ∈ prev, (∀ c ∈ cur, key c ≠ key p) ∧ a ∈ m p) ∨ ∃ c p, Paired key cur prev c p ∧ a ∈ f c p := by
  unfold pairwise
  rw [List.mem_flatMap]
  constructor
  · rintro ⟨p, hp, ha⟩
    cases hf : cur.find? (fun c => decide (key c = key p)) with
    | none =>
      rw [hf] at ha
      exact .inl ⟨p, hp, fun c hc => by simpa using List.find?_eq_none.1 hf c hc, ha⟩
    | some c =>
      rw [hf] at ha
      exact .inr ⟨c, p, ⟨hp, hf⟩, ha⟩
  · rintro (⟨p, hp, hno, ha⟩ | ⟨c, p, ⟨hp, hf⟩, ha⟩)
    · exact ⟨p, hp, by rw [find_key_none key cur (key p) hno]; exact ha⟩
    · exact ⟨p, hp, by rw [hf]; exact ha⟩

theorem mem_pairwise_missing (key : α → κ) {onMissing : α → List Ann} {onPair : α → α → List Ann} {a : Ann}
    (hp : p ∈ prev) (hno : ∀ c ∈ cur, key c ≠ key p) (ha : a ∈ onMissing p) :
    a ∈ pairwise key cur prev onMissing onPair :=
  mem_pairwise.2 (.inl ⟨p, hp, hno, ha⟩)

end

theorem pairwise_self_nil {α κ : Type} [DecidableEq κ] (key : α → κ) (xs : List α)
    (onMissing : α → List Ann) (onPair : α → α → List Ann)
    (hnd : (xs.map key).Nodup) (h : ∀ x ∈ xs, onPair x x = []) :
    pairwise key xs xs onMissing onPair = [] :=
  List.eq_nil_iff_forall_not_mem.2 fun a ha => by
    rcases mem_pairwise.1 ha with ⟨p, hp, hno, _⟩ | ⟨c, p, hv, ha⟩
    · exact hno p hp rfl
    · rw [← hv.unique hnd hv.1 rfl, h p hv.1] at ha
      cases ha

/-- `H` runs a body on exactly the pairs related by `R` and collects what it says: what is known of
    a pair handler, whichever elements it pairs -/
def PairsOn {α : Type} (R : α → α → Prop) (H : (α → α → List Ann) → List Ann) : Prop :=
  ∀ f a, a ∈ H f ↔ ∃ c p, R c p ∧ a ∈ f c p

theorem pairwise_on {α κ : Type} [DecidableEq κ] {key : α → κ} {cur prev : List α} :
    PairsOn (Paired key cur prev) (pairwise key cur prev fun _ => []) := fun f a => by
  rw [mem_pairwise]
  exact ⟨fun h => h.resolve_left fun ⟨_, _, _, h⟩ => (nomatch h), Or.inr⟩

namespace PairsOn
variable {α β : Type} {R : α → α → Prop} {H : (α → α → List Ann) → List Ann}

theorem mem (h : PairsOn R H) {f : α → α → List Ann} {c p : α} {a : Ann} (hr : R c p) (ha : a ∈ f c p) :
    a ∈ H f := (h f a).2 ⟨c, p, hr, ha⟩

theorem nil (h : PairsOn R H) {f : α → α → List Ann} (hf : ∀ c p, R c p → f c p = []) : H f = [] :=
  List.eq_nil_iff_forall_not_mem.2 fun a ha => by
    obtain ⟨c, p, hr, hm⟩ := (h f a).1 ha
    rw [hf c p hr] at hm; cases hm

/-- the monotonicity behind the category order: where the laxer body speaks the stricter one does -/
theorem mono (h : PairsOn R H) {f₁ f₂ : α → α → List Ann} (hf : ∀ c p, R c p → f₁ c p ≠ [] → f₂ c p ≠ [])
    (hne : H f₁ ≠ []) : H f₂ ≠ [] := by
  obtain ⟨a, ha⟩ := List.exists_mem_of_ne_nil _ hne
  obtain ⟨c, p, hr, hm⟩ := (h f₁ a).1 ha
  obtain ⟨b, hb⟩ := List.exists_mem_of_ne_nil _ (hf c p hr (List.ne_nil_of_mem hm))
  exact List.ne_nil_of_mem (h.mem hr hb)

/-- a pair handler inside a pair handler (fields of paired messages, methods of paired services) -/
theorem nest (h : PairsOn R H) {R' : α → α → β → β → Prop} {H' : α → α → (β → β → List Ann) → List Ann}
    (h' : ∀ c p, PairsOn (R' c p) (H' c p)) :
    PairsOn (fun c p => ∃ c' p', R c' p' ∧ R' c' p' c p) (fun f => H fun c' p' => H' c' p' f) := fun f a => by
  rw [h]
  constructor
  · rintro ⟨c', p', hr, ha⟩
    obtain ⟨c, p, hr', ha⟩ := (h' c' p' f a).1 ha
    exact ⟨c, p, ⟨c', p', hr, hr'⟩, ha⟩
  · rintro ⟨c, p, ⟨c', p', hr, hr'⟩, ha⟩
    exact ⟨c', p', hr, (h' c' p').mem hr' ha⟩

theorem append (h : PairsOn R H) {R₂ : α → α → Prop} {H₂ : (α → α → List Ann) → List Ann} (h₂ : PairsOn R₂ H₂) :
    PairsOn (fun c p => R c p ∨ R₂ c p) (fun f => H f ++ H₂ f) := fun f a => by
  rw [List.mem_append, h, h₂]
  constructor
  · rintro (⟨c, p, hr, ha⟩ | ⟨c, p, hr, ha⟩)
    · exact ⟨c, p, .inl hr, ha⟩
    · exact ⟨c, p, .inr hr, ha⟩
  · rintro ⟨c, p, hr | hr, ha⟩
    · exact .inl ⟨c, p, hr, ha⟩
    · exact .inr ⟨c, p, hr, ha⟩

end PairsOn

section
variable {cur prev : Schema}

theorem filePairs_on : PairsOn (Paired File.path cur prev) (filePairs cur prev) := pairwise_on

theorem msgPairs_on : PairsOn (Paired FlatMsg.fullName (allMsgs cur) (allMsgs prev)) (msgPairs cur prev) :=
  pairwise_on

theorem enumPairs_on : PairsOn (Paired FlatEnum.fullName (allEnums cur) (allEnums prev)) (enumPairs cur prev) :=
  pairwise_on

theorem svcPairs_on : PairsOn (Paired FlatSvc.fullName (allSvcs cur) (allSvcs prev)) (svcPairs cur prev) :=
  pairwise_on

/-- the field pairs as coded: the FIRST message / field / extension with the key -/
def FieldVisited (cur prev : Schema) (c p : FlatField) : Prop :=
  (∃ cm pm, Paired FlatMsg.fullName (allMsgs cur) (allMsgs prev) cm pm ∧
    Paired (fun x : FlatField => x.field.number) (msgFields cm) (msgFields pm) c p) ∨
  Paired (fun x : FlatField => (x.field.extendee, x.field.number)) (extFields cur) (extFields prev) c p

theorem fieldPairs_on : PairsOn (FieldVisited cur prev) (fieldPairs cur prev) :=
  (msgPairs_on.nest fun _ _ => pairwise_on).append pairwise_on

def MethodVisited (cur prev : Schema) (c p : FlatMethod) : Prop :=
  ∃ cs ps, Paired FlatSvc.fullName (allSvcs cur) (allSvcs prev) cs ps ∧
    Paired (fun x : FlatMethod => x.m.name) (svcMethods cs) (svcMethods ps) c p

theorem methodPairs_on : PairsOn (MethodVisited cur prev) (methodPairs cur prev) :=
  svcPairs_on.nest fun _ _ => pairwise_on

end

/-! ### flattening: both list recursions flatten the `k`-th message at index `i + k`; every statement
    about the entries is one about `flatMsg`, by `flatMsg_rec` -/

section
variable {file : String} {locs : List SPath} {pkg : QName}

theorem mem_flatMsgs {pre : QName} {path : SPath} {pf : List Field} {x : FlatMsg} :
    ∀ {ms : List Msg} {i : Nat}, x ∈ flatMsgs file locs pkg pre path pf i ms ↔
      ∃ k m, ms[k]? = some m ∧
        x ∈ flatMsg file locs pkg pre (path ++ [3, i + k]) (mapLocOf pkg pre path pf m.info) m
  | [], _ => by simp [flatMsgs]
  | m :: ms, i => by
    rw [flatMsgs, List.mem_append, mem_flatMsgs]
    constructor
    · rintro (h | ⟨k, m', hk, hx⟩)
      · exact ⟨0, m, rfl, h⟩
      · exact ⟨k + 1, m', hk, by rwa [show i + (k + 1) = i + 1 + k by omega]⟩
    · rintro ⟨k, m', hk, hx⟩
      cases k with
      | zero => cases hk; exact .inl hx
      | succ k => exact .inr ⟨k, m', hk, by rwa [show i + (k + 1) = i + 1 + k by omega] at hx⟩

theorem mem_topMsgs {x : FlatMsg} :
    ∀ {ms : List Msg} {i : Nat}, x ∈ topMsgs file locs pkg i ms ↔
      ∃ k m, ms[k]? = some m ∧ x ∈ flatMsg file locs pkg [] [4, i + k] none m
  | [], _ => by simp [topMsgs]
  | m :: ms, i => by
    rw [topMsgs, List.mem_append, mem_topMsgs]
    constructor
    · rintro (h | ⟨k, m', hk, hx⟩)
      · exact ⟨0, m, rfl, h⟩
      · exact ⟨k + 1, m', hk, by rwa [show i + (k + 1) = i + 1 + k by omega]⟩
    · rintro ⟨k, m', hk, hx⟩
      cases k with
      | zero => cases hk; exact .inl hx
      | succ k => exact .inr ⟨k, m', hk, by rwa [show i + (k + 1) = i + 1 + k by omega] at hx⟩

theorem mem_flatMsg {i : MsgInfo} {ns : List Msg} {pre : QName} {path : SPath} {ml : Option SPath} {x : FlatMsg} :
    x ∈ flatMsg file locs pkg pre path ml (.mk i ns) ↔
      x = ⟨file, locs, pkg, pre ++ [i.name], path, ml, i⟩ ∨ ∃ k n, ns[k]? = some n ∧
        x ∈ flatMsg file locs pkg (pre ++ [i.name]) (path ++ [3, k])
          (mapLocOf pkg (pre ++ [i.name]) path i.fields n.info) n := by
  rw [flatMsg, List.mem_cons, mem_flatMsgs]
  simp only [Nat.zero_add]

theorem Msg.ind {P : Msg → Prop} (mk : ∀ i ns, (∀ n ∈ ns, P n) → P (.mk i ns)) : ∀ m, P m
  | .mk i ns => mk i ns fun n hn =>
    have : sizeOf n < 1 + sizeOf i + sizeOf ns := by have := List.sizeOf_lt_of_mem hn; omega
    Msg.ind mk n
termination_by m => sizeOf m
decreasing_by
  simp_wf
  omega

/-- Induction over the flattening of one message tree: a statement about the entries of `flatMsg … m`
    holds of the root entry and passes from the flattening of a nested message to that of its parent. -/
theorem flatMsg_rec {Q : QName → SPath → Option SPath → Msg → FlatMsg → Prop}
    (root : ∀ pre path ml i ns, Q pre path ml (.mk i ns) ⟨file, locs, pkg, pre ++ [i.name], path, ml, i⟩)
    (step : ∀ pre path ml i ns k n x, ns[k]? = some n →
      Q (pre ++ [i.name]) (path ++ [3, k]) (mapLocOf pkg (pre ++ [i.name]) path i.fields n.info) n x →
      Q pre path ml (.mk i ns) x) :
    ∀ (m : Msg) (pre : QName) (path : SPath) (ml : Option SPath) (x : FlatMsg),
      x ∈ flatMsg file locs pkg pre path ml m → Q pre path ml m x :=
  Msg.ind fun i ns ih pre path ml x hx => by
    rcases mem_flatMsg.1 hx with rfl | ⟨k, n, hk, hx⟩
    · exact root pre path ml i ns
    · exact step pre path ml i ns k n x hk (ih n (List.mem_of_getElem? hk) _ _ _ x hx)

end

/-! ### silence of the enum pair handler and of the enum-value deletion rules -/

theorem enumPairs_nil_of_paired {cur prev : Schema} {f : FlatEnum → FlatEnum → List Ann}
    (h : ∀ pe ∈ allEnums prev, ∀ ce ∈ allEnums cur, ce.fullName = pe.fullName → f ce pe = []) :
    enumPairs cur prev f = [] :=
  enumPairs_on.nil fun c p hv => h p hv.1 c hv.mem hv.key_eq

/-- the deletion rule is silent when every number that is gone (no current value has it) is allowed by
    the rule's flags — the converse of `mem_enumValueNoDelete`, for arbitrary flags -/
theorem enumValueNoDelete_nil_of {cur prev : Schema} (rule : String) (an am : Bool)
    (h : ∀ pe ∈ allEnums prev, ∀ ce ∈ allEnums cur, ce.fullName = pe.fullName →
      ∀ pv ∈ pe.enum.values, (∀ cv ∈ ce.enum.values, cv.number ≠ pv.number) →
        (if an then numberReserved ce.enum.reservedRanges pv.number
         else if am then (pe.enum.values.filter fun w => decide (w.number = pv.number)).all
           fun w => decide (w.name ∈ ce.enum.reservedNames)
         else false) = true) :
    enumValueNoDelete rule an am cur prev = [] := by
  unfold enumValueNoDelete
  refine enumPairs_nil_of_paired fun pe hpe ce hce hname => List.flatMap_eq_nil_iff.2 fun pv hpv => ?_
  cases hn : ce.enum.hasNumber pv.number with
  | true => simp
  | false =>
    have := h pe hpe ce hce hname pv hpv fun cv hcv => by simpa using List.any_eq_false.1 hn cv hcv
    simp only [this, Bool.false_eq_true, if_false, if_true]

/-! ### tag ranges: `covers fuel rs lo hi` says that every integer of [lo, hi] lies in a range of `rs`
    (`covers_complete` when the fuel exceeds `rs.length`, `covers_sound` whatever the fuel) -/

theorem covers_complete : ∀ (fuel : Nat) (rs : List Range) (lo hi : Int), rs.length < fuel →
    (∀ n, lo ≤ n → n ≤ hi → ∃ q ∈ rs, q.1 ≤ n ∧ n ≤ q.2) → covers fuel rs lo hi = true
  | 0, _, _, _, hlen, _ => by omega
  | fuel + 1, rs, lo, hi, hlen, h => by
    unfold covers
    by_cases hlt : hi < lo
    · simp [hlt]
    · simp only [hlt, if_false]
      obtain ⟨r, hr, hr1, hr2⟩ := h lo (Int.le_refl _) (by omega)
      cases hf : rs.find? (fun r => rangeHas r lo) with
      | none => simpa [rangeHas, hr1, hr2] using List.find?_eq_none.1 hf r hr
      | some q =>
        have hq : q ∈ rs := List.mem_of_find?_eq_some hf
        have hqlo : q.1 ≤ lo ∧ lo ≤ q.2 := by
          simpa [rangeHas] using List.find?_some (p := fun r => rangeHas r lo) hf
        -- `q` itself is filtered out, so the fuel suffices; a range that reaches past `q` survives
        have hlt2 : (rs.filter fun x => decide (q.2 < x.2)).length < rs.length :=
          List.length_filter_lt_length_iff_exists.2 ⟨q, hq, by simp⟩
        refine covers_complete fuel _ _ _ (by omega) fun n hn1 hn2 => ?_
        obtain ⟨r', hr', h1, h2⟩ := h n (by omega) hn2
        exact ⟨r', List.mem_filter.2 ⟨hr', decide_eq_true (by omega)⟩, h1, h2⟩

theorem rangeMissing_of_mem (rs : List Range) (r : Range) (h : r ∈ rs) : rangeMissing rs r = false := by
  unfold rangeMissing
  rw [covers_complete _ rs r.1 r.2 (by omega) fun n h1 h2 => ⟨r, h, h1, h2⟩]
  rfl

theorem covers_sound : ∀ (fuel : Nat) (rs : List Range) (lo hi : Int), covers fuel rs lo hi = true →
    ∀ n, lo ≤ n → n ≤ hi → ∃ q ∈ rs, q.1 ≤ n ∧ n ≤ q.2
  | 0, _, lo, hi, h, n, h1, h2 => by
    simp [covers] at h; omega
  | fuel + 1, rs, lo, hi, h, n, h1, h2 => by
    unfold covers at h
    by_cases hlt : hi < lo
    · omega
    · simp only [hlt, if_false] at h
      cases hf : rs.find? (fun r => rangeHas r lo) with
      | none => rw [hf] at h; cases h
      | some r =>
        rw [hf] at h
        simp only at h
        have hr : r ∈ rs := List.mem_of_find?_eq_some hf
        have hhas : rangeHas r lo = true := List.find?_some (p := fun r => rangeHas r lo) hf
        simp [rangeHas] at hhas
        by_cases hn : n ≤ r.2
        · exact ⟨r, hr, by omega, hn⟩
        · obtain ⟨q, hq, hq1, hq2⟩ := covers_sound fuel _ (r.2 + 1) hi h n (by omega) h2
          exact ⟨q, (List.mem_filter.1 hq).1, hq1, hq2⟩

theorem rangeMissing_of_uncovered (rs : List Range) (r : Range) (n : Int) (h1 : r.1 ≤ n) (h2 : n ≤ r.2)
    (hun : ∀ q ∈ rs, ¬ (q.1 ≤ n ∧ n ≤ q.2)) : rangeMissing rs r = true := by
  unfold rangeMissing
  cases hc : covers (rs.length + 1) rs r.1 r.2 with
  | false => rfl
  | true =>
    obtain ⟨q, hq, hq1, hq2⟩ := covers_sound _ _ _ _ hc n h1 h2
    exact absurd ⟨hq1, hq2⟩ (hun q hq)

end BufProofs.Breaking
