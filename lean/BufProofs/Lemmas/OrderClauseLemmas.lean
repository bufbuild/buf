import BufModel.OrderClauses
import BufProofs.Lemmas.FilterRewriteLemmas
import BufProofs.Lemmas.TargetCharLemmas
/-
  Lemmas for C02's order clauses on filtered images (remapDeps) and overlapping target paths
  (moduleTargetFiles).
-/
namespace BufProofs.OrderClause
open BufModel.Path BufModel.Graph BufModel.Targeting BufModel.Filter BufModel.OrderClauses
open BufProofs.FilterLemmas BufProofs.FilterRewrite

/-! ### insertion sort on Nat -/

theorem oc_sortNat_perm (l : List Nat) : (sortNat l).Perm l := sortNat_eq l ▸ isortBy_perm _ l

theorem oc_sortNat_sorted (l : List Nat) : (sortNat l).Pairwise (· ≤ ·) :=
  sortNat_eq l ▸ isortBy_pairwise (R := (· ≤ ·)) (fun a b h => Nat.le_of_not_le (by simpa using h))
    (fun a b h => by simpa using h) (fun _ _ _ => Nat.le_trans) l

theorem oc_sortNat_eq_of_perm {l₁ l₂ : List Nat} (h : l₁.Perm l₂) : sortNat l₁ = sortNat l₂ := by
  rw [sortNat_eq, sortNat_eq]
  exact isortBy_eq_of_perm (R := (· ≤ ·)) (fun a b h => Nat.le_of_not_le (by simpa using h))
    (fun a b h => by simpa using h) (fun _ _ _ => Nat.le_trans) h (fun _ _ _ _ => Nat.le_antisymm)

theorem oc_sortNat_strict {l : List Nat} (hn : l.Nodup) : (sortNat l).Pairwise (· < ·) := by
  have hs := oc_sortNat_sorted l
  have hnd : (sortNat l).Nodup := (oc_sortNat_perm l).nodup_iff.mpr hn
  rw [List.nodup_iff_pairwise_ne] at hnd
  exact (hs.and hnd).imp (fun ⟨h1, h2⟩ => Nat.lt_of_le_of_ne h1 h2)

/-! ### eraseDups -/

theorem oc_nodup_eraseDups : ∀ (n : Nat) (l : List Nat), l.length ≤ n → l.eraseDups.Nodup
  | 0, l, h => by
    have : l = [] := List.length_eq_zero_iff.mp (Nat.le_zero.mp h)
    subst this; simp
  | n + 1, [], _ => by simp
  | n + 1, a :: as, h => by
    rw [List.eraseDups_cons]
    refine List.nodup_cons.mpr ⟨?_, ?_⟩
    · intro hm
      have := (List.mem_eraseDups.mp hm)
      simp at this
    · apply oc_nodup_eraseDups n
      have h1 : (as.filter (fun b => !b == a)).length ≤ as.length := List.length_filter_le _ _
      simp only [List.length_cons] at h
      omega

theorem oc_eraseDups_perm {l₁ l₂ : List Nat} (h : l₁.Perm l₂) : l₁.eraseDups.Perm l₂.eraseDups := by
  apply (List.perm_ext_iff_of_nodup (oc_nodup_eraseDups _ l₁ (Nat.le_refl _)) (oc_nodup_eraseDups _ l₂ (Nat.le_refl _))).mpr
  intro x
  rw [List.mem_eraseDups, List.mem_eraseDups]
  exact h.mem_iff

/-! ### remapDeps = kept ++ gained -/

theorem oc_keptFrom_deps (req : List Id) : ∀ (ds : List Dep) (fr : Nat),
    (keptFrom [3] (fun _ (d : Dep) => if req.contains d.file then (some (Dep.mk d.file false), ([] : Marks)) else (none, []))
      ds fr).map (·.file) = (ds.map (·.file)).filter (fun d => req.contains d)
  | [], _ => rfl
  | d :: ds, fr => by
    unfold keptFrom
    by_cases h : req.contains d.file = true
    · simp only [h, if_true, List.map_cons, List.filter_cons]
      rw [oc_keptFrom_deps req ds (fr + 1)]
    · have h' : req.contains d.file = false := by simpa using h
      simp only [h', Bool.false_eq_true, if_false, List.map_cons, List.filter_cons]
      exact oc_keptFrom_deps req ds (fr + 1)

/-- `remapDependencies` as coded: the kept imports in their old order, then the gained ones ascending. -/
theorem oc_remapDeps_eq (st : St) (f : File) :
    (remapDeps st f).1.map (·.file) = keptDeps (requiredOf st f) f ++ gainedDeps (requiredOf st f) f := by
  unfold remapDeps keptDeps gainedDeps requiredOf
  simp only [List.map_append, List.map_map]
  rw [remapSlice_items, oc_keptFrom_deps]
  congr 1
  induction (sortNat _) with
  | nil => rfl
  | cons x xs ih => simp [ih]

theorem oc_contains_perm {l₁ l₂ : List Nat} (h : l₁.Perm l₂) (x : Nat) : l₁.contains x = l₂.contains x := by
  apply Bool.eq_iff_iff.mpr
  simp only [List.contains_iff_mem]
  exact h.mem_iff

theorem oc_keptDeps_perm {r₁ r₂ : List Id} (h : r₁.Perm r₂) (f : File) : keptDeps r₁ f = keptDeps r₂ f := by
  unfold keptDeps
  congr 1
  funext d
  exact oc_contains_perm h d

theorem oc_gainedDeps_perm {r₁ r₂ : List Id} (h : r₁.Perm r₂) (f : File) : gainedDeps r₁ f = gainedDeps r₂ f := by
  unfold gainedDeps
  exact oc_sortNat_eq_of_perm (oc_eraseDups_perm (h.filter _))

theorem oc_requiredOf_perm {st₁ st₂ : St} (h : st₁.edges.Perm st₂.edges) (f : File) :
    (requiredOf st₁ f).Perm (requiredOf st₂ f) := by
  unfold requiredOf
  exact (h.filter _).map _

/-! ### containment on keys is transitive -/

/-- a normalised, validated relative path (what `--path` values and bucket paths are): the
    rendering of a list of proper components. -/
def OcKey (p : Str) : Prop := ∃ k : BufModel.Path.Key, BufModel.Path.AllProper k ∧ p = renderKey k

theorem oc_ecp_trans {a b c : Str} (ha : OcKey a) (hb : OcKey b) (hc : OcKey c)
    (h1 : equalsOrContainsPath a b = true) (h2 : equalsOrContainsPath b c = true) :
    equalsOrContainsPath a c = true := by
  obtain ⟨ka, pa, rfl⟩ := ha
  obtain ⟨kb, pb, rfl⟩ := hb
  obtain ⟨kc, pc, rfl⟩ := hc
  rw [BufModel.Path.ecp_keys pa pb] at h1
  rw [BufModel.Path.ecp_keys pb pc] at h2
  rw [BufModel.Path.ecp_keys pa pc]
  exact h1.trans h2

theorem oc_filterMap_ids_sublist (c : RCtx) : ∀ cand : List File,
    ((cand.filterMap (remapFile c)).map (·.id)).Sublist (cand.map (·.id))
  | [] => List.Sublist.slnil
  | x :: xs => by
    rw [List.filterMap_cons]
    split
    · exact (oc_filterMap_ids_sublist c xs).cons _
    · rename_i of hof
      rw [List.map_cons, List.map_cons, (remapFile_deps _ x of hof).1]
      exact (oc_filterMap_ids_sublist c xs).cons_cons _

end BufProofs.OrderClause
