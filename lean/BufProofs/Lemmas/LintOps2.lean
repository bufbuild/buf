import BufProofs.Lemmas.LintOps
import BufProofs.Lemmas.LintSpec
/-
  C05 — planting operators whose effect reaches a MULTI-FILE rule: changing the request /
  response type of an RPC (RPC_REQUEST_RESPONSE_UNIQUE), a language option (PACKAGE_SAME_<option>),
  the package or the path of a file (the package/directory rules).  Their exactness theorems are
  stated in membership form, with the co-violations given by the set-level specifications of
  BufProofs/Lemmas/LintSpec.lean.  Per operator, `clean_after_*` lists the rules that can see the
  change (`pkgDirty`, `moveDirty`, …): every other configured rule stays Clean, so that
  `mem_lint_of_dirty` reduces lint of the planted workspace to those rules.  `plant_rpc_type` is the
  exactness theorem that the request and the response side share; the others are in Props/C05.
-/
namespace BufModel.Lint
open BufModel.Case

/-! ### request / response type of an RPC -/

theorem rpcTable_opRpc (w : Schema) (f : File) (q0 : List Nat) (g : Rpc → Rpc) (ρ : RpcRow → RpcRow)
    (hρ : ∀ q m, ρ ⟨f.path, q, m.inType, m.outType⟩ = ⟨f.path, q, (g m).inType, (g m).outType⟩) :
    rpcTable (plantDecl f.path (opRpc q0 g) w) =
      (rpcTable w).map (fun x => if x.file = f.path ∧ x.path = q0 then ρ x else x) := by
  rw [rpcTable_eq, rpcTable_eq]
  unfold plantDecl plantFile
  rw [nonImport_map _ (sel_isImport f.path (mapFile (opRpc q0 g)) (fun _ => rfl)), List.flatMap_map, List.map_flatMap]
  apply BufProofs.ListLemmas.flatMap_congr
  intro g' _
  unfold sel
  split
  · next hp =>
    have hp' : g'.path = f.path := by simpa using hp
    unfold fileRpcRows
    rw [fileRpcs_map, List.map_map, List.map_map]
    apply List.map_congr_left
    intro x _
    simp only [Function.comp, tauRpc, opRpc]
    show (⟨g'.path, x.1, _, _⟩ : RpcRow) = _
    rw [hp']
    simp only [true_and]
    split
    · rw [hρ]
    · rfl
  · next hp =>
    have hp' : g'.path ≠ f.path := by simpa using hp
    unfold fileRpcRows
    rw [List.map_map]
    apply List.map_congr_left
    intro x _
    simp only [Function.comp, hp', false_and, if_false]

theorem rpcFullNames_opRpc (w : Schema) (f : File) (q0 : List Nat) (g : Rpc → Rpc) (hn : ∀ m, (g m).name = m.name) :
    (rpcEntries (plantDecl f.path (opRpc q0 g) w)).map (·.full) = (rpcEntries w).map (·.full) := by
  unfold rpcEntries plantDecl plantFile
  rw [nonImport_map _ (sel_isImport f.path (mapFile (opRpc q0 g)) (fun _ => rfl)), List.flatMap_map,
    List.map_flatMap, List.map_flatMap]
  apply BufProofs.ListLemmas.flatMap_congr
  intro g' _
  unfold sel
  split
  · unfold fileRpcEntries
    rw [fileRpcs_map, List.map_map, List.map_map, List.map_map]
    apply List.map_congr_left
    intro x _
    simp only [Function.comp, tauRpc, opRpc]
    -- package and service name are untouched, the RPC name is kept by `g`
    show qualify g'.pkg (x.2.1.name ++ '.' :: (if _ then g x.2.2 else x.2.2).name) =
      qualify g'.pkg (x.2.1.name ++ '.' :: x.2.2.name)
    rw [apply_ite Rpc.name, hn, ite_self]
  · rfl

/-- what `FullNameToMethod` demands survives a rewriting that keeps the RPC names -/
theorem fullNamesDistinct_opRpc (w : Schema) (f : File) (q0 : List Nat) (g : Rpc → Rpc) (hn : ∀ m, (g m).name = m.name)
    (h : FullNamesDistinct w) : FullNamesDistinct (plantDecl f.path (opRpc q0 g) w) := by
  unfold FullNamesDistinct at h ⊢
  rw [rpcFullNames_opRpc w f q0 g hn]; exact h

theorem stdNameBad_resp_congr (o : Options) (s : Service) (m m' : Rpc) (hn : m'.name = m.name)
    (ho : m'.outType = m.outType) : stdNameBad o false s m' = stdNameBad o false s m := by
  unfold stdNameBad; simp only [hn, ho, Bool.false_eq_true, if_false]

theorem stdNameBad_req_congr (o : Options) (s : Service) (m m' : Rpc) (hn : m'.name = m.name)
    (hi : m'.inType = m.inType) : stdNameBad o true s m' = stdNameBad o true s m := by
  unfold stdNameBad; simp only [hn, hi, if_true]

theorem two_le_length_of_mem {α} (l : List α) (x y : α) (hx : x ∈ l) (hy : y ∈ l) (hne : x ≠ y) : 2 ≤ l.length := by
  match l, hx, hy with
  | [], h, _ => simp at h
  | [a], h1, h2 =>
    simp only [List.mem_singleton] at h1 h2
    exact absurd (h1.trans h2.symm) hne
  | _ :: _ :: _, _, _ => simp

theorem rpcRow_mem (w : Schema) (f : File) (hf : FileAt w f) (q0 : List Nat) (s0 : Service) (m0 : Rpc)
    (h0 : (q0, s0, m0) ∈ fileRpcs f) : (⟨f.path, q0, m0.inType, m0.outType⟩ : RpcRow) ∈ rpcTable w := by
  rw [rpcTable_eq]
  apply List.mem_flatMap.mpr
  refine ⟨f, hf.nonImport, ?_⟩
  unfold fileRpcRows
  exact List.mem_map.mpr ⟨(q0, s0, m0), h0, rfl⟩

def Rpc.withType : Bool → Str → Rpc → Rpc
  | true, t, m => { m with inType := t }
  | false, t, m => { m with outType := t }

def RpcRow.withType : Bool → Str → RpcRow → RpcRow
  | true, t, x => { x with inType := t }
  | false, t, x => { x with outType := t }

def stdNameRule : Bool → Rule
  | true => .RPC_REQUEST_STANDARD_NAME
  | false => .RPC_RESPONSE_STANDARD_NAME

theorem elemRule_stdNameRule (isReq : Bool) : elemRule (stdNameRule isReq) = some
    ⟨List Nat × Service × Rpc, fileRpcs, fun o x => stdNameBad o isReq x.2.1 x.2.2,
     fun x => x.1 ++ [bif isReq then 2 else 3], fun o x => !stdNameBad o isReq x.2.1 x.2.2⟩ := by
  cases isReq <;> rfl

theorem clean_after_setType (isReq : Bool) (o : Options) (w : Schema) (f : File) (hf : FileAt w f) (q0 : List Nat)
    (s0 : Service) (m0 : Rpc) (h0 : (q0, s0, m0) ∈ fileRpcs f) (t : Str) (r : Rule)
    (hnd : r ∉ [stdNameRule isReq, .RPC_REQUEST_RESPONSE_UNIQUE]) (hc : cleanRule o w r = true) :
    cleanRule o (plantFile f.path (mapFile (opRpc q0 (Rpc.withType isReq t))) w) r = true := by
  simp only [List.mem_cons, List.not_mem_nil, or_false, not_or] at hnd
  by_cases hd : r ∈ readers .rpc
  case neg => exact frame_other o w _ _ .rpc (opRpc_isId q0 _) r hd hc
  refine rpcKind.frame_point o w f hf (opRpc_point f q0 s0 m0 h0 _) r hd hnd.2
    (Demands.keep (P := fun r => r ≠ stdNameRule isReq) ?_ r hnd.1) hc
  simp only [rpcKind, rpcRows, List.forall_mem_cons]
  cases isReq <;> simp [stdNameRule, Rpc.withType]
  · exact stdNameBad_req_congr o _ m0 _ rfl rfl ▸ id
  · exact stdNameBad_resp_congr o _ m0 _ rfl rfl ▸ id

/-- **Changing the request (`true`) or response (`false`) type of one RPC**: that side's
    STANDARD_NAME rule at the type, plus the uniqueness violations of the method table in which that
    one row got the new type; nothing else. -/
theorem plant_rpc_type (isReq : Bool) (o : Options) (rules : List Rule) (w : Schema) (f : File)
    (hclean : cleanB o rules w = true) (hr : stdNameRule isReq ∈ rules) (hfn : FullNamesDistinct w)
    (hf : FileAt w f) (q0 : List Nat) (s0 : Service) (m0 : Rpc) (h0 : (q0, s0, m0) ∈ fileRpcs f)
    (t : Str) (hbad : stdNameBad o isReq s0 (m0.withType isReq t) = true) (a : Annotation) :
    a ∈ lint o rules (plantFile f.path (mapFile (opRpc q0 (Rpc.withType isReq t))) w) ↔
      a = ⟨stdNameRule isReq, f.path, q0 ++ [bif isReq then 2 else 3]⟩ ∨
      (.RPC_REQUEST_RESPONSE_UNIQUE ∈ rules ∧
        ∃ x ∈ (rpcTable w).map (fun x => if x.file = f.path ∧ x.path = q0 then x.withType isReq t else x),
          a = x.ann ∧ RpcViolation o
            ((rpcTable w).map (fun x => if x.file = f.path ∧ x.path = q0 then x.withType isReq t else x)) x) := by
  have hstd := runRule_plant_via_map o w _ _ _ _ _ (elemRule_stdNameRule isReq) (cleanB_rule hclean hr) f hf
    (mapFile (opRpc q0 (Rpc.withType isReq t))) (fun _ => rfl) _ (fileRpcs_map _ f)
    (·.1) (fileRpcs_nodup f) (q0, s0, m0) h0
    (fun x _ hne hg => by
      simp only [tauRpc]
      rw [stdNameBad_congr o isReq x.2.1 _ _ (mapSvc_opRpc_name q0 _ _ _)]
      simp only [opRpc, if_neg hne]
      exact hg)
    (by
      simp only [tauRpc]
      rw [stdNameBad_congr o isReq s0 _ _ (mapSvc_opRpc_name q0 _ _ _)]
      simp only [opRpc, if_pos]
      exact hbad)
  have huniq : runRule o (plantFile f.path (mapFile (opRpc q0 (Rpc.withType isReq t))) w) .RPC_REQUEST_RESPONSE_UNIQUE =
      rpcUniqueT o ((rpcTable w).map (fun x => if x.file = f.path ∧ x.path = q0 then x.withType isReq t else x)) := by
    rw [runRule_global o _ _ rfl]
    show rpcUniqueCoded o (plantDecl f.path (opRpc q0 (Rpc.withType isReq t)) w) = _
    rw [rpcUniqueCoded_eq o _ (fullNamesDistinct_opRpc w f q0 _ (fun m => by cases isReq <;> rfl) hfn), rpcUnique,
      rpcTable_opRpc w f q0 (Rpc.withType isReq t) (RpcRow.withType isReq t) (fun _ _ => by cases isReq <;> rfl)]
  rw [mem_lint_of_dirty o rules _ [stdNameRule isReq, .RPC_REQUEST_RESPONSE_UNIQUE]
    (fun r hrr hnd => clean_after_setType isReq o w f hf q0 s0 m0 h0 t r hnd (cleanB_rule hclean hrr))]
  rw [mem_dirty_cons, mem_dirty_cons, hstd, huniq, mem_rpcUniqueT_iff]
  simp only [mem_dirty_nil, or_false, hr, true_and, List.mem_singleton]
  rfl

/-! ### header rewriting: declaration rules are silent -/

/-- After rewriting the HEADER of one target file of a Clean workspace (declarations, import flag
    and import statements kept), every annotation belongs to a file-header rule or to a
    multi-file rule: no declaration rule can fire. -/
theorem lint_header_op (o : Options) (rules : List Rule) (w : Schema) (f : File) (hf : FileAt w f)
    (h : File → File) (hI : ∀ g, (h g).isImport = g.isImport) (kd : KeepsDecls h)
    (hclean : cleanB o rules w = true) (a : Annotation) :
    a ∈ lint o rules (plantFile f.path h w) ↔
      a.rule ∈ rules ∧ (isFileRule a.rule = true ∨ elemRule a.rule = none) ∧
        a ∈ runRule o (plantFile f.path h w) a.rule := by
  rw [mem_lint_iff]
  constructor
  · rintro ⟨hr, ha⟩
    refine ⟨hr, ?_, ha⟩
    cases he : elemRule a.rule with
    | none => exact Or.inr rfl
    | some er =>
      left
      apply Classical.byContradiction
      intro hnf
      have hc := frame_fileOp_elem o w f hf h hI kd a.rule er he (fun hfr => absurd hfr hnf)
        (cleanB_rule hclean hr)
      rw [runRule_nil_of_clean o _ _ hc] at ha
      simp at ha
  · rintro ⟨hr, _, ha⟩
    exact ⟨hr, ha⟩

theorem mem_runRule_file_rule (o : Options) (rules : List Rule) (w : Schema) (f : File) (hf : FileAt w f)
    (h : File → File) (hI : ∀ g, (h g).isImport = g.isImport) (hclean : cleanB o rules w = true)
    (r : Rule) (hr : r ∈ rules) (bad : Options → File → Bool) (loc : File → List Nat) (good : Options → File → Bool)
    (he : elemRule r = some ⟨File, fun f => [f], bad, loc, good⟩) (a : Annotation) :
    a ∈ runRule o (plantFile f.path h w) r ↔ bad o (h f) = true ∧ a = ann r (h f) (loc (h f)) := by
  rw [runRule_plant_elem o w r _ he f hf h hI (cleanB_rule hclean hr)]
  unfold ElemRule.flagged
  cases hb : bad o (h f) <;> simp [hb]

/-- `!s.isEmpty && b`, as the file rules on the package statement write it -/
theorem not_isEmpty_and {s : Str} {b : Bool} : (!s.isEmpty && b) = true ↔ s ≠ [] ∧ b = true := by
  cases s <;> simp

/-! ### grouping rules after rewriting one file -/

/-- the nine grouping rules as (key, value, location) -/
def groupSpec : Rule → Option ((File → Str) × (File → Str) × (File → List Nat))
  | .DIRECTORY_SAME_PACKAGE => some (fileDir, (·.pkg), pkgLoc)
  | .PACKAGE_SAME_DIRECTORY => some ((·.pkg), fileDir, pkgLoc)
  | .PACKAGE_SAME_CSHARP_NAMESPACE => some ((·.pkg), (optVal · 0), (optLoc · 0))
  | .PACKAGE_SAME_GO_PACKAGE => some ((·.pkg), (optVal · 1), (optLoc · 1))
  | .PACKAGE_SAME_JAVA_MULTIPLE_FILES => some ((·.pkg), (optVal · 2), (optLoc · 2))
  | .PACKAGE_SAME_JAVA_PACKAGE => some ((·.pkg), (optVal · 3), (optLoc · 3))
  | .PACKAGE_SAME_PHP_NAMESPACE => some ((·.pkg), (optVal · 4), (optLoc · 4))
  | .PACKAGE_SAME_RUBY_PACKAGE => some ((·.pkg), (optVal · 5), (optLoc · 5))
  | .PACKAGE_SAME_SWIFT_PREFIX => some ((·.pkg), (optVal · 6), (optLoc · 6))
  | _ => none

theorem runRule_group (o : Options) (w : Schema) (r : Rule) (key val : File → Str) (loc : File → List Nat)
    (h : groupSpec r = some (key, val, loc)) : runRule o w r = groupRule r (nonImport w) key val loc := by
  cases r <;> simp only [groupSpec, Option.some.injEq, Prod.mk.injEq, reduceCtorEq] at h <;>
    obtain ⟨rfl, rfl, rfl⟩ := h <;> rfl

theorem cleanRule_groupSpec (o : Options) (w : Schema) (r : Rule) (key val : File → Str) (loc : File → List Nat)
    (h : groupSpec r = some (key, val, loc)) : cleanRule o w r = groupClean (nonImport w) key val := by
  cases r <;> simp only [groupSpec, Option.some.injEq, Prod.mk.injEq, reduceCtorEq] at h <;>
    obtain ⟨rfl, rfl, rfl⟩ := h <;> rfl

theorem mem_nonImport_plant (w : Schema) (f : File) (hf : FileAt w f) (h : File → File)
    (hI : ∀ g, (h g).isImport = g.isImport) (g' : File) :
    g' ∈ nonImport (plantFile f.path h w) ↔ g' = h f ∨ (g' ∈ nonImport w ∧ g'.path ≠ f.path) := by
  unfold plantFile
  rw [nonImport_map _ (sel_isImport f.path h hI)]
  constructor
  · intro hm
    obtain ⟨g, hg, rfl⟩ := List.mem_map.mp hm
    unfold sel
    split
    · next hp =>
      have : g = f := hf.unique g (mem_nonImport hg).1 (by simpa using hp)
      subst this; exact Or.inl rfl
    · next hp => exact Or.inr ⟨hg, by simpa using hp⟩
  · rintro (rfl | ⟨hg, hp⟩)
    · exact List.mem_map.mpr ⟨f, hf.nonImport, by unfold sel; simp⟩
    · exact List.mem_map.mpr ⟨g', hg, by unfold sel; simp [hp]⟩

theorem groupClean_plant (w : Schema) (f : File) (hf : FileAt w f) (h : File → File)
    (hI : ∀ g, (h g).isImport = g.isImport) (key val : File → Str)
    (hc : groupClean (nonImport w) key val = true)
    (hnew : ∀ g ∈ nonImport w, g.path ≠ f.path → key g = key (h f) → val g = val (h f)) :
    groupClean (nonImport (plantFile f.path h w)) key val = true := by
  rw [groupClean_iff] at hc ⊢
  intro g1 h1 g2 h2 e
  rw [mem_nonImport_plant w f hf h hI] at h1 h2
  rcases h1 with rfl | ⟨h1, p1⟩ <;> rcases h2 with rfl | ⟨h2, p2⟩
  · rfl
  · exact (hnew g2 h2 p2 e.symm).symm
  · exact hnew g1 h1 p1 e
  · exact hc g1 h1 g2 h2 e

/-- **A grouping rule after rewriting one file of a workspace that was Clean for it**: the rule
    fires iff some OTHER target file has the key of the rewritten file and a different value, and
    then it annotates every target file with that key. -/
theorem mem_groupRule_plant (r : Rule) (w : Schema) (f : File) (hf : FileAt w f) (h : File → File)
    (hI : ∀ g, (h g).isImport = g.isImport) (key val : File → Str) (loc : File → List Nat)
    (hc : groupClean (nonImport w) key val = true) (a : Annotation) :
    a ∈ groupRule r (nonImport (plantFile f.path h w)) key val loc ↔
      (∃ g0 ∈ nonImport w, g0.path ≠ f.path ∧ key g0 = key (h f) ∧ val g0 ≠ val (h f)) ∧
      ∃ g ∈ nonImport (plantFile f.path h w), key g = key (h f) ∧ a = ann r g (loc g) := by
  have hmem := mem_nonImport_plant w f hf h hI
  rw [groupClean_iff] at hc
  rw [mem_groupRule_iff]
  constructor
  · rintro ⟨g, hg, rfl, g', hg', hk, hv⟩
    rw [hmem] at hg hg'
    rcases hg with rfl | ⟨hg, pg⟩ <;> rcases hg' with rfl | ⟨hg', pg'⟩
    · exact absurd rfl hv
    · exact ⟨⟨g', hg', pg', hk, hv⟩, _, (hmem _).mpr (Or.inl rfl), rfl, rfl⟩
    · exact ⟨⟨g, hg, pg, hk.symm, fun e => hv e.symm⟩, g, (hmem _).mpr (Or.inr ⟨hg, pg⟩), hk.symm, rfl⟩
    · exact absurd (hc g' hg' g hg hk) hv
  · rintro ⟨⟨g0, hg0, p0, k0, d0⟩, g, hg, hk, rfl⟩
    refine ⟨g, hg, rfl, ?_⟩
    rw [hmem] at hg
    rcases hg with rfl | ⟨hg, pg⟩
    · exact ⟨g0, (hmem _).mpr (Or.inr ⟨hg0, p0⟩), k0, d0⟩
    · refine ⟨h f, (hmem _).mpr (Or.inl rfl), hk.symm, ?_⟩
      rw [← hc g0 hg0 g hg (k0.trans hk.symm)]
      exact fun e => d0 e.symm

/-! ### STABLE_PACKAGE_NO_IMPORT_UNSTABLE after a package change -/

theorem findFile_plant (w : List File) (fp : Str) (h : File → File) (hp : ∀ g, (h g).path = g.path) (p : Str) :
    findFile (w.map (sel fp h)) p = (findFile w p).map (sel fp h) := by
  apply findFile_map
  intro g; unfold sel; split
  · exact hp g
  · rfl

def setPkg (np : Str) (g : File) : File := { g with pkg := np }

theorem stable_frame (o : Options) (w : Schema) (g : File → File) (hI : ∀ f, (g f).isImport = f.isImport)
    (himp : ∀ f, (g f).imports = f.imports)
    (hfind : ∀ f ∈ nonImport w, ∀ imp ∈ f.imports,
      findFile ((nonImport w).map g) imp.path = (findFile (nonImport w) imp.path).map g)
    (hst : ∀ f ∈ nonImport w, ∀ b : Bool, isStable (g f).pkg = some b → isStable f.pkg = some b)
    (hc : cleanRule o w .STABLE_PACKAGE_NO_IMPORT_UNSTABLE = true) :
    cleanRule o (w.map g) .STABLE_PACKAGE_NO_IMPORT_UNSTABLE = true := by
  rw [cleanRule_global o _ _ rfl] at hc ⊢
  simp only [globalClean, List.isEmpty_iff] at hc ⊢
  refine List.eq_nil_iff_forall_not_mem.mpr fun a ha => ?_
  obtain ⟨f1, hf1, hs1, i, imp, himp1, g1, hg1, hus, rfl⟩ := (mem_stableNoUnstable_iff _ a).mp ha
  rw [nonImport_map g hI] at hf1 hg1
  obtain ⟨f0, hf0, rfl⟩ := List.mem_map.mp hf1
  rw [himp] at himp1
  rw [hfind f0 hf0 imp (mem_indexFrom_val 0 _ _ himp1)] at hg1
  obtain ⟨g0, hfind0, rfl⟩ := Option.map_eq_some_iff.mp hg1
  -- the same import statement is a violation of the workspace before the rewriting
  exact List.not_mem_nil (hc ▸ (mem_stableNoUnstable_iff w _).mpr ⟨f0, hf0, hst f0 hf0 true hs1, i, imp, himp1, g0, hfind0,
    hst g0 (List.mem_of_find?_eq_some hfind0) false hus, rfl⟩)

theorem stable_frame_pkg (o : Options) (w : Schema) (f : File) (hf : FileAt w f) (np : Str)
    (hst : isStable np = none ∨ isStable np = isStable f.pkg)
    (hc : cleanRule o w .STABLE_PACKAGE_NO_IMPORT_UNSTABLE = true) :
    cleanRule o (plantFile f.path (setPkg np) w) .STABLE_PACKAGE_NO_IMPORT_UNSTABLE = true := by
  refine stable_frame o w _ (sel_isImport f.path _ fun _ => rfl) (fun g => by unfold sel; split <;> rfl)
    (fun _ _ _ _ => findFile_plant _ f.path (setPkg np) (fun _ => rfl) _) (fun g hg b hb => ?_) hc
  unfold sel at hb
  split at hb
  · next hp =>
    obtain rfl := hf.unique g (mem_nonImport hg).1 (by simpa using hp)
    rcases hst with h1 | h1
    · rw [show (setPkg np g).pkg = np from rfl, h1] at hb; simp at hb
    · rw [← h1]; exact hb
  · exact hb

/-! ### operators on the file header -/

def setPackage (fp : Str) (np : Str) : Schema → Schema := plantFile fp (setPkg np)

/-- set language option number `k` (0 csharp_namespace, 1 go_package, 2 java_multiple_files,
    3 java_package, 4 php_namespace, 5 ruby_package, 6 swift_prefix) -/
def setOpt (k : Nat) (v : Option Str) (g : File) : File := { g with langOpts := g.langOpts.set k v }
/-- `v` is the RAW option statement: `none` removes it, `some x` writes `option <name> = x;`
    (`some []` = explicitly the empty string, `some "false"` = explicit `java_multiple_files = false`) -/
def setLangOpt (fp : Str) (k : Nat) (v : Option Str) : Schema → Schema := plantFile fp (setOpt k v)

theorem keepsDecls_setPkg (np : Str) : KeepsDecls (setPkg np) := ⟨fun _ => rfl, fun _ => rfl, fun _ => rfl, fun _ => rfl⟩
theorem keepsDecls_setOpt (k : Nat) (v : Option Str) : KeepsDecls (setOpt k v) :=
  ⟨fun _ => rfl, fun _ => rfl, fun _ => rfl, fun _ => rfl⟩

theorem optRaw_setOpt_ne (k i : Nat) (v : Option Str) (g : File) (h : i ≠ k) : optRaw (setOpt k v g) i = optRaw g i := by
  unfold optRaw setOpt
  simp only [List.getD_eq_getElem?_getD]
  rw [List.getElem?_set_ne (Ne.symm h)]

theorem optRaw_setOpt_eq (k : Nat) (v : Option Str) (g : File) (h : k < g.langOpts.length) : optRaw (setOpt k v g) k = v := by
  unfold optRaw setOpt
  simp only [List.getD_eq_getElem?_getD]
  rw [List.getElem?_set_self h]
  rfl

theorem optVal_setOpt_ne (k i : Nat) (v : Option Str) (g : File) (h : i ≠ k) : optVal (setOpt k v g) i = optVal g i := by
  unfold optVal; rw [optRaw_setOpt_ne k i v g h]

theorem optVal_setOpt_eq (k : Nat) (v : Option Str) (g : File) (h : k < g.langOpts.length) :
    optVal (setOpt k v g) k = v.getD [] := by
  unfold optVal; rw [optRaw_setOpt_eq k v g h]

theorem rpcUnique_frame_header (o : Options) (w : Schema) (fp : Str) (h : File → File)
    (hI : ∀ g, (h g).isImport = g.isImport) (kd : KeepsDecls h) (hp : ∀ g, (h g).path = g.path)
    (hc : cleanRule o w .RPC_REQUEST_RESPONSE_UNIQUE = true) :
    cleanRule o (plantFile fp h w) .RPC_REQUEST_RESPONSE_UNIQUE = true := by
  rw [cleanRule_global o _ _ rfl] at hc ⊢
  simp only [globalClean, rpcUnique] at hc ⊢
  rw [rpcTable_plant w fp h hI (fun g _ _ => fileRpcRows_of_keeps h kd hp g)]
  exact hc

def pkgDirty : List Rule :=
  [.PACKAGE_DEFINED, .PACKAGE_DIRECTORY_MATCH, .PACKAGE_LOWER_SNAKE_CASE, .PACKAGE_VERSION_SUFFIX,
   .DIRECTORY_SAME_PACKAGE, .PACKAGE_NO_IMPORT_CYCLE]

theorem clean_after_setPackage (o : Options) (rules : List Rule) (w : Schema) (f : File)
    (hclean : cleanB o rules w = true) (hf : FileAt w f) (np : Str)
    (hfresh : ∀ g ∈ nonImport w, g.path ≠ f.path → g.pkg ≠ np)
    (hstable : .STABLE_PACKAGE_NO_IMPORT_UNSTABLE ∈ rules → isStable np = none ∨ isStable np = isStable f.pkg)
    (r : Rule) (hr : r ∈ rules) (hnd : r ∉ pkgDirty) : cleanRule o (setPackage f.path np w) r = true := by
  have hc := cleanB_rule hclean hr
  cases he : elemRule r with
  | some er =>
    apply frame_fileOp_elem o w f hf (setPkg np) (fun _ => rfl) (keepsDecls_setPkg np) r er he _ hc
    intro hfr
    -- the rules on the file header outside `pkgDirty` do not read the package
    cases r <;> simp [isFileRule] at hfr <;> simp [pkgDirty] at hnd <;> simp only [fileLocalGood, elemRule] <;>
      exact id
  | none =>
    have hgrp : ∀ val : File → Str, groupClean (nonImport w) (·.pkg) val = true →
        groupClean (nonImport (plantFile f.path (setPkg np) w)) (·.pkg) val = true := by
      intro val hgc
      apply groupClean_plant w f hf (setPkg np) (fun _ => rfl) _ _ hgc
      intro g hg hp e
      exact absurd e (hfresh g hg hp)
    cases r <;> simp only [elemRule, reduceCtorEq] at he <;> simp [pkgDirty] at hnd
    case STABLE_PACKAGE_NO_IMPORT_UNSTABLE => exact stable_frame_pkg o w f hf np (hstable hr) hc
    case RPC_REQUEST_RESPONSE_UNIQUE =>
      exact rpcUnique_frame_header o w f.path (setPkg np) (fun _ => rfl) (keepsDecls_setPkg np) (fun _ => rfl) hc
    all_goals
      rw [cleanRule_groupSpec o _ _ _ _ _ rfl] at hc ⊢
      exact hgrp _ hc

def optRule : Nat → Option Rule
  | 0 => some .PACKAGE_SAME_CSHARP_NAMESPACE | 1 => some .PACKAGE_SAME_GO_PACKAGE
  | 2 => some .PACKAGE_SAME_JAVA_MULTIPLE_FILES | 3 => some .PACKAGE_SAME_JAVA_PACKAGE
  | 4 => some .PACKAGE_SAME_PHP_NAMESPACE | 5 => some .PACKAGE_SAME_RUBY_PACKAGE
  | 6 => some .PACKAGE_SAME_SWIFT_PREFIX | _ => none

theorem optRule_of_optIndex (r : Rule) (i : Nat) (h : optIndex r = some i) : optRule i = some r := by
  cases r <;> simp only [optIndex, Option.some.injEq, reduceCtorEq] at h <;> subst h <;> rfl

theorem groupSpec_of_optIndex (r : Rule) (k : Nat) (h : optIndex r = some k) :
    groupSpec r = some ((·.pkg), (optVal · k), (optLoc · k)) := by
  cases r <;> simp only [optIndex, Option.some.injEq, reduceCtorEq] at h <;> subst h <;> rfl

theorem runRule_optRule (o : Options) (w : Schema) (r : Rule) (k : Nat) (h : optIndex r = some k) :
    runRule o w r = groupRule r (nonImport w) (·.pkg) (optVal · k) (optLoc · k) :=
  runRule_group o w r _ _ _ (groupSpec_of_optIndex r k h)

theorem cleanRule_optRule (o : Options) (w : Schema) (r : Rule) (k : Nat) (h : optIndex r = some k) :
    cleanRule o w r = groupClean (nonImport w) (·.pkg) (optVal · k) :=
  cleanRule_groupSpec o w r _ _ _ (groupSpec_of_optIndex r k h)

theorem optIndex_inj {r r0 : Rule} {k : Nat} (h : optIndex r = some k) (h0 : optIndex r0 = some k) : r = r0 :=
  Option.some.inj ((optRule_of_optIndex r k h).symm.trans (optRule_of_optIndex r0 k h0))

theorem clean_after_setLangOpt (o : Options) (w : Schema) (f : File) (hf : FileAt w f) (k : Nat) (v : Option Str)
    (r : Rule) (hk : optIndex r ≠ some k) (hc : cleanRule o w r = true) :
    cleanRule o (setLangOpt f.path k v w) r = true := by
  cases he : elemRule r with
  | some er =>
    apply frame_fileOp_elem o w f hf (setOpt k v) (fun _ => rfl) (keepsDecls_setOpt k v) r er he _ hc
    intro hfr
    -- no rule on the file header reads the language options
    cases r <;> simp [isFileRule] at hfr <;> simp only [fileLocalGood, elemRule] <;> exact id
  | none =>
    apply frame_fileOp_global o w f.path (setOpt k v)
      (keepsHdr_of_rfl _ (fun _ => rfl) (fun _ => rfl) (fun _ => rfl) (fun _ => rfl)) (keepsDecls_setOpt k v) r he _ hc
    intro i hi g
    exact optVal_setOpt_ne k i v g (fun e => hk (e ▸ hi))

/-! ### moving / renaming a file -/

def setPath (np : Str) (g : File) : File := { g with path := np }

/-- give the file `fp` the path `np` -/
def moveFile (fp : Str) (np : Str) : Schema → Schema := plantFile fp (setPath np)

theorem keepsDecls_setPath (np : Str) : KeepsDecls (setPath np) :=
  ⟨fun _ => rfl, fun _ => rfl, fun _ => rfl, fun _ => rfl⟩

theorem usesType_congr (t : Str) (x y : RpcRow) (hi : y.inType = x.inType) (ho : y.outType = x.outType) :
    usesType t y = usesType t x := by
  unfold usesType; rw [hi, ho]

theorem filter_length_map {α} (l : List α) (ρ : α → α) (p : α → Bool) (h : ∀ x, p (ρ x) = p x) :
    ((l.map ρ).filter p).length = (l.filter p).length := by
  rw [filter_map_comm, List.length_map]
  congr 1
  apply List.filter_congr
  intro x _
  exact h x

theorem rpcViolation_map (o : Options) (ms : List RpcRow) (ρ : RpcRow → RpcRow)
    (hi : ∀ x, (ρ x).inType = x.inType) (ho : ∀ x, (ρ x).outType = x.outType) (x : RpcRow) :
    RpcViolation o (ms.map ρ) (ρ x) ↔ RpcViolation o ms x := by
  unfold RpcViolation
  simp only [hi, ho, usesType_congr _ x (ρ x) (hi x) (ho x),
    filter_length_map ms ρ _ (fun y => usesType_congr _ y (ρ y) (hi y) (ho y)),
    filter_length_map ms ρ (fun y => y.inType == emptyType) (fun y => by simp only [hi]),
    filter_length_map ms ρ (fun y => y.outType == emptyType) (fun y => by simp only [ho])]

/-- RPC_REQUEST_RESPONSE_UNIQUE does not look at where a method is declared -/
theorem rpcUniqueT_nil_map (o : Options) (ms : List RpcRow) (ρ : RpcRow → RpcRow)
    (hi : ∀ x, (ρ x).inType = x.inType) (ho : ∀ x, (ρ x).outType = x.outType)
    (h : rpcUniqueT o ms = []) : rpcUniqueT o (ms.map ρ) = [] := by
  refine List.eq_nil_iff_forall_not_mem.mpr fun a ha => ?_
  obtain ⟨x', hx', _, hv⟩ := (mem_rpcUniqueT_iff o _ a).mp ha
  obtain ⟨x, hx, rfl⟩ := List.mem_map.mp hx'
  exact List.not_mem_nil (h ▸ (mem_rpcUniqueT_iff o ms _).mpr ⟨x, hx, rfl, (rpcViolation_map o ms ρ hi ho x).mp hv⟩)

theorem rpcTable_setPath (w : Schema) (f : File) (np : Str) :
    rpcTable (moveFile f.path np w) =
      (rpcTable w).map (fun x => if x.file = f.path then { x with file := np } else x) := by
  rw [rpcTable_eq, rpcTable_eq]
  unfold moveFile plantFile
  rw [nonImport_map _ (sel_isImport f.path (setPath np) (fun _ => rfl)), List.flatMap_map, List.map_flatMap]
  apply BufProofs.ListLemmas.flatMap_congr
  intro g' _
  unfold sel
  split
  · next hp =>
    have hp' : g'.path = f.path := by simpa using hp
    unfold fileRpcRows
    rw [(keepsDecls_setPath np).fileRpcs, List.map_map]
    apply List.map_congr_left
    intro x _
    simp only [Function.comp, hp', if_true, setPath]
  · next hp =>
    have hp' : g'.path ≠ f.path := by simpa using hp
    unfold fileRpcRows
    rw [List.map_map]
    apply List.map_congr_left
    intro x _
    simp only [Function.comp, hp', if_false]

theorem rpcUnique_frame_setPath (o : Options) (w : Schema) (f : File) (np : Str)
    (hc : cleanRule o w .RPC_REQUEST_RESPONSE_UNIQUE = true) :
    cleanRule o (moveFile f.path np w) .RPC_REQUEST_RESPONSE_UNIQUE = true := by
  rw [cleanRule_global o _ _ rfl] at hc ⊢
  simp only [globalClean, rpcUnique] at hc ⊢
  rw [rpcTable_setPath w f np]
  apply List.isEmpty_iff.mpr
  apply rpcUniqueT_nil_map o _ _ _ _ (List.isEmpty_iff.mp hc)
  · intro x; split <;> rfl
  · intro x; split <;> rfl

theorem findFile_setPath (fp np p : Str) (h1 : p ≠ fp) (h2 : p ≠ np) : ∀ l : List File,
    findFile (l.map (sel fp (setPath np))) p = (findFile l p).map (sel fp (setPath np))
  | [] => rfl
  | a :: t => by
    unfold findFile
    simp only [List.map_cons, List.find?_cons]
    have : ((sel fp (setPath np) a).path == p) = (a.path == p) := by
      unfold sel
      split
      · next hp =>
        have hp' : a.path = fp := by simpa using hp
        simp only [setPath]
        have e1 : (np == p) = false := by simpa using fun e => h2 e.symm
        have e2 : (a.path == p) = false := by rw [hp']; simpa using fun e => h1 e.symm
        rw [e1, e2]
      · rfl
    rw [this]
    split
    · rfl
    · exact findFile_setPath fp np p h1 h2 t

theorem sel_setPath_pkg (fp np : Str) (g : File) : (sel fp (setPath np) g).pkg = g.pkg := by
  unfold sel; split <;> rfl
theorem sel_setPath_imports (fp np : Str) (g : File) : (sel fp (setPath np) g).imports = g.imports := by
  unfold sel; split <;> rfl

theorem stable_frame_setPath (o : Options) (w : Schema) (f : File) (np : Str)
    (hnoimp : ∀ g ∈ w, ∀ imp ∈ g.imports, imp.path ≠ f.path ∧ imp.path ≠ np)
    (hc : cleanRule o w .STABLE_PACKAGE_NO_IMPORT_UNSTABLE = true) :
    cleanRule o (moveFile f.path np w) .STABLE_PACKAGE_NO_IMPORT_UNSTABLE = true :=
  stable_frame o w _ (sel_isImport f.path _ fun _ => rfl) (sel_setPath_imports f.path np)
    (fun g hg imp himp =>
      have hne := hnoimp g (mem_nonImport hg).1 imp himp
      findFile_setPath f.path np imp.path hne.1 hne.2 _)
    (fun g _ b hb => by rwa [sel_setPath_pkg] at hb) hc

/-- the twin of `stable_frame`: PACKAGE_NO_IMPORT_CYCLE cannot see a rewriting that keeps the
    import statements and the package graph -/
theorem cycle_frame (o : Options) (w : Schema) (g : File → File) (hI : ∀ f, (g f).isImport = f.isImport)
    (himp : ∀ f, (g f).imports = f.imports) (k : KeepsGraph g w)
    (hc : cleanRule o w .PACKAGE_NO_IMPORT_CYCLE = true) :
    cleanRule o (w.map g) .PACKAGE_NO_IMPORT_CYCLE = true := by
  rw [cleanRule_global o _ _ rfl] at hc ⊢
  simp only [globalClean, List.isEmpty_iff] at hc ⊢
  refine List.eq_nil_iff_forall_not_mem.mpr fun a ha => ?_
  obtain ⟨f1, hf1, hpk, i, imp, himp1, g1, hg1, hne, hre, rfl⟩ := (mem_importCycle_iff _ a).mp ha
  rw [reaches_map k, List.length_map] at hre
  rw [nonImport_map g hI] at hf1
  obtain ⟨f0, hf0, rfl⟩ := List.mem_map.mp hf1
  rw [himp] at himp1
  rw [k.find f0 (mem_nonImport hf0).1 imp (mem_indexFrom_val 0 _ _ himp1)] at hg1
  obtain ⟨g0, hfind, rfl⟩ := Option.map_eq_some_iff.mp hg1
  rw [k.pkg, k.pkg] at hne hre
  rw [k.pkg] at hpk
  -- the same import statement is a violation of the workspace before the rewriting
  exact List.not_mem_nil (hc ▸ (mem_importCycle_iff w _).mpr ⟨f0, hf0, hpk, i, imp, himp1, g0, hfind, hne, hre, rfl⟩)

theorem keepsGraph_setPath (w : Schema) (fp np : Str)
    (hnoimp : ∀ g ∈ w, ∀ imp ∈ g.imports, imp.path ≠ fp ∧ imp.path ≠ np) : KeepsGraph (sel fp (setPath np)) w :=
  ⟨sel_setPath_pkg fp np, fun f => by rw [sel_setPath_imports], fun g hg imp himp =>
    findFile_setPath fp np imp.path (hnoimp g hg imp himp).1 (hnoimp g hg imp himp).2 w⟩

theorem cycle_frame_setPath (o : Options) (w : Schema) (f : File) (np : Str)
    (hnoimp : ∀ g ∈ w, ∀ imp ∈ g.imports, imp.path ≠ f.path ∧ imp.path ≠ np)
    (hc : cleanRule o w .PACKAGE_NO_IMPORT_CYCLE = true) :
    cleanRule o (moveFile f.path np w) .PACKAGE_NO_IMPORT_CYCLE = true :=
  cycle_frame o w _ (sel_isImport f.path _ fun _ => rfl) (sel_setPath_imports f.path np)
    (keepsGraph_setPath w f.path np hnoimp) hc

def moveDirty : List Rule := [.FILE_LOWER_SNAKE_CASE, .PACKAGE_DIRECTORY_MATCH, .PACKAGE_SAME_DIRECTORY]

theorem clean_after_moveFile (o : Options) (rules : List Rule) (w : Schema) (f : File)
    (hclean : cleanB o rules w = true) (hf : FileAt w f) (np : Str)
    (hnoimp : ∀ g ∈ w, ∀ imp ∈ g.imports, imp.path ≠ f.path ∧ imp.path ≠ np)
    (hdir : .DIRECTORY_SAME_PACKAGE ∈ rules → ∀ g ∈ nonImport w, g.path ≠ f.path →
      fileDir g = fileDir (setPath np f) → g.pkg = f.pkg)
    (r : Rule) (hr : r ∈ rules) (hnd : r ∉ moveDirty) : cleanRule o (moveFile f.path np w) r = true := by
  have hc := cleanB_rule hclean hr
  cases he : elemRule r with
  | some er =>
    apply frame_fileOp_elem o w f hf (setPath np) (fun _ => rfl) (keepsDecls_setPath np) r er he _ hc
    intro hfr
    -- the rules on the file header outside `moveDirty` do not read the path
    cases r <;> simp [isFileRule] at hfr <;> simp [moveDirty] at hnd <;> simp only [fileLocalGood, elemRule] <;>
      exact id
  | none =>
    have hgrp : ∀ val : File → Str, (∀ g, val (setPath np g) = val g) →
        groupClean (nonImport w) (·.pkg) val = true →
        groupClean (nonImport (plantFile f.path (setPath np) w)) (·.pkg) val = true := by
      intro val hval hgc
      apply groupClean_plant w f hf (setPath np) (fun _ => rfl) _ _ hgc
      intro g hg _ e
      rw [hval]
      rw [groupClean_iff] at hgc
      exact hgc g hg f hf.nonImport e
    cases r <;> simp only [elemRule, reduceCtorEq] at he <;> simp [moveDirty] at hnd
    case PACKAGE_NO_IMPORT_CYCLE => exact cycle_frame_setPath o w f np hnoimp hc
    case STABLE_PACKAGE_NO_IMPORT_UNSTABLE => exact stable_frame_setPath o w f np hnoimp hc
    case RPC_REQUEST_RESPONSE_UNIQUE => exact rpcUnique_frame_setPath o w f np hc
    case DIRECTORY_SAME_PACKAGE =>
      rw [cleanRule_groupSpec o _ _ _ _ _ rfl] at hc ⊢
      exact groupClean_plant w f hf (setPath np) (fun _ => rfl) _ _ hc
        (fun g hg hp e => hdir hr g hg hp e)
    all_goals
      rw [cleanRule_groupSpec o _ _ _ _ _ rfl] at hc ⊢
      exact hgrp _ (fun _ => rfl) hc

end BufModel.Lint
