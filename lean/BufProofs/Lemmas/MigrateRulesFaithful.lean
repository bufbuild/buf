import BufProofs.Lemmas.MigrateRulesSpec
/-
  What `keyFaithful` says, and that every rule id of the migrated version is a faithful `ignore_only` key — for the
  regenerated tables, from the general `ruleKey_faithful` and the table facts it needs.
-/
namespace BufProofs.C16
open BufModel.Path BufModel.Rules BufModel.MigrateRules BufGen.RuleTables

theorem sharedRule_new {v : Version} {lint : Bool} {r : Id} (h : sharedRule v lint r = true) :
    isRuleId (v2Rules lint) r = true := by
  unfold sharedRule at h
  simp only [Bool.and_eq_true] at h
  exact h.1.2

theorem keyFaithful_iff (v : Version) (lint : Bool) (k : Id) :
    keyFaithful v lint k = true ↔ ∀ r, sharedRule v lint r = true →
      ((∃ k' ∈ translateId (oldRules v lint) (v2Rules lint) k, r ∈ denote (v2Rules lint) k') ↔
        r ∈ denote (oldRules v lint) k) := by
  have row : ∀ r, (!(sharedRule v lint r) ||
      ((translateId (oldRules v lint) (v2Rules lint) k).any (fun k' => (denote (v2Rules lint) k').contains r)
        == (denote (oldRules v lint) k).contains r)) = true ↔
      (sharedRule v lint r = true →
        ((∃ k' ∈ translateId (oldRules v lint) (v2Rules lint) k, r ∈ denote (v2Rules lint) k') ↔
          r ∈ denote (oldRules v lint) k)) := by
    intro r
    cases sharedRule v lint r
    · simp
    · simp only [Bool.not_true, Bool.false_or, beq_iff_eq, forall_const]
      rw [Bool.eq_iff_iff]
      simp only [List.any_eq_true, List.contains_iff_mem]
  unfold keyFaithful
  rw [List.all_eq_true]
  constructor
  · intro h r hr
    -- a shared rule is the id of a row of the v2 table
    rcases (isRuleId_iff _ _).1 (sharedRule_new hr) with ⟨q, hq, rfl⟩
    exact (row q.id).1 (h q hq) hr
  · intro h q _
    exact (row q.id).2 (h q.id)

theorem ruleKey_keyFaithful {v : Version} {lint : Bool} (ok : TablesOK (oldRules v lint) (v2Rules lint))
    (hcat : ∀ q ∈ v2Rules lint, ∀ c ∈ q.categories, isRuleId (oldRules v lint) c = false)
    {k : Id} (hk : isRuleId (oldRules v lint) k = true) : keyFaithful v lint k = true :=
  (keyFaithful_iff v lint k).2 fun _ hr => ruleKey_faithful ok hcat hk (sharedRule_new hr)

end BufProofs.C16
