import BufModel.ManagedYaml
import BufProofs.Lemmas.SortLemmas
import BufProofs.Lemmas.ConfigGenLemmas
/-
  Lemmas about the v1 `managed:` reader (`BufModel.ConfigGen.readManagedV1`) used by the C18
  theorems on the config-key family: which disable / override rules a document produces, section
  by section, and the injectivity of the mark-sweeper's path key.
-/
namespace BufProofs.ManagedYamlLemmas
open BufModel.ConfigGen BufModel.ManagedYaml

/-! ## the mark-sweeper's key -/

theorem pathKey_injective : ∀ (p q : List Nat), (∀ e ∈ p, e < 4294967296) → (∀ e ∈ q, e < 4294967296) →
    pathKey p = pathKey q → p = q := by
  intro p
  induction p with
  | nil =>
    intro q _ _ h
    cases q with
    | nil => rfl
    | cons b bs => simp [pathKey] at h
  | cons a as ih =>
    intro q hp hq h
    cases q with
    | nil => simp [pathKey] at h
    | cons b bs =>
      simp only [pathKey, List.cons.injEq] at h
      obtain ⟨h0, h1, h2, h3, ht⟩ := h
      have ha : a < 4294967296 := hp a (List.mem_cons_self ..)
      have hb : b < 4294967296 := hq b (List.mem_cons_self ..)
      have hab : a = b := by omega
      have := ih bs (fun e he => hp e (List.mem_cons_of_mem _ he)) (fun e he => hq e (List.mem_cons_of_mem _ he)) ht
      rw [hab, this]

/-! ## `except` → disable rules -/

/-- the disable rule `disablesAndOverridesFromExceptAndOverrideV1` makes for one excepted module. -/
def exceptRule (fo : FileOption) (n : Str) : Disable :=
  { path := [], module := n, field := [], fileOption := some fo, fieldOption := none }

theorem mkDisable_except {env : Env} {n : Str} {fo : FileOption} {d : Disable}
    (h : mkDisable env [] n [] (some fo) none = some d) : d = exceptRule fo n := by
  simp only [mkDisable, Option.ite_none_left_eq_some, Option.some.injEq] at h
  exact h.2.2.2.2.2.symm

theorem exceptDisables_eq {env : Env} {fo : FileOption} {ns seen : List Str} {ds : List Disable}
    (h : exceptDisables env fo ns seen = some ds) : ds = ns.map (exceptRule fo) :=
  (List.map_id ds).symm.trans
    (BufProofs.ListLemmas.mapM_map_eq id (exceptRule fo) (fun _ _ => mkDisable_except) (exceptDisables_mapM h))

theorem isEmpty_except {mode : DefaultMode} {p : ExtPrefixV1} (h : p.isEmpty mode = true) :
    p.except = [] ∧ p.override = [] := by
  unfold ExtPrefixV1.isEmpty at h
  simp only [Bool.and_eq_true, decide_eq_true_eq] at h
  exact ⟨h.1.2, h.2⟩

/-! ## `override` → module-scoped override rules -/

/-- what a rule made for an entry `module ↦ value` of an `override` map looks like. -/
def IsModuleRule (fo : FileOption) (kv : Str × Str) (o : Override) : Prop :=
  o.path = [] ∧ o.module = kv.1 ∧ o.field = [] ∧ o.fileOption = some fo ∧ o.fieldOption = none ∧
    parseFileValue fo (.str kv.2) = some o.value

theorem mkFileOverride_fields {env : Env} {path module : Str} {fo : FileOption} {v : ExtVal} {o : Override}
    (h : mkFileOverride env path module fo v = some o) :
    o.path = path ∧ o.module = module ∧ o.field = [] ∧ o.fileOption = some fo ∧ o.fieldOption = none ∧
      parseFileValue fo v = some o.value := by
  unfold mkFileOverride at h
  rcases hpv : parseFileValue fo v with _ | pv <;>
    simp only [hpv, reduceCtorEq, Option.ite_none_left_eq_some, Option.some.injEq] at h
  obtain ⟨-, -, rfl⟩ := h
  exact ⟨rfl, rfl, rfl, rfl, rfl, rfl⟩

theorem sortByKey_eq {α : Type} : ∀ l : List (Str × α), sortByKey l = isortBy (fun y x => !strLt x.1 y.1) l :=
  eq_isortBy _ (eq_insBy_not (ins := insertByKey) (fun _ => rfl) (fun _ _ _ => rfl)) rfl (fun _ _ => rfl)

theorem mem_sortByKey {α : Type} (l : List (Str × α)) (a : Str × α) : a ∈ sortByKey l ↔ a ∈ l := by
  rw [sortByKey_eq, mem_isortBy]

theorem prefixSection_spec {env : Env} {mode : DefaultMode} {efo ofo : FileOption} {p : ExtPrefixV1}
    {ds : List Disable} {os : List Override}
    (h : prefixSection env mode efo ofo p = some (ds, os)) :
    ds = p.except.map (exceptRule efo) ∧
    (∀ kv ∈ p.override, ∃ o ∈ os, IsModuleRule ofo kv o) ∧
    (∀ o ∈ os, (o.path = [] ∧ o.module = [] ∧ o.fileOption = some ofo ∧ o.fieldOption = none) ∨
       ∃ kv ∈ p.override, IsModuleRule ofo kv o) := by
  rcases prefixSection_some h with ⟨he, rfl, rfl⟩ | ⟨d, os', hd, hds, hos, rfl⟩
  · obtain ⟨e1, e2⟩ := isEmpty_except he
    rw [e1, e2]; simp
  · obtain ⟨-, m2, m1⟩ := BufProofs.ListLemmas.mapM_some (moduleOverrides_mapM hos)
    refine ⟨exceptDisables_eq hds, fun kv hkv => ?_, fun o ho => ?_⟩
    · obtain ⟨o, ho, e⟩ := m1 kv ((mem_sortByKey _ _).mpr hkv)
      exact ⟨o, List.mem_append_right _ ho, mkFileOverride_fields e⟩
    · rcases List.mem_append.mp ho with ho | ho
      · have hf := mkFileOverride_fields (hd o ho)
        exact .inl ⟨hf.1, hf.2.1, hf.2.2.2.1, hf.2.2.2.2.1⟩
      · obtain ⟨kv, hkv, e⟩ := m2 o ho
        exact .inr ⟨kv, (mem_sortByKey _ _).mp hkv, mkFileOverride_fields e⟩

/-! ## the whole v1 reader -/

/-- The sections `readManagedV1` reads are those of `V1Section.all`, in its order. -/
theorem v1Sections_eq (x : ExtManagedV1) :
    v1Sections x = V1Section.all.map fun s => (s.mode, s.exceptOption, s.overrideOption, s.get x) := rfl

theorem readManagedV1_disables {env : Env} {x : ExtManagedV1} {m : Managed}
    (h : readManagedV1 env x = some m) :
    m.disables = V1Section.all.flatMap fun s => (s.get x).except.map (exceptRule s.exceptOption) := by
  obtain ⟨bs, ss, pf, -, hs, -, rfl⟩ := readManagedV1_some h
  have := BufProofs.ListLemmas.mapM_map_eq (·.1) (fun s => s.2.2.2.except.map (exceptRule s.2.1))
    (fun s r hsec => (prefixSection_spec (ds := r.1) (os := r.2) hsec).1) hs
  rw [show (⟨x.enabled, ss.flatMap (·.1), _⟩ : Managed).disables = (ss.map (·.1)).flatten from
    (List.flatMap_def ..), this, v1Sections_eq, List.map_map, ← List.flatMap_def]
  rfl

theorem readManagedV1_module_override {env : Env} {x : ExtManagedV1} {m : Managed}
    (h : readManagedV1 env x = some m) (s : V1Section) (kv : Str × Str) (hkv : kv ∈ (s.get x).override) :
    ∃ o ∈ m.overrides, IsModuleRule s.overrideOption kv o := by
  obtain ⟨bs, ss, pf, -, hs, -, rfl⟩ := readManagedV1_some h
  have hmem : (s.mode, s.exceptOption, s.overrideOption, s.get x) ∈ v1Sections x :=
    v1Sections_eq x ▸ List.mem_map.mpr ⟨s, by cases s <;> decide, rfl⟩
  obtain ⟨r, hr, hsec⟩ := (BufProofs.ListLemmas.mapM_some hs).2.2 _ hmem
  obtain ⟨o, ho, hrule⟩ := (prefixSection_spec (ds := r.1) (os := r.2) hsec).2.1 kv hkv
  exact ⟨o, List.mem_append_left _ (List.mem_append_right _ (List.mem_flatMap.mpr ⟨r, hr, ho⟩)), hrule⟩

/-- The bool keys, the `default`s and the per-file `override:` map never produce a module-scoped rule. -/
theorem readManagedV1_scoped_origin {env : Env} {x : ExtManagedV1} {m : Managed}
    (h : readManagedV1 env x = some m) (o : Override) (ho : o ∈ m.overrides) (hm : o.module ≠ []) :
    ∃ s : V1Section, ∃ kv ∈ (s.get x).override, IsModuleRule s.overrideOption kv o := by
  obtain ⟨bs, ss, pf, hb, hs, hp, rfl⟩ := readManagedV1_some h
  rcases List.mem_append.mp ho with ho | ho
  · rcases List.mem_append.mp ho with ho | ho
    · obtain ⟨l, hl, hol⟩ := List.mem_flatten.mp ho
      obtain ⟨_, _, hbl⟩ := (BufProofs.ListLemmas.mapM_some hb).2.1 l hl
      obtain ⟨_, e⟩ := boolOverride_from hbl o hol
      exact absurd (mkFileOverride_fields e).2.1 hm
    · obtain ⟨r, hr, hor⟩ := List.mem_flatMap.mp ho
      obtain ⟨sec, hsec, hr'⟩ := (BufProofs.ListLemmas.mapM_some hs).2.1 r hr
      obtain ⟨s, -, rfl⟩ := List.mem_map.mp (v1Sections_eq x ▸ hsec)
      rcases (prefixSection_spec (ds := r.1) (os := r.2) hr').2.2 o hor with hu | hs
      · exact absurd hu.2.1 hm
      · exact ⟨s, hs⟩
  · obtain ⟨_, _, _, e⟩ := perFileOverrides_from hp o ho
    exact absurd (mkFileOverride_fields e).2.1 hm

theorem overrideOf_fields (o : Override) :
    (overrideOf o).path = o.path ∧ (overrideOf o).module = o.module ∧
    (overrideOf o).fieldName = o.field ∧ (overrideOf o).fileOption = optFoOf o.fileOption ∧
    (overrideOf o).jstype = o.fieldOption.isSome := by
  unfold overrideOf
  cases o.value <;> exact ⟨rfl, rfl, rfl, rfl, rfl⟩

theorem configOfV1_some {env : Env} {x : ExtManagedV1} {cfg : BufModel.Managed.Config}
    (h : configOfV1 env x = some cfg) :
    ∃ m, readManagedV1 env x = some m ∧ cfg = toConfig m := by
  obtain ⟨m, hm, rfl⟩ := Option.map_eq_some_iff.mp h
  exact ⟨m, hm, rfl⟩

end BufProofs.ManagedYamlLemmas
