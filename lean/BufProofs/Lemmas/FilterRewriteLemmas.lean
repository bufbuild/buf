import BufProofs.Lemmas.FilterClosureLemmas
import BufProofs.Lemmas.FilterSliceLemmas
import BufProofs.Lemmas.SortLemmas
/-
  C12, phase 2 seen from the index: an element whose key and whose ancestors are all `has` is
  present in the rewritten file (structural induction over the descriptor tree), and the
  exclude phase leaves a downward-closed set of excluded keys (`DC`, for a well-formed index
  `WFIdx` with its Boolean checker `wfIdxB`).  Then, of one output file: where it comes from
  (`rewrite_origin`), that its dependency list holds every recorded import (`remapFile_deps`,
  `remapDeps_lists`), and that the marks of a message stay below it (`below_remapMsg`).
-/
namespace BufProofs.FilterRewrite
open BufModel.Filter BufProofs.FilterLemmas BufProofs.FilterClosure

def keyId : Key → Id
  | .el n => n
  | .file n => n
  | .oneof m _ => m

/-- "the parent of a kept element is kept" for one index entry -/
def Up (c : RCtx) (j : Info) : Prop := c.has j.key = true → ∀ p, j.parent = some p → c.has p = true

/-! ### the index block of a message, by parts -/

theorem msgInfos_nested {file : Id} {parent : Key} {id : Id} {fields : List Field} {oneofs : List Oneof}
    {exts : List Field} {nested : List Msg} {enums : List Enum} {rangeOpts : List (List OptUse)}
    {reserved mapEntry : Bool} {opts : List OptUse} {n : Msg} (hn : n ∈ nested) {j : Info}
    (h : j ∈ msgInfos file (.el id) n) :
    j ∈ msgInfos file parent (.mk id fields oneofs exts nested enums rangeOpts reserved mapEntry opts) := by
  simp only [msgInfos, msgsInfos_eq, List.mem_cons, List.mem_append, List.mem_flatMap]
  exact Or.inr (Or.inl (Or.inl ⟨n, hn, h⟩))

theorem msgsInfos_mem {file : Id} {parent : Key} {ms : List Msg} {m : Msg} (hm : m ∈ ms) {j : Info}
    (h : j ∈ msgInfos file parent m) : j ∈ msgsInfos file parent ms := by
  rw [msgsInfos_eq, List.mem_flatMap]; exact ⟨m, hm, h⟩

/-! ### index entries know their file -/

theorem file_msgInfos (file : Id) (parent : Key) (m : Msg) : ∀ i ∈ msgInfos file parent m, i.file = file := by
  induction m using Msg.ind generalizing parent with
  | h id fields oneofs exts nested enums rangeOpts reserved mapEntry opts ih =>
    intro i hi
    simp only [msgInfos, msgsInfos_eq, List.mem_cons, List.mem_append, List.mem_map, List.mem_flatMap] at hi
    rcases hi with rfl | (⟨n, hn, hi⟩ | ⟨e, _, rfl⟩) | ⟨x, _, rfl⟩
    · rfl
    · exact ih n hn _ i hi
    · rfl
    · rfl

theorem file_fileInfos (f : File) : ∀ i ∈ fileInfos f, i.file = f.id := by
  intro i hi
  simp only [fileInfos, msgsInfos_eq, List.mem_cons, List.mem_append, List.mem_map, List.mem_flatten, List.mem_flatMap] at hi
  rcases hi with rfl | ((⟨m, _, hi⟩ | ⟨e, _, rfl⟩) | ⟨l, ⟨s, _, rfl⟩, hi⟩) | ⟨x, _, rfl⟩
  · rfl
  · exact file_msgInfos _ _ m i hi
  · rfl
  · simp only [svcInfos, List.mem_cons, List.mem_map] at hi
    rcases hi with rfl | ⟨m, _, rfl⟩ <;> rfl
  · rfl

/-! ### a kept element's ancestors are kept -/

theorem up_msg (c : RCtx) (file : Id) (parent : Key) (m : Msg)
    (hU : ∀ j ∈ msgInfos file parent m, Up c j) :
    ∀ i ∈ msgInfos file parent m, c.has i.key = true → c.has parent = true := by
  induction m using Msg.ind generalizing parent with
  | h id fields oneofs exts nested enums rangeOpts reserved mapEntry opts ih =>
    intro i hi hh
    have hhead : c.has (.el id) = true → c.has parent = true := fun h =>
      hU _ (by simp only [msgInfos]; exact List.mem_cons_self) h parent rfl
    have hi0 := hi
    simp only [msgInfos, msgsInfos_eq, List.mem_cons, List.mem_append, List.mem_map, List.mem_flatMap] at hi
    rcases hi with rfl | (⟨n, hn, hi⟩ | ⟨e, _, rfl⟩) | ⟨x, _, rfl⟩
    · exact hhead hh
    · exact hhead (ih n hn (.el id) (fun j hj => hU j (msgInfos_nested hn hj)) i hi hh)
    · exact hhead (hU _ hi0 hh (.el id) rfl)
    · exact hhead (hU _ hi0 hh (.el id) rfl)

/-! ### kept elements are present in the rewritten tree -/

theorem remapMsg_some (c : RCtx) (path : List Nat) (id : Id) (fields : List Field) (oneofs : List Oneof)
    (exts : List Field) (nested : List Msg) (enums : List Enum) (rangeOpts : List (List OptUse))
    (reserved mapEntry : Bool) (opts : List OptUse) (h : c.has (.el id) = true) :
    ∃ fs os ro rs, (remapMsg c path (.mk id fields oneofs exts nested enums rangeOpts reserved mapEntry opts)).1 =
      some (.mk id fs os (remapSlice (path ++ [6]) (remapField c) exts 0 0).1
        (remapMsgs c (path ++ [3]) nested 0 0).1 (remapSlice (path ++ [4]) (remapEnum c) enums 0 0).1
        ro rs mapEntry opts) := by
  unfold remapMsg
  simp only [h, Bool.not_true, Bool.false_eq_true, if_false]
  split
  · split
    · exact ⟨_, _, _, _, rfl⟩
    · exact ⟨_, _, _, _, rfl⟩
  · exact ⟨_, _, _, _, rfl⟩

theorem pres_msg (c : RCtx) (file : Id) (parent : Key) (path : List Nat) (m : Msg)
    (hU : ∀ j ∈ msgInfos file parent m, Up c j) :
    ∀ i ∈ msgInfos file parent m, i.fld = none → c.has i.key = true →
      ∃ y, (remapMsg c path m).1 = some y ∧ keyId i.key ∈ (presentMsg file y).map (·.id) := by
  induction m using Msg.ind generalizing parent path with
  | h id fields oneofs exts nested enums rangeOpts reserved mapEntry opts ih =>
    intro i hi hfld hh
    have hi0 := hi
    simp only [msgInfos, msgsInfos_eq, List.mem_cons, List.mem_append, List.mem_map, List.mem_flatMap] at hi
    have hid : c.has (.el id) = true := by
      rcases hi with rfl | (⟨n, hn, hi⟩ | ⟨e, _, rfl⟩) | ⟨x, _, rfl⟩
      · exact hh
      · exact up_msg c file (.el id) n (fun j hj => hU j (msgInfos_nested hn hj)) i hi hh
      · exact hU _ hi0 hh (.el id) rfl
      · exact hU _ hi0 hh (.el id) rfl
    obtain ⟨fs, os, ro, rs, hy⟩ := remapMsg_some c path id fields oneofs exts nested enums rangeOpts reserved mapEntry opts hid
    refine ⟨_, hy, ?_⟩
    simp only [presentMsg, presentMsgs_eq, remapMsgs_eq, List.map_cons, List.map_append, List.mem_cons, List.mem_append,
      List.mem_map, List.mem_flatMap]
    rcases hi with rfl | (⟨n, hn, hi⟩ | ⟨e, he, rfl⟩) | ⟨x, _, rfl⟩
    · exact Or.inl rfl
    · -- the nested message is kept at whatever index it has, and the entry is present in what it is kept as
      obtain ⟨y, hy, hq⟩ := remapSlice_keeps (path ++ [3]) (remapMsg c) (fun y => keyId i.key ∈ (presentMsg file y).map (·.id))
        nested 0 0 n hn (fun p => ih n hn (.el id) p (fun j hj => hU j (msgInfos_nested hn hj)) i hi hfld hh)
      obtain ⟨p, hp, e⟩ := List.mem_map.mp hq
      exact Or.inr (Or.inl (Or.inl ⟨p, ⟨y, hy, hp⟩, e⟩))
    · refine Or.inr (Or.inl (Or.inr ⟨_, ⟨e, ?_, rfl⟩, rfl⟩))
      rw [remapSlice_enums, List.mem_filter]
      exact ⟨he, hh⟩
    · simp [extInfo] at hfld

theorem mem_fileInfos_msgs (f : File) (j : Info) (h : j ∈ msgsInfos f.id (.file f.id) f.msgs) : j ∈ fileInfos f := by
  simp only [fileInfos, List.mem_cons, List.mem_append]
  exact Or.inr (Or.inl (Or.inl (Or.inl h)))

theorem up_file (c : RCtx) (f : File) (hU : ∀ j ∈ fileInfos f, Up c j) :
    ∀ i ∈ fileInfos f, c.has i.key = true → c.has (.file f.id) = true := by
  intro i hi hh
  have hi0 := hi
  simp only [fileInfos, msgsInfos_eq, List.mem_cons, List.mem_append, List.mem_map, List.mem_flatten, List.mem_flatMap] at hi
  rcases hi with rfl | ((⟨m, hm, hi⟩ | ⟨e, _, rfl⟩) | ⟨l, ⟨s, hs, rfl⟩, hi⟩) | ⟨x, _, rfl⟩
  · exact hh
  · exact up_msg c f.id (.file f.id) m (fun j hj => hU j (mem_fileInfos_msgs f j (msgsInfos_mem hm hj))) i hi hh
  · exact hU _ hi0 hh (.file f.id) rfl
  · have hsvc : c.has (.el s.id) = true → c.has (.file f.id) = true := by
      intro h
      obtain ⟨hd, tl, hl, hk, hp⟩ : ∃ hd tl, svcInfos f.id s = hd :: tl ∧ hd.key = .el s.id ∧
          hd.parent = some (.file f.id) := by
        unfold svcInfos; exact ⟨_, _, rfl, rfl, rfl⟩
      have hm : hd ∈ fileInfos f := by
        simp only [fileInfos, List.mem_cons, List.mem_append, List.mem_map, List.mem_flatten]
        exact Or.inr (Or.inl (Or.inr ⟨_, ⟨s, hs, rfl⟩, by rw [hl]; simp⟩))
      have := hU hd hm
      unfold Up at this
      rw [hk] at this
      exact this h (.file f.id) hp
    simp only [svcInfos, List.mem_cons, List.mem_map] at hi
    rcases hi with rfl | ⟨m, _, rfl⟩
    · exact hsvc hh
    · exact hsvc (hU _ hi0 hh (.el s.id) rfl)
  · exact hU _ hi0 hh (.file f.id) rfl

theorem pres_file (c : RCtx) (f : File) (hU : ∀ j ∈ fileInfos f, Up c j) (i : Info) (hi : i ∈ fileInfos f)
    (hfld : i.fld = none) (hkm : i.kind ≠ .method) (hkf : i.kind ≠ .file) (hh : c.has i.key = true) :
    ∃ of, remapFile c f = some of ∧ of.id = f.id ∧ keyId i.key ∈ (presentFile of).map (·.id) := by
  have hfile := up_file c f hU i hi hh
  unfold remapFile
  simp only [hfile, Bool.not_true, Bool.false_eq_true, if_false]
  refine ⟨_, rfl, rfl, ?_⟩
  simp only [presentFile, List.map_append, List.mem_append]
  simp only [fileInfos, msgsInfos_eq, List.mem_cons, List.mem_append, List.mem_map, List.mem_flatten, List.mem_flatMap] at hi
  rcases hi with rfl | ((⟨m, hm, hi⟩ | ⟨e, he, rfl⟩) | ⟨l, ⟨s, hs, rfl⟩, hi⟩) | ⟨x, _, rfl⟩
  · exact absurd rfl hkf
  · obtain ⟨y, hy, hq⟩ := remapSlice_keeps [4] (remapMsg c) (fun y => keyId i.key ∈ (presentMsg f.id y).map (·.id))
      f.msgs 0 0 m hm (fun p => pres_msg c f.id (.file f.id) p m
        (fun j hj => hU j (mem_fileInfos_msgs f j (msgsInfos_mem hm hj))) i hi hfld hh)
    obtain ⟨p, hp, e⟩ := List.mem_map.mp hq
    rw [remapMsgs_eq, presentMsgs_eq]
    exact Or.inl (Or.inl (Or.inl (List.mem_map.mpr ⟨p, List.mem_flatMap.mpr ⟨y, hy, hp⟩, e⟩)))
  · refine Or.inl (Or.inl (Or.inr ?_))
    simp only [List.map_map, List.mem_map, Function.comp]
    refine ⟨e, ?_, rfl⟩
    rw [remapSlice_enums, List.mem_filter]
    exact ⟨he, hh⟩
  · simp only [svcInfos, List.mem_cons, List.mem_map] at hi
    rcases hi with rfl | ⟨m, _, rfl⟩
    · refine Or.inl (Or.inr ?_)
      have hh' : c.has (.el s.id) = true := hh
      simp only [List.mem_map, List.mem_flatten]
      obtain ⟨s', hs', hid⟩ := remapSlice_keeps [6] (remapService c) (·.id = s.id) f.svcs 0 0 s hs (fun p => by
        simp only [remapService, hh', Bool.not_true, Bool.false_eq_true, if_false]
        exact ⟨_, rfl, rfl⟩)
      refine ⟨⟨s'.id, f.id, false, 0, false⟩, ⟨_, ⟨s', hs', rfl⟩, List.mem_cons_self⟩, ?_⟩
      simp [keyId, hid]
    · exact absurd rfl hkm
  · simp [extInfo] at hfld

theorem rewrite_mem (cfg : Cfg) (hcfg : cfg.keepsInputWhenEmpty = false) (st : St) (noInc : Bool) (img : Image)
    (out : List OFile) (h : rewrite cfg st noInc img = .ok out) (f : File) (hf : f ∈ img.files)
    (hseen : f.id ∈ st.seen) (of : OFile) (hof : remapFile ⟨st, noInc, !cfg.svcMarksInput, !cfg.staleOneofIndex⟩ f = some of) :
    of ∈ out := by
  unfold rewrite at h
  simp only [] at h
  split at h
  · cases h
  · have hm : of ∈ (img.files.filter (fun f => st.seen.contains f.id || st.edges.any (fun e => e.1 = f.id))).filterMap
        (remapFile ⟨st, noInc, !cfg.svcMarksInput, !cfg.staleOneofIndex⟩) := by
      rw [List.mem_filterMap]
      refine ⟨f, ?_, hof⟩
      rw [List.mem_filter]
      refine ⟨hf, ?_⟩
      simp [hseen]
    split at h
    · rename_i he
      rw [hcfg] at h
      simp only [Bool.false_eq_true, if_false] at h
      cases h
    · cases h; exact hm

/-! ### well-formed indexes and the exclude phase -/

/-- What the theorems need of the index.  `uniq` is the real restriction (no two indexed elements
    share a name id); the other two hold for every index `buildIndex` produces with unique keys
    (`FilterIndex.wfIdx_of_uniq`). -/
structure WFIdx (idx : Index) : Prop where
  uniq : ∀ j ∈ idx, idx.find j.key = some j
  parentNonExt : ∀ j ∈ idx, ∀ p, j.parent = some p →
    (∀ m n, p ≠ .oneof m n) ∧ ∀ ip, idx.find p = some ip → ip.fld = none
  descClosed : ∀ i ∈ idx, ∀ j ∈ idx, ∀ p, j.parent = some p → p ∈ (i.key :: i.desc) → j.key ∈ i.desc

deriving instance DecidableEq for Info

def isOneofKey : Key → Bool
  | .oneof _ _ => true
  | _ => false

/-- executable form of `WFIdx` -/
def wfIdxB (idx : Index) : Bool :=
  idx.all (fun j => decide (idx.find j.key = some j)) &&
  idx.all (fun j => match j.parent with
    | some p => !isOneofKey p && (match idx.find p with | some ip => ip.fld.isNone | none => true)
    | none => true) &&
  idx.all (fun i => idx.all (fun j => match j.parent with
    | some p => !(i.key :: i.desc).contains p || i.desc.contains j.key
    | none => true))

theorem wfIdx_of_B (idx : Index) (h : wfIdxB idx = true) : WFIdx idx := by
  unfold wfIdxB at h
  simp only [Bool.and_eq_true, List.all_eq_true] at h
  obtain ⟨⟨h1, h2⟩, h3⟩ := h
  refine ⟨fun j hj => by simpa using h1 j hj, ?_, ?_⟩
  · intro j hj p hp
    have := h2 j hj
    rw [hp] at this
    simp only [Bool.and_eq_true, Bool.not_eq_true'] at this
    constructor
    · intro m n e; rw [e] at this; simp [isOneofKey] at this
    · intro ip hip
      rw [hip] at this
      simpa using this.2
  · intro i hi j hj p hp hmem
    have := h3 i hi j hj
    rw [hp] at this
    simp only [Bool.or_eq_true, Bool.not_eq_true'] at this
    rcases this with h | h
    · have : (i.key :: i.desc).contains p = true := by simpa using hmem
      rw [this] at h; cases h
    · simpa using h

/-- the excluded set is closed under children -/
def DC (idx : Index) (st : St) : Prop := ∀ j ∈ idx, ∀ p, j.parent = some p → rk st p = 4 → rk st j.key = 4

theorem dc_excludePhase (img : Image) (idx : Index) (hwf : WFIdx idx) (st' : St) (ns : List Id)
    (h : foldlE (excludeType img idx) {} ns = .ok st') : OnlyExcl st' ∧ DC idx st' := by
  refine ⟨excludePhase_onlyExcl h, ?_⟩
  intro j hj p hp h4
  have hx := rk_excl.mp h4
  rw [excludePhase_get h] at hx
  split at hx
  · rename_i hm
    -- `p` lies in a marked block; blocks are closed under children and marked as a whole
    obtain ⟨n, hn, hpn⟩ := List.mem_flatMap.mp hm
    obtain ⟨i, hi, hpi, hall⟩ := mem_exclList hpn
    refine rk_excl.mpr ?_
    rw [excludePhase_get h, if_pos (List.mem_flatMap.mpr
      ⟨n, hn, hall _ (List.mem_cons_of_mem _ (hwf.descClosed i hi j hj p hp hpi))⟩)]
  · cases hx

theorem dc_of_le (c : Ctx) (hc : c.cfg.svcMarksInput = false) (hwf : WFIdx c.idx) (s0 st : St) (hd : DC c.idx s0) (hle : Le c s0 st) :
    DC c.idx st := by
  intro j hj p hp h4
  have hn : NonExt c p := hwf.parentNonExt j hj p hp
  exact hle.excl (hd j hj p hp (hle.frozen hc p hn h4))

theorem has_iff (st : St) (noInc mio rn : Bool) (k : Key) :
    RCtx.has ⟨st, noInc, mio, rn⟩ k = true ↔ rk st k ≠ 4 ∧ (noInc = false → 1 ≤ rk st k) := by
  unfold RCtx.has hasType rk
  cases st.get k with
  | none => cases noInc <;> simp [rank]
  | some m => cases m <;> simp [rank]

theorem up_of_closed (c : Ctx) (hwf : WFIdx c.idx) (st : St) (hc : Closed c st) (hd : DC c.idx st) (noInc mio rn : Bool) :
    ∀ j ∈ c.idx, Up ⟨st, noInc, mio, rn⟩ j := by
  intro j hj hh p hp
  rw [has_iff] at hh ⊢
  refine ⟨fun h4 => hh.1 (hd j hj p hp h4), fun hn => ?_⟩
  exact (hc j.key j (hwf.uniq j hj)).1 (hh.2 hn) (rk_le_three hh.1) p hp

theorem mem_buildIndex (img : Image) (i : Info) (h : i ∈ buildIndex img) : ∃ f ∈ img.files, i ∈ fileInfos f := by
  unfold buildIndex at h
  simp only [List.mem_flatten, List.mem_map] at h
  obtain ⟨l, ⟨f, hf, rfl⟩, hi⟩ := h
  exact ⟨f, hf, hi⟩

theorem mem_buildIndex_of (img : Image) (f : File) (hf : f ∈ img.files) (i : Info) (h : i ∈ fileInfos f) :
    i ∈ buildIndex img := by
  unfold buildIndex
  simp only [List.mem_flatten, List.mem_map]
  exact ⟨_, ⟨f, hf, rfl⟩, h⟩

/-! ### every needed import is listed -/

theorem sortNat_eq : ∀ l, sortNat l = isortBy (fun y x => !decide (x ≤ y)) l :=
  eq_isortBy _ (eq_insBy_not (ins := insertSorted) (fun _ => rfl)
    (fun _ _ _ => by simp only [insertSorted, decide_eq_true_eq])) rfl (fun _ _ => rfl)

theorem mem_sortNat (y : Nat) (l : List Nat) : y ∈ sortNat l ↔ y ∈ l := by
  rw [sortNat_eq, mem_isortBy]

theorem remapDeps_lists (st : St) (f : File) (b : Id) (h : (f.id, b) ∈ st.edges) :
    b ∈ ((remapDeps st f).1).map (·.file) := by
  have hreq : b ∈ (st.edges.filter (fun e => e.1 = f.id)).map (·.2) := by
    simp only [List.mem_map, List.mem_filter]
    exact ⟨(f.id, b), ⟨h, by simp⟩, rfl⟩
  unfold remapDeps
  simp only [List.map_append, List.mem_append]
  by_cases hd : b ∈ f.deps.map (·.file)
  · left
    simp only [List.mem_map] at hd
    obtain ⟨d, hd, hdb⟩ := hd
    simp only [List.mem_map]
    refine ⟨Dep.mk d.file false, ?_, hdb⟩
    refine remapSlice_mem _ _ _ _ _ d _ hd ?_
    intro p
    have : ((st.edges.filter (fun e => e.1 = f.id)).map (·.2)).contains d.file = true := by
      rw [hdb]; simpa using hreq
    simp only [this, if_true]
  · right
    simp only [List.map_map, List.mem_map, Function.comp]
    refine ⟨b, ?_, rfl⟩
    rw [mem_sortNat, List.mem_eraseDups, List.mem_filter]
    refine ⟨hreq, ?_⟩
    simpa using hd

theorem rewrite_origin (cfg : Cfg) (hcfg : cfg.keepsInputWhenEmpty = false) (st : St) (noInc : Bool) (img : Image)
    (out : List OFile) (h : rewrite cfg st noInc img = .ok out) (of : OFile) (hof : of ∈ out) :
    ∃ f ∈ img.files, remapFile ⟨st, noInc, !cfg.svcMarksInput, !cfg.staleOneofIndex⟩ f = some of := by
  unfold rewrite at h
  simp only [] at h
  split at h
  · cases h
  · split at h
    · rw [hcfg] at h
      simp only [Bool.false_eq_true, if_false] at h
      cases h
    · cases h
      rw [List.mem_filterMap] at hof
      obtain ⟨f, hf, hr⟩ := hof
      exact ⟨f, (List.mem_filter.mp hf).1, hr⟩

theorem remapFile_deps (c : RCtx) (f : File) (of : OFile) (h : remapFile c f = some of) :
    of.id = f.id ∧ of.deps = (remapDeps c.st f).1.map (·.file) := by
  unfold remapFile at h
  split at h
  · cases h
  · simp only [Option.some.injEq] at h
    subst h
    exact ⟨rfl, rfl⟩

/-! ### source paths of nested message lists -/

theorem remapField_leaf (c : RCtx) (p : List Nat) (x : Field) : (remapField c p x).2 = [] := by
  unfold remapField; repeat' split
  all_goals rfl

theorem remapEnum_leaf (c : RCtx) (p : List Nat) (x : Enum) : (remapEnum c p x).2 = [] := by
  unfold remapEnum; split <;> rfl

theorem remapOneof_leaf (c : RCtx) (m : Id) (p : List Nat) (x : Oneof) : (remapOneof c m p x).2 = [] := by
  unfold remapOneof; split <;> rfl

theorem remapMsg_isSome (c : RCtx) (p : List Nat) (m : Msg) : (remapMsg c p m).1.isSome = c.has (.el m.id) := by
  cases m with
  | mk id fields oneofs exts nested enums rangeOpts reserved mapEntry opts =>
    unfold remapMsg
    simp only [Msg.id]
    cases c.has (.el id)
    · simp
    · simp only [Bool.not_true, Bool.false_eq_true, if_false]
      repeat' split
      all_goals rfl

theorem below_remapMsg (c : RCtx) (p : List Nat) (m : Msg) : Below p (remapMsg c p m).2 := by
  induction m using Msg.ind generalizing p with
  | h id fields oneofs exts nested enums rangeOpts reserved mapEntry opts ih =>
    have he := under_sub (p := p) 6 (under_remapSlice (p ++ [6]) (remapField c) (remapField_leaf c) exts 0 0)
    have hm := under_sub (p := p) 4 (under_remapSlice (p ++ [4]) (remapEnum c) (remapEnum_leaf c) enums 0 0)
    have hf := under_sub (p := p) 2 (under_remapSlice (p ++ [2]) (remapField c) (remapField_leaf c) fields 0 0)
    have ho := under_sub (p := p) 8 (under_remapSlice (p ++ [8]) (remapOneof c id) (remapOneof_leaf c id) oneofs 0 0)
    have hn : Below p (remapMsgs c (p ++ [3]) nested 0 0).2 := by
      rw [remapMsgs_eq]
      exact under_sub 3 (under_remapSlice_gen _ _ _ (fun n hn q => below_under (ih n hn q)) 0 0)
    unfold remapMsg
    split
    · exact below_nil p
    · split
      · split
        · simp only []
          refine below_append (below_append (below_append ?_ he) hn) hm
          intro mk hmk
          simp only [List.mem_cons, List.mem_nil_iff, or_false] at hmk
          rcases hmk with rfl | rfl | rfl | rfl | rfl | rfl
          · exact Or.inl ⟨rfl, rfl⟩
          · exact Or.inr ⟨2, [], rfl⟩
          · exact Or.inr ⟨8, [], rfl⟩
          · exact Or.inr ⟨5, [], rfl⟩
          · exact Or.inr ⟨9, [], rfl⟩
          · exact Or.inr ⟨10, [], rfl⟩
        · exact below_append (below_append he hn) hm
      · exact below_append (below_append (below_append (below_append hf ho) he) hn) hm

theorem under_remapMsgs (c : RCtx) (path : List Nat) (ms : List Msg) (fr to : Nat) :
    Under path (remapMsgs c path ms fr to).2 := by
  rw [remapMsgs_eq]
  exact under_remapSlice_gen path _ ms (fun x _ p => below_under (below_remapMsg c p x)) fr to

/-- which messages of a list the rewrite keeps -/
def msgFlags (c : RCtx) (ms : List Msg) : List Bool := ms.map (fun m => c.has (.el m.id))

theorem flagsFrom_msgs (c : RCtx) (path : List Nat) (ms : List Msg) (fr : Nat) :
    flagsFrom path (remapMsg c) ms fr = msgFlags c ms := by
  induction ms generalizing fr with
  | nil => rfl
  | cons m ms ih => rw [flagsFrom, ih, remapMsg_isSome]; rfl

end BufProofs.FilterRewrite
