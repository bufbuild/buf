import BufModel.Disk
import BufProofs.Lemmas.BucketLemmas
import BufProofs.Lemmas.ArchiveLemmas
/-
  Lemmas for the disk-bucket tree model: which directories a Put creates (`addDirs`, `ancestors`);
  on prefix-free histories the tree behaves like the memory bucket (`TreeInv`); the streaming walk
  and the copy the driver runs agree with `rWalk` / `rCopy` (`rWalkD_agrees`, `copyD_refines_rCopy`).
-/
namespace BufModel.Disk
open BufModel.Path BufModel.Bucket

theorem mem_addDirs_iff (ds as : List Key) (x : Key) : x ∈ addDirs ds as ↔ x ∈ ds ∨ x ∈ as := by
  induction as generalizing ds with
  | nil => simp [addDirs]
  | cons a rest ih =>
    simp only [addDirs]
    split
    · rename_i hc
      have : a ∈ ds := List.contains_iff_mem.mp hc
      rw [ih, List.mem_cons]
      exact ⟨Or.imp_right Or.inr, fun h => h.elim Or.inl fun h => h.elim (fun e => Or.inl (e ▸ this)) Or.inr⟩
    · rw [ih, List.mem_cons, List.mem_cons, or_assoc, or_left_comm]

theorem mem_ancestors_take (k x : Key) : x ∈ ancestors k → ∃ n, 0 < n ∧ n < k.length ∧ x = k.take n := by
  intro h
  unfold ancestors at h
  obtain ⟨n, hn, hx⟩ := List.mem_filterMap.mp h
  have hlt := List.mem_range.mp hn
  by_cases h0 : n = 0
  · simp [h0] at hx
  · simp only [h0, if_false] at hx
    injection hx with hx
    exact ⟨n, Nat.pos_of_ne_zero h0, hlt, hx.symm⟩

theorem mem_ancestors {k x : Key} (h : x ∈ ancestors k) : x <+: k ∧ x ≠ k ∧ x ≠ [] := by
  obtain ⟨n, h0, hlt, rfl⟩ := mem_ancestors_take k x h
  refine ⟨List.take_prefix n k, fun e => ?_, fun e => ?_⟩
  · have := congrArg List.length e
    rw [List.length_take] at this
    omega
  · have := congrArg List.length e
    rw [List.length_take, List.length_nil] at this
    omega

theorem allProper_of_prefix {x k : Key} (hk : AllProper k) (h : x <+: k) : AllProper x := by
  obtain ⟨t, ht⟩ := h
  rw [← ht] at hk
  exact (allProper_append.mp hk).1

def Below (a b : Key) : Prop := a <+: b ∧ a ≠ b

/-- `U` is the set of keys the history ever puts. The tree invariant relative to `U`. -/
structure TreeInv (U : List Key) (d : Disk) : Prop where
  filesIn : ∀ kv ∈ d.files, ∃ u ∈ U, kv.1 = renderKey u
  dirsBelow : ∀ x ∈ d.dirs, ∃ u ∈ U, Below x u

def UProper (U : List Key) : Prop := ∀ u ∈ U, AllProper u ∧ u ≠ []

def PrefixFree (U : List Key) : Prop := ∀ a ∈ U, ∀ b ∈ U, ¬ Below a b

def Unrelated (U : List Key) (k : Key) : Prop := ∀ u ∈ U, ¬ Below k u ∧ ¬ Below u k

theorem isFile_mem {U : List Key} {d : Disk} (inv : TreeInv U d) (hU : UProper U) {a : Key}
    (ha : AllProper a) (h : isFile d a = true) : a ∈ U := by
  unfold isFile at h
  cases hf : d.files.find (renderKey a) with
  | none => rw [hf] at h; cases h
  | some c =>
    obtain ⟨u, hu, he⟩ := inv.filesIn _ (find_some_mem hf)
    simp only at he
    have := renderKey_inj ha (hU u hu).1 he
    rw [this]; exact hu

theorem no_file_ancestor {U : List Key} {d : Disk} (inv : TreeInv U d) (hU : UProper U)
    {k : Key} (hk : AllProper k) (hno : ∀ u ∈ U, ¬ Below u k) :
    (ancestors k).any (isFile d) = false := by
  cases h : (ancestors k).any (isFile d) with
  | false => rfl
  | true =>
    exfalso
    obtain ⟨a, ha, hfile⟩ := List.any_eq_true.mp h
    obtain ⟨hpre, hne, _⟩ := mem_ancestors ha
    have hap := allProper_of_prefix hk hpre
    exact hno a (isFile_mem inv hU hap hfile) ⟨hpre, hne⟩

theorem not_isDir {U : List Key} {d : Disk} (inv : TreeInv U d) {k : Key}
    (hno : ∀ u ∈ U, ¬ Below k u) : isDir d k = false := by
  cases h : isDir d k with
  | false => rfl
  | true =>
    exfalso
    unfold isDir at h
    have hm : k ∈ d.dirs := by simpa using h
    obtain ⟨u, hu, hb⟩ := inv.dirsBelow k hm
    exact hno u hu hb

theorem underFile_false {U : List Key} {d : Disk} (inv : TreeInv U d) (hU : UProper U)
    (pfx : Str) (k : Key) (hk : AllProper k) (hv : validatePrefix pfx = .ok (renderKey k))
    (hno : ∀ u ∈ U, ¬ Below u k) : underFile d.files pfx = false := by
  unfold underFile
  rw [hv]
  simp only [keyOfPath, cleanComps_renderKey hk]
  have := no_file_ancestor inv hU hk hno
  unfold isFile at this
  exact this

theorem diskPut_eq_mem {U : List Key} {d : Disk} (inv : TreeInv U d) (hU : UProper U) (hpf : PrefixFree U)
    (path : Str) (c : Content) (k : Key) (hk : AllProper k)
    (hv : validatePath path = .ok (renderKey k)) (hkU : k ∈ U) :
    ∃ d', diskPut d path c = .ok d' ∧ memPut d.files path c = .ok d'.files ∧ TreeInv U d' := by
  unfold diskPut memPut
  rw [hv]
  simp only [keyOfPath, cleanComps_renderKey hk]
  have h1 := no_file_ancestor inv hU hk (fun u hu hb => hpf u hu k hkU hb)
  have h2 := not_isDir inv (k := k) (fun u hu hb => hpf k hkU u hu hb)
  simp only [h1, h2, Bool.false_eq_true, if_false]
  refine ⟨_, rfl, rfl, ?_, ?_⟩
  · intro kv hkv
    rcases List.mem_cons.mp hkv with e | hm
    · subst e; exact ⟨k, hkU, rfl⟩
    · exact inv.filesIn kv (List.mem_filter.mp hm).1
  · intro x hx
    rcases (mem_addDirs_iff _ _ _).mp hx with h | h
    · exact inv.dirsBelow x h
    · obtain ⟨hpre, hnek, _⟩ := mem_ancestors h
      exact ⟨k, hkU, hpre, hnek⟩

theorem diskDelete_eq_mem {U : List Key} {d : Disk} (inv : TreeInv U d) (hU : UProper U)
    (path : Str) (k : Key) (hk : AllProper k)
    (hv : validatePath path = .ok (renderKey k)) (hun : Unrelated U k) :
    (∃ d', diskDelete d path = .ok d' ∧ memDelete d.files path = .ok d'.files ∧ TreeInv U d') ∨
    (diskDelete d path = .error .notExist ∧ memDelete d.files path = .error .notExist) := by
  unfold diskDelete memDelete
  rw [hv]
  simp only [keyOfPath, cleanComps_renderKey hk]
  cases hf : d.files.find (renderKey k) with
  | some c0 =>
    left
    have : isFile d k = true := by unfold isFile; rw [hf]; rfl
    simp only [this, if_true]
    refine ⟨_, rfl, rfl, ?_, inv.dirsBelow⟩
    intro kv hkv
    exact inv.filesIn kv (List.mem_filter.mp hkv).1
  | none =>
    right
    have h0 : isFile d k = false := by unfold isFile; rw [hf]; rfl
    have h1 := no_file_ancestor inv hU hk (fun u hu => (hun u hu).2)
    have h2 := not_isDir inv (k := k) (fun u hu => (hun u hu).1)
    simp only [h0, h1, h2, Bool.false_eq_true, if_false, and_self]

theorem diskDeleteAll_eq_mem {U : List Key} {d : Disk} (inv : TreeInv U d) (hU : UProper U)
    (pfx : Str) (k : Key) (hk : AllProper k) (hv : validatePrefix pfx = .ok (renderKey k))
    (hno : ∀ u ∈ U, ¬ Below u k) :
    ∃ d', diskDeleteAll d pfx = .ok d' ∧ memDeleteAll d.files pfx = .ok d'.files ∧ TreeInv U d' := by
  have huf := underFile_false inv hU pfx k hk hv hno
  unfold diskDeleteAll memDeleteAll
  rw [hv]
  simp only [huf, Bool.false_eq_true, if_false]
  refine ⟨_, rfl, rfl, ?_, ?_⟩
  · intro kv hkv; exact inv.filesIn kv (List.mem_filter.mp hkv).1
  · intro x hx; exact inv.dirsBelow x (List.mem_filter.mp hx).1

theorem diskWalk_eq_mem {U : List Key} {d : Disk} (inv : TreeInv U d) (hU : UProper U)
    (pfx : Str) (k : Key) (hk : AllProper k) (hv : validatePrefix pfx = .ok (renderKey k))
    (hno : ∀ u ∈ U, ¬ Below u k) : diskWalk d pfx = memWalk d.files pfx := by
  unfold diskWalk
  rw [underFile_false inv hU pfx k hk hv hno]; simp

theorem diskWalk_all (d : Disk) : diskWalk d [] = .ok d.files := by
  have : underFile d.files [] = false := by
    simp only [underFile, show validatePrefix [] = .ok dot by decide, show keyOfPath dot = [] by decide]
    rfl
  simp only [diskWalk, this, Bool.false_eq_true, if_false, memWalk_all]

theorem treeInv_empty (U : List Key) : TreeInv U empty := by
  constructor
  · intro kv h; simp [empty] at h
  · intro x h; simp [empty] at h

/-! ### The mixed-kind walk / copy the C14 driver runs, tied to `rWalk` / `rCopy` -/

theorem unmapAll_eq_partial (p : Str) (l : List (Str × Content)) :
    unmapAll p l = (match unmapPartial p l with
      | (out, none) => .ok out
      | (_, some e) => .error e) := by
  induction l with
  | nil => rfl
  | cons kv rest ih =>
    obtain ⟨k, v⟩ := kv
    simp only [unmapAll, unmapPartial]
    cases unmapPrefix p k with
    | error e => rfl
    | ok o =>
      cases o with
      | none => exact ih
      | some r =>
        simp only [ih]
        cases unmapPartial p rest with
        | mk o e => cases e <;> rfl

theorem mergeMulti_eq_partial (seen l : List (Str × Content)) :
    mergeMulti seen l = (match mergePartial seen l with
      | (out, none) => .ok out
      | (_, some e) => .error e) := by
  induction l with
  | nil => rfl
  | cons kv rest ih =>
    simp only [mergeMulti, mergePartial]
    cases hasKey seen kv.1 with
    | true => rfl
    | false =>
      simp only [Bool.false_eq_true, if_false, ih]
      cases mergePartial seen rest with
      | mk o e => cases e <;> rfl

/-- How the streaming result `r` and the batch result `x` of one walk hang together: a streaming
    walk that completed visited exactly the batch list; one that stopped means the batch walk fails
    too, with SOME error (the two may report different ones: the streaming union reports a
    duplicate before a later member's own failure) — under `P`, "no base is a disk bucket", since
    ENOTDIR exists on the streaming side only. -/
def Agrees (P : Prop) (r : WalkRes) (x : Except PErr (List (Str × Content))) : Prop :=
  match r.2 with
  | none => x = .ok r.1
  | some _ => P → ∃ er, x = .error er

theorem Agrees.of_eq {P : Prop} {r : WalkRes} {x : Except PErr (List (Str × Content))}
    (h : x = (match r with | (out, none) => .ok out | (_, some e) => .error e)) : Agrees P r x := by
  obtain ⟨out, oe⟩ := r
  cases oe with
  | none => exact h
  | some e => exact fun _ => ⟨e, h⟩

/-- A view's callback `g` runs on the objects its delegate visited, and a failure of its own
    comes before the delegate's later one; the batch walk runs `f` on the delegate's whole list. -/
theorem Agrees.callback {P : Prop} {r : WalkRes} {x : Except PErr (List (Str × Content))} (h : Agrees P r x)
    {g : List (Str × Content) → WalkRes} {f : List (Str × Content) → Except PErr (List (Str × Content))}
    (hfg : ∀ l, Agrees P (g l) (f l)) :
    Agrees P ((g r.1).1, match (g r.1).2 with | some e => some e | none => r.2)
      (match (generalizing := false) x with | .error e => .error e | .ok l => f l) := by
  obtain ⟨l, oe⟩ := r
  cases oe with
  | none =>
    -- the delegate completed: what is left is the callback's own agreement on the whole list
    cases (show x = .ok l from h)
    have hl := hfg l
    revert hl
    cases g l with
    | mk ol ge => cases ge <;> exact id
  -- the delegate stopped: the batch walk fails whatever the callback made of the objects visited
  | some e0 => cases (g l).2 <;> exact fun hP => by obtain ⟨er, rfl⟩ := h hP; exact ⟨er, rfl⟩

/-- The first member of a union or overlay: its failure stops either walk; once it completed, the
    rest of the walk decides. -/
theorem Agrees.andThen {P : Prop} {ra r' : WalkRes} {xa : Except PErr (List (Str × Content))}
    {k : List (Str × Content) → Except PErr (List (Str × Content))} (h : Agrees P ra xa)
    (h' : Agrees P r' (k ra.1)) :
    Agrees P (match ra.2 with | some ea => (ra.1, some ea) | none => r')
      (match (generalizing := false) xa with | .error e => .error e | .ok oa => k oa) := by
  obtain ⟨la, ea⟩ := ra
  cases ea with
  | some e0 => exact fun hP => by obtain ⟨er, rfl⟩ := h hP; exact ⟨er, rfl⟩
  | none => cases (show xa = .ok la from h); exact h'

theorem rWalkD_agrees (flags : List Bool) (e : BExpr) (bs : Bases) (pfx : Str) :
    Agrees (∀ i, flags.getD i false = false) (rWalkD flags e bs pfx) (rWalk e bs pfx) := by
  induction e generalizing pfx with
  | base i =>
    simp only [rWalkD, rWalk]
    split
    · rename_i hd
      exact fun hf => by rw [hf i] at hd; cases hd
    · cases memWalk (bs.get i) pfx with
      | ok l => exact rfl
      | error er => exact fun _ => ⟨er, rfl⟩
  | pre p b ih =>
    simp only [rWalkD, rWalk]
    cases normalizeAndValidate pfx with
    | error er => exact fun _ => ⟨er, rfl⟩
    | ok q => exact (ih (join [p, q])).callback fun l => .of_eq (unmapAll_eq_partial p l)
  | filt f b ih =>
    simp only [rWalkD, rWalk]
    cases normalizeAndValidate pfx with
    | error er => exact fun _ => ⟨er, rfl⟩
    | ok q => exact (ih q).callback (g := fun l => (l.filter fun kv => f.matches kv.1, none)) fun l => rfl
  | multi a b iha ihb =>
    simp only [rWalkD, rWalk]
    -- the callback on the second member is itself a walk with a callback: the duplicate check,
    -- then appending to what the first member listed
    exact (iha pfx).andThen ((ihb pfx).callback fun l =>
      (Agrees.of_eq (mergeMulti_eq_partial _ l)).callback (g := fun o => (_ ++ o, none)) fun _ => rfl)
  | overlay a b iha ihb =>
    simp only [rWalkD, rWalk]
    exact (iha pfx).andThen ((ihb pfx).callback
      (g := fun l => (_ ++ l.filter fun kv => !hasKey _ kv.1, none)) fun l => rfl)
  | strip b ih => simp only [rWalkD, rWalk]; exact ih pfx

theorem rWalkD_ok (flags : List Bool) (e : BExpr) (bs : Bases) (pfx : Str)
    (objs : List (Str × Content)) (h : rWalkD flags e bs pfx = (objs, none)) : rWalk e bs pfx = .ok objs := by
  have := rWalkD_agrees flags e bs pfx
  rw [h] at this
  exact this

theorem rWalkD_of_rWalk_ok (flags : List Bool) (hf : ∀ i, flags.getD i false = false) (e : BExpr)
    (bs : Bases) (pfx : Str) (objs : List (Str × Content)) (h : rWalk e bs pfx = .ok objs) :
    rWalkD flags e bs pfx = (objs, none) := by
  have := rWalkD_agrees flags e bs pfx
  cases hr : rWalkD flags e bs pfx with
  | mk l oe =>
    rw [hr, h] at this
    cases oe with
    | none => cases (show Except.ok objs = .ok l from this); rfl
    | some er => obtain ⟨_, he⟩ := (show _ → ∃ er, Except.ok objs = .error er from this) hf; cases he

theorem diskPut_ok {d d' : Disk} {path : Str} {c : Content} (h : diskPut d path c = .ok d') :
    ∃ p, validatePath path = .ok p ∧
      d' = { files := (p, c) :: d.files.erase p, dirs := addDirs d.dirs (ancestors (keyOfPath p)) } := by
  unfold diskPut at h
  cases hv : validatePath path with
  | error e => rw [hv] at h; cases h
  | ok p =>
    rw [hv] at h
    simp only at h
    split at h
    · cases h
    · split at h
      · cases h
      · exact ⟨p, rfl, (Except.ok.inj h).symm⟩

theorem basePut_files {isDisk : Bool} {d d' : Disk} {p : Str} {c : Content}
    (h : basePut isDisk d p c = .ok d') : memPut d.files p c = .ok d'.files := by
  unfold basePut at h
  cases isDisk with
  | false =>
    simp only [Bool.false_eq_true, if_false] at h
    cases hm : memPut d.files p c with
    | error e => rw [hm] at h; cases h
    | ok m' => rw [hm] at h; injection h with h; rw [← h]
  | true =>
    obtain ⟨q, hq, rfl⟩ := diskPut_ok (by simpa using h)
    simp only [memPut, hq]

theorem putAllD_files {isDisk : Bool} {objs : List (Str × Content)} :
    ∀ {d d' : Disk}, putAllD isDisk d objs = .ok d' → putAll d.files objs = .ok d'.files := by
  induction objs with
  | nil => intro d d' h; simp [putAllD] at h; subst h; rfl
  | cons o rest ih =>
    intro d d' h
    obtain ⟨k, v⟩ := o
    simp only [putAllD] at h
    cases hp : basePut isDisk d k v with
    | error e => rw [hp] at h; cases h
    | ok d1 =>
      rw [hp] at h
      simp only at h
      simp only [putAll, basePut_files hp]
      exact ih h

theorem copyD_refines_rCopy (flags : List Bool) (e : BExpr) (he : e.WF) (bs : Bases) (hbs : BasesOK bs)
    (t : Nat) (isDisk : Bool) (d0 d' : Disk) (n : Nat) (ht : bs.get t = d0.files)
    (h : copyD flags e bs isDisk d0 = .ok (n, d')) :
    rCopy e bs t = .ok (n, bs.set t d'.files) := by
  unfold copyD at h
  cases hw0 : rWalkD flags e bs [] with
  | mk paths werr =>
  rw [hw0] at h
  cases werr with
  | some er => cases h
  | none =>
    have hw : rWalkD flags e bs [] = (paths, none) := hw0
    simp only at h
    obtain ⟨objs, hr, h⟩ := bind_ok h
    cases hp : putAllD isDisk d0 objs with
    | error er => rw [hp] at h; cases h
    | ok d1 =>
      rw [hp] at h
      injection h with h
      injection h with h1 h2
      subst h1; subst h2
      have hw' := rWalkD_ok flags e bs [] paths hw
      obtain ⟨rfl, _⟩ := BufModel.Archive.readObjects_walked e he bs hbs paths hw' objs hr
      have hpa := putAllD_files hp
      rw [← ht] at hpa
      simp only [rCopy, hw', hpa]

end BufModel.Disk
