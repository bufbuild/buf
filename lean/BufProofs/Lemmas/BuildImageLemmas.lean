import BufProofs.Lemmas.TargetingLemmas
import BufProofs.Lemmas.TargetCharLemmas
/-
  `Targeting.buildImage` as a whole, for C01 / C10.  First what the workspace answers for a path
  (`providers`, `owner`, `openFile`, the compiler's successors `csucc`); then: fuel suffices
  unconditionally; the success criterion and its converse (an image witnesses the criterion); files of
  non-target modules; ls-files = build (`Graph.lsFiles` against `buildImage`).  At the end Boolean checks
  that imply the hypotheses used here, to instantiate them on concrete workspaces.
-/
namespace BufModel.Targeting
open BufModel.Path BufModel.Graph

/-! ### owners and openable paths -/

theorem hasPath_iff {ws : WS} {m : Nat} {p : Str} :
    hasPath ws m p = true ↔ ∃ f ∈ modFiles ws m, f.path = p := by
  unfold hasPath
  simp [List.any_eq_true]

theorem mem_providers {ws : WS} {m : Nat} {p : Str} :
    m ∈ providers ws p ↔ ∃ f ∈ modFiles ws m, f.path = p := by
  unfold providers
  rw [List.mem_filter, hasPath_iff, List.mem_range]
  constructor
  · exact fun h => h.2
  · rintro ⟨f, hf, hp⟩
    exact ⟨modFiles_lt hf, f, hf, hp⟩

theorem providers_nodup (ws : WS) (p : Str) : (providers ws p).Nodup := by
  unfold providers
  exact List.Nodup.sublist List.filter_sublist List.nodup_range

theorem owner_one_iff {ws : WS} {p : Str} {m : Nat} : owner ws p = .one m ↔ providers ws p = [m] := by
  unfold owner
  split
  · rename_i h; rw [h]; simp
  · rename_i m' h; rw [h]; simp
  · rename_i h1 h2
    constructor
    · intro h; cases h
    · intro h; exact absurd h (h2 m)

/-- a path two different modules have is owned by nobody: `DuplicateProtoPathError`. -/
theorem owner_dup_of_two {ws : WS} {p : Str} {m m' : Nat} (hne : m ≠ m')
    (h1 : ∃ f ∈ modFiles ws m, f.path = p) (h2 : ∃ f ∈ modFiles ws m', f.path = p) :
    owner ws p = .dup := by
  have a1 := mem_providers.mpr h1
  have a2 := mem_providers.mpr h2
  unfold owner
  split
  · rename_i h; rw [h] at a1; simp at a1
  · rename_i x h
    rw [h] at a1 a2
    simp only [List.mem_singleton] at a1 a2
    exact absurd (a1.trans a2.symm) hne
  · rfl

theorem owner_one_mem {ws : WS} {p : Str} {m : Nat} (h : owner ws p = .one m) :
    ∃ f ∈ modFiles ws m, f.path = p := by
  have := owner_one_iff.mp h
  exact mem_providers.mp (by rw [this]; simp)

theorem owner_one_of_unique {ws : WS} {p : Str} {m : Nat} (h1 : ∃ f ∈ modFiles ws m, f.path = p)
    (h2 : ∀ m', (∃ f ∈ modFiles ws m', f.path = p) → m' = m) : owner ws p = .one m := by
  rw [owner_one_iff]
  have hm := mem_providers.mpr h1
  have hnd := providers_nodup ws p
  cases hp : providers ws p with
  | nil => rw [hp] at hm; simp at hm
  | cons a rest =>
    have ha : a = m := h2 a (mem_providers.mp (by rw [hp]; simp))
    subst ha
    cases rest with
    | nil => rfl
    | cons b rest' =>
      have hb : b = a := h2 b (mem_providers.mp (by rw [hp]; simp))
      subst hb
      rw [hp] at hnd
      simp at hnd

theorem isWkt_iff {ws : WS} {p : Str} : isWkt ws p = true ↔ ∃ f ∈ ws.wkt, f.path = p := by
  unfold isWkt
  simp [List.any_eq_true]

theorem csucc_some {ws : WS} {c : Compiler} {p : Str} {cs : List Str} (h : csucc ws c p = some cs) :
    cs = c.imports p ∧ ∃ s, openFile ws p = .ok s := by
  unfold csucc at h
  split at h
  · rename_i s hs
    injection h with h
    exact ⟨h.symm, s, hs⟩
  · cases h

theorem csucc_of_open {ws : WS} {c : Compiler} {p : Str} {s : Src} (h : openFile ws p = .ok s) :
    csucc ws c p = some (c.imports p) := by
  unfold csucc; rw [h]

theorem csucc_none_iff {ws : WS} {c : Compiler} {p : Str} :
    csucc ws c p = none ↔ ∃ e, openFile ws p = .error e := by
  unfold csucc
  cases h : openFile ws p with
  | ok s => simp
  | error e => simp

theorem openFile_error_iff {ws : WS} {p : Str} :
    (∃ e, openFile ws p = .error e) ↔ owner ws p = .dup ∨ (owner ws p = .none ∧ isWkt ws p = false) := by
  unfold openFile
  cases ho : owner ws p with
  | one m => simp
  | dup => simp
  | none =>
    cases hw : isWkt ws p <;> simp

theorem mem_modFiles {ws : WS} {m : Nat} {f : PFile} :
    f ∈ modFiles ws m ↔ ∃ a, ws.mods[m]? = some a ∧ f ∈ a.files := by
  unfold modFiles
  cases ws.mods[m]? <;> simp

theorem mem_allPaths {ws : WS} {p : Str} :
    p ∈ allPaths ws ↔ (∃ m, ∃ f ∈ modFiles ws m, f.path = p) ∨ ∃ f ∈ ws.wkt, f.path = p := by
  unfold allPaths
  rw [mem_dedup, List.mem_append, List.mem_flatMap, List.mem_map]
  refine or_congr ⟨?_, ?_⟩ Iff.rfl
  · rintro ⟨md, hmd, hp⟩
    obtain ⟨f, hf, rfl⟩ := List.mem_map.mp hp
    obtain ⟨i, hi, hget⟩ := List.getElem_of_mem hmd
    exact ⟨i, f, mem_modFiles.mpr ⟨md, by rw [List.getElem?_eq_getElem hi, hget], hf⟩, rfl⟩
  · rintro ⟨m, f, hf, rfl⟩
    obtain ⟨a, ha, hfa⟩ := mem_modFiles.mp hf
    exact ⟨a, List.mem_of_getElem? ha, List.mem_map.mpr ⟨f, hfa, rfl⟩⟩

theorem csucc_mem_allPaths {ws : WS} {c : Compiler} {p : Str} (h : csucc ws c p ≠ none) :
    p ∈ allPaths ws := by
  rw [mem_allPaths]
  cases hc : csucc ws c p with
  | none => exact absurd hc h
  | some cs =>
    obtain ⟨_, s, hs⟩ := csucc_some hc
    unfold openFile at hs
    split at hs
    · rename_i m hm
      exact Or.inl ⟨m, owner_one_mem hm⟩
    · cases hs
    · split at hs
      · rename_i hw; exact Or.inr (isWkt_iff.mp hw)
      · cases hs

/-! ### fuel suffices -/

theorem targetList_error {t : TWS} {e : BErr} (h : targetList t = .error e) :
    e = .dupPath ∨ e = .noProtoFiles ∨ e = .noTargets := by
  unfold targetList at h
  split at h
  · rename_i e' he
    injection h with h; subst h
    rcases walkTargets_error t _ _ _ he with h | h
    · exact Or.inl h
    · exact Or.inr (Or.inl h)
  · split at h
    · injection h with h; exact Or.inr (Or.inr h.symm)
    · cases h

theorem newImage_go_error : ∀ (files : List ImgFile) (seen : List Str) (commits : List (Nat × Nat)) (e : BErr),
    newImage.go files seen commits = .error e → e = .dupImageFile ∨ e = .twoCommits := by
  intro files
  induction files with
  | nil => intro seen commits e h; simp [newImage.go] at h
  | cons f fs ih =>
    intro seen commits e h
    simp only [newImage.go] at h
    split at h
    · injection h with h; exact Or.inl h.symm
    · split at h
      · exact ih _ _ _ h
      · split at h
        · split at h
          · injection h with h; exact Or.inr h.symm
          · exact ih _ _ _ h
        · exact ih _ _ _ h

theorem newImage_error {files : List ImgFile} {e : BErr} (h : newImage files = .error e) :
    e = .noTargets ∨ e = .dupImageFile ∨ e = .twoCommits := by
  unfold newImage at h
  split at h
  · injection h with h; exact Or.inl h.symm
  · split at h
    · rename_i e' he
      injection h with h; subst h
      exact Or.inr (newImage_go_error _ _ _ _ he)
    · cases h

theorem buildImage_ne_fuel (t : TWS) (c : Compiler) (perm : List Str → List Str) :
    buildImage t c perm ≠ .error .fuel := by
  intro h
  unfold buildImage at h
  split at h
  · rename_i e he
    injection h with h; subst h
    rcases targetList_error he with h | h | h <;> cases h
  · rename_i roots hroots
    split at h
    · rename_i hdfs
      exact dfsRoots_ne_fuel (csucc t.ws c) (allPaths t.ws) (fun x hx => csucc_mem_allPaths hx) _ roots (by omega) hdfs
    · cases h
    · rename_i vis closure hdfs
      split at h
      · cases h
      · split at h
        · rename_i e he
          injection h with h; subst h
          cases checkAndSortFiles_error he
        · rename_i sorted hsort
          have hs := checkAndSortFiles_ok hsort
          subst hs
          rw [hdfs] at h
          dsimp only at h
          rcases newImage_error h with h | h | h <;> cases h

/-! ### success -/

theorem checkAndSortFiles_ok_of {compiled roots : List Str} (hp : compiled.Perm roots)
    (hnd : roots.Nodup) (hne : ∀ r ∈ roots, r ≠ []) : checkAndSortFiles compiled roots = .ok roots := by
  rw [checkAndSortFiles_perm hp, checkAndSortFiles_eq, if_pos ⟨rfl, hne, hnd, fun _ h => h⟩]

/-- `go` succeeds on files without a repeated path whose commits are a function `cm` of the module
    name, from a table that agrees with `cm`. -/
theorem newImage_go_ok_of (cm : Nat → Nat) : ∀ (files : List ImgFile) (seen : List Str) (commits : List (Nat × Nat)),
    (files.map (·.path)).Nodup → (∀ f ∈ files, f.path ∉ seen) →
    (∀ f ∈ files, ∀ n, f.modName = some n → f.commit = cm n) → (∀ x ∈ commits, x.2 = cm x.1) →
      newImage.go files seen commits = .ok () := by
  intro files
  induction files with
  | nil => intros; rfl
  | cons f fs ih =>
    intro seen commits hnd hseen hcm htab
    simp only [List.map_cons, List.nodup_cons] at hnd
    have rest : ∀ commits', (∀ x ∈ commits', x.2 = cm x.1) → newImage.go fs (f.path :: seen) commits' = .ok () :=
      fun commits' h => ih _ commits' hnd.2
        (fun g hg hh => (List.mem_cons.mp hh).elim (fun e => hnd.1 (List.mem_map.mpr ⟨g, hg, e⟩))
          (hseen g (List.mem_cons_of_mem _ hg)))
        (fun g hg => hcm g (List.mem_cons_of_mem _ hg)) h
    simp only [newImage.go]
    rw [if_neg (hseen f List.mem_cons_self)]
    split
    · exact rest _ htab
    · rename_i n hn
      have hf := hcm f List.mem_cons_self n hn
      split
      · rename_i x hx
        have hx1 : x.1 = n := by simpa using List.find?_some hx
        rw [if_neg (by simp [hf, htab x (List.mem_of_find?_eq_some hx), hx1])]
        exact rest _ htab
      · exact rest _ fun x hx => (List.mem_cons.mp hx).elim (fun e => e ▸ hf) (htab x)

/-- one commit per module name in the module set (true of every real ModuleSet: modules with the
    same FullName have the same OpaqueID and are de-duplicated by `uniqueAdded`). -/
def OneCommitPerName (ws : WS) : Prop :=
  ∀ (m m' : Nat) (a b : Mod), ws.mods[m]? = some a → ws.mods[m']? = some b → a.name = b.name → a.name ≠ none →
    a.commit = b.commit

def srcOf (ws : WS) (p : Str) : Option Mod :=
  match openFile ws p with | .ok (.mod m) => ws.mods[m]? | _ => none

theorem mkImgFile_modName (ws : WS) (c : Compiler) (r : List Str) (p : Str) :
    (mkImgFile ws c r p).modName = (srcOf ws p).bind (·.name) := rfl

theorem mkImgFile_commit (ws : WS) (c : Compiler) (r : List Str) (p : Str) :
    (mkImgFile ws c r p).commit = ((srcOf ws p).map (·.commit)).getD 0 := rfl

theorem srcOf_some {ws : WS} {p : Str} {a : Mod} (h : srcOf ws p = some a) : ∃ m : Nat, ws.mods[m]? = some a := by
  unfold srcOf at h
  split at h
  · exact ⟨_, h⟩
  · cases h

/-- the commit of the modules named `n` (of the first of them) -/
def commitOf (ws : WS) (n : Nat) : Nat := ((ws.mods.find? (fun a => a.name = some n)).map (·.commit)).getD 0

theorem mkImgFile_commitOf {ws : WS} (hc : OneCommitPerName ws) (c : Compiler) (r : List Str) (p : Str) (n : Nat)
    (h : (mkImgFile ws c r p).modName = some n) : (mkImgFile ws c r p).commit = commitOf ws n := by
  rw [mkImgFile_modName] at h
  rw [mkImgFile_commit, commitOf]
  cases hp : srcOf ws p with
  | none => rw [hp] at h; cases h
  | some a =>
    rw [hp] at h
    have ha : a.name = some n := h
    obtain ⟨m, hm⟩ := srcOf_some hp
    cases hb : ws.mods.find? (fun a => a.name = some n) with
    | none => exact absurd ha (by simpa using List.find?_eq_none.mp hb a (List.mem_of_getElem? hm))
    | some b =>
      obtain ⟨m', hm'⟩ := List.getElem?_of_mem (List.mem_of_find?_eq_some hb)
      have hbn : b.name = some n := by simpa using List.find?_some hb
      exact hc m m' a b hm hm' (ha.trans hbn.symm) (by rw [ha]; simp)

theorem buildImage_ok_of_roots (t : TWS) (c : Compiler) (perm : List Str → List Str) (roots : List Str)
    (hroots : targetList t = .ok roots)
    (hopen : ∀ r ∈ roots, ∀ p, Reach (csucc t.ws c) r p → csucc t.ws c p ≠ none)
    (hac : ∀ r ∈ roots, ∀ x, Reach (csucc t.ws c) r x → ∀ cs d, csucc t.ws c x = some cs → d ∈ cs →
      ¬ Reach (csucc t.ws c) d x)
    (hperm : (perm roots).Perm roots)
    (hcommit : OneCommitPerName t.ws)
    (hpathne : ∀ r ∈ roots, r ≠ []) :
    ∃ img, buildImage t c perm = .ok img := by
  obtain ⟨vis, order, hdfs⟩ := dfsRoots_ok_of (csucc t.ws c) (allPaths t.ws)
    (fun x hx => csucc_mem_allPaths hx) ((allPaths t.ws).length + roots.length + 1) roots (by omega) hopen
  obtain ⟨hvo, hond, hcl, hreach⟩ := dfsRoots_exact hdfs
  have htopo := dfsRoots_isTopo hdfs hac
  have hsort := checkAndSortFiles_ok_of hperm (targetList_nodup hroots) hpathne
  obtain ⟨r, hr⟩ := List.exists_mem_of_ne_nil _ (targetList_ne_nil hroots)
  have hne : order.map (mkImgFile t.ws c roots) ≠ [] := by
    simpa using List.ne_nil_of_mem ((hvo r).mp ((hreach r).mpr ⟨r, hr, Reach.refl r⟩))
  have hgo : newImage.go (order.map (mkImgFile t.ws c roots)) [] [] = .ok () := by
    apply newImage_go_ok_of (commitOf t.ws)
    · rw [map_mk_path]; exact hond
    · simp
    · intro f hf n hn
      obtain ⟨p, _, rfl⟩ := List.mem_map.mp hf
      exact mkImgFile_commitOf hcommit c roots p n hn
    · simp
  refine ⟨order.map (mkImgFile t.ws c roots), ?_⟩
  unfold buildImage
  rw [hroots]
  dsimp only
  rw [hdfs]
  dsimp only
  rw [htopo, hsort]
  dsimp only
  rw [hdfs]
  dsimp only
  unfold newImage
  simp only [hne, ↓reduceIte, hgo]
  simp

/-! ### the converse, and failure -/

/-- the converse of `buildImage_ok_of_roots`; it needs none of the side conditions. -/
theorem buildImage_ok_hyps {t : TWS} {c : Compiler} {perm : List Str → List Str} {img : List ImgFile}
    {roots : List Str} (h : buildImage t c perm = .ok img) (hroots : targetList t = .ok roots) :
    (∀ r ∈ roots, ∀ p, Reach (csucc t.ws c) r p → csucc t.ws c p ≠ none) ∧
    (∀ r ∈ roots, ∀ x, Reach (csucc t.ws c) r x → ∀ cs d, csucc t.ws c x = some cs → d ∈ cs →
      ¬ Reach (csucc t.ws c) d x) := by
  obtain ⟨roots', vis, hroots', hdfs, htopo, _⟩ := buildImage_ok h
  cases hroots.symm.trans hroots'
  exact run_witnesses_hyps hdfs htopo

theorem buildImage_fails_of {t : TWS} {c : Compiler} {perm : List Str → List Str} {roots : List Str}
    (hroots : targetList t = .ok roots)
    (h : ¬ ((∀ r ∈ roots, ∀ p, Reach (csucc t.ws c) r p → csucc t.ws c p ≠ none) ∧
      (∀ r ∈ roots, ∀ x, Reach (csucc t.ws c) r x → ∀ cs d, csucc t.ws c x = some cs → d ∈ cs →
        ¬ Reach (csucc t.ws c) d x))) :
    ∃ e, buildImage t c perm = .error e := by
  cases hb : buildImage t c perm with
  | error e => exact ⟨e, rfl⟩
  | ok img => exact absurd (buildImage_ok_hyps hb hroots) h

/-! ### files of non-target modules -/

theorem image_file_opens {t : TWS} {c : Compiler} {perm : List Str → List Str} {img : List ImgFile}
    (h : buildImage t c perm = .ok img) {f : ImgFile} (hf : f ∈ img) :
    ∃ s, openFile t.ws f.path = .ok s := by
  obtain ⟨roots, vis, _, hdfs, _, _⟩ := buildImage_ok h
  obtain ⟨hvo, _, hcl, _⟩ := dfsRoots_exact hdfs
  obtain ⟨cs, hs, _⟩ := hcl f.path ((hvo _).mpr (List.mem_map_of_mem hf))
  exact (csucc_some hs).2

theorem target_path_of_nontarget_dup {t : TWS} {m m' : Nat} {g g' : PFile}
    (hm : modIsTarget t m = false) (hg : g ∈ modFiles t.ws m)
    (hg' : g' ∈ modFiles t.ws m') (ht : isTargetIn t m' g' = true) (hp : g'.path = g.path) :
    owner t.ws g.path = .dup := by
  have hne : m ≠ m' := by
    intro h; subst h
    rw [modIsTarget_of_isTargetIn ht] at hm; cases hm
  exact owner_dup_of_two hne ⟨g, hg, rfl⟩ ⟨g', hg', hp⟩

theorem nontarget_files_core (t : TWS) (c : Compiler) (perm : List Str → List Str)
    (img : List ImgFile) (hwf : WfCfgs t) (h : buildImage t c perm = .ok img) :
    ∀ f ∈ img,
      (f.isImport = false ↔ ∃ m g, g ∈ modFiles t.ws m ∧ isTargetIn t m g = true ∧ g.path = f.path) ∧
      (∃ m g, g ∈ modFiles t.ws m ∧ isTargetIn t m g = true ∧ Reach (csucc t.ws c) g.path f.path) ∧
      (∀ m, modIsTarget t m = false → (∃ g ∈ modFiles t.ws m, g.path = f.path) → f.isImport = true) := by
  intro f hf
  obtain ⟨s, hopen⟩ := image_file_opens h hf
  obtain ⟨roots, vis, hroots, hdfs, _, himg⟩ := buildImage_ok h
  obtain ⟨hvo, _, _, hre⟩ := dfsRoots_exact hdfs
  have h1 : f.isImport = false ↔ ∃ m g, g ∈ modFiles t.ws m ∧ isTargetIn t m g = true ∧ g.path = f.path := by
    rw [← mem_targetList hwf hroots, himg f hf]; simp [mkImgFile]
  refine ⟨h1, ?_, ?_⟩
  · obtain ⟨r, hr, hreach⟩ := (hre f.path).mp ((hvo _).mpr (List.mem_map_of_mem hf))
    obtain ⟨m, g, hg, ht, rfl⟩ := mem_targetList_sound hroots hr
    exact ⟨m, g, hg, ht, hreach⟩
  · intro m hm ⟨g, hg, hgp⟩
    cases hi : f.isImport with
    | true => rfl
    | false =>
      exfalso
      obtain ⟨m', g', hg', ht', hp'⟩ := h1.mp hi
      have hdup := target_path_of_nontarget_dup hm hg hg' ht' (hp'.trans hgp.symm)
      rw [hgp] at hdup
      unfold openFile at hopen
      rw [hdup] at hopen
      cases hopen

/-! ### ls-files = build -/

/-- the compiler's dependency lists agree AS SETS with the imports the module layer scanned
    (fastscan) for every workspace file, and with the stored `datawkt` imports for every built-in
    well-known type the workspace does not shadow.  (Order and multiplicity may differ: fastscan
    reports sorted unique imports, the compiler source order.) -/
structure ImportsAgree (ws : WS) (c : Compiler) : Prop where
  files : ∀ m f, f ∈ modFiles ws m → ∀ d, d ∈ c.imports f.path ↔ d ∈ f.imports
  wkt : ∀ f ∈ ws.wkt, (∀ m g, g ∈ modFiles ws m → g.path ≠ f.path) → ∀ d, d ∈ c.imports f.path ↔ d ∈ f.imports

theorem mem_infoImports {f : PFile} {d : Str} : d ∈ infoImports f ↔ d ∈ f.imports := by
  unfold infoImports
  rw [mem_sortPaths, mem_dedup]

theorem lsLookup_agrees {ws : WS} {c : Compiler} (ha : ImportsAgree ws c) {x : Str} {a b : List Str}
    (h1 : lsLookup (allFiles ws) ws.wkt x = some a) (h2 : csucc ws c x = some b) :
    ∀ d, d ∈ a ↔ d ∈ b := by
  obtain ⟨hb, _⟩ := csucc_some h2
  subst hb
  unfold lsLookup at h1
  split at h1
  · rename_i y hy
    injection h1 with h1; subst h1
    have hym := mem_allFiles.mp (List.mem_of_find?_eq_some hy)
    have hyp : y.2.path = x := by simpa using List.find?_some hy
    intro d
    rw [mem_infoImports, ← hyp]
    exact (ha.files y.1 y.2 hym d).symm
  · rename_i hnone
    split at h1
    · rename_i f hf
      injection h1 with h1; subst h1
      have hfm := List.mem_of_find?_eq_some hf
      have hfp : f.path = x := by simpa using List.find?_some hf
      have hno : ∀ m g, g ∈ modFiles ws m → g.path ≠ f.path := by
        intro m g hg hgp
        have := List.find?_eq_none.mp hnone (m, g) (mem_allFiles.mpr hg)
        simp [hgp, hfp] at this
      intro d
      rw [← hfp]
      exact (ha.wkt f hfm hno d).symm
    · cases h1

theorem lsFiles_eq_buildImage (t : TWS) (c : Compiler) (perm : List Str → List Str)
    (hwf : WfCfgs t) (ha : ImportsAgree t.ws c)
    (l : List (Str × Bool)) (img : List ImgFile)
    (hl : lsFiles t.ws (isTargetIn t) = .ok l) (hb : buildImage t c perm = .ok img) :
    l.map (·.1) = sortPaths (img.map (·.path)) ∧
    (∀ f ∈ img, (f.path, f.isImport) ∈ l) ∧
    (∀ x ∈ l, ∃ f ∈ img, f.path = x.1 ∧ f.isImport = x.2) := by
  obtain ⟨vis, out, _, _, _, hdfs1, hle⟩ := lsFiles_ok hl
  obtain ⟨roots, vis2, hroots, hdfs2, _, himg⟩ := buildImage_ok hb
  have hrootsEq : ∀ p, p ∈ lsRoots (allFiles t.ws) (isTargetIn t) ↔ p ∈ roots := fun p => by
    rw [mem_lsRoots, mem_targetList hwf hroots]
  have hset := dfs_sets_agree _ _ _ _ _ _ _ _ _ _ hrootsEq
    (fun x a b h1 h2 => lsLookup_agrees ha h1 h2) hdfs1 hdfs2
  obtain ⟨hvo, hond, _, _⟩ := dfsRoots_exact hdfs2
  have hsorted : sortPaths vis = sortPaths (img.map (·.path)) :=
    sortPaths_eq_of_mem_iff (dfsRoots_vis_nodup hdfs1) hond (fun x => by rw [hset x, hvo x])
  have hflag : ∀ p, (!decide (p ∈ lsRoots (allFiles t.ws) (isTargetIn t))) = (mkImgFile t.ws c roots p).isImport :=
    fun p => congrArg (!·) (decide_eq_decide.mpr (hrootsEq p))
  subst hle
  rw [hsorted]
  refine ⟨by simp [Function.comp_def], fun f hf => ?_, fun x hx => ?_⟩
  · refine List.mem_map.mpr ⟨f.path, mem_sortPaths.mpr (List.mem_map_of_mem hf), ?_⟩
    rw [hflag, ← himg f hf]
  · obtain ⟨p, hp, rfl⟩ := List.mem_map.mp hx
    obtain ⟨f, hf, rfl⟩ := List.mem_map.mp (mem_sortPaths.mp hp)
    exact ⟨f, hf, rfl, by rw [hflag, ← himg f hf]⟩

/-! ### decidable sufficient checks (to instantiate the hypotheses on concrete workspaces) -/

theorem modFiles_forall {ws : WS} {P : List PFile → Prop} (h0 : P [])
    (h : ∀ a ∈ ws.mods, P a.files) : ∀ m, P (modFiles ws m) := by
  intro m
  unfold modFiles
  cases hm : ws.mods[m]? with
  | none => exact h0
  | some a => exact h a (List.mem_of_getElem? hm)

theorem wfCfgs_of_all {t : TWS} (h : ∀ c ∈ t.cfgs, WfCfg c) : WfCfgs t := by
  intro m
  unfold cfgOf
  cases hm : t.cfgs[m]? with
  | none => intro hh; exact absurd rfl hh
  | some c => exact h c (List.mem_of_getElem? hm)

def oneCommitB (ws : WS) : Bool :=
  ws.mods.all (fun a => ws.mods.all (fun b => decide (a.name = b.name → a.name ≠ none → a.commit = b.commit)))

theorem oneCommit_of_check {ws : WS} (h : oneCommitB ws = true) : OneCommitPerName ws := by
  intro m m' a b hm hm' hn hnn
  unfold oneCommitB at h
  have := List.all_eq_true.mp (List.all_eq_true.mp h a (List.mem_of_getElem? hm)) b (List.mem_of_getElem? hm')
  exact (of_decide_eq_true this) hn hnn

def sameSetB (a b : List Str) : Bool := a.all (fun x => decide (x ∈ b)) && b.all (fun x => decide (x ∈ a))

theorem sameSetB_iff {a b : List Str} (h : sameSetB a b = true) : ∀ d, d ∈ a ↔ d ∈ b := by
  unfold sameSetB at h
  simp only [Bool.and_eq_true, List.all_eq_true, decide_eq_true_eq] at h
  exact fun d => ⟨h.1 d, h.2 d⟩

def importsAgreeB (ws : WS) (c : Compiler) : Bool :=
  ws.mods.all (fun a => a.files.all (fun f => sameSetB (c.imports f.path) f.imports)) &&
  ws.wkt.all (fun f => ws.mods.any (fun a => a.files.any (fun g => g.path == f.path)) ||
    sameSetB (c.imports f.path) f.imports)

theorem importsAgree_of_check {ws : WS} {c : Compiler} (h : importsAgreeB ws c = true) : ImportsAgree ws c := by
  unfold importsAgreeB at h
  simp only [Bool.and_eq_true, List.all_eq_true] at h
  refine ⟨?_, ?_⟩
  · intro m f hf
    obtain ⟨a, ha, hfa⟩ := mem_modFiles.mp hf
    exact sameSetB_iff (h.1 a (List.mem_of_getElem? ha) f hfa)
  · intro f hf hno
    rcases Bool.or_eq_true_iff.mp (h.2 f hf) with h1 | h1
    · exfalso
      obtain ⟨a, ha, h2⟩ := List.any_eq_true.mp h1
      obtain ⟨g, hg, h3⟩ := List.any_eq_true.mp h2
      obtain ⟨i, hi, hget⟩ := List.getElem_of_mem ha
      exact hno i g (mem_modFiles.mpr ⟨a, by rw [List.getElem?_eq_getElem hi, hget], hg⟩) (by simpa using h3)
    · exact sameSetB_iff h1

end BufModel.Targeting
