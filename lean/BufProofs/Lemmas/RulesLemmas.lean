import BufModel.Rules
import BufProofs.Lemmas.SortLemmas
import BufProofs.Lemmas.PathLemmas
/-
  C06, rule selection and suppression, read off the code of BufModel.Rules: every loop and cascade of the
  model as a closed form or an inversion of its successful runs; the clauses of `ignoreFileLocation` as
  propositions (`Suppressed`, `Kept`); what a rule-or-category id stands for (`denote`); the orderings
  `MoreSuppression` / `MoreComments` along which `Suppressed` is monotone.
-/
namespace BufModel.Rules
open BufModel.Path BufGen.RuleTables

/-- A fact about all three config versions from one closed statement: a single evaluation shares
    the kernel's work on the ids the three tables have in common. -/
theorem forall_version {P : Version → Prop} (h : P .v1beta1 ∧ P .v1 ∧ P .v2) : ∀ v, P v := by
  intro v
  cases v
  · exact h.1
  · exact h.2.1
  · exact h.2.2

theorem tables_nonempty (v : Version) (lint : Bool) : rulesForType (rulesOf v) lint ≠ [] := by
  cases v <;> cases lint <;> decide

/-! ### sorted-unique / sorted insertion only permute or dedupe: membership is preserved -/

theorem mem_insertU {α} [DecidableEq α] (lt : α → α → Bool) (a x : α) (l : List α) :
    a ∈ insertU lt x l ↔ a = x ∨ a ∈ l := by
  induction l with
  | nil => simp [insertU]
  | cons y ys ih =>
    unfold insertU
    split
    · rename_i h; subst h; simp
    · split
      · exact List.mem_cons
      · simp only [List.mem_cons, ih, or_left_comm]

theorem mem_uniqueSorted {α} [DecidableEq α] (lt : α → α → Bool) (a : α) (l : List α) :
    a ∈ uniqueSorted lt l ↔ a ∈ l := by
  induction l with
  | nil => simp [uniqueSorted]
  | cons y ys ih =>
    have : uniqueSorted lt (y :: ys) = insertU lt y (uniqueSorted lt ys) := rfl
    rw [this, mem_insertU, ih]; simp

theorem sortS_eq {α} (lt : α → α → Bool) : ∀ l, sortS lt l = isortBy lt l :=
  eq_isortBy _ (eq_insBy (ins := insertS lt) _ (fun _ => rfl) (fun _ _ _ => rfl)) rfl (fun _ _ => rfl)

theorem mem_sortS {α} (lt : α → α → Bool) (a : α) (l : List α) :
    a ∈ sortS lt l ↔ a ∈ l := by
  rw [sortS_eq, mem_isortBy]

theorem uniqueSorted_eq_nil {α} [DecidableEq α] (lt : α → α → Bool) (l : List α) :
    uniqueSorted lt l = [] ↔ l = [] := by
  constructor
  · intro h
    cases l with
    | nil => rfl
    | cons y ys =>
      have : y ∈ uniqueSorted lt (y :: ys) := (mem_uniqueSorted lt y _).2 (by simp)
      rw [h] at this; cases this
  · intro h; subst h; rfl

theorem mem_uniqueSortedNoBlank (x : Id) (l : List Id) :
    x ∈ uniqueSortedNoBlank l ↔ x ∈ l ∧ blankId x = false := by
  unfold uniqueSortedNoBlank usIds
  rw [mem_uniqueSorted]; simp

theorem uniqueSortedNoBlank_eq_nil (l : List Id) :
    uniqueSortedNoBlank l = [] ↔ ∀ u ∈ l, blankId u = true := by
  rw [List.eq_nil_iff_forall_not_mem]
  simp only [mem_uniqueSortedNoBlank, not_and, Bool.not_eq_false]

/-! ### the rule table: rows, ids, replacements -/

theorem isRuleId_iff (rs : List RuleRow) (x : Id) : isRuleId rs x = true ↔ ∃ r ∈ rs, r.id = x := by
  unfold isRuleId; simp

theorem mem_rulesForType (all : List RuleRow) (lint : Bool) (r : RuleRow) :
    r ∈ rulesForType all lint ↔ r ∈ all ∧ r.isLint = lint := by
  unfold rulesForType; simp

theorem eq_of_id_eq {rs : List RuleRow} (h : (rs.map (·.id)).Nodup) :
    ∀ a ∈ rs, ∀ b ∈ rs, a.id = b.id → a = b := by
  induction rs with
  | nil => intro a ha; cases ha
  | cons r rest ih =>
    rw [List.map_cons, List.nodup_cons] at h
    intro a ha b hb hab
    rcases List.mem_cons.1 ha with rfl | ha'
    · rcases List.mem_cons.1 hb with rfl | hb'
      · rfl
      · exact absurd (hab ▸ List.mem_map.2 ⟨b, hb', rfl⟩) h.1
    · rcases List.mem_cons.1 hb with rfl | hb'
      · exact absurd (hab ▸ List.mem_map.2 ⟨a, ha', rfl⟩) h.1
      · exact ih h.2 a ha' b hb' hab

theorem find?_id {rs : List RuleRow} (hnd : (rs.map (·.id)).Nodup) {r : RuleRow} (hr : r ∈ rs) :
    rs.find? (fun q => q.id = r.id) = some r := by
  cases hf : rs.find? (fun q => q.id = r.id) with
  | none => exact absurd (List.find?_eq_none.1 hf r hr) (by simp)
  | some d =>
    rw [eq_of_id_eq hnd d (List.mem_of_find?_eq_some hf) r hr (by simpa using List.find?_some hf)]

theorem replacementsOf_row {rs : List RuleRow} (hnd : (rs.map (·.id)).Nodup) {r : RuleRow} (hr : r ∈ rs) :
    replacementsOf rs r.id = if r.deprecated then some r.replacements else none := by
  unfold replacementsOf
  rw [find?_id hnd hr]

theorem replacementsOf_some (rs : List RuleRow) (id : Id) (repl : List Id) (h : replacementsOf rs id = some repl) :
    ∃ d ∈ rs, d.id = id ∧ d.deprecated = true ∧ d.replacements = repl := by
  unfold replacementsOf at h
  cases hf : rs.find? (fun r => r.id = id) with
  | none => simp [hf] at h
  | some d =>
    simp only [hf] at h
    have hm := List.mem_of_find?_eq_some hf
    have hid : d.id = id := by simpa using List.find?_some hf
    by_cases hd : d.deprecated = true
    · simp [hd] at h; exact ⟨d, hm, hid, hd, h⟩
    · simp [hd] at h

theorem not_deprecated_of_replacementsOf_none {rs : List RuleRow} (hnd : (rs.map (·.id)).Nodup) {r : RuleRow}
    (hr : r ∈ rs) (hn : replacementsOf rs r.id = none) : r.deprecated = false := by
  rw [replacementsOf_row hnd hr] at hn
  cases hd : r.deprecated
  · rfl
  · rw [hd] at hn; cases hn

theorem blank_empty : blankId "" = true := by decide

theorem nonblank_ne_empty {x : Id} (h : blankId x = false) : x ≠ "" := by
  intro hx; subst hx; rw [blank_empty] at h; cases h

/-! ### expansion -/

theorem expandAll_eq (rs : List RuleRow) : ∀ ids : List Id, expandAll rs ids =
    if ∀ id ∈ ids, expandOne rs id ≠ none then .ok (ids.flatMap fun id => (expandOne rs id).getD [])
    else .error .unknownId
  | [] => by simp [expandAll]
  | id :: rest => by
    rw [expandAll, expandAll_eq rs rest]
    simp only [List.forall_mem_cons, List.flatMap_cons]
    cases h : expandOne rs id with
    | none => simp
    | some e =>
      by_cases hr : ∀ id ∈ rest, expandOne rs id ≠ none
      · rw [if_pos hr, if_pos ⟨nofun, hr⟩]; rfl
      · rw [if_neg hr, if_neg (hr ·.2)]

theorem exists_ite_ok {ε α} {c : Prop} [Decidable c] {a : α} {e : ε} :
    (∃ l, (if c then Except.ok a else Except.error e) = Except.ok l) ↔ c := by
  split <;> simp [*]

theorem expandAll_isOk (rs : List RuleRow) (ids : List Id)
    (h : ∀ id ∈ ids, expandOne rs id ≠ none) : ∃ l, expandAll rs ids = .ok l :=
  ⟨_, by rw [expandAll_eq, if_pos h]⟩

theorem expandIgnoreOnly_eq (rs : List RuleRow) : ∀ m : List (Id × List Str), expandIgnoreOnly rs m =
    if ∀ e ∈ m, expandOne rs e.1 ≠ none then
      .ok (m.flatMap fun e => ((expandOne rs e.1).getD []).flatMap fun id => e.2.map fun p => (id, p))
    else .error .unknownId
  | [] => by simp [expandIgnoreOnly]
  | (k, ps) :: rest => by
    rw [expandIgnoreOnly, expandIgnoreOnly_eq rs rest]
    simp only [List.forall_mem_cons, List.flatMap_cons]
    cases h : expandOne rs k with
    | none => simp
    | some e =>
      by_cases hr : ∀ e ∈ rest, expandOne rs e.1 ≠ none
      · rw [if_pos hr, if_pos ⟨nofun, hr⟩]; rfl
      · rw [if_neg hr, if_neg (hr ·.2)]

theorem transformIds_eq (rs : List RuleRow) (ids : List Id) : transformIds rs ids =
    if ∀ id ∈ ids, expandOne rs id ≠ none then .ok (usIds (ids.flatMap fun id => (expandOne rs id).getD []))
    else .error .unknownId := by
  unfold transformIds
  rw [expandAll_eq]
  by_cases h : ∀ id ∈ ids, expandOne rs id ≠ none
  · rw [if_pos h, if_pos h]
  · rw [if_neg h, if_neg h]

theorem mem_undeprecate (rs : List RuleRow) (ids : List Id) (x : Id) :
    x ∈ undeprecate rs ids ↔ ∃ id ∈ ids, x ∈ undeprecateOne rs id := by
  unfold undeprecate usIds
  rw [mem_uniqueSorted]; simp [List.mem_flatMap]

/-! ### path matching -/

theorem mapHas_iff (m : List Str) (path : Str) :
    mapHasEqualOrContainingPath m path = true ↔ ∃ v ∈ m, equalsOrContainsPath v path = true :=
  BufModel.Path.mapHas_iff_of (mem := fun c => m.contains c = true) (loop := mapHasLoop m) (fun _ => List.contains_iff_mem)
    (fun _ => rfl) (fun _ _ => rfl) rfl

/-- Everything an accepted `newRulesConfig` computed on the way. -/
theorem newRulesConfig_full (all : List RuleRow) (lint : Bool) (c : CheckConfig) (rc : RulesConfig)
    (hrs : rulesForType all lint ≠ []) (h : newRulesConfig all lint c = .ok rc) :
    ∃ useIds excIds io ig io',
      transformIds (rulesForType all lint) (effectiveUse (rulesForType all lint) c.use) = .ok useIds ∧
      transformIds (rulesForType all lint) (uniqueSortedNoBlank c.except) = .ok excIds ∧
      expandIgnoreOnly (rulesForType all lint) c.ignoreOnly = .ok io ∧
      normalizeIgnorePaths c.ignore = .ok ig ∧
      normalizeIgnoreOnly (undeprecateIgnoreOnly (rulesForType all lint) io) = .ok io' ∧
      rc = { ruleIDs := (undeprecate (rulesForType all lint) useIds).filter
               (fun id => !((undeprecate (rulesForType all lint) excIds).contains id)),
             ignoreRootPaths := usStrs ig, ignoreOnly := io' } := by
  unfold newRulesConfig newRulesConfigCore at h
  simp only [hrs, if_false] at h
  split at h
  · cases h
  · split at h
    · rename_i useIds excIds io h1 h2 h3
      split at h
      · cases h
      · split at h
        · simp at *
        · split at h
          · rename_i ig io' h4 h5
            simp only [Except.ok.injEq] at h
            subst h
            exact ⟨useIds, excIds, io, ig, io', h1, h2, h3, h4, h5, rfl⟩
          · cases h
    · cases h

theorem newRulesConfigOld_of_ok (all : List RuleRow) (lint : Bool) (c : CheckConfig) (rc : RulesConfig)
    (hrs : rulesForType all lint ≠ []) (h : newRulesConfig all lint c = .ok rc) :
    newRulesConfigOld all lint c = if rc.ruleIDs = [] then .error .emptyResult else .ok rc := by
  unfold newRulesConfig newRulesConfigCore at h
  unfold newRulesConfigOld newRulesConfigCore
  simp only [hrs, if_false, Bool.false_and, Bool.false_eq_true, Bool.true_and, decide_eq_true_eq] at h ⊢
  split at h
  · cases h
  · rename_i hne
    rw [if_neg hne]
    split at h
    · split at h
      · cases h
      · rename_i hid
        rw [if_neg hid]
        split at h
        · cases h
          rfl
        · cases h
    · cases h

theorem mem_configuredRuleIds (all : List RuleRow) (ruleIDs : List Id) (x : Id) :
    x ∈ configuredRuleIds all ruleIDs ↔ x ∈ ruleIDs ∧ ∃ r ∈ all, r.id = x := by
  unfold configuredRuleIds
  simp only [List.mem_map, List.mem_filter, List.contains_iff_mem]
  constructor
  · rintro ⟨r, ⟨hr, hc⟩, rfl⟩; exact ⟨hc, r, hr, rfl⟩
  · rintro ⟨hx, r, hr, rfl⟩; exact ⟨r, ⟨hr, hx⟩, rfl⟩

theorem newRulesConfig_empty_table {all : List RuleRow} {lint : Bool} (hrs : rulesForType all lint = [])
    (c : CheckConfig) :
    newRulesConfig all lint c = .ok { ruleIDs := [], ignoreRootPaths := [], ignoreOnly := [] } := by
  unfold newRulesConfig newRulesConfigCore
  rw [if_pos hrs]

theorem configuredRules_disabled (all : List RuleRow) (lint : Bool) (c : CheckConfig)
    (hdb : c.disableBuiltin = true) : configuredRules all lint false c = .ok [] := by
  unfold configuredRules resolve
  simp [hdb, newRulesConfig_empty_table (all := []) rfl, configuredRuleIds]

/-! ### the suppression clauses of `ignoreFileLocation` as propositions -/

def ImportClause (cfg : Config) (f : FileInfo) : Prop :=
  cfg.excludeImports = true ∧ f.isImport = true
def IgnorePathClause (cfg : Config) (f : FileInfo) : Prop :=
  ∃ p ∈ cfg.rules.ignoreRootPaths, equalsOrContainsPath p f.path = true
def IgnoreOnlyClause (cfg : Config) (r : Id) (f : FileInfo) : Prop :=
  ∃ p, (r, p) ∈ cfg.rules.ignoreOnly ∧ equalsOrContainsPath p f.path = true
def UnstableClause (cfg : Config) (f : FileInfo) : Prop :=
  cfg.ignoreUnstablePackages = true ∧ f.unstable = true
/-- comment ignores are allowed and the element at `sp` or one of its enclosing declarations
    (its associated source paths) carries a leading-comment line `<prefix> <rule id>…`. -/
def CommentClause (cfg : Config) (r : Id) (f : FileInfo) (sp : SPath) : Prop :=
  cfg.allowCommentIgnores = true ∧ cfg.commentIgnorePrefix ≠ [] ∧ sp ≠ [] ∧
  ∃ ps, associatedSourcePaths sp = .ok ps ∧
    ∃ p ∈ ps, commentIgnoresAt f cfg.commentIgnorePrefix r p = true

def Suppressed (cfg : Config) (r : Id) (f : FileInfo) (sp : SPath) : Prop :=
  ImportClause cfg f ∨ IgnorePathClause cfg f ∨ IgnoreOnlyClause cfg r f ∨ UnstableClause cfg f ∨
    CommentClause cfg r f sp

theorem mem_ignoreOnlyPathsFor (rc : RulesConfig) (r : Id) (p : Str) :
    p ∈ ignoreOnlyPathsFor rc r ↔ (r, p) ∈ rc.ignoreOnly := by
  unfold ignoreOnlyPathsFor
  simp only [List.mem_map, List.mem_filter, decide_eq_true_eq]
  constructor
  · rintro ⟨⟨a, q⟩, ⟨hm, ha⟩, hq⟩
    simp only at ha hq; subst ha; subst hq; exact hm
  · intro h; exact ⟨(r, p), ⟨h, rfl⟩, rfl⟩

/-- One level of the `if`-cascade of `ignoreFileLocation`. -/
theorem ite_ok_true_iff {c : Prop} [Decidable c] {e : Except RErr Bool} {b : Bool} {P Q : Prop}
    (hc : P ↔ c) (he : e = .ok b → (b = true ↔ Q)) (h : (if c then .ok true else e) = .ok b) :
    b = true ↔ P ∨ Q := by
  split at h
  · cases h
    exact ⟨fun _ => Or.inl (hc.2 ‹c›), fun _ => rfl⟩
  · rw [he h]
    exact ⟨Or.inr, fun hpq => hpq.resolve_left (fun hp => ‹¬ c› (hc.1 hp))⟩

theorem ignoreFileLocation_ok (cfg : Config) (r : Id) (f : FileInfo) (sp : SPath) (b : Bool)
    (h : ignoreFileLocation cfg r f sp = .ok b) : b = true ↔ Suppressed cfg r f sp := by
  have e1 : ImportClause cfg f ↔ (cfg.excludeImports && f.isImport) = true := by
    simp only [ImportClause, Bool.and_eq_true]
  have e2 : IgnorePathClause cfg f ↔ mapHasEqualOrContainingPath cfg.rules.ignoreRootPaths f.path = true :=
    (mapHas_iff _ _).symm
  have e3 : IgnoreOnlyClause cfg r f ↔
      mapHasEqualOrContainingPath (ignoreOnlyPathsFor cfg.rules r) f.path = true := by
    rw [mapHas_iff]
    simp only [IgnoreOnlyClause, mem_ignoreOnlyPathsFor]
  have e4 : UnstableClause cfg f ↔ (cfg.ignoreUnstablePackages && f.unstable) = true := by
    simp only [UnstableClause, Bool.and_eq_true]
  refine ite_ok_true_iff e1 (ite_ok_true_iff e2 (ite_ok_true_iff e3 (ite_ok_true_iff e4 fun h => ?_))) h
  unfold CommentClause
  split at h
  · rename_i c5
    simp only [Bool.and_eq_true, decide_eq_true_eq] at c5
    split at h
    · rename_i c6
      cases h
      exact ⟨fun hb => Bool.noConfusion hb, fun hc => absurd c6 hc.2.2.1⟩
    · rename_i c6
      split at h
      · cases h
      · rename_i ps hps
        cases h
        simp only [c5.1, c5.2, c6, hps, ne_eq, not_false_eq_true, true_and, Except.ok.injEq, exists_eq_left',
          List.any_eq_true]
  · rename_i c5
    cases h
    refine ⟨fun hb => Bool.noConfusion hb, fun hc => absurd ?_ c5⟩
    simp only [hc.1, hc.2.1, Bool.and_eq_true, decide_eq_true_eq, ne_eq, not_false_eq_true, and_self]


def LocSuppressed (cfg : Config) (fs : List FileInfo) (r : Id) (l : Option Loc) : Prop :=
  ∃ x, l = some x ∧ Suppressed cfg r (fileAt fs x.file) x.sourcePath

def AnnotSuppressed (cfg : Config) (img : Image) (a : Annot) : Prop :=
  LocSuppressed cfg img.files a.ruleId a.loc ∨ LocSuppressed cfg img.againstFiles a.ruleId a.against

theorem locIgnored_ok (cfg : Config) (fs : List FileInfo) (r : Id) (l : Option Loc) (b : Bool)
    (h : (match l with
      | some x => ignoreFileLocation cfg r (fileAt fs x.file) x.sourcePath
      | none => .ok false) = .ok b) : b = true ↔ LocSuppressed cfg fs r l := by
  unfold LocSuppressed
  cases l with
  | none => cases h; simp
  | some x => rw [ignoreFileLocation_ok _ _ _ _ _ h]; simp

theorem ignoreAnnotation_ok (cfg : Config) (img : Image) (a : Annot) (b : Bool)
    (h : ignoreAnnotation cfg img a = .ok b) : b = true ↔ AnnotSuppressed cfg img a := by
  unfold ignoreAnnotation at h
  unfold AnnotSuppressed
  cases hL : a.loc with
  | none =>
    rw [hL] at h
    rw [locIgnored_ok _ _ _ _ _ h]
    exact ⟨Or.inr, fun hh => hh.resolve_left (fun ⟨_, hx, _⟩ => nomatch hx)⟩
  | some l =>
    simp only [hL] at h
    split at h
    · cases h
    · rename_i h1
      cases h
      exact ⟨fun _ => Or.inl ⟨l, rfl, (ignoreFileLocation_ok _ _ _ _ _ h1).1 rfl⟩, fun _ => rfl⟩
    · rename_i h1
      rw [locIgnored_ok _ _ _ _ _ h]
      refine ⟨Or.inr, fun hh => hh.resolve_left ?_⟩
      rintro ⟨x, hx, hs⟩
      cases hx
      cases (ignoreFileLocation_ok _ _ _ _ _ h1).2 hs

theorem filterAnnotations_ok (cfg : Config) (img : Image) : ∀ (l r : List Annot),
    filterAnnotations cfg img l = .ok r →
    (∀ a ∈ l, ∃ b, ignoreAnnotation cfg img a = .ok b) ∧
    (∀ a, a ∈ r ↔ a ∈ l ∧ ignoreAnnotation cfg img a = .ok false)
  | [], r, h => by
    cases h; simp
  | a :: rest, r, h => by
    rw [filterAnnotations] at h
    split at h
    · cases h
    · rename_i ig h1
      split at h
      · cases h
      · rename_i r' h2
        cases h
        have ih := filterAnnotations_ok cfg img rest r' h2
        refine ⟨fun x hx => ?_, fun x => ?_⟩
        · rcases List.mem_cons.1 hx with rfl | hx
          · exact ⟨ig, h1⟩
          · exact ih.1 x hx
        · cases ig <;>
            simp only [Bool.false_eq_true, if_false, if_true, List.mem_cons, ih.2, or_and_right]
          · exact or_congr_left ⟨fun e => ⟨e, e ▸ h1⟩, And.left⟩
          · exact ⟨Or.inr, fun hh => hh.elim (fun ⟨e, hi⟩ => by rw [e, h1] at hi; cases hi) id⟩

theorem dedupByKey_sub (fa : FileAnnot) : ∀ (l : List FileAnnot) (seen : List Str),
    fa ∈ dedupByKey l seen → fa ∈ l := by
  intro l
  induction l with
  | nil => intro _ h; exact h
  | cons x rest ih =>
    intro seen h
    unfold dedupByKey at h
    split at h
    · exact List.mem_cons_of_mem _ (ih _ h)
    · exact (List.mem_cons.1 h).elim (fun e => e ▸ List.mem_cons_self) (fun h => List.mem_cons_of_mem _ (ih _ h))

theorem dedupByKey_complete (fa : FileAnnot) : ∀ (l : List FileAnnot) (seen : List Str),
    fa ∈ l → dedupKey fa ∉ seen → ∃ fb ∈ dedupByKey l seen, dedupKey fb = dedupKey fa := by
  intro l
  induction l with
  | nil => intro _ h; cases h
  | cons x rest ih =>
    intro seen h hs
    unfold dedupByKey
    by_cases c : seen.contains (dedupKey x) = true
    · rw [if_pos c]
      rcases List.mem_cons.1 h with rfl | h
      · exact absurd (List.contains_iff_mem.1 c) hs
      · exact ih seen h hs
    · rw [if_neg c]
      rcases List.mem_cons.1 h with rfl | h
      · exact ⟨fa, List.mem_cons_self, rfl⟩
      · by_cases e : dedupKey fa = dedupKey x
        · exact ⟨x, List.mem_cons_self, e.symm⟩
        · have hs' : dedupKey fa ∉ dedupKey x :: seen := fun hm => (List.mem_cons.1 hm).elim e hs
          rcases ih _ h hs' with ⟨fb, hfb, hk⟩
          exact ⟨fb, List.mem_cons_of_mem _ hfb, hk⟩

theorem fileAnnotationSet_spec (l : List FileAnnot) :
    (∀ fa ∈ fileAnnotationSet l, fa ∈ l) ∧
    (∀ fa ∈ l, ∃ fb ∈ fileAnnotationSet l, dedupKey fb = dedupKey fa) := by
  unfold fileAnnotationSet
  constructor
  · intro fa h
    exact dedupByKey_sub fa l [] ((mem_sortS _ _ _).1 h)
  · intro fa h
    rcases dedupByKey_complete fa l [] h (by simp) with ⟨fb, hfb, hk⟩
    exact ⟨fb, (mem_sortS _ _ _).2 hfb, hk⟩

theorem mem_candidates (ruleIDs : List Id) (img : Image) (a : Annot) :
    a ∈ candidates ruleIDs img ↔ a ∈ img.annots ∧ a.ruleId ∈ ruleIDs := by
  unfold candidates
  rw [mem_sortS]; simp

/-- What `report` keeps: the annotations of selected rules that are not suppressed. -/
def Kept (cfg : Config) (img : Image) (a : Annot) : Prop :=
  a ∈ img.annots ∧ a.ruleId ∈ cfg.rules.ruleIDs ∧ ¬ AnnotSuppressed cfg img a

theorem mem_filterAnnotations_candidates {cfg : Config} {img : Image} {kept : List Annot}
    (h : filterAnnotations cfg img (candidates cfg.rules.ruleIDs img) = .ok kept) (a : Annot) :
    a ∈ kept ↔ Kept cfg img a := by
  have hk := filterAnnotations_ok cfg img _ kept h
  rw [hk.2 a, mem_candidates, Kept, and_assoc]
  refine and_congr_right fun h1 => and_congr_right fun h2 => ?_
  rcases hk.1 a ((mem_candidates _ _ _).2 ⟨h1, h2⟩) with ⟨b, hb⟩
  rw [hb, ← ignoreAnnotation_ok cfg img a b hb]
  cases b <;> simp


/-! ### what an id denotes, and selection -/

/-- The set of (non-deprecated) rule ids a rule-or-category id stands for: the rule itself or
    the rules of the category, each replaced by its replacements when deprecated.  Unknown and
    empty ids denote nothing. -/
def denote (rs : List RuleRow) (id : Id) : List Id :=
  ((expandOne rs id).getD []).flatMap (undeprecateOne rs)

def Unknown (rs : List RuleRow) (id : Id) : Prop :=
  id ≠ "" ∧ isRuleId rs id = false ∧ rulesInCategory rs id = []

instance (rs : List RuleRow) (id : Id) : Decidable (Unknown rs id) := by
  unfold Unknown; infer_instance

theorem expandOne_eq (rs : List RuleRow) (id : Id) : expandOne rs id =
    if id = "" then some [] else if isRuleId rs id then some [id]
    else if rulesInCategory rs id = [] then none else some (rulesInCategory rs id) := by
  unfold expandOne
  cases rulesInCategory rs id <;> rfl

theorem expandOne_none_iff (rs : List RuleRow) (id : Id) : expandOne rs id = none ↔ Unknown rs id := by
  rw [expandOne_eq, Unknown]
  split
  · simp [*]
  · split
    · simp [*]
    · split <;> simp [*]

theorem mem_denote (rs : List RuleRow) (u x : Id) :
    x ∈ denote rs u ↔ ∃ e, expandOne rs u = some e ∧ ∃ id ∈ e, x ∈ undeprecateOne rs id := by
  unfold denote
  cases h : expandOne rs u with
  | none => simp
  | some e => simp [List.mem_flatMap]

theorem denote_ruleId (rs : List RuleRow) {k : Id} (h0 : k ≠ "") (hk : isRuleId rs k = true) :
    denote rs k = undeprecateOne rs k := by
  rw [denote, expandOne_eq, if_neg h0, if_pos hk]
  simp

theorem denote_self (rs : List RuleRow) (x : Id) (h0 : x ≠ "") (h1 : isRuleId rs x = true)
    (h2 : replacementsOf rs x = none) : denote rs x = [x] := by
  rw [denote_ruleId rs h0 h1, undeprecateOne, h2]

theorem denote_rule (rs : List RuleRow) (hnb : ∀ r ∈ rs, blankId r.id = false) (x : Id)
    (h1 : isRuleId rs x = true) (h2 : replacementsOf rs x = none) :
    blankId x = false ∧ denote rs x = [x] := by
  rcases (isRuleId_iff _ _).1 h1 with ⟨r, hr, rfl⟩
  have hb := hnb r hr
  exact ⟨hb, denote_self rs r.id (nonblank_ne_empty hb) h1 h2⟩

theorem expandOne_mem_isRule (rs : List RuleRow) (u : Id) (e : List Id) (h : expandOne rs u = some e) :
    ∀ id ∈ e, isRuleId rs id = true := by
  rw [expandOne_eq] at h
  split at h
  · cases h; nofun
  · split at h
    · cases h; simpa
    · split at h
      · cases h
      · cases h
        intro id hid
        rcases List.mem_map.1 hid with ⟨r, hr, rfl⟩
        exact (isRuleId_iff _ _).2 ⟨r, (List.mem_filter.1 hr).1, rfl⟩

theorem denote_category (rs : List RuleRow) (c : Id) (h0 : c ≠ "") (hr : isRuleId rs c = false) :
    denote rs c = (rulesInCategory rs c).flatMap (undeprecateOne rs) := by
  rw [denote, expandOne_eq, if_neg h0, hr]
  cases rulesInCategory rs c <;> rfl

theorem denote_category_mono (rs : List RuleRow) (a b : Id) (ha : a ≠ "") (hb : b ≠ "")
    (hra : isRuleId rs a = false) (hrb : isRuleId rs b = false)
    (h : ∀ x ∈ rulesInCategory rs a, x ∈ rulesInCategory rs b) : ∀ x ∈ denote rs a, x ∈ denote rs b := by
  intro x hx
  rw [denote_category rs a ha hra, List.mem_flatMap] at hx
  rw [denote_category rs b hb hrb, List.mem_flatMap]
  rcases hx with ⟨id, hid, hx⟩
  exact ⟨id, h id hid, hx⟩

theorem mem_undeprecate_transform (rs : List RuleRow) (ids l : List Id)
    (h : transformIds rs ids = .ok l) (x : Id) :
    x ∈ undeprecate rs l ↔ ∃ u ∈ ids, x ∈ denote rs u := by
  rw [transformIds_eq] at h
  split at h
  · cases h
    simp only [mem_undeprecate, usIds, mem_uniqueSorted, denote, List.mem_flatMap]
    exact ⟨fun ⟨id, ⟨u, hu, hid⟩, hx⟩ => ⟨u, hu, id, hid, hx⟩, fun ⟨u, hu, id, hid, hx⟩ => ⟨id, ⟨u, hu, hid⟩, hx⟩⟩
  · cases h

theorem newRulesConfig_unknown (all : List RuleRow) (lint : Bool) (c : CheckConfig)
    (hrs : rulesForType all lint ≠ [])
    (h : (∃ id ∈ effectiveUse (rulesForType all lint) c.use, expandOne (rulesForType all lint) id = none) ∨
         (∃ id ∈ uniqueSortedNoBlank c.except, expandOne (rulesForType all lint) id = none) ∨
         (∃ e ∈ c.ignoreOnly, expandOne (rulesForType all lint) e.1 = none)) :
    ∃ e, newRulesConfig all lint c = .error e := by
  cases hr : newRulesConfig all lint c with
  | error e => exact ⟨e, rfl⟩
  | ok rc =>
    exfalso
    rcases newRulesConfig_full all lint c rc hrs hr with ⟨_, _, _, _, _, h1, h2, h3, _⟩
    rcases h with ⟨id, hid, hn⟩ | ⟨id, hid, hn⟩ | ⟨e, he, hn⟩
    · rw [transformIds_eq, if_neg (· id hid hn)] at h1; cases h1
    · rw [transformIds_eq, if_neg (· id hid hn)] at h2; cases h2
    · rw [expandIgnoreOnly_eq, if_neg (· e he hn)] at h3; cases h3


/-! ### buf.yaml sections -/

/-- v2: a module uses its own section when that has a key (its paths must then lie inside the module), otherwise
    the workspace-level one (paths outside the module are skipped). -/
theorem moduleEff_v2 (lint : Bool) (dir : Str) (ws mod : YSection) :
    moduleEff lint true dir ws mod =
      if mod.isEmpty then sectionToEff lint true dir false ws else sectionToEff lint true dir true mod := by
  unfold moduleEff pickSection
  cases mod.isEmpty <;> rfl

/-! ### orderings "more suppression" used by the monotonicity / scoping theorems -/

/-- `cfg'` suppresses at least what `cfg` suppresses: fewer (or the same) selected rules (more
    `except`), more `ignore` paths, more `ignore_only` entries, options switched on. -/
structure MoreSuppression (cfg cfg' : Config) : Prop where
  rules : ∀ r ∈ cfg'.rules.ruleIDs, r ∈ cfg.rules.ruleIDs
  ignore : ∀ p ∈ cfg.rules.ignoreRootPaths, p ∈ cfg'.rules.ignoreRootPaths
  ignoreOnly : ∀ e ∈ cfg.rules.ignoreOnly, e ∈ cfg'.rules.ignoreOnly
  imports : cfg.excludeImports = true → cfg'.excludeImports = true
  unstable : cfg.ignoreUnstablePackages = true → cfg'.ignoreUnstablePackages = true
  comments : cfg.allowCommentIgnores = true → cfg'.allowCommentIgnores = true
  pre : cfg'.commentIgnorePrefix = cfg.commentIgnorePrefix

/-- `f'` is `f` with (possibly) more comment-ignore directives. -/
structure MoreComments (f f' : FileInfo) : Prop where
  path : f'.path = f.path
  isImport : f'.isImport = f.isImport
  unstable : f'.unstable = f.unstable
  directives : ∀ pre r p, commentIgnoresAt f pre r p = true → commentIgnoresAt f' pre r p = true

/-- `img'` is `img` with (possibly) more comment-ignore directives in its files; the single-rule
    annotation sets are the same. -/
structure MoreCommentsImg (img img' : Image) : Prop where
  annots : img'.annots = img.annots
  files : ∀ i, MoreComments (fileAt img.files i) (fileAt img'.files i)
  againstFiles : ∀ i, MoreComments (fileAt img.againstFiles i) (fileAt img'.againstFiles i)

theorem MoreComments.refl (f : FileInfo) : MoreComments f f := ⟨rfl, rfl, rfl, fun _ _ _ h => h⟩
theorem MoreCommentsImg.refl (img : Image) : MoreCommentsImg img img :=
  ⟨rfl, fun _ => MoreComments.refl _, fun _ => MoreComments.refl _⟩

theorem Suppressed.mono {cfg cfg' : Config} {f f' : FileInfo} (hc : MoreSuppression cfg cfg')
    (hf : MoreComments f f') {r : Id} {sp : SPath} (h : Suppressed cfg r f sp) :
    Suppressed cfg' r f' sp := by
  rcases h with h | h | h | h | h
  · exact Or.inl ⟨hc.imports h.1, by rw [hf.isImport]; exact h.2⟩
  · rcases h with ⟨p, hp, he⟩
    exact Or.inr (Or.inl ⟨p, hc.ignore p hp, by rw [hf.path]; exact he⟩)
  · rcases h with ⟨p, hp, he⟩
    exact Or.inr (Or.inr (Or.inl ⟨p, hc.ignoreOnly _ hp, by rw [hf.path]; exact he⟩))
  · exact Or.inr (Or.inr (Or.inr (Or.inl ⟨hc.unstable h.1, by rw [hf.unstable]; exact h.2⟩)))
  · rcases h with ⟨h1, h2, h3, ps, hps, p, hp, hd⟩
    refine Or.inr (Or.inr (Or.inr (Or.inr ⟨hc.comments h1, by rw [hc.pre]; exact h2, h3, ps, hps, p, hp, ?_⟩)))
    rw [hc.pre]; exact hf.directives _ _ _ hd

theorem toFileAnnot_moreComments {img img' : Image} (hi : MoreCommentsImg img img') (a : Annot) :
    toFileAnnot img' a = toFileAnnot img a := by
  unfold toFileAnnot
  cases a.loc with
  | none => rfl
  | some l => simp [(hi.files l.file).path]

/-- A suppression clause that holds under `cfg'` but not under `cfg` applies to rule `r` in
    file `f` at source path `sp`. -/
def NewlySuppressed (cfg cfg' : Config) (r : Id) (f : FileInfo) (sp : SPath) : Prop :=
  (ImportClause cfg' f ∧ ¬ ImportClause cfg f) ∨
  (∃ p ∈ cfg'.rules.ignoreRootPaths, p ∉ cfg.rules.ignoreRootPaths ∧ equalsOrContainsPath p f.path = true) ∨
  (∃ p, (r, p) ∈ cfg'.rules.ignoreOnly ∧ (r, p) ∉ cfg.rules.ignoreOnly ∧ equalsOrContainsPath p f.path = true) ∨
  (UnstableClause cfg' f ∧ ¬ UnstableClause cfg f) ∨
  (CommentClause cfg' r f sp ∧ ¬ CommentClause cfg r f sp)

theorem newlySuppressed_of {cfg cfg' : Config} {r : Id} {f : FileInfo} {sp : SPath}
    (h' : Suppressed cfg' r f sp) (h : ¬ Suppressed cfg r f sp) : NewlySuppressed cfg cfg' r f sp := by
  simp only [Suppressed, not_or] at h
  obtain ⟨n1, n2, n3, n4, n5⟩ := h
  rcases h' with h' | h' | h' | h' | h'
  · exact Or.inl ⟨h', n1⟩
  · rcases h' with ⟨p, hp, he⟩
    exact Or.inr (Or.inl ⟨p, hp, fun hin => n2 ⟨p, hin, he⟩, he⟩)
  · rcases h' with ⟨p, hp, he⟩
    exact Or.inr (Or.inr (Or.inl ⟨p, hp, fun hin => n3 ⟨p, hin, he⟩, he⟩))
  · exact Or.inr (Or.inr (Or.inr (Or.inl ⟨h', n4⟩)))
  · exact Or.inr (Or.inr (Or.inr (Or.inr ⟨h', n5⟩)))

end BufModel.Rules
