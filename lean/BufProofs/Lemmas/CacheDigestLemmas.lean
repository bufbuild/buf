import BufModel.CacheDigest
import BufProofs.Lemmas.CacheLemmas
import BufProofs.Lemmas.DigestLemmas
/-
  Links the C09 cache model to the C08 digest model: the two models of `filepath.Ext`
  (`Bucket.extOf`, `Digest.ext`) are one function; `Cache.isModuleFile` is
  `Digest.isModuleFile (docPath b)` on buckets whose chosen documentation path is `buf.md` or none;
  `toBucket` is injective and keeps membership; `entryFiles` of an entry with distinct keys;
  `loadD` as an equation on entries that pass the marker and side-file checks, and what a hit of it means.
-/
namespace BufModel.CacheDigest
open BufModel.Path BufModel.Bucket BufModel.Manifest BufModel.Cache
open BufModel.Digest (MDigest moduleB5 filterModule docPath BucketOK NoNewline)

/-! ### `Digest.ext` = `Bucket.extOf` -/

theorem extRev_skip (a t : Str) (h1 : '.' ∉ a) (h2 : '/' ∉ a) (acc : Str) :
    Digest.extRev (a ++ t) acc = Digest.extRev t (a.reverse ++ acc) := by
  induction a generalizing acc with
  | nil => rfl
  | cons c cs ih =>
    simp only [List.mem_cons, not_or] at h1 h2
    show Digest.extRev (c :: (cs ++ t)) acc = _
    rw [Digest.extRev, if_neg (fun e => h2.1 e.symm), if_neg (fun e => h1.1 e.symm), ih h1.2 h2.2]
    simp

theorem extGo_plain (l : Str) (h : '.' ∉ l) (acc : Option Str) : extOf.go l acc = acc := by
  induction l generalizing acc with
  | nil => rfl
  | cons c cs ih =>
    simp only [List.mem_cons, not_or] at h
    unfold extOf.go
    rw [if_neg (fun e => h.1 e.symm)]
    exact ih h.2 _

theorem extGo_dot (x y : Str) (h : '.' ∉ y) (acc : Option Str) :
    extOf.go (x ++ '.' :: y) acc = some ('.' :: y) := by
  induction x generalizing acc with
  | nil =>
    show extOf.go ('.' :: y) acc = _
    unfold extOf.go
    rw [if_pos rfl]
    exact extGo_plain y h _
  | cons c cs ih =>
    show extOf.go (c :: (cs ++ '.' :: y)) acc = _
    unfold extOf.go
    split
    · exact ih _
    · exact ih _

theorem lastComp_split (p : Str) :
    ∃ pre last, p = pre ++ last ∧ '/' ∉ last ∧ (pre = [] ∨ ∃ q, pre = q ++ ['/']) ∧
      (splitSlash p).getLast? = some last := by
  by_cases hs : '/' ∈ p
  · have hr : '/' ∈ p.reverse := List.mem_reverse.mpr hs
    obtain ⟨as, bs, heq, hno⟩ := List.eq_append_cons_of_mem hr
    have hp : p = bs.reverse ++ '/' :: as.reverse := by
      have := congrArg List.reverse heq
      simpa using this
    have hno' : '/' ∉ as.reverse := fun h => hno (List.mem_reverse.mp h)
    refine ⟨bs.reverse ++ ['/'], as.reverse, by rw [hp]; simp, hno', Or.inr ⟨_, rfl⟩, ?_⟩
    rw [hp, splitSlash_append, splitSlash_comp _ hno', List.getLast?_append]
    rfl
  · exact ⟨[], p, rfl, hs, Or.inl rfl, by rw [splitSlash_comp _ hs]; rfl⟩

/-- The C13 bucket model and the C08 digest model implement `filepath.Ext` identically. -/
theorem ext_eq_extOf (p : Str) : Digest.ext p = extOf p := by
  obtain ⟨pre, last, hp, hns, hpre, hlast⟩ := lastComp_split p
  have hR : extOf p = (extOf.go last none).getD [] := by
    unfold extOf; rw [hlast]; rfl
  have hL : Digest.ext p = Digest.extRev (last.reverse ++ pre.reverse) [] := by
    unfold Digest.ext; rw [hp, List.reverse_append]
  rw [hR, hL]
  have hnsr : '/' ∉ last.reverse := fun h => hns (List.mem_reverse.mp h)
  by_cases hd : '.' ∈ last
  · have hr : '.' ∈ last.reverse := List.mem_reverse.mpr hd
    obtain ⟨as, bs, heq, hno⟩ := List.eq_append_cons_of_mem hr
    have hl : last = bs.reverse ++ '.' :: as.reverse := by
      have := congrArg List.reverse heq
      simpa using this
    have hno' : '.' ∉ as.reverse := fun h => hno (List.mem_reverse.mp h)
    have hsl : '/' ∉ as := fun h => hnsr (by rw [heq]; exact List.mem_append_left _ h)
    rw [heq, List.append_assoc, List.cons_append, extRev_skip as _ hno hsl, hl, extGo_dot _ _ hno']
    simp [Digest.extRev]
  · have hdr : '.' ∉ last.reverse := fun h => hd (List.mem_reverse.mp h)
    rw [extGo_plain last hd]
    rcases hpre with rfl | ⟨q, rfl⟩
    · simp only [List.reverse_nil, List.append_nil]
      rw [← List.append_nil last.reverse, extRev_skip _ _ hdr hnsr]; rfl
    · rw [List.reverse_append]
      show Digest.extRev (last.reverse ++ '/' :: q.reverse) [] = _
      rw [extRev_skip _ _ hdr hnsr]; rfl

/-! ### the two module-file matchers -/

theorem docPath_nil_absent (b : Digest.Bucket) (h : docPath b = []) :
    ∀ d ∈ Digest.docPaths, Digest.has b d = false := by
  unfold Digest.docPath at h
  cases hf : Digest.docPaths.find? (Digest.has b) with
  | none =>
    intro d hd
    have := List.find?_eq_none.mp hf d hd
    simpa using this
  | some d0 =>
    rw [hf] at h
    have : d0 = [] := h
    subst this
    exact absurd (List.mem_of_find?_eq_some hf) (by decide : ([] : Str) ∉ Digest.docPaths)

theorem isModuleFile_agree (b : Digest.Bucket)
    (hdoc : docPath b = [] ∨ docPath b = "buf.md".toList) (p : Str)
    (hp : Digest.has b p = true) (hne : p ≠ []) :
    Digest.isModuleFile (docPath b) p = Cache.isModuleFile p := by
  have hexts : Digest.moduleExts = [".proto".toList] := by decide
  have hlic : Digest.licensePath = "LICENSE".toList := by decide
  unfold Digest.isModuleFile Cache.isModuleFile
  rw [hexts, hlic, ext_eq_extOf]
  simp only [List.any_cons, List.any_nil, Bool.or_false]
  congr 1
  rcases hdoc with h | h
  · rw [h]
    have hnb : p ≠ "buf.md".toList := by
      intro e
      have := docPath_nil_absent b h "buf.md".toList (by decide)
      rw [← e, hp] at this; cases this
    rw [decide_eq_false hne, decide_eq_false hnb]
  · rw [h]

theorem toBucket_paths (fs : List (Str × Content)) : (toBucket fs).map (·.1) = fs.map (·.1) := by
  simp [toBucket, List.map_map, Function.comp_def]

theorem contentBytes_inj {a b : Content} (h : contentBytes a = contentBytes b) : a = b :=
  String.toList_inj.mp (utf8_inj h)

theorem mem_toBucket {fs : List (Str × Content)} {e : Digest.Entry} :
    e ∈ toBucket fs ↔ ∃ x ∈ fs, e = (x.1, contentBytes x.2) := by
  unfold toBucket
  rw [List.mem_map]
  exact ⟨fun ⟨x, hx, he⟩ => ⟨x, hx, he.symm⟩, fun ⟨x, hx, he⟩ => ⟨x, hx, he.symm⟩⟩

theorem mem_toBucket_pair {fs : List (Str × Content)} {p : Str} {c : Content} :
    (p, contentBytes c) ∈ toBucket fs ↔ (p, c) ∈ fs := by
  rw [mem_toBucket]
  constructor
  · rintro ⟨⟨q, d⟩, hx, he⟩
    injection he with h1 h2
    have := contentBytes_inj h2
    subst h1; subst this; exact hx
  · intro h; exact ⟨(p, c), h, rfl⟩

theorem has_toBucket {fs : List (Str × Content)} {p : Str} :
    Digest.has (toBucket fs) p = true ↔ p ∈ fs.map (·.1) := by
  rw [Digest.has_iff, List.mem_map]
  constructor
  · rintro ⟨c, hc⟩
    obtain ⟨x, hx, he⟩ := mem_toBucket.mp hc
    injection he with h1 _
    exact ⟨x, hx, h1.symm⟩
  · rintro ⟨x, hx, rfl⟩
    exact ⟨contentBytes x.2, mem_toBucket.mpr ⟨x, hx, rfl⟩⟩

theorem toBucket_mem_iff (a b : List (Str × Content)) :
    (∀ x, x ∈ a ↔ x ∈ b) ↔ (∀ e, e ∈ toBucket a ↔ e ∈ toBucket b) := by
  constructor
  · intro h e
    rw [mem_toBucket, mem_toBucket]
    exact ⟨fun ⟨x, hx, he⟩ => ⟨x, (h x).mp hx, he⟩, fun ⟨x, hx, he⟩ => ⟨x, (h x).mpr hx, he⟩⟩
  · intro h x
    obtain ⟨p, c⟩ := x
    rw [← mem_toBucket_pair, ← mem_toBucket_pair (fs := b)]
    exact h _

/-- `ModuleData.Bucket()` serves exactly the files `getStorageMatcher` selects. -/
theorem toBucket_servedFiles (fs : List (Str × Content)) :
    toBucket (servedFiles fs) = filterModule (toBucket fs) := by
  unfold servedFiles Digest.filterModule toBucket
  rw [List.filter_map]
  rfl

theorem bucketOK_ne_nil {b : Digest.Bucket} (h : BucketOK b) : ∀ e ∈ b, e.1 ≠ [] := by
  intro e he hnil
  have := h.2 e he
  rw [hnil] at this
  simp [validateNodePathOld] at this

theorem docOnlyBufMd_iff (fs : List (Str × Content)) :
    docOnlyBufMd fs = true ↔ (docPath (toBucket fs) = [] ∨ docPath (toBucket fs) = "buf.md".toList) := by
  unfold docOnlyBufMd
  rw [Bool.or_eq_true, decide_eq_true_eq, decide_eq_true_eq]

theorem servedFiles_eq (fs : List (Str × Content)) (hdoc : docOnlyBufMd fs = true)
    (ok : BucketOK (toBucket fs)) :
    servedFiles fs = fs.filter (fun kv => Cache.isModuleFile kv.1) := by
  unfold servedFiles
  apply List.filter_congr
  intro x hx
  exact isModuleFile_agree _ ((docOnlyBufMd_iff fs).mp hdoc) x.1
    (has_toBucket.mpr (List.mem_map.mpr ⟨x, hx, rfl⟩))
    (bucketOK_ne_nil ok (x.1, contentBytes x.2) (mem_toBucket.mpr ⟨x, hx, rfl⟩))

theorem moduleFilesOf_eq (entry : Mem) :
    moduleFilesOf entry = (entryFiles entry).filter (fun kv => Cache.isModuleFile kv.1) := by
  induction entry with
  | nil => rfl
  | cons kv rest ih =>
    unfold moduleFilesOf entryFiles at *
    rw [List.filterMap_cons, List.filterMap_cons]
    cases hs : stripFiles kv.1 with
    | none => simpa using ih
    | some rel =>
      simp only []
      by_cases hm : Cache.isModuleFile rel = true
      · rw [if_pos hm, List.filter_cons_of_pos (by simpa using hm), ih]
      · rw [if_neg hm, List.filter_cons_of_neg (by simpa using hm), ih]

theorem docOnlyBufMd_of_noOtherDocPath (fs : List (Str × Content)) (h : noOtherDocPath fs = true) :
    docOnlyBufMd fs = true := by
  rw [docOnlyBufMd_iff]
  unfold Digest.docPath
  cases hf : Digest.docPaths.find? (Digest.has (toBucket fs)) with
  | none => exact Or.inl rfl
  | some d =>
    right
    show d = _
    have hd := List.mem_of_find?_eq_some hf
    have hhas := List.find?_some hf
    obtain ⟨x, hx, hxe⟩ := List.mem_map.mp (has_toBucket.mp hhas)
    unfold noOtherDocPath at h
    have := List.all_eq_true.mp h x hx
    rw [hxe, List.contains_iff_mem.mpr hd, Bool.not_true, Bool.false_or, decide_eq_true_eq] at this
    exact this

/-! ### `entryFiles` -/

theorem mem_entryFiles {entry : Mem} {x : Str × Content} :
    x ∈ entryFiles entry ↔ (filesPrefix ++ x.1, x.2) ∈ entry := by
  unfold entryFiles
  rw [List.mem_filterMap]
  constructor
  · rintro ⟨kv, hkv, he⟩
    cases hs : stripFiles kv.1 with
    | none => rw [hs] at he; cases he
    | some rel =>
      rw [hs] at he
      injection he with he
      subst he
      have := stripFiles_some hs
      show (filesPrefix ++ rel, kv.2) ∈ entry
      rw [← this]; exact hkv
  · intro h
    refine ⟨_, h, ?_⟩
    simp only [stripFiles_prefix]

theorem entryFiles_nodup {entry : Mem} (hn : NodupKeys entry) : NodupKeys (entryFiles entry) := by
  unfold NodupKeys at *
  induction entry with
  | nil => exact List.nodup_nil
  | cons kv rest ih =>
    simp only [List.map_cons, List.nodup_cons] at hn
    unfold entryFiles
    rw [List.filterMap_cons]
    cases hs : stripFiles kv.1 with
    | none => exact ih hn.2
    | some rel =>
      simp only [List.map_cons, List.nodup_cons]
      refine ⟨?_, ih hn.2⟩
      intro hm
      obtain ⟨y, hy, hye⟩ := List.mem_map.mp hm
      have hy' := mem_entryFiles.mp hy
      apply hn.1
      rw [stripFiles_some hs, ← hye]
      exact List.mem_map.mpr ⟨_, hy', rfl⟩

theorem deps_b5_of_ok {H : Bytes → Digest} {b : Digest.Bucket} {deps : List MDigest} {d : MDigest}
    (_hb : BucketOK b) (h : moduleB5 H b deps = .ok d) :
    deps.all (fun d => d.type = .b5) = true :=
  Digest.moduleB5_ok_deps_b5 h

/-! ### `loadD` as an equation -/

theorem loadD_eq_gate (H : Bytes → Digest) (pinned : MDigest) (depsOf : Content → Option (List MDigest))
    (sides : List Str) (entry : Mem) (tok : Content) (deps : List MDigest)
    (hm : entry.find markerPath = some tok) (hd : depsOf tok = some deps)
    (hs : (sides.all fun s => (entry.find s).isSome) = true) :
    loadD H pinned depsOf sides entry =
      if moduleB5 H (toBucket (entryFiles entry)) deps = .ok pinned
      then .hit (servedFiles (entryFiles entry)) else .mismatch := by
  unfold loadD
  rw [hm]
  simp only
  rw [hd]
  simp only [hs, Bool.not_true, Bool.false_eq_true, if_false]

theorem loadD_miss_or_gate (H : Bytes → Digest) (pinned : MDigest) (depsOf : Content → Option (List MDigest))
    (sides : List Str) (entry : Mem) :
    loadD H pinned depsOf sides entry = .miss ∨
      ∃ tok deps, entry.find markerPath = some tok ∧ depsOf tok = some deps ∧
        (sides.all fun s => (entry.find s).isSome) = true := by
  unfold loadD
  cases entry.find markerPath with
  | none => exact Or.inl rfl
  | some tok =>
    simp only []
    cases hd : depsOf tok with
    | none => exact Or.inl rfl
    | some deps =>
      simp only []
      cases hs : (sides.all fun s => (entry.find s).isSome) with
      | false => exact Or.inl rfl
      | true => exact Or.inr ⟨tok, deps, rfl, hd, rfl⟩

theorem loadD_hit_inv (H : Bytes → Digest) (pinned : MDigest) (depsOf : Content → Option (List MDigest))
    (sides : List Str) (entry : Mem) (got : List (Str × Content))
    (h : loadD H pinned depsOf sides entry = .hit got) :
    ∃ tok deps, entry.find markerPath = some tok ∧ depsOf tok = some deps ∧
      (sides.all fun s => (entry.find s).isSome) = true ∧
      moduleB5 H (toBucket (entryFiles entry)) deps = .ok pinned ∧
      got = servedFiles (entryFiles entry) := by
  rcases loadD_miss_or_gate H pinned depsOf sides entry with e | ⟨tok, deps, hm, hd, hs⟩
  · rw [e] at h; cases h
  · rw [loadD_eq_gate H pinned depsOf sides entry tok deps hm hd hs] at h
    split at h
    · rename_i hdig
      injection h with h
      exact ⟨tok, deps, hm, hd, hs, hdig, h.symm⟩
    · cases h

end BufModel.CacheDigest
