import BufModel.Managed
import BufProofs.Lemmas.ListLemmas
/-
  C18, source-info sweep: the first loop of `removeLocationsFromSourceCodeInfo` (`sweepLoop`), on the model
  alone.  One iteration is `sweepStep`; `sweepLoop_invariant` carries any invariant of it through the loop.
  What an iteration does to the state is said component by component (`sweepStep_marked`,
  `mem_sweepStep_removed`, `sweepStep_trie`), so that each field of an invariant is carried over once.
  `SweepInv` holds on every location list and gives which locations can go and that every marked one goes;
  `SweepInv2` (the counters of the trie) holds on lists in which a FieldOptions location occurs once and
  before the locations inside it (`RootsFirst`, what compilers emit) and makes the parent rule exact:
  `sweepRemoved_root_iff`, `sweepRemoved_mem_iff`.  Location paths may run MORE than one element below a
  FieldOptions location (`[4,m,2,f,8,50000,1]`: a message-typed custom option set through a sub-field,
  `[…,8,50003,0]`: an element of a repeated option); `pathType_below_root` says `getPathType` classifies
  all of them as field options, because it keeps the classification of the element right below the
  options message once the classifier has finished and path elements remain.
-/
namespace BufProofs.ManagedLemmas
open BufModel.Managed

/-! ### the classifier on deep paths -/

theorem dfaRun_done (pt : PathType) (l : List Nat) : dfaRun .done pt l = pt := by
  cases l <;> rfl

theorem dfaRun_cons (st : DState) (pt : PathType) (x : Nat) (xs : List Nat) (h : st ≠ .done) :
    dfaRun st pt (x :: xs) = dfaRun (dfaStep st x).1 (dfaStep st x).2 xs := by
  cases st <;> first | exact absurd rfl h | rfl

/-- every step keeps "the classification is FieldOptions-root exactly in state fieldOptions". -/
theorem dfaStep_root_iff (st : DState) (x : Nat) :
    ((dfaStep st x).2 = .fieldOptionsRoot ↔ (dfaStep st x).1 = .fieldOptions) := by
  unfold dfaStep; split <;> simp

theorem dfaRun_below_root :
    ∀ (r : List Nat) (st : DState) (pt : PathType) (x : Nat) (rest : List Nat),
      st ≠ .done → (pt = .fieldOptionsRoot ↔ st = .fieldOptions) →
      dfaRun st pt r = .fieldOptionsRoot → dfaRun st pt (r ++ x :: rest) = .fieldOption
  | [], st, pt, x, rest, _, hiff, h => by
    have hpt : pt = .fieldOptionsRoot := by cases st <;> exact h
    have hst := hiff.mp hpt
    subst hst
    show dfaRun .fieldOptions pt (x :: rest) = .fieldOption
    rw [dfaRun_cons _ _ _ _ (by decide)]
    show dfaRun .done .fieldOption rest = .fieldOption
    exact dfaRun_done _ _
  | y :: ys, st, pt, x, rest, hnd, _, h => by
    rw [dfaRun_cons _ _ _ _ hnd] at h
    show dfaRun st pt (y :: (ys ++ x :: rest)) = .fieldOption
    rw [dfaRun_cons _ _ _ _ hnd]
    by_cases hd : (dfaStep st y).1 = .done
    · rw [hd, dfaRun_done] at h
      have := (dfaStep_root_iff st y).mp h
      rw [hd] at this; cases this
    · exact dfaRun_below_root ys _ _ x rest hd (dfaStep_root_iff st y) h

theorem properPrefix_iff {a d : List Nat} : properPrefix a d = true ↔ a <+: d ∧ a.length < d.length := by
  simp [properPrefix]

theorem properPrefix_split {a d : List Nat} (h : properPrefix a d = true) :
    ∃ x rest, d = a ++ x :: rest := by
  obtain ⟨⟨t, rfl⟩, hl⟩ := properPrefix_iff.1 h
  cases t with
  | nil => simp at hl
  | cons x rest => exact ⟨x, rest, rfl⟩

theorem pathType_below_root {r d : List Nat} (hr : pathType r = .fieldOptionsRoot)
    (hp : properPrefix r d = true) : pathType d = .fieldOption := by
  obtain ⟨x, rest, rfl⟩ := properPrefix_split hp
  exact dfaRun_below_root r .start .notFieldOption x rest (by decide) (by decide) hr

theorem root_not_below_root {r d : List Nat} (hr : pathType r = .fieldOptionsRoot)
    (hp : properPrefix r d = true) : pathType d ≠ .fieldOptionsRoot := by
  rw [pathType_below_root hr hp]; decide

theorem isFileOptPath_not_root {p : List Nat} (h : isFileOptPath p = true) :
    pathType p = .notFieldOption := by
  unfold isFileOptPath at h
  match p, h with
  | [a, b], h =>
    simp at h; subst h; rfl

/-! ### the loop, one location at a time, and its first invariant -/

theorem drop_cons_get {α : Type} {l : List α} {i : Nat} {x : α} {xs : List α}
    (h : l.drop i = x :: xs) : l[i]? = some x ∧ l.drop (i + 1) = xs := by
  induction l generalizing i with
  | nil => simp at h
  | cons a as ih =>
    cases i with
    | zero => simp at h; simp [h.1, h.2]
    | succ n => simp at h; simpa using ih h

/-- loop invariant of `sweepLoop` w.r.t. the whole location list `all`, after the first `i`
    locations have been processed. -/
structure SweepInv (mk : List (List Nat)) (all : List Loc) (i : Nat) (st : SweepSt) : Prop where
  removedOk : ∀ k ∈ st.removed,
    (∃ loc : Loc, all[k]? = some loc ∧ loc.path ∈ mk) ∨
    (∃ loc : Loc, all[k + 1]? = some loc ∧ loc.path ∈ mk ∧ isFileOptPath loc.path = true)
  trieOk : ∀ e ∈ st.trie,
    (∃ loc : Loc, all[e.index]? = some loc ∧ loc.path = e.path) ∧ pathType e.path = .fieldOptionsRoot ∧
    (e.hit = true → ∃ (j : Nat) (loc : Loc), all[j]? = some loc ∧ loc.path ∈ mk ∧ properPrefix e.path loc.path = true)
  complete : ∀ k, k < i → ∀ loc : Loc, all[k]? = some loc → loc.path ∈ mk → k ∈ st.removed
  parents : ∀ k, k + 1 < i → ∀ loc : Loc, all[k + 1]? = some loc → loc.path ∈ mk →
    isFileOptPath loc.path = true → k ∈ st.removed

/-- the walk stops at the first entry above `d`: either there is none and nothing changes, or the list
    splits at it. -/
theorem trieUpd_split (g : TEntry → TEntry) : ∀ (t : List TEntry) (d : List Nat),
    (∀ e ∈ t, properPrefix e.path d = false) ∧ trieUpdAncestor g t d = t ∨
    ∃ l1 e l2, t = l1 ++ e :: l2 ∧ (∀ x ∈ l1, properPrefix x.path d = false) ∧
      properPrefix e.path d = true ∧ trieUpdAncestor g t d = l1 ++ g e :: l2
  | [], _ => .inl ⟨nofun, rfl⟩
  | e :: es, d => by
    unfold trieUpdAncestor
    split
    · exact .inr ⟨[], e, es, rfl, nofun, ‹_›, rfl⟩
    · have hp := Bool.eq_false_iff.2 ‹_›
      rcases trieUpd_split g es d with ⟨h1, h2⟩ | ⟨l1, e0, l2, rfl, h1, h2, h3⟩
      · exact .inl ⟨List.forall_mem_cons.2 ⟨hp, h1⟩, by rw [h2]⟩
      · exact .inr ⟨e :: l1, e0, l2, rfl, List.forall_mem_cons.2 ⟨hp, h1⟩, h2, by rw [h3]; rfl⟩

theorem trieUpd_mem (g : TEntry → TEntry) (t : List TEntry) (d : List Nat) (e' : TEntry)
    (h : e' ∈ trieUpdAncestor g t d) : e' ∈ t ∨ ∃ e ∈ t, e' = g e ∧ properPrefix e.path d = true := by
  rcases trieUpd_split g t d with ⟨-, h2⟩ | ⟨l1, e, l2, rfl, -, hp, h3⟩
  · exact .inl (h2 ▸ h)
  · rw [h3, List.mem_append, List.mem_cons] at h
    rcases h with h | rfl | h
    · exact .inl (by simp [h])
    · exact .inr ⟨e, by simp, rfl, hp⟩
    · exact .inl (by simp [h])

theorem trieUpd_no_ancestor (g : TEntry → TEntry) (t : List TEntry) (d : List Nat)
    (h : ∀ e ∈ t, properPrefix e.path d = false) : trieUpdAncestor g t d = t := by
  rcases trieUpd_split g t d with ⟨-, h2⟩ | ⟨l1, e, l2, rfl, -, hp, -⟩
  · exact h2
  · rw [h e (by simp)] at hp; cases hp

theorem trieInsert_mem (t : List TEntry) (p : List Nat) (i : Nat) (e' : TEntry)
    (h : e' ∈ trieInsert t p i) :
    e' ∈ t ∨ (e'.path = p ∧ e'.index = i ∧ (e' = ⟨p, i, 0, false⟩ ∨ ∃ e ∈ t, e' = { e with index := i })) := by
  unfold trieInsert at h
  split at h
  · obtain ⟨e, he, rfl⟩ := List.mem_map.mp h
    by_cases hp : e.path = p
    · simp only [hp, ↓reduceIte]
      exact Or.inr ⟨trivial, trivial, Or.inr ⟨e, he, by simp [hp]⟩⟩
    · simp only [hp, ↓reduceIte]; exact Or.inl he
  · rcases List.mem_append.mp h with h1 | h1
    · exact Or.inl h1
    · simp at h1; subst h1; exact Or.inr ⟨rfl, rfl, Or.inl rfl⟩

theorem insertRoot_inv {mk : List (List Nat)} {all : List Loc} {i : Nat} {st : SweepSt} {loc : Loc}
    (hget : all[i]? = some loc) (inv : SweepInv mk all i st) : SweepInv mk all i (insertRoot st loc i) := by
  unfold insertRoot
  split
  · rename_i hroot
    refine ⟨inv.removedOk, ?_, inv.complete, inv.parents⟩
    intro e he
    rcases trieInsert_mem _ _ _ _ he with h1 | ⟨hp, hi, h2⟩
    · exact inv.trieOk e h1
    · refine ⟨⟨loc, by rw [hi]; exact hget, hp.symm⟩, by rw [hp]; exact hroot, ?_⟩
      rcases h2 with rfl | ⟨e0, he0, rfl⟩
      · intro hh; simp at hh
      · intro hh; exact (inv.trieOk e0 he0).2.2 hh
  · exact inv

theorem sweepRemoved_some {fixed : Bool} {mk : List (List Nat)} {locs : List Loc} {rm : List Nat}
    (h : sweepRemoved fixed mk locs = some rm) :
    ∃ st, sweepLoop mk 0 none locs ⟨[], []⟩ = some st ∧ rm = st.removed ++ emptiedRoots fixed st.trie := by
  unfold sweepRemoved at h
  cases hl : sweepLoop mk 0 none locs ⟨[], []⟩ with
  | none => simp [hl] at h
  | some st => exact ⟨st, rfl, by simpa [hl] using h.symm⟩

theorem insertRoot_removed (st : SweepSt) (loc : Loc) (i : Nat) : (insertRoot st loc i).removed = st.removed := by
  unfold insertRoot; split <;> rfl

theorem registerKept_removed (st : SweepSt) (loc : Loc) : (registerKept st loc).removed = st.removed := by
  unfold registerKept; split <;> rfl

def sweepStep (mk : List (List Nat)) (i : Nat) (prev : Option (List Nat)) (loc : Loc) (st : SweepSt) :
    Option SweepSt :=
  if !mk.contains loc.path then some (registerKept (insertRoot st loc i) loc)
  else if i = 0 then none
  else if isFileOptPath loc.path then
    if prev ≠ some [8] then none
    else some { insertRoot st loc i with removed := i :: (i - 1) :: (insertRoot st loc i).removed }
  else if pathType loc.path = .fieldOption then
    some { trie := trieHit (insertRoot st loc i).trie loc.path, removed := i :: (insertRoot st loc i).removed }
  else none

theorem sweepLoop_cons (mk : List (List Nat)) (i : Nat) (prev : Option (List Nat)) (loc : Loc)
    (rest : List Loc) (st : SweepSt) :
    sweepLoop mk i prev (loc :: rest) st =
      (sweepStep mk i prev loc st).bind (sweepLoop mk (i + 1) (some loc.path) rest) := by
  rw [sweepLoop]
  simp only [sweepStep, apply_ite (Option.bind · (sweepLoop mk (i + 1) (some loc.path) rest)),
    Option.bind_some, Option.bind_none]

theorem sweepStep_some {mk : List (List Nat)} {i : Nat} {prev : Option (List Nat)} {loc : Loc}
    {st st1 : SweepSt} (h : sweepStep mk i prev loc st = some st1) :
    (loc.path ∉ mk ∧ st1 = registerKept (insertRoot st loc i) loc) ∨
    (loc.path ∈ mk ∧ i ≠ 0 ∧
      ((isFileOptPath loc.path = true ∧ prev = some [8] ∧
          st1 = { insertRoot st loc i with removed := i :: (i - 1) :: (insertRoot st loc i).removed }) ∨
       (isFileOptPath loc.path = false ∧ pathType loc.path = .fieldOption ∧
          st1 = { trie := trieHit (insertRoot st loc i).trie loc.path,
                  removed := i :: (insertRoot st loc i).removed }))) := by
  unfold sweepStep at h
  by_cases hmk : mk.contains loc.path = true
  · simp only [hmk, Bool.not_true, Bool.false_eq_true, ↓reduceIte, Option.ite_none_left_eq_some] at h
    refine .inr ⟨by simpa using hmk, h.1, ?_⟩
    by_cases hfo : isFileOptPath loc.path = true
    · simp only [hfo, ↓reduceIte, Option.ite_none_left_eq_some, Decidable.not_not, Option.some.injEq] at h
      exact .inl ⟨hfo, h.2.1, h.2.2.symm⟩
    · simp only [hfo, Bool.false_eq_true, ↓reduceIte] at h
      split at h
      · rename_i hpt
        exact .inr ⟨by simpa using hfo, hpt, (Option.some.inj h.2).symm⟩
      · cases h.2
  · simp only [hmk, Bool.not_false, ↓reduceIte, Option.some.injEq] at h
    exact .inl ⟨by simpa using hmk, h.symm⟩

theorem sweepLoop_invariant {mk : List (List Nat)} {all : List Loc} {Inv : Nat → SweepSt → Prop}
    (hstep : ∀ i prev loc st st1, all[i]? = some loc →
      (∀ k, k + 1 = i → prev = (all[k]?).map (·.path)) →
      Inv i st → sweepStep mk i prev loc st = some st1 → Inv (i + 1) st1)
    {st' : SweepSt} (h0 : Inv 0 ⟨[], []⟩) (h : sweepLoop mk 0 none all ⟨[], []⟩ = some st') :
    ∃ n, all.length ≤ n ∧ Inv n st' := by
  have key : ∀ (rest : List Loc) (i : Nat) (prev : Option (List Nat)) (st : SweepSt),
      all.drop i = rest → (∀ k, k + 1 = i → prev = (all[k]?).map (·.path)) → Inv i st →
      sweepLoop mk i prev rest st = some st' → ∃ n, all.length ≤ n ∧ Inv n st' := by
    intro rest
    induction rest with
    | nil =>
      intro i prev st hdrop _ inv h
      unfold sweepLoop at h; cases h
      exact ⟨i, by have := congrArg List.length hdrop; simp at this; omega, inv⟩
    | cons loc rest ih =>
      intro i prev st hdrop hprev inv h
      obtain ⟨hget, hdrop'⟩ := drop_cons_get hdrop
      rw [sweepLoop_cons] at h
      obtain ⟨st1, h1, h⟩ := Option.bind_eq_some_iff.mp h
      refine ih (i + 1) _ st1 hdrop' ?_ (hstep i prev loc st st1 hget hprev inv h1) h
      intro k hk
      obtain rfl : k = i := by omega
      rw [hget]; rfl
  exact key all 0 none _ rfl (by intro k hk; omega) h0 h

/-- a marked location the step lets through: a file option stands right after `[8]`, and none is a
    FieldOptions location (it is a file option or a field option). -/
theorem sweepStep_marked {mk : List (List Nat)} {i : Nat} {prev : Option (List Nat)} {loc : Loc}
    {st st1 : SweepSt} (h : sweepStep mk i prev loc st = some st1) (hm : loc.path ∈ mk) :
    (isFileOptPath loc.path = true → prev = some [8]) ∧ pathType loc.path ≠ .fieldOptionsRoot := by
  rcases sweepStep_some h with ⟨hnm, -⟩ | ⟨-, -, ⟨hfo, hpv, -⟩ | ⟨hfo, hpt, -⟩⟩
  · exact absurd hm hnm
  · exact ⟨fun _ => hpv, by rw [isFileOptPath_not_root hfo]; decide⟩
  · exact ⟨fun hf => absurd hf (by simp [hfo]), by rw [hpt]; decide⟩

/-- the indices one step removes: a marked location, and the one before a marked file-option location. -/
theorem mem_sweepStep_removed {mk : List (List Nat)} {i : Nat} {prev : Option (List Nat)} {loc : Loc}
    {st st1 : SweepSt} (h : sweepStep mk i prev loc st = some st1) {k : Nat} :
    k ∈ st1.removed ↔
      loc.path ∈ mk ∧ (k = i ∨ k + 1 = i ∧ isFileOptPath loc.path = true) ∨ k ∈ st.removed := by
  rcases sweepStep_some h with ⟨hnm, rfl⟩ | ⟨hm, hi, ⟨hfo, -, rfl⟩ | ⟨hfo, -, rfl⟩⟩
  · simp [registerKept_removed, insertRoot_removed, hnm]
  · have : k = i - 1 ↔ k + 1 = i := by omega
    simp [insertRoot_removed, hm, hfo, this, or_assoc]
  · simp [insertRoot_removed, hm, hfo]

/-- the trie after one step: THE entry above the current location counts it if it stays and is flagged
    if it goes (only a field-option location has an entry above it). -/
theorem sweepStep_trie {mk : List (List Nat)} {i : Nat} {prev : Option (List Nat)} {loc : Loc}
    {st st1 : SweepSt} (h : sweepStep mk i prev loc st = some st1)
    (hr : ∀ e ∈ (insertRoot st loc i).trie, pathType e.path = .fieldOptionsRoot) :
    st1.trie = trieUpdAncestor
      (fun e => if loc.path ∈ mk then { e with hit := true } else { e with count := e.count + 1 })
      (insertRoot st loc i).trie loc.path := by
  -- where the step leaves the trie as it is, no entry stands above the location
  have hid := fun g (hd : pathType loc.path ≠ .fieldOption) =>
    (trieUpd_no_ancestor g _ loc.path fun e he =>
      Bool.eq_false_iff.2 fun hp => hd (pathType_below_root (hr e he) hp)).symm
  rcases sweepStep_some h with ⟨hnm, rfl⟩ | ⟨hm, -, ⟨hfo, -, rfl⟩ | ⟨-, hpt, rfl⟩⟩
  · simp only [hnm, ↓reduceIte]
    unfold registerKept; split
    · rfl
    · exact hid _ ‹_›
  · exact hid _ (by rw [isFileOptPath_not_root hfo]; decide)
  · simp only [hm, ↓reduceIte]; rfl

theorem SweepInv.step {mk : List (List Nat)} {all : List Loc} {i : Nat} {prev : Option (List Nat)}
    {loc : Loc} {st st1 : SweepSt} (hget : all[i]? = some loc) (inv : SweepInv mk all i st)
    (h : sweepStep mk i prev loc st = some st1) : SweepInv mk all (i + 1) st1 := by
  have inv1 := (insertRoot_inv hget inv).trieOk
  refine ⟨?_, ?_, ?_, ?_⟩
  · intro k hk
    rcases (mem_sweepStep_removed h).mp hk with ⟨hm, rfl | ⟨rfl, hf⟩⟩ | hk
    · exact .inl ⟨loc, hget, hm⟩
    · exact .inr ⟨loc, hget, hm, hf⟩
    · exact inv.removedOk k hk
  · intro e he
    rw [sweepStep_trie h fun e he => (inv1 e he).2.1] at he
    rcases trieUpd_mem _ _ _ _ he with h1 | ⟨e0, he0, rfl, hpp⟩
    · exact inv1 e h1
    · obtain ⟨a, b, c⟩ := inv1 e0 he0
      split
      · exact ⟨a, b, fun _ => ⟨i, loc, hget, ‹_›, hpp⟩⟩
      · exact ⟨a, b, c⟩
  · intro k hk l hl hm
    refine (mem_sweepStep_removed h).mpr ?_
    by_cases hki : k = i
    · cases hki; cases hget.symm.trans hl; exact .inl ⟨hm, .inl rfl⟩
    · exact .inr (inv.complete k (by omega) l hl hm)
  · intro k hk l hl hm hf
    refine (mem_sweepStep_removed h).mpr ?_
    by_cases hki : k + 1 = i
    · cases hki; cases hget.symm.trans hl; exact .inl ⟨hm, .inr ⟨rfl, hf⟩⟩
    · exact .inr (inv.parents k (by omega) l hl hm hf)

theorem sweepInv_init (mk : List (List Nat)) (all : List Loc) : SweepInv mk all 0 ⟨[], []⟩ :=
  ⟨by intro k hk; simp at hk, by intro e he; simp at he, by intro k hk; omega, by intro k hk; omega⟩

/-! ### the trie counters on compiler-shaped location lists -/

/-- what compilers emit: a FieldOptions location occurs once, and before every location
    inside it. -/
def RootsFirst (all : List Loc) : Prop :=
  ∀ (i : Nat) (li : Loc), all[i]? = some li → pathType li.path = .fieldOptionsRoot →
    ∀ (j : Nat) (lj : Loc), all[j]? = some lj →
      (lj.path = li.path → j = i) ∧ (properPrefix li.path lj.path = true → i < j)

theorem properPrefix_irrefl (p : List Nat) : properPrefix p p = false := by
  unfold properPrefix; simp

theorem roots_above_eq {a b d : List Nat} (ha : pathType a = .fieldOptionsRoot)
    (hb : pathType b = .fieldOptionsRoot) (hpa : properPrefix a d = true) (hpb : properPrefix b d = true) :
    a = b := by
  obtain ⟨h1, -⟩ := properPrefix_iff.1 hpa
  obtain ⟨h2, -⟩ := properPrefix_iff.1 hpb
  -- the shorter of two prefixes of `d` is a prefix of the other; no root lies properly below a root
  rcases Nat.lt_trichotomy a.length b.length with hl | hl | hl
  · exact absurd hb (root_not_below_root ha
      (properPrefix_iff.2 ⟨List.prefix_of_prefix_length_le h1 h2 (by omega), hl⟩))
  · exact (List.prefix_of_prefix_length_le h1 h2 (by omega)).eq_of_length hl
  · exact absurd ha (root_not_below_root hb
      (properPrefix_iff.2 ⟨List.prefix_of_prefix_length_le h2 h1 (by omega), hl⟩))

theorem trieUpd_paths (g : TEntry → TEntry) (hg : ∀ e, (g e).path = e.path) (t : List TEntry) (d : List Nat) :
    (trieUpdAncestor g t d).map (·.path) = t.map (·.path) := by
  rcases trieUpd_split g t d with ⟨-, h2⟩ | ⟨l1, e, l2, rfl, -, -, h3⟩
  · rw [h2]
  · simp [h3, hg]

theorem trieHit_paths (t : List TEntry) (d : List Nat) : (trieHit t d).map (·.path) = t.map (·.path) :=
  trieUpd_paths (fun e => { e with hit := true }) (fun _ => rfl) t d

theorem trieRegister_paths (t : List TEntry) (d : List Nat) :
    (trieRegister t d).map (·.path) = t.map (·.path) :=
  trieUpd_paths (fun e => { e with count := e.count + 1 }) (fun _ => rfl) t d

/-- with pairwise different root paths only THE entry above `d` is updated. -/
theorem trieUpd_mem2 (g : TEntry → TEntry) (t : List TEntry) (d : List Nat)
    (hn : (t.map (·.path)).Nodup) (hr : ∀ e ∈ t, pathType e.path = .fieldOptionsRoot)
    (e' : TEntry) (h : e' ∈ trieUpdAncestor g t d) :
    (e' ∈ t ∧ properPrefix e'.path d = false) ∨ (∃ e ∈ t, e' = g e ∧ properPrefix e.path d = true) := by
  rcases trieUpd_split g t d with ⟨h1, h2⟩ | ⟨l1, e, l2, rfl, h1, hp, h3⟩
  · exact .inl ⟨h2 ▸ h, h1 e' (h2 ▸ h)⟩
  · rw [h3, List.mem_append, List.mem_cons] at h
    rcases h with h | rfl | h
    · exact .inl ⟨by simp [h], h1 e' h⟩
    · exact .inr ⟨e, by simp, rfl, hp⟩
    · -- an entry after the first one above `d` is not above `d`: it would bear the same path
      refine .inl ⟨by simp [h], Bool.eq_false_iff.2 fun hp' => ?_⟩
      have hpe := roots_above_eq (hr e' (by simp [h])) (hr e (by simp)) hp' hp
      rw [List.map_append, List.map_cons, List.nodup_append, List.nodup_cons] at hn
      exact hn.2.1.1 (hpe ▸ List.mem_map_of_mem h)

theorem trieUpd_hits (g : TEntry → TEntry) :
    ∀ (t : List TEntry) (d : List Nat) (e : TEntry), e ∈ t → properPrefix e.path d = true →
      (t.map (·.path)).Nodup → (∀ e ∈ t, pathType e.path = .fieldOptionsRoot) →
      g e ∈ trieUpdAncestor g t d := by
  intro t d e0 he hp0 hn hr
  rcases trieUpd_split g t d with ⟨h1, -⟩ | ⟨l1, e, l2, rfl, -, hp, h3⟩
  · rw [h1 e0 he] at hp0; cases hp0
  · cases BufProofs.ListLemmas.eq_of_nodup_map _ hn he (by simp)
      (roots_above_eq (hr e0 he) (hr e (by simp)) hp0 hp)
    simp [h3]

/-- what the data attached to one path end of the trie means after the first `i` locations. -/
structure EntryOK (mk : List (List Nat)) (all : List Loc) (i : Nat) (e : TEntry) : Prop where
  root : pathType e.path = .fieldOptionsRoot
  here : ∃ loc : Loc, all[e.index]? = some loc ∧ loc.path = e.path
  lt : e.index < i
  zero : e.count = 0 → ∀ k, k < i → ∀ loc : Loc, all[k]? = some loc →
    properPrefix e.path loc.path = true → loc.path ∈ mk
  pos : e.count ≠ 0 → ∃ (k : Nat) (loc : Loc), all[k]? = some loc ∧
    properPrefix e.path loc.path = true ∧ loc.path ∉ mk
  hit : e.hit = true ↔ ∃ (k : Nat) (loc : Loc), k < i ∧ all[k]? = some loc ∧
    properPrefix e.path loc.path = true ∧ loc.path ∈ mk

theorem EntryOK.step_other {mk : List (List Nat)} {all : List Loc} {i : Nat} {e : TEntry} {loc : Loc}
    (hget : all[i]? = some loc) (h : EntryOK mk all i e) (hp : properPrefix e.path loc.path = false) :
    EntryOK mk all (i + 1) e := by
  refine ⟨h.root, h.here, by have := h.lt; omega, ?_, h.pos, ?_⟩
  · intro hz k hk l hl hpp
    by_cases hki : k = i
    · subst hki; rw [hget] at hl; cases hl; rw [hp] at hpp; cases hpp
    · exact h.zero hz k (by omega) l hl hpp
  · constructor
    · intro hh
      obtain ⟨k, l, a, b, c, d⟩ := h.hit.mp hh
      exact ⟨k, l, by omega, b, c, d⟩
    · rintro ⟨k, l, a, b, c, d⟩
      by_cases hki : k = i
      · subst hki; rw [hget] at b; cases b; rw [hp] at c; cases c
      · exact h.hit.mpr ⟨k, l, by omega, b, c, d⟩

theorem EntryOK.step_kept {mk : List (List Nat)} {all : List Loc} {i : Nat} {e : TEntry} {loc : Loc}
    (hget : all[i]? = some loc) (h : EntryOK mk all i e) (hp : properPrefix e.path loc.path = true)
    (hm : loc.path ∉ mk) : EntryOK mk all (i + 1) { e with count := e.count + 1 } := by
  refine ⟨h.root, h.here, by have := h.lt; show e.index < i + 1; omega, ?_, ?_, ?_⟩
  · intro hz; simp at hz
  · intro _; exact ⟨i, loc, hget, hp, hm⟩
  · show e.hit = true ↔ _
    constructor
    · intro hh
      obtain ⟨k, l, a, b, c, d⟩ := h.hit.mp hh
      exact ⟨k, l, by omega, b, c, d⟩
    · rintro ⟨k, l, a, b, c, d⟩
      by_cases hki : k = i
      · subst hki; rw [hget] at b; cases b; exact absurd d hm
      · exact h.hit.mpr ⟨k, l, by omega, b, c, d⟩

theorem EntryOK.step_hit {mk : List (List Nat)} {all : List Loc} {i : Nat} {e : TEntry} {loc : Loc}
    (hget : all[i]? = some loc) (h : EntryOK mk all i e) (hp : properPrefix e.path loc.path = true)
    (hm : loc.path ∈ mk) : EntryOK mk all (i + 1) { e with hit := true } := by
  refine ⟨h.root, h.here, by have := h.lt; show e.index < i + 1; omega, ?_, h.pos, ?_⟩
  · intro hz k hk l hl hpp
    by_cases hki : k = i
    · subst hki; rw [hget] at hl; cases hl; exact hm
    · exact h.zero hz k (by omega) l hl hpp
  · exact ⟨fun _ => ⟨i, loc, by omega, hget, hp, hm⟩, fun _ => rfl⟩

theorem EntryOK.new_next {mk : List (List Nat)} {all : List Loc} {i : Nat} {loc : Loc}
    (hrf : RootsFirst all) (hget : all[i]? = some loc) (hroot : pathType loc.path = .fieldOptionsRoot) :
    EntryOK mk all (i + 1) ⟨loc.path, i, 0, false⟩ := by
  refine ⟨hroot, ⟨loc, hget, rfl⟩, by show i < i + 1; omega, ?_, by intro h; simp at h, ?_⟩
  · intro _ k hk l hl hpp
    have := ((hrf i loc hget hroot) k l hl).2 hpp
    omega
  · constructor
    · intro hh; cases hh
    · rintro ⟨k, l, a, b, c, _⟩
      have := ((hrf i loc hget hroot) k l b).2 c
      omega

/-- second loop invariant of `sweepLoop` (the trie counters), on `RootsFirst` lists. -/
structure SweepInv2 (mk : List (List Nat)) (all : List Loc) (i : Nat) (st : SweepSt) : Prop where
  entries : ∀ e ∈ st.trie, EntryOK mk all i e
  nodup : (st.trie.map (·.path)).Nodup
  inserted : ∀ k, k < i → ∀ loc : Loc, all[k]? = some loc → pathType loc.path = .fieldOptionsRoot →
    loc.path ∈ st.trie.map (·.path)
  removedShape : ∀ k ∈ st.removed, ∃ loc : Loc, all[k]? = some loc ∧ (loc.path ∈ mk ∨ loc.path = [8])
  marksNotRoot : ∀ k, k < i → ∀ loc : Loc, all[k]? = some loc → loc.path ∈ mk →
    pathType loc.path ≠ .fieldOptionsRoot

theorem sweepInv2_init (mk : List (List Nat)) (all : List Loc) : SweepInv2 mk all 0 ⟨[], []⟩ :=
  ⟨by intro e he; simp at he, by simp, by intro k hk; omega, by intro k hk; simp at hk, by intro k hk; omega⟩

/-- the state right after `insertRoot` for location `i`. -/
structure Mid (mk : List (List Nat)) (all : List Loc) (i : Nat) (loc : Loc) (t : List TEntry) : Prop where
  entries : ∀ e ∈ t, EntryOK mk all i e ∨ (e = ⟨loc.path, i, 0, false⟩ ∧ pathType loc.path = .fieldOptionsRoot)
  nodup : (t.map (·.path)).Nodup
  inserted : ∀ k, k < i + 1 → ∀ l : Loc, all[k]? = some l → pathType l.path = .fieldOptionsRoot →
    l.path ∈ t.map (·.path)

theorem Mid.roots {mk : List (List Nat)} {all : List Loc} {i : Nat} {loc : Loc} {t : List TEntry}
    (m : Mid mk all i loc t) : ∀ e ∈ t, pathType e.path = .fieldOptionsRoot := by
  intro e he
  rcases m.entries e he with h | ⟨rfl, h⟩
  · exact h.root
  · exact h

theorem Mid.next_other {mk : List (List Nat)} {all : List Loc} {i : Nat} {loc : Loc} {t : List TEntry}
    (hrf : RootsFirst all) (hget : all[i]? = some loc) (m : Mid mk all i loc t) (e : TEntry) (he : e ∈ t)
    (hp : properPrefix e.path loc.path = false) : EntryOK mk all (i + 1) e := by
  rcases m.entries e he with h | ⟨rfl, h⟩
  · exact h.step_other hget hp
  · exact EntryOK.new_next hrf hget h

theorem Mid.old_of_above {mk : List (List Nat)} {all : List Loc} {i : Nat} {loc : Loc} {t : List TEntry}
    (m : Mid mk all i loc t) (e : TEntry) (he : e ∈ t)
    (hp : properPrefix e.path loc.path = true) : EntryOK mk all i e := by
  rcases m.entries e he with h | ⟨rfl, _⟩
  · exact h
  · rw [properPrefix_irrefl] at hp; cases hp

theorem mid_of_inv {mk : List (List Nat)} {all : List Loc} {i : Nat} {st : SweepSt} {loc : Loc}
    (hrf : RootsFirst all) (hget : all[i]? = some loc) (inv : SweepInv2 mk all i st) :
    Mid mk all i loc (insertRoot st loc i).trie := by
  unfold insertRoot
  split
  · rename_i hroot
    have hfresh : loc.path ∉ st.trie.map (·.path) := by
      intro hmem
      obtain ⟨e, he, hpe⟩ := List.mem_map.mp hmem
      obtain ⟨l, hl, hlp⟩ := (inv.entries e he).here
      have := ((hrf i loc hget hroot) e.index l hl).1 (by rw [hlp, hpe])
      have := (inv.entries e he).lt
      omega
    have htrie : trieInsert st.trie loc.path i = st.trie ++ [⟨loc.path, i, 0, false⟩] := by
      unfold trieInsert
      rw [if_neg (by simpa using hfresh)]
    show Mid mk all i loc (trieInsert st.trie loc.path i)
    rw [htrie]
    refine ⟨?_, ?_, ?_⟩
    · intro e he
      rcases List.mem_append.mp he with h1 | h1
      · exact Or.inl (inv.entries e h1)
      · simp at h1; exact Or.inr ⟨h1, hroot⟩
    · rw [List.map_append, List.nodup_append]
      exact ⟨inv.nodup, by simp, by simpa using hfresh⟩
    · intro k hk l hl hr
      rw [List.map_append]
      by_cases hki : k = i
      · subst hki; rw [hget] at hl; cases hl; simp
      · exact List.mem_append_left _ (inv.inserted k (by omega) l hl hr)
  · rename_i hroot
    refine ⟨fun e he => Or.inl (inv.entries e he), inv.nodup, ?_⟩
    intro k hk l hl hr
    by_cases hki : k = i
    · subst hki; rw [hget] at hl; cases hl; exact absurd hr hroot
    · exact inv.inserted k (by omega) l hl hr

/-- entries after an update of THE ancestor of the current location. -/
theorem Mid.after_upd {mk : List (List Nat)} {all : List Loc} {i : Nat} {loc : Loc} {t : List TEntry}
    (hrf : RootsFirst all) (hget : all[i]? = some loc) (m : Mid mk all i loc t) (g : TEntry → TEntry)
    (hg : ∀ e, EntryOK mk all i e → properPrefix e.path loc.path = true → EntryOK mk all (i + 1) (g e)) :
    ∀ e' ∈ trieUpdAncestor g t loc.path, EntryOK mk all (i + 1) e' := by
  intro e' he'
  rcases trieUpd_mem2 g t loc.path m.nodup m.roots e' he' with ⟨h1, h2⟩ | ⟨e, h1, rfl, h3⟩
  · exact m.next_other hrf hget e' h1 h2
  · exact hg e (m.old_of_above e h1 h3) h3

theorem SweepInv2.step {mk : List (List Nat)} {all : List Loc} (hrf : RootsFirst all) {i : Nat}
    {prev : Option (List Nat)} {loc : Loc} {st st1 : SweepSt} (hget : all[i]? = some loc)
    (hprev : ∀ k, k + 1 = i → prev = (all[k]?).map (·.path)) (inv : SweepInv2 mk all i st)
    (h : sweepStep mk i prev loc st = some st1) : SweepInv2 mk all (i + 1) st1 := by
  have mid := mid_of_inv hrf hget inv
  have hpaths : st1.trie.map (·.path) = (insertRoot st loc i).trie.map (·.path) := by
    rw [sweepStep_trie h mid.roots, trieUpd_paths _ fun e => by split <;> rfl]
  refine ⟨?_, hpaths ▸ mid.nodup, hpaths ▸ mid.inserted, ?_, ?_⟩
  · rw [sweepStep_trie h mid.roots]
    refine mid.after_upd hrf hget _ fun e he hp => ?_
    split
    · exact he.step_hit hget hp ‹_›
    · exact he.step_kept hget hp ‹_›
  · intro k hk
    rcases (mem_sweepStep_removed h).mp hk with ⟨hm, rfl | ⟨rfl, hf⟩⟩ | hk
    · exact ⟨loc, hget, .inl hm⟩
    · have h1 := hprev k rfl
      rw [(sweepStep_marked h hm).1 hf] at h1
      obtain ⟨l, hl, hp⟩ := Option.map_eq_some_iff.mp h1.symm
      exact ⟨l, hl, .inr hp⟩
    · exact inv.removedShape k hk
  · intro k hk l hl hm
    by_cases hki : k = i
    · cases hki; cases hget.symm.trans hl
      exact (sweepStep_marked h hm).2
    · exact inv.marksNotRoot k (by omega) l hl hm

theorem mem_emptiedRoots {t : List TEntry} {k : Nat} :
    k ∈ emptiedRoots true t ↔ ∃ e ∈ t, e.count = 0 ∧ e.hit = true ∧ e.index = k := by
  simp [emptiedRoots, and_assoc]

/-- Both invariants hold of the state the loop ends in (`SweepInv2` on `RootsFirst` lists), at an index
    past every location. -/
theorem sweepRemoved_inv {fixed : Bool} {mk : List (List Nat)} {locs : List Loc} {rm : List Nat}
    (h : sweepRemoved fixed mk locs = some rm) :
    ∃ st n, rm = st.removed ++ emptiedRoots fixed st.trie ∧ (∀ k loc, locs[k]? = some loc → k < n) ∧
      SweepInv mk locs n st ∧ (RootsFirst locs → SweepInv2 mk locs n st) := by
  obtain ⟨st, hl, rfl⟩ := sweepRemoved_some h
  obtain ⟨n, hn, inv, inv2⟩ := sweepLoop_invariant
    (Inv := fun i st => SweepInv mk locs i st ∧ (RootsFirst locs → SweepInv2 mk locs i st))
    (fun _ _ _ _ _ hget hprev inv h => ⟨inv.1.step hget h, fun hrf => (inv.2 hrf).step hrf hget hprev h⟩)
    ⟨sweepInv_init mk locs, fun _ => sweepInv2_init mk locs⟩ hl
  refine ⟨st, n, rfl, fun k loc hk => ?_, inv, inv2⟩
  have := (List.getElem?_eq_some_iff.mp hk).1
  omega

theorem sweepRemoved_root_iff {mk : List (List Nat)} {locs : List Loc} {rm : List Nat}
    (hrf : RootsFirst locs) (h : sweepRemoved true mk locs = some rm)
    (r : Nat) (lr : Loc) (hr : locs[r]? = some lr) (hroot : pathType lr.path = .fieldOptionsRoot) :
    r ∈ rm ↔
      (∃ (j : Nat) (lj : Loc), locs[j]? = some lj ∧ properPrefix lr.path lj.path = true ∧ lj.path ∈ mk) ∧
      (∀ (j : Nat) (lj : Loc), locs[j]? = some lj → properPrefix lr.path lj.path = true → lj.path ∈ mk) := by
  obtain ⟨st, n, rfl, hlt, -, inv⟩ := sweepRemoved_inv h
  have inv := inv hrf
  constructor
  · intro hmem
    rcases List.mem_append.mp hmem with h1 | h1
    · obtain ⟨l, hl1, hl2⟩ := inv.removedShape r h1
      rw [hr] at hl1; cases hl1
      rcases hl2 with h2 | h2
      · exact absurd hroot (inv.marksNotRoot r (hlt r lr hr) lr hr h2)
      · rw [h2] at hroot; exact absurd hroot (by decide)
    · obtain ⟨e, he1, hcount, hhit, rfl⟩ := mem_emptiedRoots.mp h1
      have ok := inv.entries e he1
      obtain ⟨l, hl1, hl2⟩ := ok.here
      rw [hr] at hl1; cases hl1
      rw [hl2]
      refine ⟨?_, ?_⟩
      · obtain ⟨k, l, _, b, c, d⟩ := ok.hit.mp hhit
        exact ⟨k, l, b, c, d⟩
      · intro j lj hj hp
        exact ok.zero hcount j (hlt j lj hj) lj hj hp
  · rintro ⟨⟨j, lj, hj, hp, hm⟩, hall⟩
    refine List.mem_append.mpr (Or.inr ?_)
    obtain ⟨e, he, hpe⟩ := List.mem_map.mp (inv.inserted r (hlt r lr hr) lr hr hroot)
    have ok := inv.entries e he
    obtain ⟨l, hl1, hl2⟩ := ok.here
    have hidx : e.index = r := ((hrf r lr hr hroot) e.index l hl1).1 (by rw [hl2, hpe])
    refine mem_emptiedRoots.mpr ⟨e, he, ?_, ok.hit.mpr ⟨j, lj, hlt j lj hj, hj, by rw [hpe]; exact hp, hm⟩, hidx⟩
    cases hc : e.count with
    | zero => rfl
    | succ c =>
      obtain ⟨k, l, a, b, c'⟩ := ok.pos (by omega)
      exact absurd (hall k l a (by rw [← hpe]; exact b)) c'

/-- The sweeper, exactly, on `RootsFirst` lists: a location goes iff its path is a mark, or it stands
    immediately before a marked file-option location, or it is a FieldOptions location
    some location inside which is marked and every location inside which is marked. -/
theorem sweepRemoved_mem_iff {mk : List (List Nat)} {locs : List Loc} {rm : List Nat}
    (hrf : RootsFirst locs) (hs : sweepRemoved true mk locs = some rm) {k : Nat} {loc : Loc}
    (hk : locs[k]? = some loc) :
    k ∈ rm ↔
      loc.path ∈ mk ∨
      (∃ loc' : Loc, locs[k + 1]? = some loc' ∧ loc'.path ∈ mk ∧ isFileOptPath loc'.path = true) ∨
      (pathType loc.path = .fieldOptionsRoot ∧
        (∃ (j : Nat) (lj : Loc), locs[j]? = some lj ∧ properPrefix loc.path lj.path = true ∧ lj.path ∈ mk) ∧
        (∀ (j : Nat) (lj : Loc), locs[j]? = some lj → properPrefix loc.path lj.path = true → lj.path ∈ mk)) := by
  obtain ⟨st, n, hrm, hlt, inv, -⟩ := sweepRemoved_inv hs
  constructor
  · intro hmem
    rcases List.mem_append.mp (hrm ▸ hmem) with h1 | h1
    · rcases inv.removedOk k h1 with ⟨l, a, b⟩ | h2
      · cases hk.symm.trans a
        exact .inl b
      · exact .inr (.inl h2)
    · -- an emptied trie entry stands at the index of a FieldOptions location
      obtain ⟨e, he, -, -, rfl⟩ := mem_emptiedRoots.mp h1
      obtain ⟨⟨l, a, b⟩, hroot, -⟩ := inv.trieOk e he
      cases hk.symm.trans a
      rw [← b] at hroot
      exact .inr (.inr ⟨hroot, (sweepRemoved_root_iff hrf hs _ loc hk hroot).mp hmem⟩)
  · rintro (hc | ⟨loc', a, hc, hf⟩ | ⟨hroot, hex⟩)
    · exact hrm ▸ List.mem_append_left _ (inv.complete k (hlt k loc hk) loc hk hc)
    · exact hrm ▸ List.mem_append_left _ (inv.parents k (hlt _ loc' a) loc' a hc hf)
    · exact (sweepRemoved_root_iff hrf hs k loc hk hroot).mpr hex

/-- decidable form of `RootsFirst` (for concrete location lists). -/
def rootsFirstB (all : List Loc) : Bool :=
  all.zipIdx.all fun pi =>
    pathType pi.1.path != .fieldOptionsRoot ||
      all.zipIdx.all fun pj =>
        (pj.1.path != pi.1.path || pj.2 == pi.2) && (!properPrefix pi.1.path pj.1.path || decide (pi.2 < pj.2))

theorem rootsFirst_of_check {all : List Loc} (h : rootsFirstB all = true) : RootsFirst all := by
  intro i li hi hroot j lj hj
  unfold rootsFirstB at h
  have h1 := List.all_eq_true.mp h (li, i) (List.mem_zipIdx_iff_getElem?.mpr hi)
  simp only [hroot, bne_self_eq_false, Bool.false_or] at h1
  have h2 := List.all_eq_true.mp h1 (lj, j) (List.mem_zipIdx_iff_getElem?.mpr hj)
  simp only [Bool.and_eq_true, Bool.or_eq_true, bne_iff_ne, ne_eq, beq_iff_eq, Bool.not_eq_eq_eq_not,
    Bool.not_true, decide_eq_true_eq] at h2
  refine ⟨fun hp => ?_, fun hp => ?_⟩
  · rcases h2.1 with h3 | h3
    · exact absurd hp h3
    · exact h3
  · rcases h2.2 with h3 | h3
    · rw [hp] at h3; cases h3
    · exact h3

end BufProofs.ManagedLemmas
