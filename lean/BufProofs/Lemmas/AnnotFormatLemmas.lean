import BufProofs.Lemmas.AnnotOrderLemmas
/-
  Lemmas about the diagnostic formats (C20): line structure of the line-oriented printers and the
  escape tables, JUnit grouping by path, the decoders invert the printers (`Side`), the fields two
  formats share (`Shared.Sub`).
-/
namespace BufModel.Annot

/-! ### line structure of the line-oriented printers -/

def OneLine (s : Str) : Prop := ∀ c ∈ s, c ≠ '\n' ∧ c ≠ '\r'

instance (s : Str) : Decidable (OneLine s) := by unfold OneLine; infer_instance

theorem OneLine.append {s t : Str} (hs : OneLine s) (ht : OneLine t) : OneLine (s ++ t) := by
  intro c hc
  rcases List.mem_append.mp hc with h | h
  · exact hs c h
  · exact ht c h

theorem OneLine.cons {c : Char} {t : Str} (hc : c ≠ '\n' ∧ c ≠ '\r') (ht : OneLine t) : OneLine (c :: t) := by
  intro d hd
  rcases List.mem_cons.mp hd with rfl | h
  · exact hc
  · exact ht d h

theorem OneLine.nil : OneLine [] := by intro c hc; cases hc

theorem oneLine_itoa (n : Nat) : OneLine (itoa n) := fun _ hc =>
  ⟨isDigit_ne (itoa_digit hc) (by decide), isDigit_ne (itoa_digit hc) (by decide)⟩

theorem oneLine_oneLine (s : Str) : OneLine (oneLine s) := by
  intro c hc
  simp only [oneLine, List.mem_map] at hc
  obtain ⟨d, _, rfl⟩ := hc
  split
  · exact ⟨by decide, by decide⟩
  · rename_i h; exact ⟨fun e => h (Or.inl e), fun e => h (Or.inr e)⟩

/-- githubActionsPropertyEscaper on one character -/
def escPropChar (c : Char) : Str :=
  if c = '%' then "%25".toList else if c = '\r' then "%0D".toList
  else if c = '\n' then "%0A".toList else if c = ':' then "%3A".toList
  else if c = ',' then "%2C".toList else [c]

/-- githubActionsDataEscaper on one character -/
def escDataChar (c : Char) : Str :=
  if c = '%' then "%25".toList else if c = '\r' then "%0D".toList
  else if c = '\n' then "%0A".toList else [c]

def dataSpecials : List Char := ['%', '\r', '\n']
def propSpecials : List Char := ['%', '\r', '\n', ':', ',']

theorem escDataChar_plain {c : Char} (h : c ∉ dataSpecials) : escDataChar c = [c] := by
  simp only [dataSpecials, List.mem_cons, List.not_mem_nil, or_false, not_or] at h
  rw [escDataChar, if_neg h.1, if_neg h.2.1, if_neg h.2.2]

theorem escPropChar_plain {c : Char} (h : c ∉ propSpecials) : escPropChar c = [c] := by
  simp only [propSpecials, List.mem_cons, List.not_mem_nil, or_false, not_or] at h
  rw [escPropChar, if_neg h.1, if_neg h.2.1, if_neg h.2.2.1, if_neg h.2.2.2.1, if_neg h.2.2.2.2]

theorem dataSpecials_code : ∀ c ∈ dataSpecials, ∃ a b, escDataChar c = ['%', a, b] ∧ decData a b = some c := by
  intro c hc
  simp only [dataSpecials, List.mem_cons, List.not_mem_nil, or_false] at hc
  rcases hc with rfl | rfl | rfl <;> exact ⟨_, _, rfl, rfl⟩

theorem propSpecials_code : ∀ c ∈ propSpecials, ∃ a b, escPropChar c = ['%', a, b] ∧ decProp a b = some c := by
  intro c hc
  simp only [propSpecials, List.mem_cons, List.not_mem_nil, or_false] at hc
  rcases hc with rfl | rfl | rfl | rfl | rfl <;> exact ⟨_, _, rfl, rfl⟩

theorem forall_mem_flatMap_esc {e : Char → Str} {sp : List Char} {P : Char → Prop}
    (he : ∀ c, c ∉ sp → e c = [c]) (hs : ∀ c ∈ sp, ∀ d ∈ e c, P d) (hp : ∀ c, c ∉ sp → P c) (s : Str) :
    ∀ d ∈ s.flatMap e, P d := by
  intro d hd
  obtain ⟨c, _, hc⟩ := List.mem_flatMap.mp hd
  by_cases h : c ∈ sp
  · exact hs c h d hc
  · rw [he c h, List.mem_singleton] at hc
    exact hc ▸ hp c h

theorem unescAux_flatMap_esc {dec : Char → Char → Option Char} {e : Char → Str} {sp : List Char}
    (he : ∀ c, c ∉ sp → e c = [c]) (hs : ∀ c ∈ sp, ∃ a b, e c = ['%', a, b] ∧ dec a b = some c)
    (hp : '%' ∈ sp) : ∀ s : Str, unescAux dec 0 (s.flatMap e) = s
  | [] => rfl
  | c :: t => by
    rw [List.flatMap_cons]
    by_cases h : c ∈ sp
    · obtain ⟨a, b, hab, hd⟩ := hs c h
      simp [hab, unescAux, hd, unescAux_flatMap_esc he hs hp t]
    · have hc : c ≠ '%' := fun e => h (e ▸ hp)
      simp [he c h, unescAux, hc, unescAux_flatMap_esc he hs hp t]

theorem unescProp_escProp (s : Str) : unescProp (escProp s) = s :=
  unescAux_flatMap_esc (fun _ => escPropChar_plain) propSpecials_code (by decide) s

theorem unescData_escData (s : Str) : unescData (escData s) = s :=
  unescAux_flatMap_esc (fun _ => escDataChar_plain) dataSpecials_code (by decide) s

/-- the value ends where the next `,key=` or the `::` begins -/
theorem escProp_chars (s : Str) : ∀ d ∈ escProp s, (d ≠ '\n' ∧ d ≠ '\r') ∧ d ≠ ',' ∧ d ≠ ':' :=
  forall_mem_flatMap_esc (fun _ => escPropChar_plain) (by decide) (by simp +contextual [propSpecials]) s

theorem escProp_no_sep (s : Str) : ∀ c ∈ escProp s, c ≠ ',' ∧ c ≠ ':' := fun c hc => (escProp_chars s c hc).2

theorem oneLine_escProp (s : Str) : OneLine (escProp s) := fun c hc => (escProp_chars s c hc).1

theorem oneLine_escData (s : Str) : OneLine (escData s) :=
  forall_mem_flatMap_esc (fun _ => escDataChar_plain) (by decide) (by simp +contextual [dataSpecials]) s

theorem escData_append (s t : Str) : escData (s ++ t) = escData s ++ escData t := List.flatMap_append

theorem oneLine_pluginSuffix {esc : Str → Str} (h : ∀ s, OneLine (esc s)) (p : Str) :
    OneLine (pluginSuffix esc p) := by
  unfold pluginSuffix
  split
  · exact OneLine.nil
  · exact ((show OneLine " (".toList by decide).append (h p)).append (by decide)

theorem oneLine_msvsLineWith {esc : Str → Str} (h : ∀ s, OneLine (esc s)) (a : Annot) :
    OneLine (msvsLineWith esc a) :=
  (((((((h _).append (.cons (by decide) (oneLine_itoa _))).append (.cons (by decide) (oneLine_itoa _))).append
    (show OneLine ") : error ".toList by decide)).append (h _)).append (show OneLine " : ".toList by decide)).append
    (h _)).append (oneLine_pluginSuffix h _)

theorem oneLine_msvsLine (a : Annot) : OneLine (msvsLine a) := oneLine_msvsLineWith oneLine_oneLine a

/-- an optional `,key=<number>` property as printed: nothing for 0 -/
def optProp (key : Str) (n : Nat) : Str := if n = 0 then [] else key ++ itoa n

/-- The position block is four optional properties in a row whose numbers are the fields of `ghaF`:
    the printer's nesting is the zeroing of the inner numbers there. -/
theorem ghaPos_eq (a : Annot) : ghaPos a =
    optProp ",line=".toList (ghaF a).line ++ (optProp ",col=".toList (ghaF a).col ++
      (optProp ",endLine=".toList (ghaF a).endLine ++ optProp ",endColumn=".toList (ghaF a).endCol)) := by
  unfold ghaPos ghaF optProp
  by_cases h1 : a.sl = 0 <;> by_cases h3 : a.el = 0 <;>
    simp only [h1, h3, if_true, if_false, List.append_nil, List.append_assoc]

theorem oneLine_optProp {key : Str} (hk : OneLine key) (n : Nat) : OneLine (optProp key n) := by
  unfold optProp
  split
  · exact .nil
  · exact hk.append (oneLine_itoa n)

theorem oneLine_ghaPos (a : Annot) : OneLine (ghaPos a) :=
  ghaPos_eq a ▸ (oneLine_optProp (by decide) _).append ((oneLine_optProp (by decide) _).append
    ((oneLine_optProp (by decide) _).append (oneLine_optProp (by decide) _)))

theorem oneLine_ghaLineWith {escP escD : Str → Str} (hP : ∀ s, OneLine (escP s)) (hD : ∀ s, OneLine (escD s))
    (a : Annot) : OneLine (ghaLineWith escP escD a) :=
  (((((show OneLine "::error file=".toList by decide).append (hP _)).append (oneLine_ghaPos a)).append
    (show OneLine "::".toList by decide)).append (hD _)).append (oneLine_pluginSuffix hD _)

theorem oneLine_ghaLine (a : Annot) : OneLine (ghaLine a) := oneLine_ghaLineWith oneLine_escProp oneLine_escData a

theorem linesOf_append_nl : ∀ (s rest : Str), (∀ c ∈ s, c ≠ '\n') → linesOf (s ++ '\n' :: rest) = s :: linesOf rest
  | [], rest, _ => by simp [linesOf]
  | c :: cs, rest, h => by
    have hc : c ≠ '\n' := h c List.mem_cons_self
    simp only [List.cons_append, linesOf, if_neg hc]
    rw [linesOf_append_nl cs rest (fun d hd => h d (List.mem_cons_of_mem _ hd))]

theorem linesOf_printLines (line : Annot → Str) : ∀ (l : List Annot), (∀ a ∈ l, ∀ c ∈ line a, c ≠ '\n') →
    linesOf (printLines line l) = l.map line
  | [], _ => rfl
  | a :: as, h => by
    simp only [printLines, List.flatMap_cons, List.map_cons, List.append_assoc, List.singleton_append]
    rw [linesOf_append_nl _ _ (h a List.mem_cons_self)]
    congr 1
    exact linesOf_printLines line as (fun b hb => h b (List.mem_cons_of_mem _ hb))

theorem items_printLines (line : Annot → Str) (l : List Annot) (h : ∀ a ∈ l, ∀ c ∈ line a, c ≠ '\n') :
    (Doc.lines (printLines line l)).items = l.map fun a => .line (line a) := by
  simp only [Doc.items, linesOf_printLines line l h, List.map_map]
  rfl

/-! ### groupAnnotationsByPath: flattening the JUnit suites gives back the list when equal
    displayed paths are adjacent -/

abbrev Groups := List (Str × List Annot)

def gkeys (gs : Groups) : List Str := gs.map (·.1)
def gflat (gs : Groups) : List Annot := gs.flatMap (·.2)
def lastKey (gs : Groups) : Option Str := gs.getLast?.map (·.1)

/-- groups with other keys in front are passed over -/
theorem addToGroups_append (k : Str) (a : Annot) : ∀ gs rest : Groups, k ∉ gkeys gs →
    addToGroups k a (gs ++ rest) = gs ++ addToGroups k a rest
  | [], _, _ => rfl
  | (k', g) :: gs, rest, h => by
    have hne : k' ≠ k := fun e => h (by simp [gkeys, e])
    have hr : k ∉ gkeys gs := fun hm => h (by simp only [gkeys, List.map_cons, List.mem_cons]; exact Or.inr hm)
    simp only [List.cons_append, addToGroups, if_neg hne, addToGroups_append k a gs rest hr]

theorem addToGroups_new (k : Str) (a : Annot) (gs : Groups) (h : k ∉ gkeys gs) :
    addToGroups k a gs = gs ++ [(k, [a])] := by
  simpa [addToGroups] using addToGroups_append k a gs [] h

theorem addToGroups_last (k : Str) (a : Annot) (g : List Annot) (gs' : Groups) (h : k ∉ gkeys gs') :
    addToGroups k a (gs' ++ [(k, g)]) = gs' ++ [(k, g ++ [a])] := by
  rw [addToGroups_append k a gs' _ h]
  simp [addToGroups]

/-- `l` continues a run of equal displayed paths: each element either continues the current
    path or starts one never seen before. -/
def ContigFrom : List Str → Option Str → List Annot → Prop
  | _, _, [] => True
  | seen, cur, a :: rest =>
    (cur = some (dispPath a) ∨ dispPath a ∉ seen) ∧ ContigFrom (seen ++ [dispPath a]) (some (dispPath a)) rest

theorem ContigFrom_congr : ∀ (l : List Annot) (s1 s2 : List Str) (c : Option Str),
    (∀ k, k ∈ s1 ↔ k ∈ s2) → ContigFrom s1 c l → ContigFrom s2 c l
  | [], _, _, _, _, _ => trivial
  | a :: rest, s1, s2, c, hs, h => by
    simp only [ContigFrom] at h ⊢
    refine ⟨h.1.imp id (fun hn hm => hn ((hs _).mpr hm)), ContigFrom_congr rest _ _ _ ?_ h.2⟩
    intro k; simp only [List.mem_append, hs k]

theorem gflat_append (g1 g2 : Groups) : gflat (g1 ++ g2) = gflat g1 ++ gflat g2 := by
  simp [gflat, List.flatMap_append]

theorem gkeys_concat (gs : Groups) (k : Str) (g : List Annot) : gkeys (gs ++ [(k, g)]) = gkeys gs ++ [k] := by
  simp [gkeys]

theorem group_flat : ∀ (l : List Annot) (gs : Groups), (gkeys gs).Nodup →
    ContigFrom (gkeys gs) (lastKey gs) l →
    gflat (l.foldl (fun gs a => addToGroups (dispPath a) a gs) gs) = gflat gs ++ l
  | [], gs, _, _ => by simp
  | a :: rest, gs, nd, h => by
    simp only [ContigFrom] at h
    rw [List.foldl_cons]
    rcases h.1 with hc | hn
    · -- continues the last group
      rcases List.eq_nil_or_concat gs with rfl | ⟨gs', ⟨k, g⟩, rfl⟩
      · cases hc
      · rw [List.concat_eq_append] at *
        obtain rfl : k = dispPath a := by simpa [lastKey] using hc
        have nd' := gkeys_concat .. ▸ nd
        rw [addToGroups_last _ _ _ _ fun hm => (List.nodup_append.mp nd').2.2 _ hm _ (List.mem_singleton.mpr rfl) rfl,
          group_flat rest _ (gkeys_concat .. ▸ nd')]
        · simp [gflat]
        · refine ContigFrom_congr rest _ _ _ (fun k' => ?_) (by simpa [lastKey] using h.2)
          simp [gkeys]
    · rw [addToGroups_new _ _ _ hn, group_flat rest]
      · simp [gflat]
      · rw [gkeys_concat, List.nodup_append]
        exact ⟨nd, by simp, fun x hx y hy e => hn (List.mem_singleton.mp hy ▸ e ▸ hx)⟩
      · rw [gkeys_concat]
        simpa [lastKey] using h.2

theorem groupByPath_flat {l : List Annot} (h : ContigFrom [] none l) : gflat (groupByPath l) = l := by
  have := group_flat l [] (by simp [gkeys]) (by simpa [gkeys, lastKey] using h)
  simpa [groupByPath, gflat] using this

def GroupsOK (gs : Groups) : Prop := ∀ kg ∈ gs, ∀ a ∈ kg.2, dispPath a = kg.1

theorem addToGroups_ok (a : Annot) : ∀ gs : Groups, GroupsOK gs → GroupsOK (addToGroups (dispPath a) a gs)
  | [], _ => List.forall_mem_cons.mpr ⟨fun b hb => by rw [List.mem_singleton.mp hb], nofun⟩
  | (k', g) :: rest, h => by
    obtain ⟨hg, hr⟩ := List.forall_mem_cons.mp h
    simp only [addToGroups]
    split
    · rename_i he
      exact List.forall_mem_cons.mpr ⟨List.forall_mem_append.mpr
        ⟨hg, fun b hb => by rw [List.mem_singleton.mp hb]; exact he.symm⟩, hr⟩
    · exact List.forall_mem_cons.mpr ⟨hg, addToGroups_ok a rest hr⟩

theorem foldl_groups_ok : ∀ (l : List Annot) (gs : Groups), GroupsOK gs →
    GroupsOK (l.foldl (fun gs a => addToGroups (dispPath a) a gs) gs)
  | [], _, h => h
  | a :: rest, gs, h => foldl_groups_ok rest _ (addToGroups_ok a gs h)

theorem groupByPath_ok (l : List Annot) : GroupsOK (groupByPath l) :=
  foldl_groups_ok l [] (by intro kg hkg; cases hkg)

theorem junit_items_eq : ∀ (gs : Groups), GroupsOK gs →
    (gs.map fun kg => ({ name := trimProto kg.1, tests := kg.2.length, cases := kg.2.map junitCase } : JSuite)).flatMap
      (fun s => s.cases.map (Rendered.junit s.name)) = (gflat gs).map (render .junit)
  | [], _ => rfl
  | (k, g) :: rest, h => by
    simp only [List.map_cons, List.flatMap_cons, gflat, List.map_append]
    rw [show List.flatMap (fun x => x.2) rest = gflat rest from rfl,
      ← junit_items_eq rest (fun kg hkg => h kg (List.mem_cons_of_mem _ hkg))]
    congr 1
    simp only [List.map_map]
    apply List.map_congr_left
    intro a ha
    simp only [Function.comp, render]
    rw [h (k, g) List.mem_cons_self a ha]

/-- different FileInfos are displayed differently (fails only if a file is literally named
    "<input>" and a path-less annotation is present as well) -/
def DispInj (l : List Annot) : Prop := ∀ a ∈ l, ∀ b ∈ l, dispPath a = dispPath b → a.file = b.file

theorem LE_file {a b : Annot} (h : LE a b) : cmpFile a.file b.file ≠ .gt := by
  intro hg; apply h; simp [compareTo, hg, Ordering.then]

theorem cmpFile_antisymm {x y : Option Str} (h1 : cmpFile x y ≠ .gt) (h2 : cmpFile y x ≠ .gt) : x = y :=
  Std.LawfulEqOrd.eq_of_compare (Std.OrientedCmp.isLE_antisymm
    (Ordering.ne_gt_iff_isLE.mp (cmpFile_eq x y ▸ h1)) (Ordering.ne_gt_iff_isLE.mp (cmpFile_eq y x ▸ h2)))

theorem contig_of_sorted : ∀ (l pre : List Annot), (pre ++ l).Pairwise LE → DispInj (pre ++ l) →
    ContigFrom (pre.map dispPath) (pre.getLast?.map dispPath) l
  | [], _, _, _ => trivial
  | a :: rest, pre, hs, hi => by
    simp only [ContigFrom]
    constructor
    · by_cases hm : dispPath a ∈ pre.map dispPath
      · left
        obtain ⟨e, he, hde⟩ := List.mem_map.mp hm
        have hfile : e.file = a.file :=
          hi e (List.mem_append_left _ he) a (List.mem_append_right _ List.mem_cons_self) hde
        rcases List.eq_nil_or_concat pre with rfl | ⟨pre', x, rfl⟩
        · cases he
        · simp only [List.concat_eq_append] at *
          simp only [List.getLast?_append, List.getLast?_singleton, Option.some_or, Option.map_some]
          congr 1
          -- `e ≤ x ≤ a` in the order and `e`, `a` are of one file: so is `x`
          obtain ⟨hpre, -, hcross⟩ := List.pairwise_append.mp hs
          have hex : cmpFile e.file x.file ≠ .gt := by
            rcases List.mem_append.mp he with h | h
            · exact LE_file ((List.pairwise_append.mp hpre).2.2 e h x (by simp))
            · rw [List.mem_singleton.mp h, cmpFile_eq, Std.ReflOrd.compare_self]; simp
          have : x.file = a.file :=
            cmpFile_antisymm (LE_file (hcross x (by simp) a List.mem_cons_self)) (hfile ▸ hex)
          unfold dispPath; rw [this]
      · exact Or.inr hm
    · have := contig_of_sorted rest (pre ++ [a]) (by simpa using hs) (by simpa using hi)
      simpa using this

theorem sorted_contig {l : List Annot} (hs : l.Pairwise LE) (hi : DispInj l) : ContigFrom [] none l := by
  simpa using contig_of_sorted l [] (by simpa using hs) (by simpa using hi)

/-! ### decoders: the primitive readers -/

theorem cutAt_spec (sep : Char) : ∀ (s a b : Str), cutAt sep s = some (a, b) →
    (∀ c ∈ a, c ≠ sep) ∧ s = a ++ sep :: b
  | [], _, _, h => by simp [cutAt] at h
  | c :: cs, a, b, h => by
    simp only [cutAt] at h
    split at h
    · rename_i hc
      simp only [Option.some.injEq, Prod.mk.injEq] at h
      obtain ⟨rfl, rfl⟩ := h
      exact ⟨by simp, by simp [hc]⟩
    · rename_i hc
      cases hr : cutAt sep cs with
      | none => rw [hr] at h; simp at h
      | some ab =>
        rw [hr] at h
        simp only [Option.map_some, Option.some.injEq, Prod.mk.injEq] at h
        obtain ⟨rfl, rfl⟩ := h
        obtain ⟨h1, h2⟩ := cutAt_spec sep cs ab.1 ab.2 hr
        refine ⟨?_, by rw [h2]; simp⟩
        intro d hd
        rcases List.mem_cons.mp hd with rfl | hd
        · exact hc
        · exact h1 d hd

theorem dropPrefix_append : ∀ (p r : Str), dropPrefix p (p ++ r) = some r
  | [], r => by cases r <;> rfl
  | c :: cs, r => by simp [dropPrefix, dropPrefix_append cs r]

theorem dropPrefix_spec : ∀ (p s r : Str), dropPrefix p s = some r → s = p ++ r
  | [], s, r, h => by
    cases s <;> simp [dropPrefix] at h <;> simp [h]
  | c :: cs, [], r, h => by simp [dropPrefix] at h
  | c :: cs, d :: ds, r, h => by
    simp only [dropPrefix] at h
    split at h
    · rename_i hcd
      rw [hcd, dropPrefix_spec cs ds r h]; rfl
    · cases h

def NoDigitHead (r : Str) : Prop := ∀ c t, r = c :: t → c.isDigit = false

theorem noDigitHead_nil : NoDigitHead [] := by intro c t h; cases h
theorem noDigitHead_cons {c : Char} {t : Str} (h : c.isDigit = false) : NoDigitHead (c :: t) := by
  intro d u e; cases e; exact h

theorem itoa_ne_nil (n : Nat) : itoa n ≠ [] := by
  intro h
  have : n = 0 := by
    have := @Nat.ofDigitChars_ten_toDigits n
    unfold itoa at h; rw [h] at this; simpa [Nat.ofDigitChars] using this.symm
  subst this; revert h; decide

theorem takeWhile_noDigitHead {r : Str} (h : NoDigitHead r) : r.takeWhile Char.isDigit = [] := by
  cases r with
  | nil => rfl
  | cons c t => simp [List.takeWhile, h c t rfl]

theorem dropWhile_noDigitHead {r : Str} (h : NoDigitHead r) : r.dropWhile Char.isDigit = r := by
  cases r with
  | nil => rfl
  | cons c t => simp [List.dropWhile, h c t rfl]

theorem readNat_itoa (n : Nat) (r : Str) (h : NoDigitHead r) : readNat (itoa n ++ r) = some (n, r) := by
  have hd : ∀ c ∈ itoa n, c.isDigit = true := fun c hc => itoa_digit hc
  unfold readNat
  simp only [List.takeWhile_append_of_pos hd, List.dropWhile_append_of_pos hd, takeWhile_noDigitHead h,
    dropWhile_noDigitHead h, List.append_nil, if_neg (itoa_ne_nil n)]
  unfold itoa; rw [Nat.ofDigitChars_ten_toDigits]

theorem readNat_itoa_under (n : Nat) (t : Str) : readNat (itoa n ++ '_' :: t) = some (n, '_' :: t) :=
  readNat_itoa n _ (noDigitHead_cons (by decide))
theorem readNat_itoa_end (n : Nat) : readNat (itoa n) = some (n, []) := by
  have := readNat_itoa n [] noDigitHead_nil
  simpa using this

/-- for the two escapes that meet the plugin suffix: `oneLine` (a `map`) and `escData` (a `flatMap`) -/
theorem esc_withPlugin {esc : Str → Str} (happ : ∀ s t, esc (s ++ t) = esc s ++ esc t)
    (h1 : esc " (".toList = " (".toList) (h2 : esc [')'] = [')']) (m p : Str) :
    esc m ++ pluginSuffix esc p = esc (withPlugin m p) := by
  unfold withPlugin pluginSuffix
  split
  · rw [List.append_nil, List.append_nil]
  · simp only [id, happ, h1, h2]

/-! ### text -/

theorem parseTextLine_textLine (a : Annot) (h : ∀ c ∈ dispPath a, c ≠ ':') :
    parseTextLine (textLine a) = some (textF a) := by
  have e : textLine a = dispPath a ++ ':' :: (itoa (atLeast1 a.sl) ++ ':' :: (itoa (atLeast1 a.sc) ++
      ':' :: withPlugin (shownMsg a) a.plugin)) := by
    simp [textLine, withPlugin, List.append_assoc]
  rw [e]
  simp only [parseTextLine, cutAt_append ':' _ _ h, readNat_itoa _ (':' :: _) (noDigitHead_cons rfl), Option.bind_eq_bind,
    Option.bind_some, dropPrefix, if_true]
  rfl

theorem parseTextLine_path {s : Str} {t : TextF} (h : parseTextLine s = some t) : ∀ c ∈ t.path, c ≠ ':' := by
  simp only [parseTextLine, Option.bind_eq_bind, Option.bind_eq_some_iff] at h
  obtain ⟨⟨p, r⟩, hc, _, _, _, _, _, _, _, _, h⟩ := h
  cases h
  exact (cutAt_spec ':' s p r hc).1

/-! ### msvs -/

theorem oneLine_append (s t : Str) : oneLine (s ++ t) = oneLine s ++ oneLine t := by
  simp [oneLine]

theorem oneLine_id {s : Str} (h : ∀ c ∈ s, c ≠ '\n' ∧ c ≠ '\r') : oneLine s = s := by
  unfold oneLine
  conv => rhs; rw [← List.map_id s]
  apply List.map_congr_left
  intro c hc
  have := h c hc
  simp [this.1, this.2]

theorem forall_mem_oneLine_ne {x : Char} (hx : x ∉ [' ', '\n', '\r']) (s : Str) :
    (∀ c ∈ oneLine s, c ≠ x) ↔ ∀ c ∈ s, c ≠ x := by
  simp only [List.mem_cons, List.not_mem_nil, or_false, not_or] at hx
  simp only [oneLine, List.forall_mem_map]
  refine forall_congr' fun c => imp_congr_right fun _ => ?_
  split
  · rename_i h
    refine ⟨fun _ e => ?_, fun _ => Ne.symm hx.1⟩
    subst e
    exact h.elim hx.2.1 hx.2.2
  · exact Iff.rfl

theorem parseMsvsLine_msvsLine (a : Annot) (hp : ∀ c ∈ dispPath a, c ≠ '(')
    (ht : ∀ c ∈ shownType a, c ≠ ':') : parseMsvsLine (msvsLine a) = some (msvsF a) := by
  have e : msvsLine a = oneLine (dispPath a) ++ '(' :: (itoa (atLeast1 a.sl) ++ ',' :: (itoa (atLeast1 a.sc) ++
      (") : error ".toList ++ ((oneLine (shownType a) ++ [' ']) ++ ':' :: (' ' ::
        oneLine (withPlugin (shownMsg a) a.plugin)))))) := by
    rw [← esc_withPlugin oneLine_append (by decide) (by decide)]
    simp [msvsLine, msvsLineWith, List.append_assoc]
  have hty : ∀ c ∈ oneLine (shownType a) ++ [' '], c ≠ ':' := by
    intro c hc
    rcases List.mem_append.mp hc with h | h
    · exact (forall_mem_oneLine_ne (by decide) _).mpr ht c h
    · rw [List.mem_singleton.mp h]; decide
  rw [e]
  simp only [parseMsvsLine, cutAt_append '(' _ _ ((forall_mem_oneLine_ne (by decide) _).mpr hp), readNat_itoa _ (',' :: _) (noDigitHead_cons rfl),
    readNat_itoa _ (") : error ".toList ++ _) (noDigitHead_cons rfl), dropPrefix_append, cutAt_append ':' _ _ hty,
    Option.bind_eq_bind, Option.bind_some, dropPrefix, if_true, dropTrailingSpace, List.getLast?_concat,
    List.dropLast_concat]
  rfl

theorem parseMsvsLine_fields {s : Str} {m : MsvsF} (h : parseMsvsLine s = some m) :
    (∀ c ∈ m.path, c ≠ '(') ∧ (∀ c ∈ m.type, c ≠ ':') := by
  simp only [parseMsvsLine, Option.bind_eq_bind, Option.bind_eq_some_iff] at h
  obtain ⟨⟨p, r⟩, hc, _, _, _, _, _, _, _, _, ⟨t, r5⟩, h5, t', h6, _, _, h⟩ := h
  cases h
  refine ⟨(cutAt_spec '(' s p r hc).1, fun c hc => ?_⟩
  unfold dropTrailingSpace at h6
  split at h6
  · cases h6
    exact (cutAt_spec ':' _ t r5 h5).1 c (List.dropLast_subset _ hc)
  · cases h6

/-! ### github-actions -/

theorem optKey_hit (key : Str) (n : Nat) (r : Str) (h : NoDigitHead r) :
    optKey key (key ++ (itoa n ++ r)) = some (n, r) := by
  simp only [optKey, dropPrefix_append, readNat_itoa n r h]

theorem optKey_miss (key r : Str) (h : dropPrefix key r = none) : optKey key r = some (0, r) := by
  simp only [optKey, h]

theorem dropPrefix_head_ne {c d : Char} (h : c ≠ d) (ps t : Str) : dropPrefix (c :: ps) (d :: t) = none := by
  simp [dropPrefix, h]

/-- `r` starts with ',' or ':': a property value in front of it ends there -/
def SepHead (r : Str) : Prop := ∃ c t, r = c :: t ∧ (c = ',' ∨ c = ':')

theorem SepHead.optProp {r : Str} (h : SepHead r) (k : Str) (n : Nat) (hk : k.head? = some ',') :
    SepHead (optProp k n ++ r) := by
  unfold Annot.optProp
  split
  · exact h
  · cases k with
    | nil => cases hk
    | cons c ps => cases hk; exact ⟨_, _, rfl, .inl rfl⟩

theorem SepHead.noDigit {r : Str} (h : SepHead r) : NoDigitHead r := by
  obtain ⟨c, t, rfl, hc⟩ := h
  exact noDigitHead_cons (by rcases hc with rfl | rfl <;> rfl)

theorem takeWhile_sepHead {s r : Str} (hs : ∀ x ∈ s, x ≠ ',' ∧ x ≠ ':') (h : SepHead r) :
    (s ++ r).takeWhile (fun c => c != ',' && c != ':') = s ∧
    (s ++ r).dropWhile (fun c => c != ',' && c != ':') = r := by
  obtain ⟨c, t, rfl, hc⟩ := h
  have hP : ∀ x ∈ s, (x != ',' && x != ':') = true := fun x hx => by simp [hs x hx]
  rw [List.takeWhile_append_of_pos hP, List.dropWhile_append_of_pos hP]
  rcases hc with rfl | rfl <;> simp [List.takeWhile, List.dropWhile]

/-- `r` can follow an optional property with key `key`: a value ends there and `key` is not next -/
def After (key r : Str) : Prop := SepHead r ∧ dropPrefix key r = none

theorem after_colon {key : Str} (hk : key.head? = some ',') (t : Str) : After key (':' :: t) := by
  cases key with
  | nil => cases hk
  | cons c ps => cases hk; exact ⟨⟨_, _, rfl, .inr rfl⟩, dropPrefix_head_ne (by decide) _ _⟩

theorem After.optProp {key r : Str} (h : After key r) (k : Str) (n : Nat) (hk : k.head? = some ',')
    (hne : ∀ t, dropPrefix key (k ++ t) = none) : After key (optProp k n ++ r) := by
  refine ⟨h.1.optProp k n hk, ?_⟩
  unfold Annot.optProp
  split
  · exact h.2
  · exact List.append_assoc .. ▸ hne _

theorem optKey_optProp {key r : Str} (n : Nat) (h : After key r) :
    optKey key (optProp key n ++ r) = some (n, r) := by
  unfold optProp
  by_cases h0 : n = 0
  · rw [if_pos h0, h0]; exact optKey_miss key r h.2
  · rw [if_neg h0, List.append_assoc]; exact optKey_hit key n r h.1.noDigit

theorem parseGhaLine_ghaLine (a : Annot) : parseGhaLine (ghaLine a) = some (ghaF a) := by
  have e : ghaLine a = "::error file=".toList ++ (escProp (ghaF a).path ++ (optProp ",line=".toList (ghaF a).line ++
      (optProp ",col=".toList (ghaF a).col ++ (optProp ",endLine=".toList (ghaF a).endLine ++
        (optProp ",endColumn=".toList (ghaF a).endCol ++ ("::".toList ++ escData (ghaF a).msg)))))) := by
    have hd : escData a.msg ++ pluginSuffix escData a.plugin = escData (ghaF a).msg :=
      esc_withPlugin escData_append (by decide) (by decide) _ _
    unfold ghaLine ghaLineWith
    rw [ghaPos_eq]
    simp only [List.append_assoc, hd]
    rfl
  rw [e]
  generalize ghaF a = g
  -- what may follow each property: the later ones (all with other keys), then `::`
  have c (key : Str) (hk : key.head? = some ',') : After key ("::".toList ++ escData g.msg) := after_colon hk _
  have c3 := (c ",endLine=".toList rfl).optProp ",endColumn=".toList g.endCol rfl fun _ => rfl
  have c2 := ((c ",col=".toList rfl).optProp ",endColumn=".toList g.endCol rfl fun _ => rfl).optProp
    ",endLine=".toList g.endLine rfl fun _ => rfl
  have c1 := (((c ",line=".toList rfl).optProp ",endColumn=".toList g.endCol rfl fun _ => rfl).optProp
    ",endLine=".toList g.endLine rfl fun _ => rfl).optProp ",col=".toList g.col rfl fun _ => rfl
  have c0 := takeWhile_sepHead (escProp_no_sep g.path) (c1.1.optProp ",line=".toList g.line rfl)
  simp only [parseGhaLine, dropPrefix_append, Option.bind_eq_bind, Option.bind_some, c0.1, c0.2, optKey_optProp _ c1, optKey_optProp _ c2, optKey_optProp _ c3, optKey_optProp _ (c ",endColumn=".toList rfl),
    dropPrefix_append, Option.bind_some, unescProp_escProp, unescData_escData]

/-! ### junit -/

theorem parsePosSuffix_junitPosSuffix (sl sc : Nat) : parsePosSuffix (junitPosSuffix sl sc) = some (sl, sc) := by
  unfold junitPosSuffix
  by_cases h2 : sc = 0
  · by_cases h1 : sl = 0
    · simp [h1, h2, parsePosSuffix]
    · simp only [h2, ne_eq, not_true_eq_false, if_false, h1, not_false_eq_true, if_true, parsePosSuffix,
        readNat_itoa_end]
  · simp only [ne_eq, h2, not_false_eq_true, if_true, List.cons_append, parsePosSuffix, readNat_itoa_under, readNat_itoa_end]

theorem parseJunitCase_junitCase (a : Annot) (h : ∀ c ∈ dispPath a, c ≠ ':') :
    parseJunitCase (trimProto (dispPath a)) (junitCase a) = some (junitF a) := by
  simp only [parseJunitCase, junitCase, junitCaseName, junitName, dropPrefix_append, Option.bind_eq_bind,
    Option.bind_some, parsePosSuffix_junitPosSuffix, parseTextLine_textLine a h]
  rfl

/-! ### shared fields -/

/-- `s` shows nothing that `u` does not show the same way -/
structure Shared.Sub (s u : Shared) : Prop where
  file : s.file = none ∨ s.file = u.file
  fileFlat : s.fileFlat = none ∨ s.fileFlat = u.fileFlat
  suite : s.suite = none ∨ s.suite = u.suite
  line : s.line = none ∨ s.line = u.line
  col : s.col = none ∨ s.col = u.col
  endLine : s.endLine = none ∨ s.endLine = u.endLine
  endCol : s.endCol = none ∨ s.endCol = u.endCol
  rule : s.rule = none ∨ s.rule = u.rule
  ruleFlat : s.ruleFlat = none ∨ s.ruleFlat = u.ruleFlat
  text : s.text = none ∨ s.text = u.text
  textFlat : s.textFlat = none ∨ s.textFlat = u.textFlat
  message : s.message = none ∨ s.message = u.message

theorem keep_comm {α : Type} {x y u : Option α} (hx : x = none ∨ x = u) (hy : y = none ∨ y = u) :
    keep x y = keep y x := by
  cases x <;> cases y <;> cases u <;> simp_all [keep]

/-- two views of the same annotation agree on every field both carry -/
theorem restrict_comm {s t u : Shared} (hs : s.Sub u) (ht : t.Sub u) : s.restrict t = t.restrict s := by
  simp only [Shared.restrict, keep_comm hs.file ht.file, keep_comm hs.fileFlat ht.fileFlat,
    keep_comm hs.suite ht.suite, keep_comm hs.line ht.line, keep_comm hs.col ht.col,
    keep_comm hs.endLine ht.endLine, keep_comm hs.endCol ht.endCol, keep_comm hs.rule ht.rule,
    keep_comm hs.ruleFlat ht.ruleFlat, keep_comm hs.text ht.text, keep_comm hs.textFlat ht.textFlat,
    keep_comm hs.message ht.message]

theorem known_sub (n : Nat) : known n = none ∨ known n = some (atLeast1 n) := by
  unfold known atLeast1
  by_cases h : n = 0 <;> simp [h]

theorem known_ite_sub (c : Prop) [Decidable c] (n : Nat) :
    known (if c then 0 else n) = none ∨ known (if c then 0 else n) = some (atLeast1 n) := by
  by_cases h : c
  · exact Or.inl (by simp [h, known])
  · simp only [if_neg h]; exact known_sub n

/-- what a decoded record of ANY format shows is part of what the annotation is -/
theorem view_sub (f : Format) (a : Annot) : (view (proj f a)).Sub (Shared.full a) := by
  cases f with
  | text => constructor <;> simp [view, proj, viewText, textF, Shared.full]
  | msvs => constructor <;> simp [view, proj, msvsF, Shared.full]
  | gha =>
    exact {
      file := Or.inr rfl, fileFlat := Or.inr rfl, suite := Or.inr rfl,
      line := known_sub a.sl, col := known_ite_sub _ a.sc, endLine := known_ite_sub _ a.el,
      endCol := by
        by_cases h : a.sl = 0
        · exact Or.inl (by simp [view, proj, ghaF, h, known])
        · simp only [view, proj, ghaF, if_neg h]; exact known_ite_sub _ a.ec,
      rule := Or.inl rfl, ruleFlat := Or.inl rfl, text := Or.inl rfl, textFlat := Or.inl rfl,
      message := Or.inr rfl }
  | json =>
    rcases a with ⟨file, sl, sc, el, ec, type, msg, plugin⟩
    cases file <;> constructor <;>
      simp [view, proj, jsonRec, Shared.full, pathOf, dispPath, shownMsgOf, shownTypeOf, shownMsg, shownType,
        Decidable.em]
  | junit =>
    have ht : shownTypeOf a.type = shownType a := rfl
    constructor <;> simp [view, proj, junitF, Shared.full, viewText, textF, ht]

/-- `R` holds between the i-th elements of two lists of the same length, for every i -/
inductive InOrder {α β : Type} (R : α → β → Prop) : List α → List β → Prop where
  | nil : InOrder R [] []
  | cons {a : α} {b : β} {l1 : List α} {l2 : List β} : R a b → InOrder R l1 l2 → InOrder R (a :: l1) (b :: l2)

theorem InOrder.length_eq {α β : Type} {R : α → β → Prop} {l1 : List α} {l2 : List β} (h : InOrder R l1 l2) :
    l1.length = l2.length := by
  induction h with
  | nil => rfl
  | cons _ _ ih => simp [ih]

/-! ### side conditions of the decoders -/

/-- Where a format does not escape, the decoder needs the separator it splits at not to occur in
    the field in front of it:
    * text — no ':' in the displayed path (the path ends at the first ':') and no line feed in the
      line (records are lines);
    * msvs — no '(' in the displayed path, no ':' in the shown type;
    * github-actions, json — nothing (escaped / field level);
    * junit — the text line carried as failure message must decode (no ':' in the path; line feeds
      are fine, XML escapes them), and grouping by path must not reorder (`DispInj`). -/
def Side : Format → List Annot → Prop
  | .text, as => ∀ a ∈ as, (∀ c ∈ dispPath a, c ≠ ':') ∧ (∀ c ∈ textLine a, c ≠ '\n')
  | .msvs, as => ∀ a ∈ as, (∀ c ∈ dispPath a, c ≠ '(') ∧ (∀ c ∈ shownType a, c ≠ ':')
  | .gha, _ => True
  | .json, _ => True
  | .junit, as => DispInj as ∧ ∀ a ∈ as, ∀ c ∈ dispPath a, c ≠ ':'

theorem parseItem_render (f : Format) (as : List Annot) (h : Side f as) :
    ∀ a ∈ as, parseItem f (render f a) = some (proj f a) := by
  intro a ha
  cases f with
  | text => simp only [parseItem, render, proj, parseTextLine_textLine a (h a ha).1, Option.map_some]
  | msvs => simp only [parseItem, render, proj, parseMsvsLine_msvsLine a (h a ha).1 (h a ha).2, Option.map_some]
  | gha => simp only [parseItem, render, proj, parseGhaLine_ghaLine a, Option.map_some]
  | json => rfl
  | junit => simp only [parseItem, render, proj, parseJunitCase_junitCase a (h.2 a ha), Option.map_some]

end BufModel.Annot
