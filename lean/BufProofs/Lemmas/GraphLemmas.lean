import BufModel.Graph
import BufProofs.Lemmas.SortLemmas
/-
  What everything about `BufModel.Graph` rests on: the `Except` fold read by an invariant, composition and
  case analysis of reachability, the model's insertion sort as the one of `SortLemmas`, and the state
  invariant `DfsInv` of the shared DFS (C01 / C10 / C11) with the stack of entered nodes as a ghost: the
  visited list is duplicate-free and a permutation of output ++ stack, every visited node is reachable
  from a root, every output node exists with all its successors visited, and the output passes `isTopo`
  unless a node below the roots lies on a cycle (a successor not output yet is on the stack, so it
  reaches the node back).
-/
set_option linter.unusedSectionVars false
namespace BufModel.Graph
open BufModel.Path
variable {α : Type} [DecidableEq α]

theorem Reach.trans {succ : α → Option (List α)} {a b c : α} (h1 : Reach succ a b) (h2 : Reach succ b c) :
    Reach succ a c := by
  induction h2 with
  | refl => exact h1
  | step _ hs hc ih => exact Reach.step ih hs hc

theorem Reach.head {succ : α → Option (List α)} {a b c : α} {cs : List α}
    (hs : succ a = some cs) (hb : b ∈ cs) (h : Reach succ b c) : Reach succ a c :=
  Reach.trans (Reach.step (Reach.refl a) hs hb) h

/-! ### foldE -/
section FoldE
variable {σ ε β : Type}

/-- A fold whose steps keep `Inv` and move the state along a preorder `R`; what a step establishes
    about its own item (`Q`) survives along `R`. -/
theorem foldE_run {f : β → σ → Except ε σ} {Inv : σ → Prop} {R : σ → σ → Prop} {Q : β → σ → Prop}
    (hrefl : ∀ a, R a a) (htrans : ∀ {a b c}, R a b → R b c → R a c)
    (hQ : ∀ {c a b}, Q c a → R a b → Q c b) :
    ∀ (cs : List β) (a b : σ), Inv a →
      (∀ c ∈ cs, ∀ a' b', Inv a' → R a a' → f c a' = .ok b' → Inv b' ∧ R a' b' ∧ Q c b') →
      foldE f cs a = .ok b → Inv b ∧ R a b ∧ ∀ c ∈ cs, Q c b := by
  intro cs
  induction cs with
  | nil =>
    intro a b hi _ h
    simp only [foldE] at h
    injection h with h; subst h
    exact ⟨hi, hrefl a, by simp⟩
  | cons c cs ih =>
    intro a b hi hf h
    simp only [foldE] at h
    split at h
    · cases h
    · rename_i a1 heq
      obtain ⟨i1, r1, q1⟩ := hf c List.mem_cons_self a a1 hi (hrefl a) heq
      obtain ⟨i2, r2, q2⟩ := ih a1 b i1
        (fun c' hc' a' b' ha' hr' => hf c' (List.mem_cons_of_mem _ hc') a' b' ha' (htrans r1 hr')) h
      refine ⟨i2, htrans r1 r2, fun c' hc' => ?_⟩
      rcases List.mem_cons.mp hc' with rfl | hc'
      · exact hQ q1 r2
      · exact q2 c' hc'

theorem foldE_ok_inv (f : β → σ → Except ε σ) (Inv : σ → Prop) :
    ∀ (cs : List β) (s s' : σ), Inv s → (∀ c ∈ cs, ∀ a b, Inv a → f c a = .ok b → Inv b) →
      foldE f cs s = .ok s' → Inv s' := fun cs s s' hi hstep h =>
  (foldE_run (R := fun _ _ => True) (Q := fun _ _ => True) (fun _ => trivial) (fun _ _ => trivial) (fun _ _ => trivial)
    cs s s' hi (fun c hc a b ha _ hab => ⟨hstep c hc a b ha hab, trivial, trivial⟩) h).1

theorem foldE_error_inv (f : β → σ → Except ε σ) (Inv : σ → Prop) :
    ∀ (cs : List β) (s : σ) (e : ε), Inv s → (∀ c ∈ cs, ∀ a b, Inv a → f c a = .ok b → Inv b) →
      foldE f cs s = .error e → ∃ c ∈ cs, ∃ a, Inv a ∧ f c a = .error e := by
  intro cs
  induction cs with
  | nil => intro s e _ _ h; simp [foldE] at h
  | cons c cs ih =>
    intro s e hi hstep h
    simp only [foldE] at h
    split at h
    · rename_i e' heq
      injection h with h; subst h
      exact ⟨c, List.mem_cons_self, s, hi, heq⟩
    · rename_i s1 heq
      obtain ⟨c', hc', a, ha, hf⟩ := ih s1 e (hstep c List.mem_cons_self s s1 hi heq)
        (fun c' hc' => hstep c' (List.mem_cons_of_mem _ hc')) h
      exact ⟨c', List.mem_cons_of_mem _ hc', a, ha, hf⟩

theorem foldE_ok_all (f : β → σ → Except ε σ) :
    ∀ (cs : List β) (s s' : σ), foldE f cs s = .ok s' → ∀ c ∈ cs, ∃ a b, f c a = .ok b := fun cs s s' h =>
  (foldE_run (Inv := fun _ => True) (R := fun _ _ => True) (Q := fun c _ => ∃ a b, f c a = .ok b) (fun _ => trivial)
    (fun _ _ => trivial) (fun hq _ => hq) cs s s' trivial (fun _ _ a b _ _ hab => ⟨trivial, trivial, a, b, hab⟩) h).2.2

end FoldE

/-! ### reachability -/
section ReachLemmas
variable {succ : α → Option (List α)}

theorem Reach.cases_head {a x : α} (h : Reach succ a x) :
    x = a ∨ ∃ cs c, succ a = some cs ∧ c ∈ cs ∧ Reach succ c x := by
  induction h with
  | refl => exact Or.inl rfl
  | step hr hs hc ih =>
    rcases ih with h | ⟨cs', c', hs', hc', hr'⟩
    · subst h
      exact Or.inr ⟨_, _, hs, hc, Reach.refl _⟩
    · exact Or.inr ⟨cs', c', hs', hc', Reach.step hr' hs hc⟩

theorem ReachPlus.of_succ {a c : α} {cs : List α} (hs : succ a = some cs) (hc : c ∈ cs) :
    ReachPlus succ a c := ⟨a, cs, Reach.refl a, hs, hc⟩

theorem ReachPlus.reach {a c : α} (h : ReachPlus succ a c) : Reach succ a c := by
  obtain ⟨b, cs, hr, hs, hc⟩ := h
  exact Reach.step hr hs hc

theorem ReachPlus.of_reach {a b c : α} (h1 : Reach succ a b) (h2 : ReachPlus succ b c) :
    ReachPlus succ a c := by
  obtain ⟨b', cs, hr, hs, hc⟩ := h2
  exact ⟨b', cs, Reach.trans h1 hr, hs, hc⟩

theorem ReachPlus.tail {a b c : α} {cs : List α} (h : ReachPlus succ a b) (hs : succ b = some cs)
    (hc : c ∈ cs) : ReachPlus succ a c := ⟨b, cs, h.reach, hs, hc⟩

theorem ReachPlus.reach_left {a b c : α} (h1 : ReachPlus succ a b) (h2 : Reach succ b c) :
    ReachPlus succ a c := by
  induction h2 with
  | refl => exact h1
  | step _ hs hc ih => exact ih.tail hs hc

end ReachLemmas

/-! ### the insertion sort -/
section Sorting
variable {β : Type} (le : β → β → Bool)

theorem insertBy_eq : ∀ a l, insertBy le a l = insBy le a l := eq_insBy le (fun _ => rfl) (fun _ _ _ => rfl)

theorem sortBy_eq : ∀ l, sortBy le l = isortBy le l := eq_isortBy le (insertBy_eq le) rfl (fun _ _ => rfl)

theorem sortBy_perm (l : List β) : (sortBy le l).Perm l := sortBy_eq le l ▸ isortBy_perm le l

theorem mem_sortBy {l : List β} {x : β} : x ∈ sortBy le l ↔ x ∈ l := (sortBy_perm le l).mem_iff

theorem sortBy_pairwise (htot : ∀ a b, le a b = true ∨ le b a = true)
    (htr : ∀ a b c, le a b = true → le b c = true → le a c = true) (l : List β) :
    (sortBy le l).Pairwise (fun x y => le x y = true) :=
  sortBy_eq le l ▸ isortBy_pairwise (fun _ _ h => h) (fun a b h => (htot a b).resolve_left (h ▸ Bool.false_ne_true)) htr l

theorem sortBy_eq_of_perm (htot : ∀ a b, le a b = true ∨ le b a = true)
    (htr : ∀ a b c, le a b = true → le b c = true → le a c = true) {l l' : List β} (h : l.Perm l')
    (hanti : ∀ a b, a ∈ l → b ∈ l → le a b = true → le b a = true → a = b) :
    sortBy le l = sortBy le l' := by
  rw [sortBy_eq, sortBy_eq]
  exact isortBy_eq_of_perm (fun _ _ h => h) (fun a b h => (htot a b).resolve_left (h ▸ Bool.false_ne_true)) htr h hanti

end Sorting

/-! ### the invariant of `dfs` -/

theorem isTopo_snoc (succ : α → Option (List α)) (x : α) : ∀ (l pre : List α),
    isTopo succ pre (l ++ [x]) = true ↔
      isTopo succ pre l = true ∧ ∃ cs, succ x = some cs ∧ ∀ c ∈ cs, c ∈ pre ++ l := by
  intro l
  induction l with
  | nil =>
    intro pre
    cases hs : succ x <;> simp [isTopo, hs]
  | cons y ys ih =>
    intro pre
    simp only [List.cons_append, isTopo, Bool.and_eq_true, ih, List.append_assoc, List.nil_append, and_assoc]

theorem isTopo_prefix (succ : α → Option (List α)) : ∀ (a b pre : List α),
    isTopo succ pre (a ++ b) = true → isTopo succ pre a = true
  | [], _, _, _ => rfl
  | y :: ys, b, pre, h => by
    simp only [List.cons_append, isTopo, Bool.and_eq_true] at h ⊢
    exact ⟨h.1, isTopo_prefix succ ys b _ h.2⟩

theorem dfs_grows (succ : α → Option (List α)) :
    ∀ (fuel : Nat) (n : α) (s s' : List α × List α), dfs succ fuel n s = .ok s' →
      (∀ x ∈ s.1, x ∈ s'.1) ∧ n ∈ s'.1 := by
  intro fuel
  induction fuel with
  | zero => intro n s s' h; simp [dfs] at h
  | succ fuel ih =>
    intro n ⟨vis, out⟩ s' h
    simp only [dfs] at h
    split at h
    · rename_i hmem
      injection h with h; subst h
      exact ⟨fun _ h => h, hmem⟩
    · split at h
      · cases h
      · rename_i cs _
        split at h
        · cases h
        · rename_i v1 o1 hfold
          injection h with h; subst h
          have := foldE_ok_inv (dfs succ fuel) (fun a => ∀ x ∈ n :: vis, x ∈ a.1) cs _ _ (fun _ h => h)
            (fun c _ a b ha hab x hx => (ih c a b hab).1 x (ha x hx)) hfold
          exact ⟨fun x hx => this x (List.mem_cons_of_mem _ hx), this n List.mem_cons_self⟩

/-- The state invariant of a depth-first run below the roots `rs`.  `st` is the stack: the nodes
    entered and not yet output (a ghost, not part of the state).  `topo`: unless some node below the
    roots lies on a cycle, the output passes the order check. -/
structure DfsInv (succ : α → Option (List α)) (rs st : List α) (s : List α × List α) : Prop where
  nodup : s.1.Nodup
  perm : s.1.Perm (s.2 ++ st)
  reach : ∀ x ∈ s.1, ∃ r ∈ rs, Reach succ r x
  closed : ∀ x ∈ s.2, ∃ cs, succ x = some cs ∧ ∀ c ∈ cs, c ∈ s.1
  topo : (∀ r ∈ rs, ∀ x, Reach succ r x → ∀ cs d, succ x = some cs → d ∈ cs → ¬ Reach succ d x) →
    isTopo succ [] s.2 = true

theorem dfs_fold {succ : α → Option (List α)} {rs st : List α} {f : α → List α × List α → Except (DfsErr α) (List α × List α)}
    (hg : ∀ c a b, f c a = .ok b → (∀ x ∈ a.1, x ∈ b.1) ∧ c ∈ b.1)
    (hf : ∀ c a b, DfsInv succ rs st a → (∃ r ∈ rs, Reach succ r c) → (∀ x ∈ st, Reach succ x c) →
      f c a = .ok b → DfsInv succ rs st b)
    {cs : List α} {a b : List α × List α} (hi : DfsInv succ rs st a)
    (hr : ∀ c ∈ cs, (∃ r ∈ rs, Reach succ r c) ∧ ∀ x ∈ st, Reach succ x c) (h : foldE f cs a = .ok b) :
    DfsInv succ rs st b ∧ (∀ x ∈ a.1, x ∈ b.1) ∧ ∀ c ∈ cs, c ∈ b.1 :=
  foldE_run (R := fun a b => ∀ x ∈ a.1, x ∈ b.1) (Q := fun c b => c ∈ b.1)
    (fun _ _ h => h) (fun h1 h2 x hx => h2 x (h1 x hx)) (fun hq hr => hr _ hq) cs a b hi
    (fun c hc a' b' ha _ hab => ⟨hf c a' b' ha (hr c hc).1 (hr c hc).2 hab, hg c a' b' hab⟩) h

theorem dfs_run (succ : α → Option (List α)) (rs : List α) :
    ∀ (fuel : Nat) (n : α) (st : List α) (s s' : List α × List α),
      DfsInv succ rs st s → (∃ r ∈ rs, Reach succ r n) → (∀ a ∈ st, Reach succ a n) →
      dfs succ fuel n s = .ok s' → DfsInv succ rs st s' := by
  intro fuel
  induction fuel with
  | zero => intro n st s s' _ _ _ h; simp [dfs] at h
  | succ fuel ih =>
    intro n st ⟨vis, out⟩ s' hi hr hst h
    simp only [dfs] at h
    split at h
    · injection h with h; subst h; exact hi
    · rename_i hnot
      split at h
      · cases h
      · rename_i cs hs
        split at h
        · cases h
        · rename_i v1 o1 hfold
          injection h with h; subst h
          have hi0 : DfsInv succ rs (n :: st) (n :: vis, out) :=
            ⟨List.nodup_cons.mpr ⟨hnot, hi.nodup⟩, (List.Perm.cons n hi.perm).trans List.perm_middle.symm,
              fun x hx => (List.mem_cons.mp hx).elim (fun e => e ▸ hr) (hi.reach x),
              fun x hx => (hi.closed x hx).imp fun cs h => ⟨h.1, fun c hc => List.mem_cons_of_mem _ (h.2 c hc)⟩,
              hi.topo⟩
          obtain ⟨i1, _, q1⟩ := dfs_fold (dfs_grows succ fuel) (fun c => ih c (n :: st)) hi0
            (fun c hc => ⟨hr.imp fun r h => ⟨h.1, Reach.step h.2 hs hc⟩,
              fun a ha => (List.mem_cons.mp ha).elim (fun e => e ▸ Reach.step (Reach.refl n) hs hc)
                fun ha => Reach.step (hst a ha) hs hc⟩)
            hfold
          refine ⟨i1.nodup, by simpa using i1.perm, i1.reach, fun x hx => ?_, fun hac => ?_⟩
          · rcases List.mem_append.mp hx with hx | hx
            · exact i1.closed x hx
            · rw [List.mem_singleton.mp hx]; exact ⟨cs, hs, q1⟩
          · refine (isTopo_snoc succ n o1 []).mpr ⟨i1.topo hac, cs, hs, fun c hc => ?_⟩
            -- a successor that is not output yet is `n` or on the stack, hence reaches `n`: a cycle
            obtain ⟨r, hr1, hr2⟩ := hr
            rcases List.mem_append.mp (i1.perm.mem_iff.mp (q1 c hc)) with h | h
            · simpa using h
            · exact absurd ((List.mem_cons.mp h).elim (fun e => e ▸ Reach.refl c) (hst c))
                (hac r hr1 n hr2 cs c hs hc)

theorem dfsRoots_run {succ : α → Option (List α)} {fuel : Nat} {roots vis out : List α}
    (h : dfsRoots succ fuel roots = .ok (vis, out)) :
    DfsInv succ roots [] (vis, out) ∧ ∀ r ∈ roots, r ∈ vis :=
  have hi0 : DfsInv succ roots [] ([], []) := ⟨List.nodup_nil, List.Perm.nil, by simp, by simp, fun _ => rfl⟩
  have := dfs_fold (dfs_grows succ fuel) (fun c => dfs_run succ roots fuel c []) hi0
    (fun c hc => ⟨⟨c, hc, Reach.refl c⟩, by simp⟩) h
  ⟨this.1, this.2.2⟩

/-! ### module sets -/

theorem lt_of_modFiles_nonempty {ws : WS} {m : Nat} (h : (modFiles ws m).isEmpty = false) :
    m < ws.mods.length := by
  by_cases hlt : m < ws.mods.length
  · exact hlt
  · exfalso
    have hn : ws.mods[m]? = none := List.getElem?_eq_none (Nat.le_of_not_lt hlt)
    simp [modFiles, hn] at h

end BufModel.Graph
