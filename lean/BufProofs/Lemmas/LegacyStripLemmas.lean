import BufModel.LegacyStrip
import BufProofs.Lemmas.ListLemmas
/-
  Lemmas about BufModel.LegacyStrip (stripLegacyOptions):
    * the two slice loops (`stripExtsGo`, `stripRangesGo`) compute filter+map, and return nil iff
      nothing is legacy;
    * the pointer discipline: `Inv s m L S` — the caller's object is still `m`, the private copy
      exists iff something legacy was met (`L`) and then equals `S`, and `S = m` when `L` is false;
      every phase of the message function preserves it (`phase_write`), each iteration of a child
      loop being such a phase (`childLoop_inv_from`);
    * `nestedLoop` is `childLoop` on the nested messages.
-/
namespace BufProofs.LegacyStripLemmas
open BufModel.LegacyStrip

theorem set_length_append {β : Type} (pre : List β) (c d : β) (cs : List β) :
    (pre ++ c :: cs).set pre.length d = pre ++ d :: cs := by
  induction pre with
  | nil => rfl
  | cons a t ih => simp only [List.cons_append, List.length_cons, List.set_cons_succ, ih]

theorem specFld_of_not_weak (f : Fld) (h : f.isWeak = false) : specFld f = f := by
  unfold specFld; rw [h]; rfl

theorem specFld_of_weak (f : Fld) (h : f.isWeak = true) : specFld f = f.clearWeak := by
  unfold specFld; rw [h]; rfl

theorem stripField_eq (f : Fld) : stripField f = if f.isWeak then some (specFld f) else none := by
  unfold stripField
  cases h : f.isWeak with
  | false => rfl
  | true => simp only [if_true]; rw [specFld_of_weak f h]

theorem clearWeak_not_weak (f : Fld) : f.clearWeak.isWeak = false := by
  unfold Fld.clearWeak Fld.isWeak
  cases f.opts with
  | none => rfl
  | some o => rfl

theorem specFld_not_weak (f : Fld) : (specFld f).isWeak = false := by
  cases h : f.isWeak with
  | false => rw [specFld_of_not_weak f h]; exact h
  | true => rw [specFld_of_weak f h]; exact clearWeak_not_weak f

theorem specFld_number (f : Fld) : (specFld f).getNumber = f.getNumber := by
  unfold specFld; split <;> rfl

/-! ## a slice loop that copies lazily

The extension loop and the extension-range loop are one loop: an element is dropped (`keep e`
false), replaced by `fix e` (`chg e`), or left alone; `newExts` stays nil until the first element
that is not left alone, and is then the processed prefix.  The facts are proved once, from the
loop's equations. -/

section Slice
variable {β : Type} {keep chg : β → Bool} {fix : β → β}

/-- what the loop holds after the prefix `seen` -/
def lazyAcc (keep chg : β → Bool) (fix : β → β) (seen : List β) : Option (List β) :=
  if seen.any (fun e => !keep e || chg e) then some ((seen.filter keep).map fix) else none

theorem filterMap_id (hfix : ∀ e, chg e = false → fix e = e) (l : List β)
    (h : l.any (fun e => !keep e || chg e) = false) : (l.filter keep).map fix = l := by
  induction l with
  | nil => rfl
  | cons e t ih =>
    rw [List.any_cons, Bool.or_eq_false_iff, Bool.or_eq_false_iff] at h
    have hk : keep e = true := by simpa using h.1.1
    rw [List.filter_cons_of_pos hk, List.map_cons, hfix e h.1.2, ih h.2]

theorem lazyAcc_snoc (hfix : ∀ e, chg e = false → fix e = e) (seen : List β) (e : β) :
    lazyAcc keep chg fix (seen ++ [e]) =
      if keep e then
        if chg e then some ((lazyAcc keep chg fix seen).getD seen ++ [fix e])
        else (lazyAcc keep chg fix seen).map (· ++ [e])
      else some ((lazyAcc keep chg fix seen).getD seen) := by
  unfold lazyAcc
  cases hs : seen.any (fun e => !keep e || chg e) <;> cases hk : keep e <;> cases hc : chg e <;>
    simp [List.filter_append, hs, hk, hc, hfix e, filterMap_id hfix seen]

theorem slice_spec {go : List β → List β → Option (List β) → Option (List β)}
    (hnil : ∀ seen acc, go seen [] acc = acc)
    (hcons : ∀ seen e rest acc, go seen (e :: rest) acc =
      go (seen ++ [e]) rest (if keep e then
        if chg e then some (acc.getD seen ++ [fix e]) else acc.map (· ++ [e])
      else some (acc.getD seen)))
    (hfix : ∀ e, chg e = false → fix e = e) (l : List β) :
    go [] l none = if l.any (fun e => !keep e || chg e) then some ((l.filter keep).map fix) else none := by
  have gen : ∀ (rest seen : List β),
      go seen rest (lazyAcc keep chg fix seen) = lazyAcc keep chg fix (seen ++ rest) := by
    intro rest
    induction rest with
    | nil => intro seen; rw [hnil, List.append_nil]
    | cons e t ih =>
      intro seen
      rw [hcons, ← lazyAcc_snoc hfix, ih, List.append_assoc]
      rfl
  exact gen l []

theorem filterMap_clean (hclean : ∀ e, keep e = true → keep (fix e) = true ∧ chg (fix e) = false)
    (l : List β) : ((l.filter keep).map fix).any (fun e => !keep e || chg e) = false := by
  rw [List.any_eq_false]
  intro x hx
  obtain ⟨e, he, rfl⟩ := List.mem_map.mp hx
  obtain ⟨h1, h2⟩ := hclean e (List.mem_filter.mp he).2
  simp [h1, h2]

end Slice

theorem decide_gt_maxTag (x : Int) : decide (x > maxTag) = !decide (x ≤ maxTag) := by
  rw [← decide_not]
  exact decide_eq_decide.mpr Int.not_le.symm

theorem legacyExt_eq : Fld.legacyExt = fun e => !decide (e.getNumber ≤ maxTag) || e.isWeak := by
  funext e
  unfold Fld.legacyExt
  rw [decide_gt_maxTag]

theorem stripExts_spec (l : List Fld) :
    stripExts l = if l.any Fld.legacyExt then some (specExts l) else none := by
  rw [legacyExt_eq]
  refine slice_spec (fun _ _ => rfl) (fun seen e rest acc => ?_) specFld_of_not_weak l
  show (if e.getNumber > maxTag then _ else _) = _
  by_cases hn : e.getNumber > maxTag
  · rw [if_pos hn, decide_eq_false (by omega)]; rfl
  · rw [if_neg hn, decide_eq_true (by omega), stripField_eq]
    cases e.isWeak <;> rfl

theorem specExts_id (l : List Fld) (h : l.any Fld.legacyExt = false) : specExts l = l := by
  rw [legacyExt_eq] at h
  exact filterMap_id specFld_of_not_weak l h

theorem specExts_no_legacy (l : List Fld) : (specExts l).any Fld.legacyExt = false := by
  rw [legacyExt_eq]
  refine filterMap_clean (fun e he => ?_) l
  rw [specFld_number]
  exact ⟨he, specFld_not_weak e⟩

/-! ## extension ranges -/

theorem rangeLegacy_eq : ERange.legacy =
    fun e => !decide (e.getStart ≤ maxTag) || decide (e.getStop > maxTag + 1) := by
  funext e
  unfold ERange.legacy
  rw [decide_gt_maxTag]

theorem specRange_id (e : ERange) (h : decide (e.getStop > maxTag + 1) = false) : specRange e = e := by
  unfold specRange; rw [if_neg (of_decide_eq_false h)]

theorem stripRanges_spec (l : List ERange) :
    stripRanges l = if l.any ERange.legacy then some (specRanges l) else none := by
  rw [rangeLegacy_eq]
  refine slice_spec (fun _ _ => rfl) (fun seen e rest acc => ?_) specRange_id l
  show (if e.getStart > maxTag then _ else _) = _
  by_cases hs : e.getStart > maxTag
  · rw [if_pos hs, decide_eq_false (by omega)]; rfl
  · rw [if_neg hs, decide_eq_true (by omega)]
    by_cases hE : e.getStop > maxTag + 1
    · rw [if_pos hE, decide_eq_true hE]
      unfold specRange; rw [if_pos hE]; rfl
    · rw [if_neg hE, decide_eq_false hE]; rfl

theorem specRanges_id (l : List ERange) (h : l.any ERange.legacy = false) : specRanges l = l := by
  rw [rangeLegacy_eq] at h
  exact filterMap_id specRange_id l h

theorem specRanges_no_legacy (l : List ERange) : (specRanges l).any ERange.legacy = false := by
  rw [rangeLegacy_eq]
  refine filterMap_clean (fun e he => ?_) l
  unfold specRange
  split
  · exact ⟨he, decide_eq_false (by show ¬ (maxTag + 1 > maxTag + 1); omega)⟩
  · rename_i hE
    exact ⟨he, decide_eq_false hE⟩

/-! ## the pointer discipline -/

section St
variable {α : Type}

theorem ensure_write_orig (s : St α) (f : α → α) : (s.ensure.write f).orig = s.orig := by
  cases s with
  | mk o c => cases c <;> rfl

theorem ensure_write_clone (s : St α) (f : α → α) : (s.ensure.write f).clone = some (f s.cur) := by
  cases s with
  | mk o c => cases c <;> rfl

/-- the caller's object is `m`; a private copy exists iff `L`, it is `S`; `S = m` while `L` is false -/
structure Inv (s : St α) (m : α) (L : Bool) (S : α) : Prop where
  orig : s.orig = m
  clone : s.clone = if L then some S else none
  same : L = false → S = m

theorem Inv.cur {s : St α} {m S : α} {L : Bool} (h : Inv s m L S) : s.cur = S := by
  unfold St.cur
  rw [h.clone, h.orig]
  cases hL : L with
  | true => rfl
  | false => simp only [Bool.false_eq_true, if_false, Option.getD_none]; exact (h.same hL).symm

theorem Inv.init (m : α) : Inv (⟨m, none⟩ : St α) m false m := ⟨rfl, rfl, fun _ => rfl⟩

/-- `if res != nil { ensure clone; x.F = res }`, where `res` is computed from the object the local
    variable points to -/
theorem phase_write {γ : Type} {s : St α} {m S : α} {L : Bool} (h : Inv s m L S)
    (res : α → Option γ) (put : γ → α → α) (leg : Bool) (v : γ)
    (hres : res S = if leg then some v else none) (hid : leg = false → put v S = S) :
    Inv (s.writeIf (res s.cur) put) m (L || leg) (put v S) := by
  unfold St.writeIf
  rw [h.cur, hres]
  cases hl : leg with
  | false =>
    simp only [Bool.false_eq_true, if_false, Bool.or_false]
    rw [hid hl]; exact h
  | true =>
    simp only [if_true, Bool.or_true]
    exact ⟨by rw [ensure_write_orig]; exact h.orig, by rw [ensure_write_clone, h.cur]; rfl, fun hf => by cases hf⟩

end St

structure LawfulLens {α β : Type} (L : Lens α β) : Prop where
  get_put : ∀ l a, L.get (L.put l a) = l
  put_put : ∀ l l' a, L.put l (L.put l' a) = L.put l a
  put_get : ∀ a, L.put (L.get a) a = a

theorem fieldsL_lawful : LawfulLens fieldsL :=
  ⟨fun _ a => by cases a; rfl, fun _ _ a => by cases a; rfl, fun a => by cases a; rfl⟩
theorem nestedL_lawful : LawfulLens nestedL :=
  ⟨fun _ a => by cases a; rfl, fun _ _ a => by cases a; rfl, fun a => by cases a; rfl⟩
theorem msgsL_lawful : LawfulLens msgsL :=
  ⟨fun _ _ => rfl, fun _ _ _ => rfl, fun _ => rfl⟩

section Loop
variable {α β : Type}

theorem setAt_self (L : Lens α β) (hL : LawfulLens L) (a : α) (pre : List β) (c : β) (cs : List β)
    (h : L.get a = pre ++ c :: cs) : L.setAt pre.length c a = a := by
  unfold Lens.setAt
  rw [h, set_length_append, ← h, hL.put_get]

theorem setAt_put (L : Lens α β) (a : α) (pre : List β) (c d : β) (cs : List β)
    (h : L.get a = pre ++ c :: cs) : L.setAt pre.length d a = L.put (pre ++ d :: cs) a := by
  unfold Lens.setAt
  rw [h, set_length_append]

/-- The loop as written (`faithful = true`), when every child call leaves its argument alone and
    returns `some (sp c)` exactly for the legacy children, from the middle: one iteration writes the
    unchanged child back into its owner (nothing happens) and is then the phase
    `writeIf (strip c).2 (x.Children[i] = ·)`. -/
theorem childLoop_inv_from (L : Lens α β) (hL : LawfulLens L) (strip : β → β × Option β)
    (leg : β → Bool) (sp : β → β) (own : Bool) {m S0 : α} (todo : List β) :
    ∀ (pre : List β) (s : St α) (Lp : Bool),
      (∀ c ∈ todo, strip c = (c, if leg c then some (sp c) else none)) →
      (∀ c ∈ todo, leg c = false → sp c = c) →
      L.get m = pre ++ todo →
      Inv s m Lp (L.put (pre.map sp ++ todo) S0) →
      Inv (childLoop L strip true own pre.length todo s) m (Lp || todo.any leg)
        (L.put ((pre ++ todo).map sp) S0) := by
  induction todo with
  | nil =>
    intro pre s Lp _ _ _ h
    rw [List.append_nil] at h
    rw [List.any_nil, Bool.or_false, List.append_nil]
    exact h
  | cons c cs ih =>
    intro pre s Lp hstrip hid hm h
    have hsc := hstrip c List.mem_cons_self
    have hS := setAt_self L hL _ (pre.map sp) c cs (hL.get_put _ S0)
    have hP := setAt_put L _ (pre.map sp) c (sp c) cs (hL.get_put _ S0)
    rw [List.length_map] at hS hP
    rw [hL.put_put] at hP
    -- writing the (unchanged) child back into its owner changes nothing
    have hback : (if own = true then ({ s with orig := L.setAt pre.length (strip c).1 s.orig } : St α)
                  else { s with clone := s.clone.map (L.setAt pre.length (strip c).1) }) = s := by
      rw [hsc]
      cases own with
      | true =>
        simp only [if_true]
        rw [setAt_self L hL s.orig pre c cs (by rw [h.orig]; exact hm)]
      | false =>
        simp only [Bool.false_eq_true, if_false]
        have hcl : s.clone.map (L.setAt pre.length c) = s.clone := by
          rw [h.clone]
          cases Lp with
          | false => rfl
          | true => exact congrArg some hS
        rw [hcl]
    have hw := phase_write h (fun _ => (strip c).2) (L.setAt pre.length) (leg c) (sp c) (by rw [hsc])
      (fun hl => by rw [hid c List.mem_cons_self hl]; exact hS)
    rw [hP, List.append_cons, ← List.map_singleton, ← List.map_append] at hw
    have := ih (pre ++ [c]) _ _ (fun x hx => hstrip x (List.mem_cons_of_mem _ hx))
      (fun x hx => hid x (List.mem_cons_of_mem _ hx)) (by rw [hm, List.append_cons]) hw
    rw [List.length_append, List.length_singleton, Bool.or_assoc, ← List.any_cons, ← List.append_cons] at this
    unfold childLoop
    simp only []
    rw [hback]
    exact this

theorem childLoop_inv (L : Lens α β) (hL : LawfulLens L) (strip : β → β × Option β)
    (leg : β → Bool) (sp : β → β) (todo : List β) {s : St α} {m S : α} {L0 : Bool}
    (h : Inv s m L0 S) (hm : L.get m = todo) (hS : L.get S = todo)
    (hstrip : ∀ c ∈ todo, strip c = (c, if leg c then some (sp c) else none))
    (hid : ∀ c ∈ todo, leg c = false → sp c = c) :
    Inv (childLoop L strip true s.clone.isNone 0 todo s) m (L0 || todo.any leg) (L.put (todo.map sp) S) := by
  have e : L.put todo S = S := by rw [← hS]; exact hL.put_get S
  exact childLoop_inv_from L hL strip leg sp _ todo [] s L0 hstrip hid hm (e.symm ▸ h)

end Loop

theorem nestedLoop_eq (f : Bool) (l : List Msg) : ∀ (own : Bool) (i : Nat) (s : St Msg),
    nestedLoop f own i l s = childLoop nestedL (stripMsg f) f own i l s := by
  induction l with
  | nil => intro own i s; simp only [nestedLoop, childLoop]
  | cons c cs ih =>
    intro own i s
    simp only [nestedLoop, childLoop]
    rw [ih]
    generalize (stripMsg f c).snd = r
    cases r <;> rfl

/-! ## spec facts for messages -/

theorem specMsgs_eq_map (l : List Msg) : specMsgs l = l.map specMsg := by
  induction l with
  | nil => simp only [specMsgs, List.map_nil]
  | cons a t ih => simp only [specMsgs, List.map_cons, ih]

theorem legacyMsgs_eq_any (l : List Msg) : legacyMsgs l = l.any legacyMsg := by
  induction l with
  | nil => simp only [legacyMsgs, List.any_nil]
  | cons a t ih => simp only [legacyMsgs, List.any_cons, ih]

theorem map_clearMsetO_id (opts : Option MOpts) (h : optsMset opts = false) :
    opts.map clearMsetO = opts := by
  cases opts with
  | none => rfl
  | some o =>
    obtain ⟨mset, rest⟩ := o
    cases mset with
    | none => rfl
    | some b => cases b with
      | false => rfl
      | true => cases h

theorem map_specFld_id (l : List Fld) (h : l.any Fld.isWeak = false) : l.map specFld = l :=
  ListLemmas.map_id_of_forall specFld l (fun c hc => specFld_of_not_weak c (by simpa using List.any_eq_false.mp h c hc))

mutual
theorem specMsg_id : ∀ m : Msg, legacyMsg m = false → specMsg m = m
  | .mk rest opts fields nested ranges exts => by
    intro h
    simp only [legacyMsg, Bool.or_eq_false_iff] at h
    obtain ⟨⟨⟨⟨h1, h2⟩, h3⟩, h4⟩, h5⟩ := h
    simp only [specMsg]
    rw [map_clearMsetO_id opts h1, map_specFld_id fields h2, specMsgs_id nested h3,
      specRanges_id ranges h4, specExts_id exts h5]
theorem specMsgs_id : ∀ l : List Msg, legacyMsgs l = false → specMsgs l = l
  | [] => by intro _; simp only [specMsgs]
  | m :: ms => by
    intro h
    simp only [legacyMsgs, Bool.or_eq_false_iff] at h
    simp only [specMsgs]
    rw [specMsg_id m h.1, specMsgs_id ms h.2]
end

theorem clearMsetO_clean (opts : Option MOpts) : optsMset (opts.map clearMsetO) = false := by
  cases opts with
  | none => rfl
  | some o =>
    obtain ⟨mset, rest⟩ := o
    cases mset with
    | none => rfl
    | some b => cases b <;> rfl

theorem map_specFld_clean (l : List Fld) : (l.map specFld).any Fld.isWeak = false := by
  induction l with
  | nil => rfl
  | cons a t ih => rw [List.map_cons, List.any_cons, specFld_not_weak, ih]; rfl

mutual
theorem specMsg_clean : ∀ m : Msg, legacyMsg (specMsg m) = false
  | .mk rest opts fields nested ranges exts => by
    simp only [specMsg, legacyMsg]
    rw [clearMsetO_clean opts, map_specFld_clean fields, specMsgs_clean nested,
      specRanges_no_legacy ranges, specExts_no_legacy exts]
    rfl
theorem specMsgs_clean : ∀ l : List Msg, legacyMsgs (specMsgs l) = false
  | [] => by simp only [specMsgs, legacyMsgs]
  | m :: ms => by
    simp only [specMsgs, legacyMsgs]
    rw [specMsg_clean m, specMsgs_clean ms]; rfl
end

end BufProofs.LegacyStripLemmas
