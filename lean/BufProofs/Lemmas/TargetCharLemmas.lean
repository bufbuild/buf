import BufModel.Targeting
import BufProofs.Lemmas.PathLemmas
import BufProofs.Lemmas.DfsLemmas
import BufProofs.Lemmas.LockLemmas
/-
  The target-file decision characterised, for C01 / C10: `MapHasEqualOrContainingPath` without its
  Dir-walk, `getIsTargetFileForPathUncached` read at user level, the per-module and the multi-bucket
  target walk, and the sorted root list `targetList`.
-/
namespace BufModel.Targeting
open BufModel.Path BufModel.Graph

/-! ### MapHasEqualOrContainingPath -/

theorem mapHas_iff (m : List Str) (path : Str) :
    mapHasEqualOrContainingPath m path = true ↔ ∃ q ∈ m, equalsOrContainsPath q path = true :=
  BufModel.Path.mapHas_iff_of (mem := (· ∈ m)) (loop := mapHasLoop m) (fun _ => Iff.rfl) (fun _ => rfl) (fun _ _ => rfl) rfl

theorem mapHas_false_iff (m : List Str) (path : Str) :
    mapHasEqualOrContainingPath m path = false ↔ ∀ q ∈ m, equalsOrContainsPath q path = false := by
  rw [← Bool.not_eq_true, mapHas_iff]
  simp

/-! ### getIsTargetFileForPathUncached, read at user level -/

theorem isTargetFile_paths_iff (mt : Bool) (cfg : TCfg) (files : List PFile) (f : PFile)
    (hpf : cfg.protoFile = []) :
    isTargetFile mt cfg files f = true ↔
      mt = true ∧
      (cfg.paths = [] ∨ ∃ q ∈ cfg.paths, equalsOrContainsPath q f.path = true) ∧
      (∀ q ∈ cfg.excludes, equalsOrContainsPath q f.path = false) := by
  unfold isTargetFile
  cases mt
  · simp
  · simp only [Bool.not_true, Bool.false_eq_true, ↓reduceIte, hpf, ne_eq, not_true_eq_false, true_and]
    by_cases hp : cfg.paths = []
    · by_cases he : cfg.excludes = []
      · simp [hp, he]
      · simp only [hp, he, decide_true, decide_false, Bool.and_false, Bool.false_eq_true, ↓reduceIte,
          Bool.not_eq_true', true_or, true_and]
        exact mapHas_false_iff _ _
    · by_cases he : cfg.excludes = []
      · simp only [hp, he, decide_false, Bool.false_and, Bool.false_eq_true, ↓reduceIte, decide_true,
          false_or, List.not_mem_nil, false_imp_iff, implies_true, and_true]
        exact mapHas_iff _ _
      · simp only [hp, he, decide_false, Bool.false_and, Bool.false_eq_true, ↓reduceIte,
          Bool.and_eq_true, Bool.not_eq_true', false_or]
        rw [mapHas_iff, mapHas_false_iff]

theorem isTargetFile_protoFile_iff (mt : Bool) (cfg : TCfg) (files : List PFile) (f : PFile)
    (hpf : cfg.protoFile ≠ []) :
    isTargetFile mt cfg files f = true ↔
      mt = true ∧
      (f.path = cfg.protoFile ∨
        (cfg.includePackageFiles = true ∧
          ∃ t, files.find? (fun g => g.path == cfg.protoFile) = some t ∧ t.pkg ≠ [] ∧ t.pkg = f.pkg)) := by
  unfold isTargetFile
  cases mt
  · simp
  · simp only [Bool.not_true, Bool.false_eq_true, ↓reduceIte, ne_eq, hpf, not_false_eq_true, true_and]
    by_cases h1 : f.path = cfg.protoFile
    · simp [h1]
    · simp only [h1, ↓reduceIte, false_or]
      cases hi : cfg.includePackageFiles
      · simp
      · simp only [Bool.not_true, Bool.false_eq_true, ↓reduceIte, true_and]
        cases hfind : files.find? (fun g => g.path == cfg.protoFile) with
        | none => simp
        | some t =>
          simp only [Option.some.injEq, exists_eq_left']
          by_cases hp : t.pkg = []
          · simp [hp]
          · simp [hp]

theorem isTargetFile_protoFile_iff_mem (mt : Bool) (cfg : TCfg) (files : List PFile) (f : PFile)
    (hpf : cfg.protoFile ≠ []) (hnd : (files.map (·.path)).Nodup) :
    isTargetFile mt cfg files f = true ↔
      mt = true ∧
      (f.path = cfg.protoFile ∨
        (cfg.includePackageFiles = true ∧
          ∃ t ∈ files, t.path = cfg.protoFile ∧ t.pkg ≠ [] ∧ t.pkg = f.pkg)) := by
  rw [isTargetFile_protoFile_iff mt cfg files f hpf]
  constructor
  · rintro ⟨h1, h2⟩
    refine ⟨h1, h2.imp id ?_⟩
    rintro ⟨hi, t, hfind, hp, hpk⟩
    exact ⟨hi, t, List.mem_of_find?_eq_some hfind, by simpa using List.find?_some hfind, hp, hpk⟩
  · rintro ⟨h1, h2⟩
    refine ⟨h1, h2.imp id ?_⟩
    rintro ⟨hi, t, ht, htp, hp, hpk⟩
    exact ⟨hi, t, htp ▸ find?_key_of_nodup (·.path) hnd ht, hp, hpk⟩

theorem isTargetIn_false_of_nontarget (t : TWS) (m : Nat) (f : PFile) (h : modIsTarget t m = false) :
    isTargetIn t m f = false := by
  unfold isTargetIn isTargetFile
  simp [h]

theorem modIsTarget_of_isTargetIn {t : TWS} {m : Nat} {f : PFile} (h : isTargetIn t m f = true) :
    modIsTarget t m = true := by
  cases hm : modIsTarget t m with
  | true => rfl
  | false => rw [isTargetIn_false_of_nontarget t m f hm] at h; cases h

/-! ### the per-module target walk -/

/-- what `ModuleSetBuilder.AddLocalModule` validates (module_set_builder.go: "cannot set
    TargetPaths and ProtoFileTargetPath"): a proto-file reference excludes path lists. -/
def WfCfg (c : TCfg) : Prop := c.protoFile ≠ [] → c.paths = [] ∧ c.excludes = []

instance (c : TCfg) : Decidable (WfCfg c) := by unfold WfCfg; exact inferInstance

theorem dedup_nodup {β : Type} [DecidableEq β] : ∀ (l : List β), (dedup l).Nodup
  | [] => by simp [dedup]
  | x :: xs => by
    simp only [dedup]
    split
    · exact dedup_nodup xs
    · rename_i h
      exact List.nodup_cons.mpr ⟨fun hh => h (mem_dedup.mp hh), dedup_nodup xs⟩

theorem mem_moduleTargetFiles_sound {t : TWS} {m : Nat} {f : PFile} (h : f ∈ (moduleTargetFiles t m).1) :
    f ∈ modFiles t.ws m ∧ isTargetIn t m f = true := by
  unfold moduleTargetFiles at h
  dsimp only at h
  split at h
  · simp only [List.mem_filter, List.mem_reverse, mem_dedup, List.mem_flatMap] at h
    obtain ⟨⟨tp, _, hf⟩, ht⟩ := h
    exact ⟨hf.1, ht⟩
  · simpa [List.mem_filter] using h

theorem mem_moduleTargetFiles {t : TWS} {m : Nat} {f : PFile} (hwf : WfCfg (cfgOf t m)) :
    f ∈ (moduleTargetFiles t m).1 ↔ f ∈ modFiles t.ws m ∧ isTargetIn t m f = true := by
  refine ⟨mem_moduleTargetFiles_sound, ?_⟩
  rintro ⟨hf, ht⟩
  unfold moduleTargetFiles
  dsimp only
  split
  · rename_i hp
    simp only [List.mem_filter, List.mem_reverse, mem_dedup, List.mem_flatMap]
    refine ⟨?_, ht⟩
    have hpf : (cfgOf t m).protoFile = [] := by
      apply Classical.byContradiction
      intro hne
      exact hp (hwf hne).1
    have := (isTargetFile_paths_iff _ _ _ _ hpf).mp ht
    rcases this.2.1 with h | ⟨q, hq, he⟩
    · exact absurd h hp
    · exact ⟨q, hq, hf, he⟩
  · simp only [List.mem_filter]
    exact ⟨hf, ht⟩

theorem mem_moduleTargetFiles_paths {t : TWS} {m : Nat} {f : PFile} (hpf : (cfgOf t m).protoFile = []) :
    f ∈ (moduleTargetFiles t m).1 ↔ f ∈ modFiles t.ws m ∧ modIsTarget t m = true ∧
      ((cfgOf t m).paths = [] ∨ ∃ q ∈ (cfgOf t m).paths, equalsOrContainsPath q f.path = true) ∧
      ∀ q ∈ (cfgOf t m).excludes, equalsOrContainsPath q f.path = false := by
  rw [mem_moduleTargetFiles (fun hne => absurd hpf hne)]
  unfold isTargetIn
  rw [isTargetFile_paths_iff _ _ _ _ hpf]

/-- the walk of a module ends with `validate()` exactly when no `--path` narrows it. -/
theorem moduleTargetFiles_snd (t : TWS) (m : Nat) :
    (moduleTargetFiles t m).2 = decide ((cfgOf t m).paths = []) := by
  by_cases h : (cfgOf t m).paths = [] <;> simp [moduleTargetFiles, h]

theorem moduleTargetFiles_nodup {t : TWS} {m : Nat} (hnd : ((modFiles t.ws m).map (·.path)).Nodup) :
    ((moduleTargetFiles t m).1.map (·.path)).Nodup := by
  unfold moduleTargetFiles
  dsimp only
  split
  · rw [List.nodup_iff_pairwise_ne, List.pairwise_map]
    apply List.Pairwise.filter
    rw [List.pairwise_reverse]
    have hd := dedup_nodup
      ((List.flatMap (fun tp => List.filter (fun f => equalsOrContainsPath tp f.path) (modFiles t.ws m))
        (cfgOf t m).paths).reverse)
    rw [List.nodup_iff_pairwise_ne] at hd
    refine List.Pairwise.imp_of_mem ?_ hd
    intro a b ha hb hab hpath
    have sub : ∀ x ∈ dedup ((cfgOf t m).paths.flatMap fun tp =>
        (modFiles t.ws m).filter fun f => equalsOrContainsPath tp f.path).reverse, x ∈ modFiles t.ws m := by
      intro x hx
      simp only [mem_dedup, List.mem_reverse, List.mem_flatMap, List.mem_filter] at hx
      obtain ⟨_, _, h, _⟩ := hx; exact h
    exact hab (BufProofs.ListLemmas.eq_of_nodup_map (·.path) hnd (sub a ha) (sub b hb) hpath.symm)
  · exact (List.Sublist.map _ List.filter_sublist).nodup hnd

/-! ### the multi-bucket target walk -/

/-- a walk of module `m` ends with NoProtoFilesError: the walk validates (no `--path`), the
    module is targeted and has no .proto file. -/
def emptyTargetErr (t : TWS) (m : Nat) : Bool :=
  (moduleTargetFiles t m).2 && modIsTarget t m && (modFiles t.ws m).isEmpty

/-- the (module, file) pairs the multi-bucket walk yields, in walk order. -/
def targetsOf (t : TWS) (ms : List Nat) : List (Nat × PFile) :=
  ms.flatMap (fun m => (moduleTargetFiles t m).1.map (fun f => (m, f)))

def allTargets (t : TWS) : List (Nat × PFile) := targetsOf t (List.range t.ws.mods.length)

theorem walkTargets_cons (t : TWS) (m : Nat) (ms : List Nat) (acc : List (Nat × PFile)) :
    walkTargets t (m :: ms) acc = (walkTargets.go m (moduleTargetFiles t m).1 acc).bind fun acc' =>
      if emptyTargetErr t m then .error .noProtoFiles else walkTargets t ms acc' := by
  simp only [walkTargets, emptyTargetErr]
  cases walkTargets.go m (moduleTargetFiles t m).1 acc <;> rfl

theorem walkTargets_ok (t : TWS) : ∀ (ms : List Nat) (acc acc' : List (Nat × PFile)),
    walkTargets t ms acc = .ok acc' →
      acc' = acc ++ targetsOf t ms ∧
      ((acc.map (·.2.path)).Nodup → (acc'.map (·.2.path)).Nodup) ∧
      ∀ m ∈ ms, emptyTargetErr t m = false :=
  walk_ok (go := walkTargets.go) (fun _ _ => rfl) (fun _ _ _ _ => rfl) (fun _ => rfl) (walkTargets_cons t)

theorem walkTargets_of_nodup (t : TWS) : ∀ (ms : List Nat) (acc : List (Nat × PFile)),
    ((acc ++ targetsOf t ms).map (·.2.path)).Nodup →
    (∀ m ∈ ms, emptyTargetErr t m = false) →
      walkTargets t ms acc = .ok (acc ++ targetsOf t ms) :=
  walk_of_nodup (go := walkTargets.go) (fun _ _ => rfl) (fun _ _ _ _ => rfl) (fun _ => rfl) (walkTargets_cons t)

theorem walkTargets_error (t : TWS) : ∀ (ms : List Nat) (acc : List (Nat × PFile)) (e : BErr),
    walkTargets t ms acc = .error e → e = .dupPath ∨ e = .noProtoFiles :=
  walk_error (go := walkTargets.go) (fun _ _ => rfl) (fun _ _ _ _ => rfl) (fun _ => rfl) (walkTargets_cons t)

theorem mem_targetsOf {t : TWS} {ms : List Nat} {x : Nat × PFile} :
    x ∈ targetsOf t ms ↔ x.1 ∈ ms ∧ x.2 ∈ (moduleTargetFiles t x.1).1 := by
  unfold targetsOf
  simp only [List.mem_flatMap, List.mem_map]
  constructor
  · rintro ⟨m, hm, f, hf, rfl⟩; exact ⟨hm, hf⟩
  · rintro ⟨h1, h2⟩; exact ⟨x.1, h1, x.2, h2, rfl⟩

/-! ### GetTargetFileInfos → the sorted root list -/

theorem targetList_ok {t : TWS} {roots : List Str} (h : targetList t = .ok roots) :
    roots = sortPaths ((allTargets t).map (·.2.path)) ∧ ((allTargets t).map (·.2.path)).Nodup ∧
    allTargets t ≠ [] ∧ ∀ m, m < t.ws.mods.length → emptyTargetErr t m = false := by
  unfold targetList at h
  split at h
  · cases h
  · rename_i acc hacc
    obtain ⟨e, hn, hne⟩ := walkTargets_ok t _ _ _ hacc
    simp only [List.nil_append] at e
    have e' : acc = allTargets t := e
    subst e'
    split at h
    · cases h
    · rename_i hnil
      injection h with h
      exact ⟨h.symm, hn (by simp), hnil, fun m hm => hne m (List.mem_range.mpr hm)⟩

theorem targetList_nodup {t : TWS} {roots : List Str} (h : targetList t = .ok roots) : roots.Nodup := by
  obtain ⟨e, hn, _⟩ := targetList_ok h
  rw [e]; exact sortPaths_nodup hn

theorem targetList_sorted {t : TWS} {roots : List Str} (h : targetList t = .ok roots) :
    roots.Pairwise (fun a b => strLe a b = true) := by
  obtain ⟨e, _⟩ := targetList_ok h
  rw [e]; exact sortPaths_sorted _

theorem targetList_ne_nil {t : TWS} {roots : List Str} (h : targetList t = .ok roots) : roots ≠ [] := by
  obtain ⟨e, _, hne, _⟩ := targetList_ok h
  obtain ⟨x, hx⟩ := List.exists_mem_of_ne_nil _ hne
  exact List.ne_nil_of_mem (e ▸ mem_sortPaths.mpr (List.mem_map_of_mem hx))

def WfCfgs (t : TWS) : Prop := ∀ m, WfCfg (cfgOf t m)

theorem mem_targetList_sound {t : TWS} {roots : List Str} (h : targetList t = .ok roots) {p : Str}
    (hp : p ∈ roots) : ∃ m f, f ∈ modFiles t.ws m ∧ isTargetIn t m f = true ∧ f.path = p := by
  obtain ⟨e, _⟩ := targetList_ok h
  rw [e, mem_sortPaths] at hp
  obtain ⟨x, hx, rfl⟩ := List.mem_map.mp hp
  obtain ⟨_, h2⟩ := mem_targetsOf.mp hx
  obtain ⟨h3, h4⟩ := mem_moduleTargetFiles_sound h2
  exact ⟨x.1, x.2, h3, h4, rfl⟩

theorem mem_targetList {t : TWS} {roots : List Str} (hwf : WfCfgs t) (h : targetList t = .ok roots)
    (p : Str) :
    p ∈ roots ↔ ∃ m f, f ∈ modFiles t.ws m ∧ isTargetIn t m f = true ∧ f.path = p := by
  refine ⟨mem_targetList_sound h, ?_⟩
  rintro ⟨m, f, hf, ht, rfl⟩
  rw [(targetList_ok h).1, mem_sortPaths]
  exact List.mem_map.mpr ⟨(m, f), mem_targetsOf.mpr ⟨List.mem_range.mpr (modFiles_lt hf),
    (mem_moduleTargetFiles (hwf m)).mpr ⟨hf, ht⟩⟩, rfl⟩

theorem targetList_ok_of (t : TWS) (hwf : WfCfgs t)
    (hfiles : ∀ m, ((modFiles t.ws m).map (·.path)).Nodup)
    (hdisj : ∀ m m' f f', m ≠ m' → f ∈ modFiles t.ws m → f' ∈ modFiles t.ws m' →
      isTargetIn t m f = true → isTargetIn t m' f' = true → f.path ≠ f'.path)
    (hnonempty : ∀ m, m < t.ws.mods.length → modIsTarget t m = true → (cfgOf t m).paths = [] →
      (modFiles t.ws m).isEmpty = false)
    (hsome : ∃ m f, f ∈ modFiles t.ws m ∧ isTargetIn t m f = true) :
    ∃ roots, targetList t = .ok roots := by
  have hnd : ((allTargets t).map (·.2.path)).Nodup := by
    unfold allTargets targetsOf
    rw [List.nodup_iff_pairwise_ne, List.pairwise_map, List.pairwise_flatMap]
    refine ⟨fun m _ => ?_, ?_⟩
    · rw [List.pairwise_map]
      have := moduleTargetFiles_nodup (hfiles m)
      rwa [List.nodup_iff_pairwise_ne, List.pairwise_map] at this
    · refine List.Pairwise.imp ?_ (List.pairwise_lt_range (n := t.ws.mods.length))
      intro a b hab x hx y hy
      obtain ⟨f, hf, rfl⟩ := List.mem_map.mp hx
      obtain ⟨g, hg, rfl⟩ := List.mem_map.mp hy
      obtain ⟨hf1, hf2⟩ := mem_moduleTargetFiles_sound hf
      obtain ⟨hg1, hg2⟩ := mem_moduleTargetFiles_sound hg
      exact hdisj a b f g (by omega) hf1 hg1 hf2 hg2
  have hempty : ∀ m ∈ List.range t.ws.mods.length, emptyTargetErr t m = false := fun m hm =>
    Bool.eq_false_iff.mpr fun he => by
      simp only [emptyTargetErr, moduleTargetFiles_snd, Bool.and_eq_true, decide_eq_true_eq] at he
      rw [hnonempty m (List.mem_range.mp hm) he.1.2 he.1.1] at he
      exact absurd he.2 (by simp)
  obtain ⟨m, f, hf, ht⟩ := hsome
  have hmem : (m, f) ∈ allTargets t :=
    mem_targetsOf.mpr ⟨List.mem_range.mpr (modFiles_lt hf), (mem_moduleTargetFiles (hwf m)).mpr ⟨hf, ht⟩⟩
  unfold targetList
  rw [walkTargets_of_nodup t _ [] hnd hempty]
  exact ⟨_, if_neg (List.ne_nil_of_mem hmem)⟩

end BufModel.Targeting
