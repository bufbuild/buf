import BufProofs.Lemmas.MigrateRulesLemmas
/-
  Lemmas for the `ignore_only` part of the C16 migration theorems: `translateIgnoreOnly`
  (Go: `undeprecateMap`) as a sequence of writes that, on a collision-free map, never overwrite a value,
  and the `ignore_only` map of `migrateCheck`'s result.
-/
namespace BufModel.MigrateRules
open BufModel.Path BufModel.Rules BufGen.RuleTables

theorem mem_assocSet_iff {β} {m : List (Id × β)} {k : Id} {v : β} (h : ∀ p ∈ m, p.1 = k → p.2 = v) (p : Id × β) :
    p ∈ assocSet m k v ↔ p = (k, v) ∨ p ∈ m := by
  induction m with
  | nil => simp [assocSet]
  | cons e rest ih =>
    rcases e with ⟨k0, v0⟩
    have ih := ih (fun p hp => h p (List.mem_cons_of_mem _ hp))
    unfold assocSet
    split
    · rename_i hk
      have hv := h (k0, v0) List.mem_cons_self hk
      simp only at hk hv
      subst hk
      subst hv
      simp
    · simp only [List.mem_cons, ih, or_left_comm]

/-- A sequence of writes in which equal keys carry equal values leaves exactly the written pairs: an overwrite
    never changes anything. -/
theorem mem_foldl_assocSet {β} : ∀ (W acc : List (Id × β)),
    (∀ p ∈ acc ++ W, ∀ q ∈ acc ++ W, p.1 = q.1 → p.2 = q.2) → ∀ p,
    p ∈ W.foldl (fun acc w => assocSet acc w.1 w.2) acc ↔ p ∈ acc ∨ p ∈ W
  | [], acc, _, p => by simp
  | w :: W, acc, h, p => by
    have hw : ∀ q ∈ acc, q.1 = w.1 → q.2 = w.2 := fun q hq =>
      h q (List.mem_append_left _ hq) w (List.mem_append_right _ List.mem_cons_self)
    have hsub : ∀ q, q ∈ assocSet acc w.1 w.2 ++ W → q ∈ acc ++ w :: W := by
      intro q hq
      rcases List.mem_append.1 hq with hq | hq
      · rcases (mem_assocSet_iff hw q).1 hq with rfl | hq
        · exact List.mem_append_right _ List.mem_cons_self
        · exact List.mem_append_left _ hq
      · exact List.mem_append_right _ (List.mem_cons_of_mem _ hq)
    rw [List.foldl_cons, mem_foldl_assocSet W _ (fun a ha b hb => h a (hsub a ha) b (hsub b hb)) p,
      mem_assocSet_iff hw, List.mem_cons, or_assoc, or_left_comm]

/-- The writes of `translateIgnoreOnly` (Go: `undeprecateMap`), in order: every key of the source map to all its translations. -/
def ioWrites {β} (tr : Id → List Id) (m : List (Id × β)) : List (Id × β) :=
  m.flatMap fun e => (tr e.1).map fun k' => (k', e.2)

theorem mem_ioWrites {β} (tr : Id → List Id) (m : List (Id × β)) (p : Id × β) :
    p ∈ ioWrites tr m ↔ ∃ e ∈ m, p.1 ∈ tr e.1 ∧ p.2 = e.2 := by
  simp only [ioWrites, List.mem_flatMap, List.mem_map]
  constructor
  · rintro ⟨e, he, t, ht, rfl⟩
    exact ⟨e, he, ht, rfl⟩
  · rintro ⟨e, he, ht, hv⟩
    exact ⟨e, he, p.1, ht, by rw [← hv]⟩

theorem translateIgnoreOnly_eq_writes {β} (old new : List RuleRow) (m : List (Id × β)) :
    translateIgnoreOnly old new m =
      (ioWrites (translateId old new) m).foldl (fun acc w => assocSet acc w.1 w.2) [] := by
  unfold translateIgnoreOnly ioWrites
  rw [List.foldl_flatMap]
  simp only [List.foldl_map]

/-- No two entries of the map translate to a common id. -/
def CollisionFree {β} (tr : Id → List Id) (m : List (Id × β)) : Prop :=
  ∀ e1 ∈ m, ∀ e2 ∈ m, (∃ t, t ∈ tr e1.1 ∧ t ∈ tr e2.1) → e1 = e2

/-- `translateIgnoreOnly` on a collision-free map: key `k'` holds `v` iff some key translating to `k'`
    held `v` (two writes to one key come from the same entry, so they carry the same value). -/
theorem translateIgnoreOnly_mem {β} (old new : List RuleRow) (m : List (Id × β))
    (hc : CollisionFree (translateId old new) m) (k' : Id) (v : β) :
    (k', v) ∈ translateIgnoreOnly old new m ↔ ∃ e ∈ m, k' ∈ translateId old new e.1 ∧ v = e.2 := by
  rw [translateIgnoreOnly_eq_writes, mem_foldl_assocSet _ [] ?_ (k', v), mem_ioWrites]
  · simp
  · intro p hp q hq hpq
    rcases (mem_ioWrites _ _ p).1 hp with ⟨e1, h1, t1, v1⟩
    rcases (mem_ioWrites _ _ q).1 hq with ⟨e2, h2, t2, v2⟩
    rw [v1, v2, hc e1 h1 e2 h2 ⟨p.1, t1, hpq ▸ t2⟩]

theorem translateIgnoreOnly_IoHas (old new : List RuleRow) (m : List (Id × List Str))
    (hc : CollisionFree (translateId old new) m) (k' : Id) (q : Str) :
    IoHas (translateIgnoreOnly old new m) k' q ↔ ∃ k, IoHas m k q ∧ k' ∈ translateId old new k := by
  unfold IoHas
  constructor
  · rintro ⟨ps, hm, hq⟩
    rcases (translateIgnoreOnly_mem old new m hc k' ps).1 hm with ⟨e, he, hk, hv⟩
    exact ⟨e.1, ⟨e.2, he, hv ▸ hq⟩, hk⟩
  · rintro ⟨k, ⟨ps, hm, hq⟩, hk⟩
    exact ⟨ps, (translateIgnoreOnly_mem old new m hc k' ps).2 ⟨(k, ps), hm, hk, rfl⟩, hq⟩

/-! ### the `ignore_only` map of the migrated configuration -/

theorem migrateCheck_ignoreOnly (oldAll newAll : List RuleRow) (lint : Bool) (c c' : CheckConfig)
    (hm : migrateCheck oldAll newAll lint c = .ok c') (k' : Id) (p : Str) :
    IoHas c'.ignoreOnly k' p ↔
      ∃ q, IoHas (translateIgnoreOnly (rulesForType oldAll lint) (rulesForType newAll lint) c.ignoreOnly) k' q ∧
        q ≠ [] ∧ normalizeAndValidate q = .ok p := by
  rcases migrateCheckW_ok hm with ⟨_, simple, _, _, hS, _, hshape⟩
  unfold simpleConfigW at hS
  have V := newEnabledCheckConfig_spec _ _ hS
  -- the translated map passed `NewEnabledCheckConfig`, which rejects the empty path
  have S1 := fun k p => (V.ignoreOnly k p).trans
    (exists_congr fun q => and_congr_right fun hq => (and_iff_right (V.ignoreOnlyNonempty k q hq)).symm)
  rcases hshape with ⟨_, rfl⟩ | ⟨_, hf⟩
  · exact S1 k' p
  · have F := (newEnabledCheckConfig_spec _ _ hf).ignoreOnly k' p
    rw [F]
    constructor
    · rintro ⟨q, hq, hn⟩
      rcases (S1 k' q).1 hq with ⟨q0, hq0, hne, hn0⟩
      have := (nav_idem hn0).1
      rw [this] at hn; cases hn
      exact ⟨q0, hq0, hne, hn0⟩
    · rintro ⟨q0, hq0, hne, hn0⟩
      exact ⟨p, (S1 k' p).2 ⟨q0, hq0, hne, hn0⟩, (nav_idem hn0).1⟩

end BufModel.MigrateRules
