import BufProofs.Lemmas.LintFrame
/-
  C05 — PLANTING: generic machinery that turns
    * Clean on the original workspace,
    * frame lemmas for the rules that do not read the changed declaration,
    * "the changed declaration is bad" (derived from the grammar theorems),
  into the exact annotation list of the planted workspace (`plant_via_map`); and, on top of it,
  `Kind` / `Kind.PointOp`: a kind of declaration as the rules see it and a rewriting of one of its
  elements, with ONE frame and ONE exactness theorem for all kinds (`Kind.frame`, `Kind.plant`).
-/
namespace BufModel.Lint
open BufModel.Case

/-! ### list algebra -/

theorem filter_map_single {α κ} (τ : α → α) (bad : α → Bool) (key : α → κ) (e0 : α) : ∀ (l : List α),
    e0 ∈ l → (l.map key).Nodup → (∀ x ∈ l, key x ≠ key e0 → bad (τ x) = false) → bad (τ e0) = true →
    (l.map τ).filter bad = [τ e0]
  | [], h, _, _, _ => by simp at h
  | a :: t, hmem, hk, hother, hbad => by
    simp only [List.map_cons, List.nodup_cons] at hk
    simp only [List.mem_cons] at hmem
    rcases hmem with rfl | hmem
    · simp only [List.map_cons, List.filter_cons, hbad, if_true]
      congr 1
      apply filter_eq_nil_of_forall
      intro y hy
      obtain ⟨x, hx, rfl⟩ := List.mem_map.mp hy
      apply hother x (by simp [hx])
      intro e
      exact hk.1 (by rw [← e]; exact List.mem_map.mpr ⟨x, hx, rfl⟩)
    · have hne : key a ≠ key e0 := by
        intro e
        exact hk.1 (by rw [e]; exact List.mem_map.mpr ⟨e0, hmem, rfl⟩)
      simp only [List.map_cons, List.filter_cons, hother a (by simp) hne]
      exact filter_map_single τ bad key e0 t hmem hk.2 (fun x hx => hother x (by simp [hx])) hbad

/-! ### the rule list -/

theorem lint_single (o : Options) (rules : List Rule) (w : Schema) (r0 : Rule)
    (hN : rules.Nodup) (hr0 : r0 ∈ rules)
    (hothers : ∀ r ∈ rules, r ≠ r0 → cleanRule o w r = true) :
    lint o rules w = runRule o w r0 := by
  obtain ⟨pre, post, rfl⟩ := List.append_of_mem hr0
  have hnot : r0 ∉ pre ∧ r0 ∉ post := by
    rw [List.nodup_append] at hN
    simp only [List.nodup_cons] at hN
    exact ⟨fun h => hN.2.2 r0 h r0 (by simp) rfl, hN.2.1.1⟩
  have hnil : ∀ l : List Rule, (∀ r ∈ l, r ∈ pre ++ r0 :: post) → r0 ∉ l → l.flatMap (runRule o w) = [] :=
    fun l hl hn => List.flatMap_eq_nil_iff.mpr (fun r hr =>
      runRule_nil_of_clean o w r (hothers r (hl r hr) (fun e => hn (e ▸ hr))))
  unfold lint
  rw [List.flatMap_append, List.flatMap_cons, hnil pre (fun r hr => by simp [hr]) hnot.1,
    hnil post (fun r hr => by simp [hr]) hnot.2]
  simp

theorem lint_of_dirty (o : Options) (rules : List Rule) (w : Schema) (dirty : List Rule)
    (hothers : ∀ r ∈ rules, r ∉ dirty → cleanRule o w r = true) :
    lint o rules w = (rules.filter (· ∈ dirty)).flatMap (runRule o w) := by
  unfold lint
  induction rules with
  | nil => rfl
  | cons r rs ih =>
    rw [List.flatMap_cons, List.filter_cons, ih (fun r' hr' => hothers r' (List.mem_cons_of_mem _ hr'))]
    split
    · rw [List.flatMap_cons]
    · next hd =>
      rw [runRule_nil_of_clean o w r (hothers r List.mem_cons_self (by simpa using hd))]
      rfl

theorem mem_lint_of_dirty (o : Options) (rules : List Rule) (w : Schema) (dirty : List Rule)
    (hothers : ∀ r ∈ rules, r ∉ dirty → cleanRule o w r = true) (a : Annotation) :
    a ∈ lint o rules w ↔ ∃ r ∈ rules, r ∈ dirty ∧ a ∈ runRule o w r := by
  rw [lint_of_dirty o rules w dirty hothers]
  simp only [List.mem_flatMap, List.mem_filter, decide_eq_true_eq, and_assoc]

/-- the right side of `mem_lint_of_dirty` for a literal dirty list: a disjunction over the list -/
theorem mem_dirty_cons {rules : List Rule} {Q : Rule → Prop} (d : Rule) (ds : List Rule) :
    (∃ r ∈ rules, r ∈ d :: ds ∧ Q r) ↔ (d ∈ rules ∧ Q d) ∨ ∃ r ∈ rules, r ∈ ds ∧ Q r := by
  constructor
  · rintro ⟨r, hr, hd, hq⟩
    rcases List.mem_cons.mp hd with rfl | hd
    · exact Or.inl ⟨hr, hq⟩
    · exact Or.inr ⟨r, hr, hd, hq⟩
  · rintro (⟨hr, hq⟩ | ⟨r, hr, hd, hq⟩)
    · exact ⟨d, hr, List.mem_cons_self, hq⟩
    · exact ⟨r, hr, List.mem_cons_of_mem _ hd, hq⟩

theorem mem_dirty_nil {rules : List Rule} {Q : Rule → Prop} : (∃ r ∈ rules, r ∈ ([] : List Rule) ∧ Q r) ↔ False := by
  simp

/-! ### one file of the workspace -/

/-- `f` is a target (non-import) file of `w`, and the only file of `w` with its path (file paths
    are unique in an image) -/
structure FileAt (w : Schema) (f : File) : Prop where
  mem : f ∈ w
  target : f.isImport = false
  once : (w.map (·.path)).count f.path = 1

theorem FileAt.split {w : Schema} {f : File} (h : FileAt w f) :
    ∃ pre post, w = pre ++ f :: post ∧ ∀ g ∈ pre ++ post, g.path ≠ f.path := by
  obtain ⟨pre, post, rfl⟩ := List.append_of_mem h.mem
  refine ⟨pre, post, rfl, ?_⟩
  have hc := h.once
  simp only [List.map_append, List.map_cons, List.count_append, List.count_cons_self] at hc
  have h1 : (pre.map (·.path)).count f.path = 0 := by omega
  have h2 : (post.map (·.path)).count f.path = 0 := by omega
  intro g hg e
  simp only [List.mem_append] at hg
  rcases hg with hg | hg
  · exact List.count_eq_zero.mp h1 (by rw [← e]; exact List.mem_map.mpr ⟨g, hg, rfl⟩)
  · exact List.count_eq_zero.mp h2 (by rw [← e]; exact List.mem_map.mpr ⟨g, hg, rfl⟩)

theorem FileAt.nonImport {w : Schema} {f : File} (h : FileAt w f) : f ∈ nonImport w := by
  unfold Lint.nonImport
  simp [h.mem, h.target]

theorem FileAt.unique {w : Schema} {f : File} (h : FileAt w f) (g : File) (hg : g ∈ w) (e : g.path = f.path) :
    g = f := by
  obtain ⟨pre, post, rfl, hne⟩ := h.split
  simp only [List.mem_append, List.mem_cons] at hg
  rcases hg with hg | rfl | hg
  · exact absurd e (hne g (by simp [hg]))
  · rfl
  · exact absurd e (hne g (by simp [hg]))

theorem flagged_nil_of_cleanRule (o : Options) (w : Schema) (r : Rule) (er : ElemRule) (he : elemRule r = some er)
    (hc : cleanRule o w r = true) (g : File) (hg : g ∈ nonImport w) : er.flagged o g = [] := by
  rw [cleanRule_elem o w r er he] at hc
  exact flagged_nil_of_good er r he o g (List.all_eq_true.mp hc g hg)

theorem nonImport_append (a b : Schema) : nonImport (a ++ b) = nonImport a ++ nonImport b := by
  unfold nonImport; rw [List.filter_append]

theorem runRule_plant_elem (o : Options) (w : Schema) (r : Rule) (er : ElemRule) (he : elemRule r = some er)
    (f : File) (hf : FileAt w f) (h : File → File) (hI : ∀ g, (h g).isImport = g.isImport)
    (hc : cleanRule o w r = true) :
    runRule o (plantFile f.path h w) r = (er.flagged o (h f)).map (ann r (h f)) := by
  rw [runRule_elem o _ r er he]
  unfold plantFile
  rw [nonImport_map _ (sel_isImport f.path h hI), List.flatMap_map]
  obtain ⟨pre, post, hsplit, hne⟩ := hf.split
  have hsub : Lint.nonImport w = Lint.nonImport pre ++ f :: Lint.nonImport post := by
    rw [hsplit, nonImport_append]
    congr 1
    unfold Lint.nonImport
    simp [hf.target]
  -- every other target file is left alone, and was clean
  rw [hsub, BufProofs.ListLemmas.flatMap_split_single f fun g hg => ?_]
  · simp [sel]
  · have hgw : g ∈ Lint.nonImport w := by
      rw [hsub]; simp only [List.mem_append, List.mem_cons] at hg ⊢; exact hg.imp_right Or.inr
    have hp : g.path ≠ f.path := hne g (by
      simp only [List.mem_append] at hg ⊢; exact hg.imp (fun h => (mem_nonImport h).1) fun h => (mem_nonImport h).1)
    rw [show sel f.path h g = g by simp [sel, hp], flagged_nil_of_cleanRule o w r er he hc g hgw]
    rfl

/-! ### rules that DO read the changed group of declarations -/

theorem frame_via_map (o : Options) (w : Schema) (r : Rule) {α : Type} (els : File → List α)
    (bad : Options → α → Bool) (loc : α → List Nat) (good : Options → α → Bool)
    (he : elemRule r = some ⟨α, els, bad, loc, good⟩)
    (f : File) (hf : FileAt w f) (h : File → File) (hI : ∀ g, (h g).isImport = g.isImport)
    (τ : α → α) (hmap : els (h f) = (els f).map τ)
    (hpt : ∀ x ∈ els f, good o x = true → good o (τ x) = true)
    (hc : cleanRule o w r = true) : cleanRule o (plantFile f.path h w) r = true := by
  apply cleanRule_elem_plant o w r _ he f.path h hI _ hc
  intro f' hf' hp hg
  have : f' = f := hf.unique f' (mem_nonImport hf').1 hp
  subst this
  show (els (h f')).all (good o) = true
  rw [hmap, List.all_map]
  apply List.all_eq_true.mpr
  intro x hx
  exact hpt x hx (List.all_eq_true.mp hg x hx)

/-- the four enum-VALUE rules when enum declarations are rewritten as a whole (value list
    possibly restructured): it suffices that, per enum, "all values good" is preserved.  `hpath`:
    the rule's `good` does not look at the source path. -/
theorem frame_values (o : Options) (w : Schema) (r : Rule)
    (bad : Options → (List Nat × Enum × EnumValue) → Bool) (loc : (List Nat × Enum × EnumValue) → List Nat)
    (good : Options → (List Nat × Enum × EnumValue) → Bool)
    (he : elemRule r = some ⟨List Nat × Enum × EnumValue, fileEnumValues, bad, loc, good⟩)
    (hpath : ∀ p p' e v, good o (p, e, v) = good o (p', e, v))
    (f : File) (hf : FileAt w f) (T : Tr)
    (hpt : ∀ qe ∈ fileEnums f, (∀ v ∈ qe.2.values, good o ([], qe.2, v) = true) →
      ∀ v ∈ (T.enumFull qe.1 qe.2).values, good o ([], T.enumFull qe.1 qe.2, v) = true)
    (hc : cleanRule o w r = true) : cleanRule o (plantFile f.path (mapFile T) w) r = true := by
  apply cleanRule_elem_plant o w r _ he f.path (mapFile T) (fun _ => rfl) _ hc
  intro f' hf' hp hg
  have : f' = f := hf.unique f' (mem_nonImport hf').1 hp
  subst this
  show (fileEnumValues (mapFile T f')).all (good o) = true
  rw [fileEnumValues_map]
  apply List.all_eq_true.mpr
  intro x hx
  obtain ⟨qe, hqe, hx⟩ := List.mem_flatMap.mp hx
  obtain ⟨iv, hiv, rfl⟩ := List.mem_map.mp hx
  rw [hpath _ []]
  apply hpt qe hqe
  · intro v hv
    obtain ⟨j, hj⟩ := mem_indexFrom qe.2.values 0 v hv
    rw [hpath [] (qe.1 ++ [2, j])]
    exact List.all_eq_true.mp hg _ (List.mem_flatMap.mpr ⟨qe, hqe, List.mem_map.mpr ⟨(j, v), hj, rfl⟩⟩)
  · exact mem_indexFrom_val 0 _ iv hiv

/-! ### the planted rule -/

theorem flagged_via_map (o : Options) (r : Rule) {α : Type} (els : File → List α)
    (bad : Options → α → Bool) (loc : α → List Nat) (good : Options → α → Bool)
    (he : elemRule r = some ⟨α, els, bad, loc, good⟩)
    (f f' : File) (τ : α → α) (hmap : els f' = (els f).map τ)
    (key : α → List Nat) (hk : ((els f).map key).Nodup)
    (e0 : α) (he0 : e0 ∈ els f) (hgood : (els f).all (good o) = true)
    (hother : ∀ x ∈ els f, key x ≠ key e0 → good o x = true → good o (τ x) = true)
    (hbad : bad o (τ e0) = true) :
    ElemRule.flagged ⟨α, els, bad, loc, good⟩ o f' = [loc (τ e0)] := by
  unfold ElemRule.flagged
  show ((els f').filter (bad o)).map loc = _
  rw [hmap, filter_map_single τ (bad o) key e0 (els f) he0 hk _ hbad]
  · rfl
  · intro x hx hne
    exact good_not_bad r _ he o (τ x) (hother x hx hne (List.all_eq_true.mp hgood x hx))

theorem cleanB_rule {o : Options} {rules : List Rule} {w : Schema} (h : cleanB o rules w = true) {r : Rule}
    (hr : r ∈ rules) : cleanRule o w r = true := List.all_eq_true.mp h r hr

theorem runRule_plant_via_map (o : Options) (w : Schema) (r0 : Rule) {α : Type}
    (els : File → List α) (bad : Options → α → Bool) (loc : α → List Nat) (good : Options → α → Bool)
    (he : elemRule r0 = some ⟨α, els, bad, loc, good⟩) (hc : cleanRule o w r0 = true)
    (f : File) (hf : FileAt w f) (h : File → File) (hI : ∀ g, (h g).isImport = g.isImport)
    (τ : α → α) (hmap : els (h f) = (els f).map τ)
    (key : α → List Nat) (hk : ((els f).map key).Nodup)
    (e0 : α) (he0 : e0 ∈ els f)
    (hother : ∀ x ∈ els f, key x ≠ key e0 → good o x = true → good o (τ x) = true) (hbad : bad o (τ e0) = true) :
    runRule o (plantFile f.path h w) r0 = [ann r0 (h f) (loc (τ e0))] := by
  rw [runRule_plant_elem o w r0 _ he f hf h hI hc]
  have hg : (els f).all (good o) = true := by
    rw [cleanRule_elem o w r0 _ he] at hc
    exact List.all_eq_true.mp hc f hf.nonImport
  rw [flagged_via_map o r0 els bad loc good he f (h f) τ hmap key hk e0 he0 hg hother hbad]
  rfl

/-- **Exact planting, elementwise form.**  The workspace is Clean; ONE target file is rewritten
    so that the elements of rule `r0` are rewritten elementwise, only the element `e0` changes and
    becomes bad; every other configured rule stays Clean (frame lemmas).  Then lint reports exactly
    `r0` at the location of the rewritten `e0`. -/
theorem plant_via_map (o : Options) (rules : List Rule) (w : Schema) (r0 : Rule) {α : Type}
    (els : File → List α) (bad : Options → α → Bool) (loc : α → List Nat) (good : Options → α → Bool)
    (he : elemRule r0 = some ⟨α, els, bad, loc, good⟩)
    (hN : rules.Nodup) (hr0 : r0 ∈ rules) (hclean : cleanB o rules w = true)
    (f : File) (hf : FileAt w f) (h : File → File) (hI : ∀ g, (h g).isImport = g.isImport)
    (τ : α → α) (hmap : els (h f) = (els f).map τ)
    (key : α → List Nat) (hk : ((els f).map key).Nodup)
    (e0 : α) (he0 : e0 ∈ els f)
    (hother : ∀ x ∈ els f, key x ≠ key e0 → good o x = true → good o (τ x) = true) (hbad : bad o (τ e0) = true)
    (hframe : ∀ r ∈ rules, r ≠ r0 → cleanRule o (plantFile f.path h w) r = true) :
    lint o rules (plantFile f.path h w) = [ann r0 (h f) (loc (τ e0))] := by
  rw [lint_single o rules _ r0 hN hr0 hframe]
  exact runRule_plant_via_map o w r0 els bad loc good he (cleanB_rule hclean hr0) f hf h hI τ hmap key hk e0 he0
    hother hbad

/-! ### kinds of declarations and point rewritings

  The planting operators rewrite ONE declaration of ONE file.  What makes the frame and the
  exactness argument go through is the same for every kind of declaration (enum, enum value,
  message, field, oneof, service, RPC, import statement): the elements of the kind are
  enumerated with pairwise distinct source paths, the rewriting maps them elementwise, and only
  the element at the rewritten path looks different to a rule.  `Kind` is the kind as the rules
  see it, `Kind.PointOp` such a rewriting, `Kind.frame` / `Kind.plant` the two theorems. -/

/-- What the rules demand of one declaration of a kind, seen as `V`: one row per rule that reads
    the kind.  A table and not a function of the rule, so that a statement about every rule is
    proved row by row (`Demands.keep`) and nothing has to split on all of `Rule`. -/
abbrev Demands (V : Type) := List (Rule × (Options → V → Bool))

def Demands.of {V : Type} (t : Demands V) (r : Rule) (o : Options) (v : V) : Bool :=
  match t.lookup r with
  | some d => d o v
  | none => true

theorem Demands.keep {V : Type} {t : Demands V} {o : Options} {v0 v1 : V} {P : Rule → Prop}
    (h : ∀ d ∈ t, P d.1 → d.2 o v0 = true → d.2 o v1 = true) (r : Rule) (hr : P r) :
    t.of r o v0 = true → t.of r o v1 = true := by
  unfold Demands.of
  induction t with
  | nil => exact id
  | cons d t ih =>
    obtain ⟨r', d'⟩ := d
    simp only [List.lookup_cons]
    cases hb : r == r'
    · exact ih fun d hd => h d (List.mem_cons_of_mem _ hd)
    · obtain rfl : r = r' := by simpa using hb
      exact h (r, d') List.mem_cons_self hr

/-- A kind of declaration as the per-element rules see it: the iteration helper (`els`), the source
    path that identifies an element (`key`), what a rule can read of an element (`view`), and what
    each rule that reads the kind demands of that (`rows`).  `cross r`: `r` reads the kind through
    ANOTHER iteration helper (the value rules for enums, the STANDARD_NAME rules for services,
    RPC_REQUEST_RESPONSE_UNIQUE for RPCs). -/
structure Kind (α V : Type) where
  els : File → List α
  key : α → List Nat
  view : α → V
  rows : Demands V
  cross : Rule → Prop
  nodup : ∀ f, ((els f).map key).Nodup
  spec : ∀ r ∈ rows.map (·.1), cross r ∨ ∃ bad loc good,
    elemRule r = some ⟨α, els, bad, loc, good⟩ ∧ ∀ o x, good o x = rows.of r o (view x)

abbrev Kind.rules {α V : Type} (k : Kind α V) : List Rule := k.rows.map (·.1)

variable {α V : Type}

theorem Kind.frame_elementwise (k : Kind α V) (o : Options) (w : Schema) (f : File) (hf : FileAt w f)
    {h : File → File} (hI : ∀ g, (h g).isImport = g.isImport) {τ : α → α} (hmap : k.els (h f) = (k.els f).map τ)
    (r : Rule) (hr : r ∈ k.rules) (hx : ¬ k.cross r)
    (hpt : ∀ x ∈ k.els f, k.rows.of r o (k.view x) = true → k.rows.of r o (k.view (τ x)) = true)
    (hc : cleanRule o w r = true) : cleanRule o (plantFile f.path h w) r = true := by
  obtain ⟨bad, loc, good, he, hgood⟩ := (k.spec r hr).resolve_left hx
  refine frame_via_map o w r _ _ _ _ he f hf _ hI _ hmap (fun x hx hgx => ?_) hc
  rw [hgood] at hgx ⊢
  exact hpt x hx hgx

/-- `h` rewrites file `f` so that, as far as kind `k` can see, only the element `x0` changes
    (into `τ x0`, seen as `v1`) -/
structure Kind.PointOp (k : Kind α V) (h : File → File) (f : File) (τ : α → α) (x0 : α) (v1 : V) : Prop where
  mem : x0 ∈ k.els f
  here : k.view (τ x0) = v1
  isImport : ∀ g, (h g).isImport = g.isImport
  map : k.els (h f) = (k.els f).map τ
  off : ∀ x ∈ k.els f, k.key x ≠ k.key x0 → k.view (τ x) = k.view x

theorem Kind.frame_point (k : Kind α V) (o : Options) (w : Schema) (f : File) (hf : FileAt w f) {h : File → File}
    {τ : α → α} {x0 : α} {v1 : V} (hT : k.PointOp h f τ x0 v1) (r : Rule) (hr : r ∈ k.rules) (hx : ¬ k.cross r)
    (hkeep : k.rows.of r o (k.view x0) = true → k.rows.of r o v1 = true)
    (hc : cleanRule o w r = true) : cleanRule o (plantFile f.path h w) r = true := by
  refine k.frame_elementwise o w f hf hT.isImport hT.map r hr hx (fun x hx hgx => ?_) hc
  by_cases hp : k.key x = k.key x0
  · obtain rfl := BufProofs.ListLemmas.eq_of_nodup_map k.key (k.nodup f) hx hT.mem hp
    rw [hT.here]; exact hkeep hgx
  · rw [hT.off x hx hp]; exact hgx

/-- a point rewriting together with the frame lemmas of the rules outside the kind: those that do
    not read it cannot see the rewriting, and one that reads it through another iteration helper
    stays Clean when its demand on the rewritten declaration survives -/
structure Kind.Planting (k : Kind α V) (h : File → File) (f : File) (τ : α → α) (x0 : α) (v1 : V) : Prop
    extends k.PointOp h f τ x0 v1 where
  others : ∀ o w r, FileAt w f → r ∉ k.rules → cleanRule o w r = true → cleanRule o (plantFile f.path h w) r = true
  crossF : ∀ o w r, FileAt w f → k.cross r → (k.rows.of r o (k.view x0) = true → k.rows.of r o v1 = true) →
    cleanRule o w r = true → cleanRule o (plantFile f.path h w) r = true

/-- **Frame, any kind.**  Whatever the rule: it stays Clean under a point rewriting when its
    demand on the one rewritten declaration survives. -/
theorem Kind.frame (k : Kind α V) (o : Options) (w : Schema) (f : File) (hf : FileAt w f) {h : File → File}
    {τ : α → α} {x0 : α} {v1 : V} (hT : k.Planting h f τ x0 v1) (r : Rule)
    (hkeep : k.rows.of r o (k.view x0) = true → k.rows.of r o v1 = true)
    (hc : cleanRule o w r = true) : cleanRule o (plantFile f.path h w) r = true := by
  by_cases hd : r ∈ k.rules
  case neg => exact hT.others o w r hf hd hc
  by_cases hx : k.cross r
  · exact hT.crossF o w r hf hx hkeep hc
  · exact k.frame_point o w f hf hT.toPointOp r hd hx hkeep hc

/-- **Plant, any kind.**  The workspace is Clean, one declaration is rewritten, rule `r0` of its
    kind rejects the new declaration and the demand of every other configured rule survives:
    lint reports exactly `r0` there. -/
theorem Kind.plant (k : Kind α V) (o : Options) (rules : List Rule) (w : Schema) (f : File) (hN : rules.Nodup)
    (hclean : cleanB o rules w = true) (hf : FileAt w f) {h : File → File} {τ : α → α} {x0 : α} {v1 : V}
    (hT : k.Planting h f τ x0 v1) (r0 : Rule) (bad : Options → α → Bool) (loc : α → List Nat) (good : Options → α → Bool)
    (he : elemRule r0 = some ⟨α, k.els, bad, loc, good⟩)
    (hgood : ∀ x, good o x = k.rows.of r0 o (k.view x)) (hr0 : r0 ∈ rules)
    (hbad : bad o (τ x0) = true)
    (hkeep : ∀ d ∈ k.rows, d.1 ∈ rules ∧ d.1 ≠ r0 → d.2 o (k.view x0) = true → d.2 o v1 = true) :
    lint o rules (plantFile f.path h w) = [ann r0 (h f) (loc (τ x0))] :=
  plant_via_map o rules w r0 _ _ _ _ he hN hr0 hclean f hf h hT.isImport _
    hT.map k.key (k.nodup f) x0 hT.mem
    (fun x hx hne hg => by rw [hgood] at hg ⊢; rw [hT.off x hx hne]; exact hg)
    hbad
    (fun r hr hne => k.frame o w f hf hT r (Demands.keep (P := fun r => r ∈ rules ∧ r ≠ r0) hkeep r ⟨hr, hne⟩)
      (cleanB_rule hclean hr))

end BufModel.Lint
