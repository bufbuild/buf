import BufProofs.Lemmas.FilterRewriteLemmas
/-
  C12 — structure of `buildIndex`: the two structural fields of `WFIdx` (`parentNonExt`,
  `descClosed`) hold for EVERY index `buildIndex` produces whose keys are unique; so the only
  genuine input condition is uniqueness of ids (`UniqIdx`, implied by `Nodup` of the key list).
-/
namespace BufProofs.FilterIndex
open BufModel.Filter BufProofs.FilterLemmas BufProofs.FilterClosure BufProofs.FilterRewrite

/-- no two index entries share a key (the harness interns full names: ids are unique) -/
def UniqIdx (idx : Index) : Prop := ∀ j ∈ idx, idx.find j.key = some j

def uniqIdxB (idx : Index) : Bool := idx.all (fun j => decide (idx.find j.key = some j))

theorem uniqIdx_of_B (idx : Index) (h : uniqIdxB idx = true) : UniqIdx idx := by
  unfold uniqIdxB at h
  simp only [List.all_eq_true] at h
  intro j hj
  simpa using h j hj

theorem find_of_nodup (idx : Index) (h : (idx.map (·.key)).Nodup) : UniqIdx idx := by
  induction idx with
  | nil => intro j hj; cases hj
  | cons a as ih =>
    simp only [List.map_cons, List.nodup_cons] at h
    intro j hj
    unfold Index.find
    rw [List.find?_cons]
    cases hj with
    | head => simp
    | tail _ hj =>
      have hne : ¬ a.key = j.key := by
        intro e
        exact h.1 (by rw [e]; exact List.mem_map.mpr ⟨j, hj, rfl⟩)
      simp only [hne, decide_false]
      exact ih h.2 j hj

/-- every parent pointer inside the block `L` resolves, inside `L`, to a non-extension entry that
    lists the child among its descendants — unless it is the external parent `par` -/
def B1 (L : List Info) (par : Key) : Prop :=
  ∀ j ∈ L, ∀ p, j.parent = some p → p = par ∨ ∃ e ∈ L, e.key = p ∧ e.fld = none ∧ e.kind ≠ .method ∧ j.key ∈ e.desc

/-- descendants are entries of the block -/
def B3 (L : List Info) : Prop := ∀ e ∈ L, ∀ k ∈ e.desc, k ∈ L.map (·.key)

/-- descendant lists are transitively closed -/
def B2 (L : List Info) : Prop :=
  ∀ i ∈ L, ∀ k ∈ i.desc, ∃ e ∈ L, e.key = k ∧ ∀ k' ∈ e.desc, k' ∈ i.desc

/-- all keys of the block are element keys -/
def B4 (L : List Info) : Prop := ∀ e ∈ L, ∃ n, e.key = .el n

theorem B1.append {A B : List Info} {par : Key} (ha : B1 A par) (hb : B1 B par) : B1 (A ++ B) par := by
  intro j hj p hp
  rcases List.mem_append.mp hj with h | h
  · rcases ha j h p hp with h1 | ⟨e, he, h2⟩
    · exact Or.inl h1
    · exact Or.inr ⟨e, List.mem_append_left _ he, h2⟩
  · rcases hb j h p hp with h1 | ⟨e, he, h2⟩
    · exact Or.inl h1
    · exact Or.inr ⟨e, List.mem_append_right _ he, h2⟩

theorem B3.append {A B : List Info} (ha : B3 A) (hb : B3 B) : B3 (A ++ B) := by
  intro e he k hk
  rw [List.map_append, List.mem_append]
  rcases List.mem_append.mp he with h | h
  · exact Or.inl (ha e h k hk)
  · exact Or.inr (hb e h k hk)

theorem B2.append {A B : List Info} (ha : B2 A) (hb : B2 B) : B2 (A ++ B) := by
  intro i hi k hk
  rcases List.mem_append.mp hi with h | h
  · obtain ⟨e, he, h2⟩ := ha i h k hk
    exact ⟨e, List.mem_append_left _ he, h2⟩
  · obtain ⟨e, he, h2⟩ := hb i h k hk
    exact ⟨e, List.mem_append_right _ he, h2⟩

theorem B4.append {A B : List Info} (ha : B4 A) (hb : B4 B) : B4 (A ++ B) := by
  intro e he
  rcases List.mem_append.mp he with h | h
  · exact ha e h
  · exact hb e h

def Block (L : List Info) (par : Key) : Prop := B1 L par ∧ B3 L ∧ B2 L ∧ B4 L

theorem Block.append {A B : List Info} {par : Key} (ha : Block A par) (hb : Block B par) : Block (A ++ B) par :=
  ⟨ha.1.append hb.1, ha.2.1.append hb.2.1, ha.2.2.1.append hb.2.2.1, ha.2.2.2.append hb.2.2.2⟩

theorem Block.nil (par : Key) : Block [] par :=
  ⟨fun j hj => (by cases hj), fun j hj => (by cases hj), fun j hj => (by cases hj), fun j hj => (by cases hj)⟩

theorem Block.flatMap {α} (g : α → List Info) (l : List α) (par : Key) (h : ∀ a ∈ l, Block (g a) par) :
    Block (l.flatMap g) par := by
  induction l with
  | nil => exact Block.nil _
  | cons a as ih =>
    rw [List.flatMap_cons]
    exact (h a List.mem_cons_self).append (ih (fun b hb => h b (List.mem_cons_of_mem _ hb)))

/-- a list of leaf entries (no descendants, element keys) whose parent is `par`: enums, extensions, methods -/
theorem Block.leaves {α} (g : α → Info) (l : List α) (par : Key) (hp : ∀ a, (g a).parent = some par)
    (hd : ∀ a, (g a).desc = []) (hk : ∀ a, ∃ n, (g a).key = .el n) : Block (l.map g) par := by
  refine ⟨?_, ?_, ?_, ?_⟩
  · intro j hj p hpp
    obtain ⟨a, _, rfl⟩ := List.mem_map.mp hj
    rw [hp a] at hpp
    cases hpp; exact Or.inl rfl
  · intro e he k hkk
    obtain ⟨a, _, rfl⟩ := List.mem_map.mp he
    rw [hd a] at hkk; cases hkk
  · intro e he k hkk
    obtain ⟨a, _, rfl⟩ := List.mem_map.mp he
    rw [hd a] at hkk; cases hkk
  · intro e he
    obtain ⟨a, _, rfl⟩ := List.mem_map.mp he
    exact hk a

theorem enums_B (file : Id) (par : Key) (es : List Enum) : Block (es.map (enumInfo file par)) par :=
  Block.leaves _ es par (fun _ => rfl) (fun _ => rfl) (fun e => ⟨e.id, rfl⟩)

theorem exts_B (file : Id) (par : Key) (xs : List Field) : Block (xs.map (extInfo file par)) par :=
  Block.leaves _ xs par (fun _ => rfl) (fun _ => rfl) (fun e => ⟨e.id, rfl⟩)

/-- a head entry whose descendants are exactly the keys of the block `sub` below it -/
theorem head_B (hd : Info) (sub : List Info) (par : Key) (hdesc : hd.desc = sub.map (·.key))
    (hfld : hd.fld = none) (hkind : hd.kind ≠ .method) (hpar : hd.parent = some par) (n : Id) (hkey : hd.key = .el n)
    (hs : Block sub hd.key) : Block (hd :: sub) par := by
  obtain ⟨h1, h3, h2, h4⟩ := hs
  refine ⟨?_, ?_, ?_, ?_⟩
  · intro j hj p hp
    cases hj with
    | head => rw [hpar] at hp; cases hp; exact Or.inl rfl
    | tail _ hj =>
      rcases h1 j hj p hp with e | ⟨e, he, h⟩
      · refine Or.inr ⟨hd, List.mem_cons_self, e.symm, hfld, hkind, ?_⟩
        rw [hdesc]; exact List.mem_map.mpr ⟨j, hj, rfl⟩
      · exact Or.inr ⟨e, List.mem_cons_of_mem _ he, h⟩
  · intro e he k hk
    rw [List.map_cons]
    cases he with
    | head => rw [hdesc] at hk; exact List.mem_cons_of_mem _ hk
    | tail _ he => exact List.mem_cons_of_mem _ (h3 e he k hk)
  · intro i hi k hk
    cases hi with
    | head =>
      rw [hdesc] at hk
      obtain ⟨e, he, rfl⟩ := List.mem_map.mp hk
      refine ⟨e, List.mem_cons_of_mem _ he, rfl, ?_⟩
      intro k' hk'
      rw [hdesc]; exact h3 e he k' hk'
    | tail _ hi =>
      obtain ⟨e, he, h⟩ := h2 i hi k hk
      exact ⟨e, List.mem_cons_of_mem _ he, h⟩
  · intro e he
    cases he with
    | head => exact ⟨n, hkey⟩
    | tail _ he => exact h4 e he

theorem msg_B (file : Id) (par : Key) (m : Msg) :
    B1 (msgInfos file par m) par ∧ B3 (msgInfos file par m) ∧ B2 (msgInfos file par m) ∧ B4 (msgInfos file par m) := by
  induction m using Msg.ind generalizing par with
  | h id fields oneofs exts nested enums rangeOpts reserved mapEntry opts ih =>
    have hn : Block (msgsInfos file (.el id) nested) (.el id) := by
      rw [msgsInfos_eq]
      exact Block.flatMap _ _ _ (fun n hn => ih n hn _)
    simp only [msgInfos]
    exact head_B _ _ par rfl rfl (by simp) rfl id rfl
      ((hn.append (enums_B file (.el id) enums)).append (exts_B file (.el id) exts))

theorem svc_B (file : Id) (s : Service) : Block (svcInfos file s) (.file file) := by
  unfold svcInfos
  refine head_B _ _ (.file file) ?_ rfl (by simp) rfl s.id rfl
    (Block.leaves _ s.methods (.el s.id) (fun _ => rfl) (fun _ => rfl) (fun e => ⟨e.id, rfl⟩))
  simp [List.map_map, Function.comp_def, methodInfo]

/-- the block below a file head -/
def fileSub (f : File) : List Info :=
  msgsInfos f.id (.file f.id) f.msgs ++ f.enums.map (enumInfo f.id (.file f.id)) ++
    (f.svcs.map (svcInfos f.id)).flatten ++ f.exts.map (extInfo f.id (.file f.id))

def fileHead (f : File) : Info :=
  { key := .file f.id, kind := .file, file := f.id, parent := none, opts := f.opts, types := f.types,
    desc := (fileSub f).map (·.key) }

theorem fileInfos_eq (f : File) : fileInfos f = fileHead f :: fileSub f := rfl

theorem fileSub_B (f : File) : Block (fileSub f) (.file f.id) := by
  rw [fileSub, msgsInfos_eq, ← List.flatMap_def]
  exact (((Block.flatMap _ _ _ fun m _ => msg_B f.id _ m).append (enums_B f.id (.file f.id) f.enums)).append
    (Block.flatMap _ _ _ fun s _ => svc_B f.id s)).append (exts_B f.id (.file f.id) f.exts)

/-- inside one file block every parent pointer resolves (no external parent is left) -/
theorem file_parent (f : File) : ∀ j ∈ fileInfos f, ∀ p, j.parent = some p →
    ∃ e ∈ fileInfos f, e.key = p ∧ e.fld = none ∧ e.kind ≠ .method ∧ j.key ∈ e.desc := by
  obtain ⟨h1, _, _, _⟩ := fileSub_B f
  intro j hj p hp
  rw [fileInfos_eq] at hj ⊢
  cases hj with
  | head => cases hp
  | tail _ hj =>
    rcases h1 j hj p hp with e | ⟨e, he, h⟩
    · refine ⟨fileHead f, List.mem_cons_self, e.symm, rfl, (by simp [fileHead]), ?_⟩
      exact List.mem_map.mpr ⟨j, hj, rfl⟩
    · exact ⟨e, List.mem_cons_of_mem _ he, h⟩

theorem file_desc (f : File) : ∀ i ∈ fileInfos f, ∀ k ∈ i.desc,
    ∃ e ∈ fileInfos f, e.key = k ∧ ∀ k' ∈ e.desc, k' ∈ i.desc := by
  obtain ⟨_, h3, h2, _⟩ := fileSub_B f
  intro i hi k hk
  rw [fileInfos_eq] at hi ⊢
  cases hi with
  | head =>
    obtain ⟨e, he, rfl⟩ := List.mem_map.mp hk
    exact ⟨e, List.mem_cons_of_mem _ he, rfl, fun k' hk' => h3 e he k' hk'⟩
  | tail _ hi =>
    obtain ⟨e, he, h⟩ := h2 i hi k hk
    exact ⟨e, List.mem_cons_of_mem _ he, h⟩

/-- descendants are element keys; only a file head has a file key -/
theorem file_desc_el (f : File) : ∀ i ∈ fileInfos f, ∀ k ∈ i.desc, ∃ n, k = .el n := by
  obtain ⟨_, h3, _, h4⟩ := fileSub_B f
  intro i hi k hk
  rw [fileInfos_eq] at hi
  have hmem : k ∈ (fileSub f).map (·.key) := by
    cases hi with
    | head => exact hk
    | tail _ hi => exact h3 i hi k hk
  obtain ⟨e, he, rfl⟩ := List.mem_map.mp hmem
  exact h4 e he

theorem not_oneof_parent (f : File) : ∀ j ∈ fileInfos f, ∀ p, j.parent = some p → ∀ m n, p ≠ .oneof m n := by
  intro j hj p hp m n e
  obtain ⟨e', he', hk, _, _, _⟩ := file_parent f j hj p hp
  rw [fileInfos_eq] at he'
  cases he' with
  | head => rw [e] at hk; cases hk
  | tail _ he' =>
    obtain ⟨_, _, _, h4⟩ := fileSub_B f
    obtain ⟨x, hx⟩ := h4 e' he'
    rw [hx, e] at hk; cases hk

theorem wfIdx_of_uniq (img : Image) (hu : UniqIdx (buildIndex img)) : WFIdx (buildIndex img) := by
  refine ⟨hu, ?_, ?_⟩
  · intro j hj p hp
    obtain ⟨f, hf, hjf⟩ := mem_buildIndex img j hj
    refine ⟨not_oneof_parent f j hjf p hp, ?_⟩
    intro ip hip
    obtain ⟨e, he, hk, hfld, _, _⟩ := file_parent f j hjf p hp
    have := hu e (mem_buildIndex_of img f hf e he)
    rw [hk, hip] at this
    cases this; exact hfld
  · intro i hi j hj p hp hmem
    obtain ⟨f, hf, hjf⟩ := mem_buildIndex img j hj
    obtain ⟨e, he, hk, _, _, hje⟩ := file_parent f j hjf p hp
    have hue := hu e (mem_buildIndex_of img f hf e he)
    rw [hk] at hue
    cases hmem with
    | head =>
      have := hu i hi
      rw [hue] at this; cases this
      exact hje
    | tail _ hmem =>
      obtain ⟨g, hg, hig⟩ := mem_buildIndex img i hi
      obtain ⟨e', he', hk', hsub⟩ := file_desc g i hig p hmem
      have hue' := hu e' (mem_buildIndex_of img g hg e' he')
      rw [hk', hue] at hue'
      cases hue'
      exact hsub _ hje

/-- a key that may be marked enclosing-only: it resolves to neither an extension nor a method -/
def PKey (c : Ctx) (k : Key) : Prop := NonExt c k ∧ ∀ i, c.idx.find k = some i → i.kind ≠ .method

theorem parent_pkey (cfg : Cfg) (img : Image) (co : Bool) (hu : UniqIdx (buildIndex img)) :
    ∀ j ∈ buildIndex img, ∀ p, j.parent = some p → PKey ⟨cfg, buildIndex img, co⟩ p := by
  intro j hj p hp
  refine ⟨(wfIdx_of_uniq img hu).parentNonExt j hj p hp, fun ip hip => ?_⟩
  obtain ⟨f, hf, hjf⟩ := mem_buildIndex img j hj
  obtain ⟨e, he, hk, _, hkind, _⟩ := file_parent f j hjf p hp
  have hue := hu e (mem_buildIndex_of img f hf e he)
  rw [hk] at hue
  have : (buildIndex img).find p = some ip := hip
  rw [hue] at this; cases this; exact hkind

theorem wfIdx_of_nodup (img : Image) (h : ((buildIndex img).map (·.key)).Nodup) : WFIdx (buildIndex img) :=
  wfIdx_of_uniq img (find_of_nodup _ h)

end BufProofs.FilterIndex
