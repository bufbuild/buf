import BufProofs.Lemmas.FilterLemmas
/-
  C12, phase 2 — `remapSlice` for ANY item function `f`, and the message tree seen through it.
    * the tree: a message list is a slice (`remapMsgs_eq`), the list-level functions of the model are
      `flatMap`s, and one induction principle (`Msg.ind`) serves every proof over nested messages;
    * the items a slice keeps: where they come from, which survive, at which position (`cntBefore` of
      the keep flags `flagsFrom`);
    * the marks a slice leaves in the source-path trie, for items that keep their own marks below
      themselves (`Below`): on the sibling nodes they are those of `sliceMarks`.
-/
namespace BufProofs.FilterRewrite
open BufModel.Filter

def Under (p : List Nat) (ms : Marks) : Prop := ∀ mk ∈ ms, ∃ rest, mk.1 = p ++ rest

/-- marks of one message at path `p`: a `noComment` at `p` itself or strictly below `p` -/
def Below (p : List Nat) (ms : Marks) : Prop :=
  ∀ mk ∈ ms, (mk.1 = p ∧ mk.2 = Act.noComment) ∨ ∃ x rest, mk.1 = p ++ x :: rest

theorem under_append {p : List Nat} {a b : Marks} (ha : Under p a) (hb : Under p b) : Under p (a ++ b) := by
  intro mk hmk
  rcases List.mem_append.mp hmk with h | h
  · exact ha mk h
  · exact hb mk h

theorem under_sub {p : List Nat} (x : Nat) {ms : Marks} (h : Under (p ++ [x]) ms) : Below p ms := by
  intro mk hmk
  obtain ⟨rest, hr⟩ := h mk hmk
  exact Or.inr ⟨x, rest, by rw [hr]; simp⟩

theorem below_under {p : List Nat} {ms : Marks} (h : Below p ms) : Under p ms := by
  intro mk hmk
  rcases h mk hmk with ⟨h, _⟩ | ⟨x, rest, h⟩
  · exact ⟨[], by simp [h]⟩
  · exact ⟨x :: rest, h⟩

theorem below_append {p : List Nat} {a b : Marks} (ha : Below p a) (hb : Below p b) : Below p (a ++ b) := by
  intro mk hmk
  rcases List.mem_append.mp hmk with h | h
  · exact ha mk h
  · exact hb mk h

theorem below_nil (p : List Nat) : Below p [] := fun _ h => by cases h

end BufProofs.FilterRewrite

namespace BufProofs.FilterOneof

/-- number of kept elements before position `i` -/
def cntBefore : List Bool → Nat → Nat
  | _, 0 => 0
  | [], _ => 0
  | b :: bs, i + 1 => (if b then 1 else 0) + cntBefore bs i

end BufProofs.FilterOneof

namespace BufProofs.FilterLemmas
open BufModel.Filter BufProofs.FilterRewrite BufProofs.FilterOneof

/-! ### the message tree -/

theorem remapMsgs_eq (c : RCtx) (path : List Nat) (ms : List Msg) (fr to : Nat) :
    remapMsgs c path ms fr to = remapSlice path (remapMsg c) ms fr to := by
  induction ms generalizing fr to with
  | nil => unfold remapMsgs remapSlice; rfl
  | cons x xs ih =>
    unfold remapMsgs remapSlice; simp only [ih]
    rcases remapMsg c (path ++ [fr]) x with ⟨_ | y, mk⟩ <;> rfl

/-- Induction over nested messages: the hypothesis is available for every member of `nested`. -/
theorem Msg.ind {P : Msg → Prop}
    (h : ∀ id fields oneofs exts nested enums rangeOpts reserved mapEntry opts, (∀ m ∈ nested, P m) →
      P (.mk id fields oneofs exts nested enums rangeOpts reserved mapEntry opts)) : ∀ m, P m :=
  Msg.rec (motive_1 := P) (motive_2 := fun l => ∀ m ∈ l, P m)
    (fun id fields oneofs exts nested enums rangeOpts reserved mapEntry opts ih =>
      h id fields oneofs exts nested enums rangeOpts reserved mapEntry opts ih)
    (fun m hm => by cases hm)
    (fun x xs ihx ihxs m hm => by
      cases hm with
      | head => exact ihx
      | tail _ h => exact ihxs m h)

theorem msgsInfos_eq (file : Id) (parent : Key) (ms : List Msg) :
    msgsInfos file parent ms = ms.flatMap (msgInfos file parent) := by
  induction ms with
  | nil => rfl
  | cons m ms ih => rw [msgsInfos, ih, List.flatMap_cons]

theorem presentMsgs_eq (file : Id) (ms : List Msg) : presentMsgs file ms = ms.flatMap (presentMsg file) := by
  induction ms with
  | nil => rfl
  | cons m ms ih => rw [presentMsgs, ih, List.flatMap_cons]

/-! ### the items a slice keeps -/

/-- An item every path keeps, with a property `Q` of what it is kept as, leaves a kept item with `Q`. -/
theorem remapSlice_keeps {α β} (path : List Nat) (f : List Nat → α → Option β × Marks) (Q : β → Prop) (xs : List α)
    (fr to : Nat) (x : α) (hx : x ∈ xs) (hf : ∀ p, ∃ y, (f p x).1 = some y ∧ Q y) :
    ∃ y ∈ (remapSlice path f xs fr to).1, Q y := by
  rw [remapSlice_items]
  induction xs generalizing fr with
  | nil => cases hx
  | cons a as ih =>
    unfold keptFrom
    cases hx with
    | head => obtain ⟨y, hy, hq⟩ := hf (path ++ [fr]); rw [hy]; exact ⟨y, List.mem_cons_self, hq⟩
    | tail _ hx =>
      obtain ⟨y, hy, hq⟩ := ih (fr + 1) hx
      split
      · exact ⟨y, List.mem_cons_of_mem _ hy, hq⟩
      · exact ⟨y, hy, hq⟩

theorem remapSlice_mem {α β} (path : List Nat) (f : List Nat → α → Option β × Marks) (xs : List α) (fr to : Nat)
    (x : α) (y : β) (hx : x ∈ xs) (hf : ∀ p, (f p x).1 = some y) : y ∈ (remapSlice path f xs fr to).1 := by
  obtain ⟨y', hy', rfl⟩ := remapSlice_keeps path f (· = y) xs fr to x hx (fun p => ⟨y, hf p, rfl⟩)
  exact hy'

theorem remapSlice_origin {α β} (path : List Nat) (f : List Nat → α → Option β × Marks) (xs : List α) (fr to : Nat)
    (y : β) (h : y ∈ (remapSlice path f xs fr to).1) : ∃ x ∈ xs, ∃ p, (f p x).1 = some y := by
  rw [remapSlice_items] at h
  induction xs generalizing fr with
  | nil => cases h
  | cons a as ih =>
    unfold keptFrom at h
    split at h
    · rename_i y' hy
      cases h with
      | head => exact ⟨a, List.mem_cons_self, _, hy⟩
      | tail _ h =>
        obtain ⟨x, hx, p, hp⟩ := ih _ h
        exact ⟨x, List.mem_cons_of_mem _ hx, p, hp⟩
    · obtain ⟨x, hx, p, hp⟩ := ih _ h
      exact ⟨x, List.mem_cons_of_mem _ hx, p, hp⟩

theorem remapSlice_enums (c : RCtx) (path : List Nat) (es : List Enum) (fr to : Nat) :
    (remapSlice path (remapEnum c) es fr to).1 = es.filter (fun e => c.has (.el e.id)) := by
  rw [remapSlice_items]
  induction es generalizing fr with
  | nil => rfl
  | cons e es ih =>
    rw [keptFrom, List.filter_cons, ih]
    unfold remapEnum
    cases c.has (.el e.id) <;> rfl

/-! ### positions: a kept element ends up at the number of kept elements before it -/

theorem flagsFrom_get {α β} (path : List Nat) (f : List Nat → α → Option β × Marks) (xs : List α) (fr i : Nat)
    (hi : i < xs.length) : (flagsFrom path f xs fr)[i]? = some (f (path ++ [fr + i]) xs[i]).1.isSome := by
  induction xs generalizing fr i with
  | nil => simp at hi
  | cons a as ih =>
    cases i with
    | zero => simp [flagsFrom]
    | succ i =>
      simp only [flagsFrom, List.getElem?_cons_succ, List.getElem_cons_succ]
      rw [ih (fr + 1) i (by simpa using hi)]
      have : fr + 1 + i = fr + (i + 1) := by omega
      rw [this]

theorem keptFrom_get {α β} (path : List Nat) (f : List Nat → α → Option β × Marks) (xs : List α) (fr i : Nat) (x : α)
    (y : β) (hx : xs[i]? = some x) (hy : (f (path ++ [fr + i]) x).1 = some y) :
    (keptFrom path f xs fr)[cntBefore (flagsFrom path f xs fr) i]? = some y := by
  induction xs generalizing fr i with
  | nil => simp at hx
  | cons a as ih =>
    unfold keptFrom flagsFrom
    cases i with
    | zero =>
      simp only [List.getElem?_cons_zero, Option.some.injEq] at hx
      subst hx
      rw [Nat.add_zero] at hy
      simp [hy, cntBefore]
    | succ i =>
      have e : fr + (i + 1) = fr + 1 + i := by omega
      rw [e] at hy
      have := ih (fr + 1) i (by simpa using hx) hy
      rcases h : (f (path ++ [fr]) a).1 with _ | y'
      · simpa [cntBefore] using this
      · simpa [cntBefore, Nat.add_comm 1] using this

theorem keptFrom_surj {α β} (path : List Nat) (f : List Nat → α → Option β × Marks) (xs : List α) (fr j : Nat)
    (hj : j < (keptFrom path f xs fr).length) :
    ∃ i, i < xs.length ∧ (flagsFrom path f xs fr)[i]? = some true ∧ cntBefore (flagsFrom path f xs fr) i = j := by
  induction xs generalizing fr j with
  | nil => simp [keptFrom] at hj
  | cons a as ih =>
    unfold keptFrom at hj
    unfold flagsFrom
    rcases h : (f (path ++ [fr]) a).1 with _ | y'
    · rw [h] at hj
      obtain ⟨i, hi, hf, hc⟩ := ih (fr + 1) j hj
      exact ⟨i + 1, by simp; omega, by simpa using hf, by simp [cntBefore, hc]⟩
    · rw [h] at hj
      cases j with
      | zero => exact ⟨0, by simp, by simp, by simp [cntBefore]⟩
      | succ j =>
        obtain ⟨i, hi, hf, hc⟩ := ih (fr + 1) j (by simpa using hj)
        exact ⟨i + 1, by simp; omega, by simpa using hf, by simp [cntBefore, hc]; omega⟩

/-! ### the marks of a slice -/

theorem actAt_append (a b : Marks) (q : List Nat) :
    actAt (a ++ b) q = match actAt a q with | some x => some x | none => actAt b q := by
  induction a with
  | nil => rfl
  | cons m ms ih =>
    rw [List.cons_append, actAt_cons, actAt_cons]
    split
    · rfl
    · exact ih

theorem actAt_below (p : List Nat) (ms : Marks) (h : Below p ms) (path : List Nat) (x j : Nat) (hp : p = path ++ [x]) :
    actAt ms (path ++ [j]) = none := by
  induction ms with
  | nil => rfl
  | cons m ms ih =>
    rw [actAt_cons]
    have hm := h m (by simp)
    have hne : ¬ (m.1 = path ++ [j] ∧ m.2 ≠ Act.noComment) := by
      rintro ⟨h1, h2⟩
      rcases hm with ⟨_, h3⟩ | ⟨y, rest, h3⟩
      · exact h2 h3
      · rw [h1, hp] at h3
        have := congrArg List.length h3
        simp at this
    simp only [hne, if_false]
    exact ih (fun mk hmk => h mk (by simp [hmk]))

theorem remapSlice_cons_snd {α β} (path : List Nat) (f : List Nat → α → Option β × Marks) (x : α) (xs : List α) (fr to : Nat) :
    (remapSlice path f (x :: xs) fr to).2 =
      if (f (path ++ [fr]) x).1.isSome then
        (f (path ++ [fr]) x).2 ++ (if fr ≠ to then [(path ++ [fr], Act.moved to)] else []) ++
          (remapSlice path f xs (fr + 1) (to + 1)).2
      else (f (path ++ [fr]) x).2 ++ [(path ++ [fr], Act.deleted)] ++ (remapSlice path f xs (fr + 1) to).2 := by
  rw [remapSlice]
  rcases f (path ++ [fr]) x with ⟨_ | y, mk⟩ <;> rfl

/-- all that most proofs need of the head's slice mark in `remapSlice_cons_snd` is the node it sits at -/
theorem remapSlice_cons_shape {α β} (path : List Nat) (f : List Nat → α → Option β × Marks) (x : α) (xs : List α) (fr to : Nat) :
    ∃ S to', (remapSlice path f (x :: xs) fr to).2 =
        (f (path ++ [fr]) x).2 ++ S ++ (remapSlice path f xs (fr + 1) to').2 ∧ ∀ mk ∈ S, mk.1 = path ++ [fr] := by
  rw [remapSlice_cons_snd]
  split
  · refine ⟨_, _, rfl, fun mk hmk => ?_⟩
    split at hmk
    · simp only [List.mem_cons, List.mem_nil_iff, or_false] at hmk; rw [hmk]
    · cases hmk
  · refine ⟨_, _, rfl, fun mk hmk => ?_⟩
    simp only [List.mem_cons, List.mem_nil_iff, or_false] at hmk; rw [hmk]

theorem under_remapSlice_gen {α β} (path : List Nat) (f : List Nat → α → Option β × Marks) (xs : List α)
    (hU : ∀ x ∈ xs, ∀ p, Under p (f p x).2) (fr to : Nat) : Under path (remapSlice path f xs fr to).2 := by
  induction xs generalizing fr to with
  | nil =>
    unfold remapSlice
    intro mk hmk
    split at hmk
    · simp only [List.mem_cons, List.mem_nil_iff, or_false] at hmk; subst hmk; exact ⟨[], by simp⟩
    · cases hmk
  | cons x xs ih =>
    obtain ⟨S, to', e, hS⟩ := remapSlice_cons_shape path f x xs fr to
    rw [e]
    refine under_append (under_append ?_ (fun mk hmk => ⟨[fr], hS mk hmk⟩))
      (ih (fun x hx => hU x (List.mem_cons_of_mem _ hx)) (fr + 1) to')
    intro mk hmk
    obtain ⟨rest, hr⟩ := hU x List.mem_cons_self (path ++ [fr]) mk hmk
    exact ⟨fr :: rest, by rw [hr]; simp⟩

theorem under_remapSlice {α β} (path : List Nat) (f : List Nat → α → Option β × Marks)
    (hleaf : ∀ p x, (f p x).2 = []) (xs : List α) (fr to : Nat) : Under path (remapSlice path f xs fr to).2 :=
  under_remapSlice_gen path f xs (fun x _ p mk hmk => by rw [hleaf] at hmk; cases hmk) fr to

/-- On the sibling positions `path ++ [j]` the marks of a slice are those its keep flags determine:
    the marks of the items themselves lie below. -/
theorem actAt_remapSlice {α β} (path : List Nat) (f : List Nat → α → Option β × Marks)
    (hB : ∀ p x, Below p (f p x).2) (xs : List α) (fr to j : Nat) :
    actAt (remapSlice path f xs fr to).2 (path ++ [j]) =
      actAt (sliceMarks path (flagsFrom path f xs fr) fr to) (path ++ [j]) := by
  induction xs generalizing fr to with
  | nil => rfl
  | cons x xs ih =>
    have hnone := actAt_below (path ++ [fr]) _ (hB (path ++ [fr]) x) path fr j rfl
    rw [remapSlice_cons_snd, flagsFrom]
    cases (f (path ++ [fr]) x).1.isSome with
    | false =>
      simp only [Bool.false_eq_true, if_false, sliceMarks]
      rw [List.append_assoc, actAt_append, hnone]
      simp only [List.singleton_append]
      rw [actAt_cons, actAt_cons]
      split
      · rfl
      · exact ih _ _
    | true =>
      simp only [if_true, sliceMarks]
      rw [List.append_assoc, actAt_append, hnone]
      simp only []
      rw [actAt_append, actAt_append, ih]

theorem fixPath_remapSlice {α β} (path : List Nat) (f : List Nat → α → Option β × Marks)
    (hB : ∀ p x, Below p (f p x).2) (xs : List α) (i : Nat) (hi : i < (flagsFrom path f xs 0).length) :
    fixPath (remapSlice path f xs 0 0).2 path [i] =
      if (flagsFrom path f xs 0)[i] = false then none
      else some ([newIdx (flagsFrom path f xs 0) i 0], noCommentAt (remapSlice path f xs 0 0).2 (path ++ [i])) := by
  apply fixPath_of_actAt _ _ _ i hi
  rw [actAt_remapSlice path f hB]
  simpa using actAt_sliceMarks path (flagsFrom path f xs 0) 0 0 i hi

end BufProofs.FilterLemmas
