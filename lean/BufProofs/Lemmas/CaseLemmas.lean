import BufModel.Case
import BufProofs.Lemmas.ListLemmas
import BufProofs.Lemmas.SplitLemmas
/-
  The stringutil / protoversion model (C05): the character classes under `toUpper` / `toLower`, the
  trimming functions, and the fixed points of the case conversions — an identifier already in
  Pascal, lower_snake or UPPER_SNAKE form converts to itself, a string with a delimiter or a
  letter of the wrong case does not.  Last, the package version: `v<digits>` is a stable version, a component
  that does not start with `v` is none, a package of a single component has none.
-/
namespace BufModel.Case

/-! ### characters -/

theorem toNat_ofNat (n : Nat) (h : n < 55296) : (Char.ofNat n).toNat = n := by
  have : n.isValidChar := Or.inl h
  simp [Char.ofNat, this, Char.toNat, Char.ofNatAux]

theorem toNat_toUpper_of_lower (c : Char) (h : isLower c = true) : (toUpper c).toNat = c.toNat - 32 := by
  simp only [toUpper, h, if_true]
  simp [isLower] at h
  exact toNat_ofNat _ (by omega)

theorem toNat_toLower_of_upper (c : Char) (h : isUpper c = true) : (toLower c).toNat = c.toNat + 32 := by
  simp only [toLower, h, if_true]
  simp [isUpper] at h
  exact toNat_ofNat _ (by omega)

theorem toUpper_of_not_lower (c : Char) (h : isLower c = false) : toUpper c = c := by
  simp [toUpper, h]

theorem toLower_of_not_upper (c : Char) (h : isUpper c = false) : toLower c = c := by
  simp [toLower, h]

theorem upper_not_lower (c : Char) (h : isUpper c = true) : isLower c = false := by
  simp [isUpper, isLower] at *; omega

theorem lower_not_upper (c : Char) (h : isLower c = true) : isUpper c = false := by
  simp [isUpper, isLower] at *; omega

theorem toUpper_of_upper (c : Char) (h : isUpper c = true) : toUpper c = c :=
  toUpper_of_not_lower c (upper_not_lower c h)

theorem isUpper_toUpper_of_lower (c : Char) (h : isLower c = true) : isUpper (toUpper c) = true := by
  have := toNat_toUpper_of_lower c h
  simp [isUpper, isLower] at *; omega

theorem isLower_toLower_of_upper (c : Char) (h : isUpper c = true) : isLower (toLower c) = true := by
  have := toNat_toLower_of_upper c h
  simp [isUpper, isLower] at *; omega

theorem toUpper_ne_of_lower (c : Char) (h : isLower c = true) : toUpper c ≠ c := by
  intro e
  have := toNat_toUpper_of_lower c h
  rw [e] at this
  simp [isLower] at h; omega

theorem toLower_ne_of_upper (c : Char) (h : isUpper c = true) : toLower c ≠ c := by
  intro e
  have := toNat_toLower_of_upper c h
  rw [e] at this
  omega

theorem isUpper_toLower (c : Char) : isUpper (toLower c) = false := by
  cases h : isUpper c
  · rw [toLower_of_not_upper c h]; exact h
  · exact lower_not_upper _ (isLower_toLower_of_upper c h)

theorem isLower_toUpper (c : Char) : isLower (toUpper c) = false := by
  cases h : isLower c
  · rw [toUpper_of_not_lower c h]; exact h
  · exact upper_not_lower _ (isUpper_toUpper_of_lower c h)

theorem alnum_not_delim (c : Char) (h : isAlnum c = true) : isDelimiter c = false := by
  simp [isAlnum, isUpper, isLower, isDigit, isDelimiter] at *; omega

theorem alnum_not_space (c : Char) (h : isAlnum c = true) : isSpace c = false := by
  simp [isAlnum, isUpper, isLower, isDigit, isSpace] at *; omega

theorem upper_alnum (c : Char) (h : isUpper c = true) : isAlnum c = true := by simp [isAlnum, h]

theorem underscore_delim (c : Char) (h : isUnderscore c = true) : isDelimiter c = true := by
  simp [isUnderscore, isDelimiter] at *; omega

theorem lower_alnum (c : Char) (h : isLower c = true) : isAlnum c = true := by simp [isAlnum, h]

/-- A case mapping moves a character only within the letters and digits: everything else is fixed. -/
def CaseMap (g : Char → Char) : Prop := ∀ c, g c = c ∨ (isAlnum c = true ∧ isAlnum (g c) = true)

theorem caseMap_toUpper : CaseMap toUpper := fun c => by
  cases h : isLower c
  · exact Or.inl (toUpper_of_not_lower c h)
  · exact Or.inr ⟨lower_alnum c h, upper_alnum _ (isUpper_toUpper_of_lower c h)⟩

theorem caseMap_toLower : CaseMap toLower := fun c => by
  cases h : isUpper c
  · exact Or.inl (toLower_of_not_upper c h)
  · exact Or.inr ⟨upper_alnum c h, lower_alnum _ (isLower_toLower_of_upper c h)⟩

/-- a class without letters and digits (delimiters, spaces) does not see a case mapping -/
theorem CaseMap.class_eq {g : Char → Char} (hg : CaseMap g) {P : Char → Bool}
    (hP : ∀ c, isAlnum c = true → P c = false) (c : Char) : P (g c) = P c := by
  rcases hg c with h | ⟨h1, h2⟩
  · rw [h]
  · rw [hP _ h1, hP _ h2]

theorem toUpper_toUpper (c : Char) : toUpper (toUpper c) = toUpper c :=
  toUpper_of_not_lower _ (isLower_toUpper c)

theorem toLower_toLower (c : Char) : toLower (toLower c) = toLower c :=
  toLower_of_not_upper _ (isUpper_toLower c)

/-! ### trimming -/

theorem lastIs_cons_cons (p : Char → Bool) (a b : Char) (cs : Str) :
    lastIs p (a :: b :: cs) = lastIs p (b :: cs) := rfl

theorem lastIs_eq (p : Char → Bool) : ∀ s : Str, lastIs p s = s.getLast?.any p
  | [] => rfl
  | [_] => rfl
  | _ :: b :: cs => by rw [lastIs_cons_cons, lastIs_eq p (b :: cs), List.getLast?_cons_cons]

theorem lastIs_false_of_forall (p : Char → Bool) (s : Str) (h : ∀ c ∈ s, p c = false) : lastIs p s = false := by
  rw [lastIs_eq]
  cases hl : s.getLast? with
  | none => rfl
  | some c => exact h c (List.mem_of_getLast? hl)

theorem lastIs_mono (p q : Char → Bool) (s : Str) (h : ∀ c ∈ s, p c = true → q c = true)
    (hq : lastIs q s = false) : lastIs p s = false := by
  rw [lastIs_eq] at *
  cases hl : s.getLast? with
  | none => rfl
  | some c =>
    rw [hl] at hq
    exact Bool.eq_false_iff.mpr fun hp => Bool.false_ne_true (Eq.trans (Eq.symm hq) (h c (List.mem_of_getLast? hl) hp))

theorem dropEnd_eq_self (p : Char → Bool) : ∀ s : Str, lastIs p s = false → dropEnd p s = s
  | [], _ => rfl
  | [c], h => by simp [lastIs] at h; simp [dropEnd, h]
  | a :: b :: cs, h => by
    have ih := dropEnd_eq_self p (b :: cs) (by simpa [lastIs_cons_cons] using h)
    show (match dropEnd p (b :: cs) with | [] => if p a then [] else [a] | r => a :: r) = a :: b :: cs
    rw [ih]

theorem trimBoth_eq_self (p : Char → Bool) (s : Str) (h1 : headIs p s = false) (h2 : lastIs p s = false) :
    trimBoth p s = s := by
  unfold trimBoth
  cases s with
  | nil => rfl
  | cons c cs =>
    have : p c = false := by simpa [headIs] using h1
    rw [List.dropWhile_cons_of_neg (by simp [this])]
    exact dropEnd_eq_self p _ h2

theorem dropEnd_prefix (p : Char → Bool) (s : Str) : dropEnd p s <+: s := by
  fun_induction dropEnd p s
  · exact List.prefix_rfl
  · exact List.nil_prefix
  · exact List.cons_prefix_cons.mpr ⟨rfl, List.nil_prefix⟩
  · next ih => exact List.cons_prefix_cons.mpr ⟨rfl, ih⟩

theorem mem_trimBoth (p : Char → Bool) (s : Str) (x : Char) (h : x ∈ trimBoth p s) : x ∈ s :=
  (List.dropWhile_sublist p).mem ((dropEnd_prefix p _).mem h)

theorem dropEnd_cons_of_not (p : Char → Bool) (c : Char) (cs : Str) (h : p c = false) :
    ∃ r, dropEnd p (c :: cs) = c :: r := by
  simp only [dropEnd]
  split
  · exact ⟨[], by simp [h]⟩
  · next r _ => exact ⟨_, rfl⟩

/-! ### the case conversions fix the strings of their grammars -/

theorem pascalGo_false_fix : ∀ cs : Str, (∀ c ∈ cs, isDelimiter c = false) → pascalGo false cs = cs
  | [], _ => rfl
  | c :: cs, h => by
    have hc : isDelimiter c = false := h c (by simp)
    have ih := pascalGo_false_fix cs (fun x hx => h x (by simp [hx]))
    simp only [pascalGo, hc, Bool.false_or]
    cases hu : isUpper c
    · simp [toLower_of_not_upper c hu, ih]
    · simp [toUpper_of_upper c hu, ih]

theorem pascal_fix (s : Str) (htrim : trimSpace s = s) (hd : ∀ c ∈ s, isDelimiter c = false)
    (hh : headIs isLower s = false) : toPascalCase s = s := by
  unfold toPascalCase
  rw [htrim]
  cases s with
  | nil => rfl
  | cons c cs =>
    have hc : isDelimiter c = false := hd c (by simp)
    have hl : isLower c = false := by simpa [headIs] using hh
    simp only [pascalGo, hc, Bool.true_or]
    simp [toUpper_of_not_lower c hl, pascalGo_false_fix cs (fun x hx => hd x (by simp [hx]))]

/-- every output character of the ToPascalCase loop is a non-delimiter input character, case-mapped -/
theorem mem_pascalGo : ∀ (cap : Bool) (cs : Str) (x : Char), x ∈ pascalGo cap cs →
    ∃ c ∈ cs, isDelimiter c = false ∧ (x = toUpper c ∨ x = toLower c) := by
  intro cap cs
  fun_induction pascalGo cap cs <;> intro x h
  · cases h
  · next ih =>
    obtain ⟨d, hd, h'⟩ := ih x h
    exact ⟨d, List.mem_cons_of_mem _ hd, h'⟩
  · next c cs hc ih =>
    rcases List.mem_cons.mp h with rfl | h
    · refine ⟨c, List.mem_cons_self, by simpa using hc, ?_⟩
      split
      · exact Or.inl rfl
      · exact Or.inr rfl
    · obtain ⟨d, hd, h'⟩ := ih x h
      exact ⟨d, List.mem_cons_of_mem _ hd, h'⟩

/-- … so a class without letters and digits judges it as it judges that input character -/
theorem pascalGo_class {P : Char → Bool} (hP : ∀ c, isAlnum c = true → P c = false) {cap : Bool} {cs : Str}
    {x : Char} (h : x ∈ pascalGo cap cs) : ∃ c ∈ cs, isDelimiter c = false ∧ P x = P c := by
  obtain ⟨c, hc, hd, rfl | rfl⟩ := mem_pascalGo cap cs x h
  · exact ⟨c, hc, hd, caseMap_toUpper.class_eq hP c⟩
  · exact ⟨c, hc, hd, caseMap_toLower.class_eq hP c⟩

theorem pascalGo_no_delim (cap : Bool) (cs : Str) : ∀ x ∈ pascalGo cap cs, isDelimiter x = false := fun x h => by
  obtain ⟨c, _, hd, e⟩ := pascalGo_class alnum_not_delim h
  rw [e, hd]

theorem pascalGo_true_head : ∀ cs : Str, headIs isLower (pascalGo true cs) = false
  | [] => rfl
  | c :: cs => by
    simp only [pascalGo]
    split
    · exact pascalGo_true_head cs
    · simp [headIs, isLower_toUpper]

theorem pascalGo_space (cap : Bool) (cs : Str) (hs : ∀ c ∈ cs, isSpace c = true → isDelimiter c = true) :
    ∀ x ∈ pascalGo cap cs, isSpace x = false := fun x h => by
  obtain ⟨c, hc, hd, e⟩ := pascalGo_class alnum_not_space h
  rw [e]
  cases hsc : isSpace c
  · rfl
  · rw [hs c hc hsc] at hd; cases hd

theorem headIs_false_of_all (p : Char → Bool) : ∀ s : Str, (∀ c ∈ s, p c = false) → headIs p s = false
  | [], _ => rfl
  | c :: _, h => by simp [headIs, h c (by simp)]

theorem eq_of_toNat_eq (c d : Char) (h : c.toNat = d.toNat) : c = d := by
  apply Char.ext
  apply UInt32.toNat_inj.mp
  exact h

theorem eq_underscore (c : Char) (h : isUnderscore c = true) : c = '_' := by
  apply eq_of_toNat_eq
  simp [isUnderscore] at h
  simpa using h

theorem underscore_not_upper (c : Char) (h : isUnderscore c = true) : isUpper c = false := by
  simp [isUnderscore, isUpper] at *; omega

theorem isUnderscore_lit : isUnderscore '_' = true := by decide

/-- the character actually examined by the loop -/
theorem snake_c_eq (c0 : Char) (h : isDelimiter c0 = true → isUnderscore c0 = true) :
    (if isDelimiter c0 then '_' else c0) = c0 := by
  cases hd : isDelimiter c0
  · simp
  · simp only [if_true]; exact (eq_underscore c0 (h hd)).symm

/-- One step of the toSnakeCase loop copies the character: its only delimiter form is '_', no word
    boundary is put before it (`hnew`), and it is not a second underscore (`hdd`). -/
theorem snakeGo_copy (prev last c0 : Char) (cs : Str) (hdel : isDelimiter c0 = true → isUnderscore c0 = true)
    (hnew : (isUpper c0 && (nextOk cs || isLower prev)) = false)
    (hdd : (isUnderscore last && isUnderscore c0) = false) :
    snakeGo false prev last (c0 :: cs) = c0 :: snakeGo false c0 c0 cs := by
  have h1 : (isUpper c0 && !isUnderscore last && (nextOk cs || isLower prev)) = false := by
    rw [Bool.and_right_comm, hnew]; rfl
  have h2 : (isDelimiter c0 && isUnderscore last) = false := by
    cases hd : isDelimiter c0
    · rfl
    · simpa [hdel hd] using hdd
  simp only [snakeGo, snake_c_eq c0 hdel, isNewWord, Bool.false_and, Bool.or_false, h1, h2, Bool.false_eq_true,
    if_false, Bool.not_false, if_true]

/-- Without upper-case letters (and with '_' as the only delimiter, never doubled) the loop of
    toSnakeCase copies its input. -/
theorem snakeGo_lower_fix : ∀ (cs : Str) (prev last : Char),
    (∀ c ∈ cs, isUpper c = false ∧ (isDelimiter c = true → isUnderscore c = true)) →
    noDoubleUnderscore (last :: cs) = true → snakeGo false prev last cs = cs
  | [], _, _, _, _ => rfl
  | c0 :: cs, prev, last, h, hn => by
    simp only [noDoubleUnderscore, Bool.and_eq_true, Bool.not_eq_true'] at hn
    rw [snakeGo_copy prev last c0 cs (h c0 (by simp)).2 (by simp [(h c0 (by simp)).1]) hn.1,
      snakeGo_lower_fix cs c0 c0 (fun x hx => h x (by simp [hx])) hn.2]

theorem nextOk_false_of_head (cs : Str) (h : ∀ c ∈ cs, isUpperSnakeChar c = true) : nextOk cs = false := by
  cases cs with
  | nil => rfl
  | cons n rest =>
    have hn := h n (by simp)
    simp only [nextOk, isNewWord, Bool.true_and]
    simp only [isUpperSnakeChar, Bool.or_eq_true] at hn
    rcases hn with (hn | hn) | hn
    · simp [hn]
    · simp [hn]
    · simp [underscore_delim n hn]

theorem upperSnakeChar_not_lower (c : Char) (h : isUpperSnakeChar c = true) : isLower c = false := by
  simp [isUpperSnakeChar, isUpper, isDigit, isUnderscore, isLower] at *; omega

theorem upperSnakeChar_delim (c : Char) (h : isUpperSnakeChar c = true) (hd : isDelimiter c = true) :
    isUnderscore c = true := by
  simp [isUpperSnakeChar, isUpper, isDigit, isUnderscore, isDelimiter] at *; omega

theorem lowerSnakeChar_not_upper (c : Char) (h : isLowerSnakeChar c = true) : isUpper c = false := by
  simp [isLowerSnakeChar, isUpper, isDigit, isUnderscore, isLower] at *; omega

theorem lowerSnakeChar_delim (c : Char) (h : isLowerSnakeChar c = true) (hd : isDelimiter c = true) :
    isUnderscore c = true := by
  simp [isLowerSnakeChar, isLower, isDigit, isUnderscore, isDelimiter] at *; omega

/-- On [A-Z0-9_] input without "__" the loop of toSnakeCase copies its input: a new word is
    only started before a lower-case continuation or after a lower-case letter. -/
theorem snakeGo_upper_fix : ∀ (cs : Str) (prev last : Char),
    (∀ c ∈ cs, isUpperSnakeChar c = true) → isLower prev = false →
    noDoubleUnderscore (last :: cs) = true → snakeGo false prev last cs = cs
  | [], _, _, _, _, _ => rfl
  | c0 :: cs, prev, last, h, hp, hn => by
    have hk := h c0 (by simp)
    simp only [noDoubleUnderscore, Bool.and_eq_true, Bool.not_eq_true'] at hn
    rw [snakeGo_copy prev last c0 cs (upperSnakeChar_delim c0 hk)
        (by simp [hp, nextOk_false_of_head cs (fun x hx => h x (by simp [hx]))]) hn.1,
      snakeGo_upper_fix cs c0 c0 (fun x hx => h x (by simp [hx])) (upperSnakeChar_not_lower c0 hk) hn.2]

theorem not_delim_of_not_underscore {K : Char → Bool} (hK : ∀ c, K c = true → isDelimiter c = true → isUnderscore c = true)
    (c : Char) (hk : K c = true) (hu : isUnderscore c = false) : isDelimiter c = false := by
  cases hd : isDelimiter c
  · rfl
  · have := hK c hk hd; simp [this] at hu

theorem headIs_mono (p q : Char → Bool) (s : Str) (h : ∀ c ∈ s, p c = true → q c = true)
    (hq : headIs q s = false) : headIs p s = false := by
  cases s with
  | nil => rfl
  | cons c cs =>
    simp only [headIs] at *
    cases hp : p c
    · rfl
    · have := h c (by simp) hp; simp [this] at hq

/-- toSnakeCase (no digit splitting) is the identity on a string that is not trimmed ('_' its only
    delimiter, not at either end) and that the loop copies. -/
theorem toSnakeCase_fix (s : Str) (hdel : ∀ c ∈ s, isDelimiter c = true → isUnderscore c = true)
    (hh : headIs isUnderscore s = false) (hl : lastIs isUnderscore s = false)
    (hgo : ∀ c cs, s = c :: cs → snakeGo false c c cs = cs) : toSnakeCase false s = s := by
  unfold toSnakeCase
  rw [trimBoth_eq_self _ s (headIs_mono _ _ s hdel hh) (lastIs_mono _ _ s hdel hl)]
  cases s with
  | nil => rfl
  | cons c cs => simp only [hgo c cs rfl]

theorem pascalIdent_fix (s : Str) (h : isPascalIdent s = true) : toPascalCase s = s := by
  cases s with
  | nil => simp [isPascalIdent] at h
  | cons c cs =>
    simp only [isPascalIdent, Bool.and_eq_true] at h
    have hall : (c :: cs).all isAlnum = true := by simp [upper_alnum c h.1]; simpa using h.2
    have hd : ∀ x ∈ c :: cs, isDelimiter x = false := fun x hx =>
      alnum_not_delim x (by simp at hall hx; rcases hx with rfl | hx; exact hall.1; exact hall.2 x hx)
    apply pascal_fix _ _ hd
    · simp [headIs, upper_not_lower c h.1]
    · exact trimBoth_eq_self _ _ (by simp [headIs, alnum_not_space c (upper_alnum c h.1)])
        (lastIs_false_of_forall _ _ fun x hx => alnum_not_space x (List.all_eq_true.mp hall x hx))

theorem lowerSnakeIdent_fix (s : Str) (h : isLowerSnakeIdent s = true) : toLowerSnakeCase false s = s := by
  simp only [isLowerSnakeIdent, Bool.and_eq_true, Bool.not_eq_true', List.all_eq_true] at h
  obtain ⟨⟨⟨⟨_, hall⟩, hh⟩, hl⟩, hn⟩ := h
  unfold toLowerSnakeCase
  rw [toSnakeCase_fix s (fun c hc => lowerSnakeChar_delim c (hall c hc)) hh hl]
  · exact BufProofs.ListLemmas.map_id_of_forall _ s (fun c hc => toLower_of_not_upper c (lowerSnakeChar_not_upper c (hall c hc)))
  · rintro c cs rfl
    exact snakeGo_lower_fix cs c c (fun x hx =>
      ⟨lowerSnakeChar_not_upper x (hall x (by simp [hx])), lowerSnakeChar_delim x (hall x (by simp [hx]))⟩) hn

theorem upperSnakeIdent_fix (s : Str) (h : isUpperSnakeIdent s = true) : toUpperSnakeCase false s = s := by
  simp only [isUpperSnakeIdent, Bool.and_eq_true, Bool.not_eq_true', List.all_eq_true] at h
  obtain ⟨⟨⟨⟨_, hall⟩, hh⟩, hl⟩, hn⟩ := h
  unfold toUpperSnakeCase
  rw [toSnakeCase_fix s (fun c hc => upperSnakeChar_delim c (hall c hc)) hh hl]
  · exact BufProofs.ListLemmas.map_id_of_forall _ s (fun c hc => toUpper_of_not_lower c (upperSnakeChar_not_lower c (hall c hc)))
  · rintro c cs rfl
    exact snakeGo_upper_fix cs c c (fun x hx => hall x (by simp [hx]))
      (upperSnakeChar_not_lower c (hall c (by simp))) hn

/-! ### version components; the split functions as `splitBy` -/

theorem splitFirst_none (p0 : Char) (rest : Str) : ∀ s : Str, (∀ c ∈ s, c ≠ p0) →
    splitFirst (p0 :: rest) s = none
  | [], _ => by simp [splitFirst]
  | c :: cs, h => by
    have hc : c ≠ p0 := h c (by simp)
    have ih := splitFirst_none p0 rest cs (fun x hx => h x (by simp [hx]))
    have hpre : (p0 :: rest).isPrefixOf (c :: cs) = false := by
      simp [List.isPrefixOf, Ne.symm hc]
    simp [splitFirst, hpre, ih]

theorem digit_ne (c p0 : Char) (hc : isDigit c = true) (hp : isDigit p0 = false) : c ≠ p0 := by
  intro e; subst e; simp [hc] at hp

theorem versionForComponent_stable (ds : Str) (hne : ds ≠ []) (hd : ds.all isDigit = true)
    (h1 : 1 ≤ digitsVal ds) (h2 : digitsVal ds ≤ 2147483647) :
    versionForComponent false ('v' :: ds) = some ⟨digitsVal ds, .stable, 0, 0, []⟩ := by
  have hall : ∀ c ∈ ds, isDigit c = true := List.all_eq_true.mp hd
  have hno : ∀ p0 rest, isDigit p0 = false → splitFirst (p0 :: rest) ds = none :=
    fun p0 rest hp => splitFirst_none p0 rest ds (fun c hc => digit_ne c p0 (hall c hc) hp)
  have hnc : ∀ p0 rest, isDigit p0 = false → contains (p0 :: rest) ds = false :=
    fun p0 rest hp => by rw [contains, hno p0 rest hp]; rfl
  have hdot : contains ['.'] ('v' :: ds) = false := by
    simp [contains, splitFirst, hno '.' [] (by decide)]
  have ht : splitFirst "test".toList ds = none := hno 't' _ (by decide)
  have ha : contains "alpha".toList ds = false := hnc 'a' _ (by decide)
  have hb : contains "beta".toList ds = false := hnc 'b' _ (by decide)
  have hparse : parseInt32 ds = some (Int.ofNat (digitsVal ds)) := by
    fun_cases parseInt32 ds
    · exact absurd rfl hne
    · exact absurd (hall '+' (by simp)) (by decide)
    · exact absurd (hall '-' (by simp)) (by decide)
    · rename_i body _ _ _; simpa [body, h2, hne] using hall
  have hnum : getNumber ds 1 = some (digitsVal ds) := by
    simp [getNumber, hparse]
    omega
  cases ds with
  | nil => exact absurd rfl hne
  | cons d ds' =>
    unfold versionForComponent
    simp only [hdot, bne_self_eq_false, ht, ha, hb, hnum, Bool.and_self, Bool.or_self, Bool.false_eq_true, if_false]
theorem versionForComponent_no_v (b : Bool) (c : Char) (cs : Str) (h : c ≠ 'v') :
    versionForComponent b (c :: cs) = none := by
  have hv : (c != 'v') = true := by simpa using h
  unfold versionForComponent
  cases cs with
  | nil => simp
  | cons d ds => simp [hv]

theorem splitLines_eq : ∀ s, splitLines s = splitBy '\n' s :=
  eq_splitBy '\n' rfl (fun c cs l ls e => by simp [splitLines, e])

theorem splitDots_eq : ∀ s, splitDots s = splitBy '.' s :=
  eq_splitBy '.' rfl (fun c cs l ls e => by simp [splitDots, e])

theorem joinWith_singleton (sep : Char) : ∀ ls, joinWith [sep] ls = joinBy sep ls :=
  eq_joinBy sep rfl (fun _ => rfl) (fun x y xs => by simp [joinWith])

theorem splitDots_no_dot (s : Str) (h : ∀ c ∈ s, c ≠ '.') : splitDots s = [s] :=
  (splitDots_eq s).trans (splitBy_of_not_mem '.' fun hm => h _ hm rfl)

theorem versionForPackage_single (b : Bool) (s : Str) (h : ∀ c ∈ s, c ≠ '.') :
    versionForPackage b s = none := by
  unfold versionForPackage
  split
  · rfl
  · simp [splitDots_no_dot s h]

/-! ### grammar REJECTION (used by the planting theorems of C05: "bad name ⇒ annotation") -/

/-- a name containing a delimiter (underscore, '.', '-', space, tab, CR, LF) is never a fixpoint
    of ToPascalCase -/
theorem toPascalCase_ne_of_delim (s : Str) (c : Char) (hc : c ∈ s) (hd : isDelimiter c = true) :
    toPascalCase s ≠ s := by
  intro e
  have := pascalGo_no_delim true (trimSpace s) c (by unfold toPascalCase at e; rw [e]; exact hc)
  simp [this] at hd

theorem toPascalCase_ne_of_lower_first (c : Char) (cs : Str) (hl : isLower c = true) :
    toPascalCase (c :: cs) ≠ c :: cs := by
  intro e
  have hsp : isSpace c = false := alnum_not_space c (lower_alnum c hl)
  have hdl : isDelimiter c = false := alnum_not_delim c (lower_alnum c hl)
  unfold toPascalCase trimSpace trimBoth at e
  rw [List.dropWhile_cons_of_neg (by simp [hsp])] at e
  obtain ⟨r, hr⟩ := dropEnd_cons_of_not isSpace c cs hsp
  rw [hr] at e
  simp only [pascalGo, hdl, Bool.true_or] at e
  simp at e
  exact toUpper_ne_of_lower c hl e.1

theorem toLowerSnakeCase_ne_of_upper (b : Bool) (s : Str) (c : Char) (hc : c ∈ s) (hu : isUpper c = true) :
    toLowerSnakeCase b s ≠ s := by
  intro e
  rw [← e] at hc
  unfold toLowerSnakeCase at hc
  obtain ⟨y, _, rfl⟩ := List.mem_map.mp hc
  simp [isUpper_toLower] at hu

theorem toUpperSnakeCase_ne_of_lower (b : Bool) (s : Str) (c : Char) (hc : c ∈ s) (hl : isLower c = true) :
    toUpperSnakeCase b s ≠ s := by
  intro e
  rw [← e] at hc
  unfold toUpperSnakeCase at hc
  obtain ⟨y, _, rfl⟩ := List.mem_map.mp hc
  simp [isLower_toUpper] at hl

end BufModel.Case
