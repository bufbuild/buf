import BufModel.OutFile
/-
  Helper lemmas for Props/C11OutFile.lean (model BufModel/OutFile.lean): association-list
  lookup / update, and what replacing the END of a symbolic-link walk does to walks.
-/
namespace BufModel.OutFile

variable {α : Type}

theorem of_lookup_set_eq (fs : FS α) (p : Name) (n : Node α) : lookup (setNode fs p n) p = some n := by
  induction fs with
  | nil => simp [setNode, lookup]
  | cons h t ih =>
    obtain ⟨q, m⟩ := h
    by_cases hq : q = p
    · simp [setNode, lookup, hq]
    · simp [setNode, lookup, hq, ih]

theorem of_lookup_set_ne (fs : FS α) (p r : Name) (n : Node α) (h : r ≠ p) :
    lookup (setNode fs p n) r = lookup fs r := by
  induction fs with
  | nil =>
    have : ¬ p = r := fun e => h e.symm
    simp [setNode, lookup, this]
  | cons hd t ih =>
    obtain ⟨q, m⟩ := hd
    by_cases hq : q = p
    · subst hq
      have : ¬ q = r := fun e => h e.symm
      simp [setNode, lookup, this]
    · by_cases hr : q = r
      · subst hr
        simp [setNode, lookup, hq]
      · simp [setNode, lookup, hq, hr, ih]

theorem of_resolve_terminal (fs : FS α) : ∀ (fuel : Nat) (p q : Name),
    resolve fs fuel p = .ok q → ∀ t, lookup fs q ≠ some (.link t) := by
  intro fuel
  induction fuel with
  | zero => intro p q h; simp [resolve] at h
  | succ f ih =>
    intro p q h t
    unfold resolve at h
    split at h
    · exact ih _ _ h t
    · rename_i hne
      cases h
      intro hl
      exact hne t hl

/-- a walk fails only by running out of links to follow -/
theorem of_resolve_error (fs : FS α) : ∀ (fuel : Nat) (p : Name) (e : Err), resolve fs fuel p = .error e → e = .eloop
  | 0, _, _, h => by cases h; rfl
  | f + 1, p, e, h => by
    unfold resolve at h
    split at h
    · exact of_resolve_error fs f _ e h
    · cases h

/-- replacing a node that is not a symbolic link by one that is not changes no walk: a walk reads
    only links, and stops at the replaced name before as after. -/
theorem of_resolve_set (fs : FS α) (q : Name) (n : Node α) (hq : ∀ t, lookup fs q ≠ some (.link t))
    (hn : ∀ t, n ≠ .link t) : ∀ (fuel : Nat) (r : Name),
    resolve (setNode fs q n) fuel r = resolve fs fuel r := by
  intro fuel
  induction fuel with
  | zero => intro r; rfl
  | succ f ih =>
    intro r
    unfold resolve
    by_cases hr : r = q
    · subst hr
      rw [of_lookup_set_eq]
      split
      · rename_i t hl; cases hl; exact absurd rfl (hn t)
      · rfl
    · rw [of_lookup_set_ne fs q r n hr]
      split
      · exact ih _
      · rfl

theorem of_createWith_ok (wr : List α → List α → List α) (fs fs' : FS α) (p : Name) (c : List α)
    (h : createWith wr fs p c = .ok fs') :
    ∃ q, resolve fs (maxLinks + 1) p = .ok q ∧ lookup fs q ≠ some .dir ∧
      fs' = setNode fs q (.file (wr (oldBytes fs q) c)) := by
  unfold createWith at h
  split at h
  · cases h
  · rename_i q hr
    split at h
    · cases h
    · rename_i hnd
      cases h
      exact ⟨q, hr, fun e => hnd e, rfl⟩

theorem of_read_after_createWith (wr : List α → List α → List α) (fs fs' : FS α) (p : Name) (c : List α)
    (h : createWith wr fs p c = .ok fs') :
    ∃ q, resolve fs (maxLinks + 1) p = .ok q ∧ readBack fs' p = .ok (wr (oldBytes fs q) c) := by
  obtain ⟨q, hr, _, hfs⟩ := of_createWith_ok wr fs fs' p c h
  refine ⟨q, hr, ?_⟩
  subst hfs
  unfold readBack
  rw [of_resolve_set fs q _ (of_resolve_terminal fs _ p q hr) (by intro t e; cases e), hr]
  simp [of_lookup_set_eq]

end BufModel.OutFile
