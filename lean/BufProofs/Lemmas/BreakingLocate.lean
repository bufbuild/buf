import BufProofs.Lemmas.BreakingDetect
/-
  Location lemmas for C03 ("located at it"): what the location terms of the model's annotations
  (`msgLoc`, `enumLoc`, `svcLoc`, `fieldAnn`, `deletedAnn` are built from `annAt` and `enclosing`)
  denote, stated independently of the rule handlers:

  * the source path of a flattened message / field / enum / service / method RESOLVES, in the
    descriptor tree of its file, to that very element (`msgAt`, `flatMsgs_path_resolves`, …);
  * `annAt` picks the first candidate path that has a source location, else only the file;
  * `enclosing c q` is the current message whose nested name is the LONGEST proper non-empty
    prefix of `q` (`enclosing_some`, `enclosing_none`).

  Also here: multiplicities, and for each parametric handler of the model (`fieldNoDelete`,
  `enumValueNoDelete`, `fileSame`, `cardRule`) its membership lemma for arbitrary parameters.
-/
namespace BufProofs.Breaking
open BufModel.Schema BufModel.Breaking

theorem find_file_unique {cur : Schema} (hw : WF cur) {cf : File} (hcf : cf ∈ cur) {x : String}
    (hp : cf.path = x) : cur.find? (fun f => decide (f.path = x)) = some cf := by
  subst hp; exact ListLemmas.find?_key_of_nodup hw.files hcf

theorem annAt_skip {rule file : String} {locs : List SPath} {p : SPath} {rest : List SPath} {fb : String}
    (h : p ∉ locs) : annAt rule file locs (p :: rest) fb = annAt rule file locs rest fb := by
  unfold annAt
  simp [List.find?, h]

theorem annAt_none {rule file : String} {locs : List SPath} {cands : List SPath} {fb : String}
    (h : ∀ p ∈ cands, p ∉ locs) : annAt rule file locs cands fb = ⟨rule, fb, []⟩ := by
  unfold annAt
  have : cands.find? (fun p => decide (p ∈ locs)) = none := by
    apply List.find?_eq_none.2
    intro p hp; simpa using h p hp
  rw [this]

theorem annAt_rule (rule file : String) (locs cands : List SPath) (fb : String) :
    (annAt rule file locs cands fb).rule = rule := by
  unfold annAt; split <;> rfl

theorem annAt_cases (rule file : String) (locs cands : List SPath) (fb : String) :
    (∃ p ∈ cands, p ∈ locs ∧ annAt rule file locs cands fb = ⟨rule, file, p⟩) ∨
    ((∀ p ∈ cands, p ∉ locs) ∧ annAt rule file locs cands fb = ⟨rule, fb, []⟩) := by
  unfold annAt
  cases hf : cands.find? (fun p => decide (p ∈ locs)) with
  | some p =>
    refine Or.inl ⟨p, List.mem_of_find?_eq_some hf, ?_, rfl⟩
    simpa using List.find?_some hf
  | none =>
    refine Or.inr ⟨fun p hp => ?_, rfl⟩
    simpa using List.find?_eq_none.1 hf p hp

/-! ### source paths resolve to the element -/

theorem indexed_getElem {α : Type} {xs : List α} {j : Nat} {x : α} (h : (j, x) ∈ indexed xs) :
    xs[j]? = some x := by
  unfold indexed at h
  obtain ⟨p, hp, he⟩ := List.mem_map.1 h
  have := List.mem_zipIdx_iff_getElem?.1 hp
  cases he
  exact this

/-- descend from a message along a relative source path `[3, j, 3, k, …]`
    (DescriptorProto.nested_type = 3) -/
def descend : Msg → SPath → Option Msg
  | m, [] => some m
  | m, 3 :: j :: rest =>
    match m.nested[j]? with
    | some n => descend n rest
    | none => none
  | _, _ => none

/-- the message a source path `[4, i, 3, j, …]` designates in a file's descriptor tree
    (FileDescriptorProto.message_type = 4) -/
def msgAt (f : File) : SPath → Option Msg
  | 4 :: i :: rest =>
    match f.messages[i]? with
    | some m => descend m rest
    | none => none
  | _ => none

theorem descend_nest (info : MsgInfo) (ns : List Msg) (k : Nat) (m0 : Msg) (rel : SPath)
    (h : ns[k]? = some m0) : descend (.mk info ns) (3 :: k :: rel) = descend m0 rel := by
  rw [descend]
  simp only [Msg.nested, h]

theorem flatMsg_path (file : String) (locs : List SPath) (pkg : QName) :
    ∀ (m : Msg) (pre : QName) (path : SPath) (ml : Option SPath) (x : FlatMsg),
      x ∈ flatMsg file locs pkg pre path ml m →
      ∃ rel n, x.path = path ++ rel ∧ descend m rel = some n ∧ n.info = x.info :=
  flatMsg_rec (fun _ path _ i ns => ⟨[], .mk i ns, by simp, by rw [descend], rfl⟩)
    fun _ path _ i ns k n x hk ⟨rel, n', hp, hd, hi⟩ =>
      ⟨3 :: k :: rel, n', by rw [hp]; simp, by rw [descend_nest i ns k n rel hk]; exact hd, hi⟩

theorem flatMsgs_path (file : String) (locs : List SPath) (pkg : QName) :
    ∀ (ms : List Msg) (pre : QName) (path : SPath) (pf : List Field) (i : Nat) (x : FlatMsg),
      x ∈ flatMsgs file locs pkg pre path pf i ms →
      ∃ k rel n m0, ms[k]? = some m0 ∧ x.path = path ++ [3, i + k] ++ rel ∧ descend m0 rel = some n ∧
        n.info = x.info :=
  fun _ _ _ _ _ x hx => by
    obtain ⟨k, m0, hk, hx⟩ := mem_flatMsgs.1 hx
    obtain ⟨rel, n, hp, hd, hi⟩ := flatMsg_path file locs pkg m0 _ _ _ x hx
    exact ⟨k, rel, n, m0, hk, hp, hd, hi⟩

theorem flatMsgs_path_resolves {f : File} {fm : FlatMsg} (h : fm ∈ f.flatMsgs) :
    (∃ n, msgAt f fm.path = some n ∧ n.info = fm.info) ∧ fm.file = f.path ∧ fm.locs = f.locs := by
  refine ⟨?_, (mem_flatMsgs_ctx h).1, (mem_flatMsgs_ctx h).2.2⟩
  obtain ⟨k, m0, hk, hx⟩ := mem_topMsgs.1 h
  obtain ⟨rel, n, hp, hd, hi⟩ := flatMsg_path f.path f.locs f.pkg m0 _ _ _ fm hx
  refine ⟨n, ?_, hi⟩
  rw [hp]
  simp only [Nat.zero_add, List.cons_append, List.nil_append, msgAt, hk]
  exact hd

/-- a field of a flattened message: its path is `message path ++ [2, j]` (DescriptorProto.field = 2)
    where `j` is its index in the message -/
theorem msgFields_path {m : FlatMsg} {c : FlatField} (h : c ∈ msgFields m) :
    ∃ j, c.path = m.path ++ [2, j] ∧ m.info.fields[j]? = some c.field ∧ c.file = m.file ∧ c.locs = m.locs := by
  unfold msgFields at h
  obtain ⟨p, hp, rfl⟩ := List.mem_map.1 h
  exact ⟨p.1, rfl, indexed_getElem hp, rfl, rfl⟩

/-- a method of a flattened service: `service path ++ [2, j]` (ServiceDescriptorProto.method = 2) -/
theorem svcMethods_path {s : FlatSvc} {c : FlatMethod} (h : c ∈ svcMethods s) :
    ∃ j, c.path = s.path ++ [2, j] ∧ s.svc.methods[j]? = some c.m ∧ c.file = s.file ∧ c.locs = s.locs := by
  unfold svcMethods at h
  obtain ⟨p, hp, rfl⟩ := List.mem_map.1 h
  exact ⟨p.1, rfl, indexed_getElem hp, rfl, rfl⟩

/-- a service: `[6, j]` (FileDescriptorProto.service = 6) -/
theorem flatSvcs_path {f : File} {s : FlatSvc} (h : s ∈ f.flatSvcs) :
    ∃ j, s.path = [6, j] ∧ f.services[j]? = some s.svc ∧ s.file = f.path ∧ s.locs = f.locs := by
  unfold File.flatSvcs at h
  obtain ⟨p, hp, rfl⟩ := List.mem_map.1 h
  exact ⟨p.1, rfl, indexed_getElem hp, rfl, rfl⟩

/-- an enum: `[5, j]` at file level (FileDescriptorProto.enum_type = 5), or `message path ++ [4, j]`
    inside a message (DescriptorProto.enum_type = 4) whose nested name prefixes the enum's -/
theorem flatEnums_path {f : File} {e : FlatEnum} (h : e ∈ f.flatEnums) :
    ((∃ j, e.path = [5, j] ∧ f.enums[j]? = some e.enum ∧ e.nested = [e.enum.name]) ∨
     (∃ m ∈ f.flatMsgs, ∃ j, e.path = m.path ++ [4, j] ∧ m.info.enums[j]? = some e.enum ∧
        e.nested = m.nested ++ [e.enum.name])) ∧ e.file = f.path ∧ e.locs = f.locs := by
  unfold File.flatEnums at h
  rcases ListLemmas.mem_map_append_flatMap_map.1 h with ⟨p, hp, rfl⟩ | ⟨m, hm, p, hp, rfl⟩
  · exact ⟨Or.inl ⟨p.1, rfl, indexed_getElem hp, rfl⟩, rfl, rfl⟩
  · exact ⟨Or.inr ⟨m, hm, p.1, rfl, indexed_getElem hp, rfl⟩, rfl, rfl⟩

/-! ### the nearest surviving enclosing message -/

/-- a search downwards from `n - 1` through the numbers that pass `p` returns what `f` finds at the
    LARGEST of them where it finds something -/
theorem findSome?_range_down {β : Type} {f : Nat → Option β} {p : Nat → Bool} {n : Nat} {b : β}
    (h : ((List.range n).reverse.filter p).findSome? f = some b) :
    ∃ i, i < n ∧ p i = true ∧ f i = some b ∧ ∀ j, i < j → j < n → p j = true → f j = none := by
  obtain ⟨l₁, i, l₂, hl, hf, hnone⟩ := List.findSome?_eq_some_iff.mp h
  have hmem : ∀ j, j ∈ l₁ ++ i :: l₂ ↔ j < n ∧ p j = true := fun j => by simp [← hl]
  -- the list is decreasing, so whatever exceeds `i` stands in front of it
  have hdesc : (l₁ ++ i :: l₂).Pairwise (· > ·) :=
    hl ▸ (List.pairwise_reverse.mpr List.pairwise_lt_range).filter _
  have hbelow := (List.pairwise_cons.mp (List.pairwise_append.mp hdesc).2.1).1
  obtain ⟨hin, hpi⟩ := (hmem i).mp (by simp)
  refine ⟨i, hin, hpi, hf, fun j hij hjn hpj => hnone j ?_⟩
  rcases List.mem_append.mp ((hmem j).mpr ⟨hjn, hpj⟩) with h | h
  · exact h
  · rcases List.mem_cons.mp h with rfl | h
    · exact absurd hij (Nat.lt_irrefl _)
    · exact absurd (hbelow j h) (Nat.lt_asymm hij)

/-- `enclosing c q = some m`: `m` is a message of the current file `c` whose nested name is a proper,
    non-empty prefix of `q`, and it is the LONGEST such prefix — the nearest surviving ancestor. -/
theorem enclosing_some {c : File} {q : QName} {m : FlatMsg} (h : enclosing c q = some m) :
    m ∈ c.flatMsgs ∧ 1 ≤ m.nested.length ∧ m.nested.length < q.length ∧ m.nested = q.take m.nested.length ∧
    ∀ m' ∈ c.flatMsgs, m'.nested.length < q.length → m'.nested = q.take m'.nested.length →
      m'.nested.length ≤ m.nested.length := by
  obtain ⟨i, hi2, hi1, hf, hmax⟩ := findSome?_range_down h
  have hi3 : m.nested = q.take i := by simpa using List.find?_some hf
  have hlen : m.nested.length = i := by rw [hi3, List.length_take]; omega
  simp only [decide_eq_true_eq] at hi1
  refine ⟨List.mem_of_find?_eq_some hf, by omega, by omega, by rw [hlen]; exact hi3, fun m' hm' hl hp => ?_⟩
  apply Nat.le_of_not_lt
  intro hlt
  have := List.find?_eq_none.mp (hmax m'.nested.length (by omega) hl (by simp; omega)) m' hm'
  exact this (by simpa using hp)

theorem enclosing_none {c : File} {q : QName} (h : enclosing c q = none) :
    ∀ m' ∈ c.flatMsgs, 1 ≤ m'.nested.length → m'.nested.length < q.length → m'.nested ≠ q.take m'.nested.length := by
  intro m' hm' h1 h2
  have := List.find?_eq_none.mp (List.findSome?_eq_none_iff.mp h m'.nested.length (by simp [h1, h2])) m' hm'
  simpa using this

theorem sublist_flatMap_of_mem {α β : Type} {l : List α} {f : α → List β} {x : α} (h : x ∈ l) :
    List.Sublist (f x) (l.flatMap f) := by
  rw [List.flatMap_def]; exact List.sublist_flatten_of_mem (List.mem_map_of_mem h)

theorem count_flatMap_ite {α : Type} (xs : List α) (p : α → Bool) (a : Ann) :
    (xs.flatMap fun x => if p x then [] else [a]).count a = (xs.filter fun x => !p x).length := by
  induction xs with
  | nil => rfl
  | cons x xs ih =>
    rw [List.flatMap_cons, List.count_append, ih]
    cases hp : p x <;> simp [hp] <;> omega

theorem count_le_pairwise {α κ : Type} [DecidableEq κ] (key : α → κ) (cur prev : List α)
    (onMissing : α → List Ann) (onPair : α → α → List Ann) (p c : α) (a : Ann)
    (hnd : (cur.map key).Nodup) (hp : p ∈ prev) (hc : c ∈ cur) (hk : key c = key p) :
    (onPair c p).count a ≤ (pairwise key cur prev onMissing onPair).count a := by
  unfold pairwise
  refine Nat.le_trans ?_ ((sublist_flatMap_of_mem hp).count_le a)
  have hf := ListLemmas.find?_key_of_nodup hnd hc
  rw [hk] at hf
  simp only [hf]
  exact Nat.le_refl _

theorem count_le_check {v : Ver} {cat id : String} {cur prev : Schema} (a : Ann) (hid : id ∈ rulesOf v cat) :
    (runRule id cur prev).count a ≤ (check v cat cur prev).count a :=
  (sublist_flatMap_of_mem (f := fun id => runRule id cur prev) hid).count_le a

theorem mem_fieldNoDelete {cur prev : Schema} (hw : WF cur) (rule : String) (an am : Bool)
    {pm cm : FlatMsg} {pf : Field}
    (hpm : pm ∈ allMsgs prev) (hcm : cm ∈ allMsgs cur) (hname : cm.fullName = pm.fullName)
    (hpf : pf ∈ pm.info.fields) (hdel : ∀ cf ∈ cm.info.fields, cf.number ≠ pf.number)
    (hres : ((an && numberReserved cm.info.reservedRanges pf.number) ||
      (am && decide (pf.name ∈ cm.info.reservedNames))) = false) :
    msgLoc cm rule ∈ fieldNoDelete rule an am cur prev := by
  unfold fieldNoDelete
  apply mem_msgPairs hw hpm hcm hname
  refine List.mem_flatMap.2 ⟨pf, hpf, ?_⟩
  have hno : cm.info.hasNumber pf.number = false :=
    List.any_eq_false.2 fun cf hcf => by simpa using hdel cf hcf
  simp [hno, hres]

theorem mem_enumValueNoDelete {cur prev : Schema} (hw : WF cur) (rule : String) (an am : Bool)
    {pe ce : FlatEnum} {pv : EnumValue}
    (hpe : pe ∈ allEnums prev) (hce : ce ∈ allEnums cur) (hname : ce.fullName = pe.fullName)
    (hpv : pv ∈ pe.enum.values) (hdel : ∀ cv ∈ ce.enum.values, cv.number ≠ pv.number)
    (hres : (if an then numberReserved ce.enum.reservedRanges pv.number
      else if am then (pe.enum.values.filter fun w => decide (w.number = pv.number)).all
        fun w => decide (w.name ∈ ce.enum.reservedNames)
      else false) = false) :
    enumLoc ce rule pe.file ∈ enumValueNoDelete rule an am cur prev := by
  unfold enumValueNoDelete
  apply mem_enumPairs hw hpe hce hname
  refine List.mem_flatMap.2 ⟨pv, hpv, ?_⟩
  have hno : ce.enum.hasNumber pv.number = false :=
    List.any_eq_false.2 fun cv hcv => by simpa using hdel cv hcv
  simp only [hno, hres, Bool.false_eq_true, if_false]
  exact List.mem_cons_self

theorem mem_fileSame {cur prev : Schema} (hw : WF cur) {pf cf : File} (hpf : pf ∈ prev) (hcf : cf ∈ cur)
    (hpath : cf.path = pf.path) {β : Type} [DecidableEq β] (rule : String) (get : File → β) (loc : SPath)
    (hne : get pf ≠ get cf) : annAt rule cf.path cf.locs [loc] cf.path ∈ fileSame rule get loc cur prev :=
  mem_filePairs hw hpf hcf hpath (by simp [hne])

theorem mem_cardRule {cur prev : Schema} (hw : WF cur) {pf cf : FlatField} (hp : FieldPaired cur prev cf pf)
    (rule : String) (grp : Card → Nat) (hm : ¬ (pf.field.inMapEntry = true ∧ cf.field.inMapEntry = true))
    (hc : grp pf.field.card ≠ grp cf.field.card) : fieldAnn rule cf [cf.path] ∈ cardRule rule grp cur prev := by
  refine mem_fieldPairs_paired hw hp ?_
  have h1 : (pf.field.inMapEntry && cf.field.inMapEntry) = false := by
    apply Bool.eq_false_iff.2; intro h; exact hm (by simpa using h)
  simp [h1, hc]

theorem numberReserved_eq_false {rs : List Range} {n : Int} (h : ∀ r ∈ rs, ¬ (r.1 ≤ n ∧ n ≤ r.2)) :
    numberReserved rs n = false :=
  List.any_eq_false.2 fun r hr => by simpa [rangeHas] using h r hr

end BufProofs.Breaking
