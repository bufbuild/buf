import BufModel.ArchiveKinds
import BufProofs.Lemmas.ArchiveLemmas
/-
  The Untar / Unzip loops over raw entries (`extractRaw`), read through `extractInto_eq`: they fail
  exactly on a refused name and write only what regular, non-AppleDouble entries map to.
-/
namespace BufModel.ArchiveKinds
open BufModel.Path BufModel.Bucket BufModel.Archive BufModel.Reader

theorem unmap_error_iff (name : Str) (n : Nat) (f : Str → Bool) :
    (∃ er, unmapArchivePath name n f = .error er) ↔ nameRejected name = true := by
  unfold unmapArchivePath nameRejected
  by_cases h0 : name = []
  · simp [h0]
  · simp only [h0, if_false, decide_false, Bool.false_or]
    cases hv : normalizeAndValidate name with
    | error e => simp
    | ok full =>
      simp only
      constructor
      · rintro ⟨er, h⟩
        split at h
        · cases h
        · split at h
          · cases h
          · split at h <;> cases h
      · intro h; cases h

theorem unmap_ok_of_not_rejected (name : Str) (n : Nat) (f : Str → Bool) (h : nameRejected name = false) :
    ∃ r, unmapArchivePath name n f = .ok r := by
  cases hu : unmapArchivePath name n f with
  | ok r => exact ⟨r, rfl⟩
  | error er =>
    have := (unmap_error_iff name n f).mp ⟨er, hu⟩
    rw [h] at this; cases this

/-- One entry, error side (no size limit): Untar and Unzip fail on an entry iff its name is
    refused — whatever its kind and whether or not it carries an AppleDouble name (the AppleDouble
    skip of Untar comes after the name check, as in Unzip). -/
theorem extractEntry_error_iff (fmt : Fmt) (n : Nat) (f : Str → Bool) (m : Mem) (e : Entry) :
    (∃ er, extractEntry fmt n f 0 m e = .error er) ↔ nameRejected e.name = true := by
  rw [extractEntry_eq, ← unmap_error_iff e.name n f]
  cases hu : unmapArchivePath e.name n f with
  | error er => simp
  | ok r =>
    cases r with
    | none => simp
    | some p => cases e.isRegular <;> cases isApple fmt e <;> simp [memPut_unmapped e.name n f p hu]

theorem extractEntry_rejects (fmt : Fmt) (n : Nat) (f : Str → Bool) (mx : Nat) (m : Mem) (e : Entry)
    (hrej : nameRejected e.name = true) :
    ∃ er, extractEntry fmt n f mx m e = .error er := by
  obtain ⟨er, hu⟩ := (unmap_error_iff e.name n f).mpr hrej
  exact ⟨er, by rw [extractEntry_eq, hu]⟩

theorem extractRaw_rejects (fmt : Fmt) (es : List RawEntry) (strip : Nat) (f : Str → Bool) (mx : Nat) (m : Mem)
    (e : RawEntry) (he : e ∈ es) (hesc : nameRejected e.name = true) :
    ∃ er, (extractRaw fmt strip f mx es m).1 = some er := by
  unfold extractRaw
  rw [extractInto_eq]
  obtain ⟨er, h⟩ := extractEntry_rejects fmt strip f mx [] e.toEntry hesc
  exact Option.isSome_iff_exists.mp (List.findSome?_isSome_iff.mpr
    ⟨e.toEntry, List.mem_map.mpr ⟨e, he, rfl⟩, by rw [(entryErr_eq_some []).mpr h]; rfl⟩)

theorem extractRaw_error_iff (fmt : Fmt) (es : List RawEntry) (strip : Nat) (f : Str → Bool) (m : Mem) :
    (∃ er, (extractRaw fmt strip f 0 es m).1 = some er) ↔ ∃ e ∈ es, nameRejected e.name = true := by
  unfold extractRaw
  have hone : ∀ e : RawEntry, (entryErr fmt strip f 0 e.toEntry).isSome = true ↔ nameRejected e.name = true := by
    intro e
    rw [show e.name = e.toEntry.name from rfl, ← extractEntry_error_iff fmt strip f [] e.toEntry,
      Option.isSome_iff_exists]
    exact exists_congr fun er => entryErr_eq_some []
  rw [extractInto_eq, ← Option.isSome_iff_exists, List.findSome?_isSome_iff]
  constructor
  · rintro ⟨x, hx, h⟩
    obtain ⟨e, he, rfl⟩ := List.mem_map.mp hx
    exact ⟨e, he, (hone e).mp h⟩
  · rintro ⟨e, he, h⟩
    exact ⟨e.toEntry, List.mem_map.mpr ⟨e, he, rfl⟩, (hone e).mpr h⟩

theorem extractRaw_writes (fmt : Fmt) (strip : Nat) (f : Str → Bool) (mx : Nat) (es : List RawEntry) (m : Mem) :
    ∀ kv ∈ (extractRaw fmt strip f mx es m).2, kv ∈ m ∨
      ∃ e ∈ es, e.ekind = .reg ∧ e.apple fmt = false ∧
        unmapArchivePath e.name strip f = .ok (some kv.1) ∧ kv.2 = e.content := by
  intro kv h
  unfold extractRaw at h
  rw [extractInto_eq] at h
  refine (mem_putList h).imp_right fun hw => ?_
  obtain ⟨x, hx, ht, hc⟩ := mem_written.mp hw
  obtain ⟨e, he, rfl⟩ := List.mem_map.mp ((List.takeWhile_sublist _).subset hx)
  obtain ⟨hr, ha, hu⟩ := (entryTarget_eq_some fmt strip f _ kv.1).mp ht
  exact ⟨e, he, of_decide_eq_true hr, ha, hu, hc⟩

theorem extractRaw_ok (fmt : Fmt) (es : List RawEntry) (strip : Nat) (f : Str → Bool) (mx : Nat) (m : Mem)
    (h : extractRaw fmt strip f mx es [] = (none, m)) :
    KeysValid m ∧
    (∀ kv ∈ m, ∃ e ∈ es, e.ekind = .reg ∧ e.apple fmt = false ∧
        unmapArchivePath e.name strip f = .ok (some kv.1) ∧ kv.2 = e.content) ∧
    (∀ e ∈ es, nameRejected e.name = false) := by
  have hw := extractRaw_writes fmt strip f mx es []
  rw [h] at hw
  have h2 : ∀ kv ∈ m, ∃ e ∈ es, e.ekind = .reg ∧ e.apple fmt = false ∧
      unmapArchivePath e.name strip f = .ok (some kv.1) ∧ kv.2 = e.content :=
    fun kv hkv => (hw kv hkv).resolve_left (List.not_mem_nil)
  refine ⟨?_, h2, ?_⟩
  · intro kv hkv
    obtain ⟨e, _, _, _, hu, _⟩ := h2 kv hkv
    obtain ⟨_, k, _, _, hk, hne, hp, _⟩ := unmapArchivePath_sound e.name strip f kv.1 hu
    exact ⟨k, hk, hne, hp⟩
  · intro e he
    cases hr : nameRejected e.name with
    | false => rfl
    | true =>
      obtain ⟨er, herr⟩ := extractRaw_rejects fmt es strip f mx [] e he hr
      rw [h] at herr; cases herr

/-- nothing reads the link name -/
theorem toEntry_linkname (e : RawEntry) (l : Str) : ({ e with linkname := l } : RawEntry).toEntry = e.toEntry := rfl

end BufModel.ArchiveKinds
