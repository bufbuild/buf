import BufProofs.Lemmas.ManagedRuleLemmas
/-
  C18 (managed mode): the modifiers and their composition to `Modify`.  The thirteen modifiers, run one
  after the other as coded, compute what each of them decides on the input file alone (`modifyFile_eq`);
  all thirteen share one shape (`change`: `govChange_eq` for the twelve file options, `jsChange_eq` for
  jstype), from which "writes only a different value", what is left alone, the fixed point and
  idempotence follow; what `Modify` leaves at the place of an input file (`out_cases`), the frame
  (`FileFrame`), and the sweeper's marks as the paths of the options whose value changed
  (`fileMarks_iff_changed`).  Before all that: `AllRel`, the pointwise relation of two lists in which the
  output of `Modify` is related to its input, and `SweptIn` / `sweepAll_rel`, the sweeper file by file.  At
  the end the file and configuration that the examples of Props/C18.lean evaluate.
-/
namespace BufProofs.ManagedLemmas
open BufModel.Managed

def AllRel {α β : Type} (R : α → β → Prop) : List α → List β → Prop
  | [], [] => True
  | a :: as, b :: bs => R a b ∧ AllRel R as bs
  | _, _ => False

theorem AllRel.mono {α β : Type} {R S : α → β → Prop} (h : ∀ a b, R a b → S a b) :
    ∀ {l : List α} {l' : List β}, AllRel R l l' → AllRel S l l'
  | [], [], _ => trivial
  | _ :: _, _ :: _, ⟨h1, h2⟩ => ⟨h _ _ h1, AllRel.mono h h2⟩
  | [], _ :: _, hf => hf.elim
  | _ :: _, [], hf => hf.elim

theorem AllRel.map_self {α β : Type} {R : α → β → Prop} (g : α → β) (h : ∀ a, R a (g a)) :
    ∀ l : List α, AllRel R l (l.map g)
  | [] => trivial
  | a :: as => ⟨h a, AllRel.map_self g h as⟩

theorem AllRel.map_left {α β γ : Type} {R : β → γ → Prop} (g : α → β) :
    ∀ {l : List α} {l' : List γ}, AllRel R (l.map g) l' → AllRel (fun a c => R (g a) c) l l'
  | [], [], _ => trivial
  | _ :: _, _ :: _, ⟨h1, h2⟩ => ⟨h1, AllRel.map_left g h2⟩
  | [], _ :: _, hf => hf.elim
  | _ :: _, [], hf => hf.elim

theorem AllRel.length_eq {α β : Type} {R : α → β → Prop} :
    ∀ {l : List α} {l' : List β}, AllRel R l l' → l.length = l'.length
  | [], [], _ => rfl
  | _ :: _, _ :: _, ⟨_, h2⟩ => by simp [AllRel.length_eq h2]
  | [], _ :: _, hf => hf.elim
  | _ :: _, [], hf => hf.elim

theorem AllRel.get {α β : Type} {R : α → β → Prop} :
    ∀ {l : List α} {l' : List β}, AllRel R l l' →
      ∀ (i : Nat) (a : α) (b : β), l[i]? = some a → l'[i]? = some b → R a b
  | [], [], _ => by intro i a b h; simp at h
  | x :: xs, y :: ys, ⟨h1, h2⟩ => by
      intro i a b ha hb
      cases i with
      | zero => simp at ha hb; subst ha; subst hb; exact h1
      | succ n => simp at ha hb; exact AllRel.get h2 n a b ha hb
  | [], _ :: _, hf => hf.elim
  | _ :: _, [], hf => hf.elim

theorem AllRel.refl_of {α : Type} {R : α → α → Prop} (h : ∀ a, R a a) : ∀ l : List α, AllRel R l l
  | [] => trivial
  | a :: as => ⟨h a, AllRel.refl_of h as⟩

theorem AllRel.mem_right {α β : Type} {R : α → β → Prop} :
    ∀ {l : List α} {l' : List β}, AllRel R l l' → ∀ b ∈ l', ∃ a ∈ l, R a b
  | [], [], _ => by intro b hb; simp at hb
  | x :: xs, y :: ys, ⟨h1, h2⟩ => by
      intro b hb
      rcases List.mem_cons.mp hb with rfl | hb'
      · exact ⟨x, by simp, h1⟩
      · obtain ⟨a, ha, hr⟩ := AllRel.mem_right h2 b hb'
        exact ⟨a, by simp [ha], hr⟩
  | [], _ :: _, hf => hf.elim
  | _ :: _, [], hf => hf.elim

theorem removeIndices_nil (locs : List Loc) : removeIndices locs [] = locs := by
  unfold removeIndices
  simp only [List.contains_nil, Bool.not_false]
  rw [List.filter_eq_self.mpr (fun _ _ => rfl)]
  simp

theorem removeIndices_sublist (locs : List Loc) (rm : List Nat) :
    (removeIndices locs rm).Sublist locs := by
  unfold removeIndices
  have h1 : ((locs.zipIdx.filter fun p => !rm.contains p.2).map (·.1)).Sublist (locs.zipIdx.map (·.1)) :=
    List.Sublist.map _ List.filter_sublist
  simpa using h1

theorem sweepLocs_sublist {fixed : Bool} {mk : List (List Nat)} {locs l : List Loc}
    (h : sweepLocs fixed mk locs = some l) : l.Sublist locs := by
  unfold sweepLocs at h
  split at h
  · cases h; exact List.Sublist.refl _
  · cases hs : sweepRemoved fixed mk locs with
    | none => simp [hs] at h
    | some rm => simp [hs] at h; subst h; exact removeIndices_sublist _ _

/-- What `sweepAll` leaves of one (already modified) file: its locations swept by its marks — or, only
    when `Sweep()` ended with an error (`err`), left as they were (the failing file and those after it). -/
def SweptIn (fixed err : Bool) (p : File × List (List Nat)) (f' : File) : Prop :=
  ∃ l, f' = { p.1 with locs := l } ∧ (sweepLocs fixed p.2 p.1.locs = some l ∨ (err = true ∧ l = p.1.locs))

theorem sweepAll_rel (fixed : Bool) :
    ∀ l : List (File × List (List Nat)), AllRel (SweptIn fixed (sweepAll fixed l).err) l (sweepAll fixed l).files
  | [] => trivial
  | (f, mk) :: rest => by
    unfold sweepAll
    split
    · exact ⟨⟨f.locs, rfl, .inr ⟨rfl, rfl⟩⟩, AllRel.map_self _ (fun p => ⟨p.1.locs, rfl, .inr ⟨rfl, rfl⟩⟩) rest⟩
    · rename_i l hl
      exact ⟨⟨l, rfl, .inl hl⟩, sweepAll_rel fixed rest⟩

theorem modifyWith_rel (fixed preserve : Bool) (cfg : Config) (img : List File) (h : cfg.enabled = true) :
    AllRel (fun f f' => SweptIn fixed (modifyWith fixed preserve cfg img).err
        (modifyOptions preserve cfg f, fileMarks preserve cfg f) f')
      img (modifyWith fixed preserve cfg img).files := by
  unfold modifyWith
  simp only [h, Bool.not_true, Bool.false_eq_true, ↓reduceIte]
  exact AllRel.map_left (fun f => (modifyOptions preserve cfg f, fileMarks preserve cfg f)) (sweepAll_rel fixed _)


/-! ### options messages as lists by field number -/

theorem getOpt_setOpt_same (n : Nat) (v : OVal) : ∀ os : Opts, getOpt n (setOpt n v os) = some v
  | [] => by simp [setOpt, getOpt]
  | (k, w) :: rest => by
    unfold setOpt
    by_cases h : k = n
    · simp [h, getOpt]
    · simp [h, getOpt, getOpt_setOpt_same n v rest]

theorem getOpt_setOpt_ne {n m : Nat} (v : OVal) (h : m ≠ n) :
    ∀ os : Opts, getOpt n (setOpt m v os) = getOpt n os
  | [] => by simp [setOpt, getOpt, h]
  | (k, w) :: rest => by
    unfold setOpt
    by_cases hk : k = m
    · subst hk; simp [getOpt, h]
    · by_cases hn : k = n
      · subst hn; simp [hk, getOpt]
      · simp [hk, getOpt, hn, getOpt_setOpt_ne v h rest]

/-! ### the shape the thirteen modifiers share -/

/-- `modifyStringOption`, `modifyFileOption` and the callback of `modifyJsType` once the target value is
    known: leave a set option alone under preserve-existing, leave the option alone without a target,
    write the target unless the value read — `cur`, else the default `dflt` of the getter, where the code
    reads through a getter that has one — is the target already. -/
def change {α : Type} [DecidableEq α] (preserve : Bool) (cur dflt target : Option α) : Option α :=
  if preserve && cur.isSome then none
  else match target with
    | none => none
    | some v => if cur.or dflt = some v then none else some v

section change
variable {α : Type} [DecidableEq α] {p : Bool} {cur d t : Option α} {v : α}

theorem change_eq_some :
    change p cur d t = some v ↔ (p && cur.isSome) = false ∧ t = some v ∧ cur.or d ≠ some v := by
  unfold change
  cases p && cur.isSome <;> cases t <;> simp
  exact ⟨fun ⟨h, e⟩ => ⟨e, e ▸ h⟩, fun ⟨e, h⟩ => ⟨e ▸ h, e⟩⟩

theorem change_ne (h : change p cur d t = some v) : cur ≠ some v := by
  rintro rfl
  exact (change_eq_some.mp h).2.2 rfl

theorem change_preserved (h : cur.isSome = true) : change true cur d t = none := by
  simp [change, h]

theorem change_no_target : change p cur d none = none := by
  unfold change; split <;> rfl

theorem change_fixed : change p ((change p cur d t).or cur) d t = none := by
  unfold change
  cases hp : p && cur.isSome
  · cases t with
    | none => simp
    | some v => by_cases hc : cur.or d = some v <;> simp [hc, hp]
  · simp [hp]

theorem change_getD {d0 : α} (hp : (p && cur.isSome) = false) :
    ((change p cur (some d0) (some v)).or cur).getD d0 = v := by
  unfold change
  simp only [hp, Bool.false_eq_true, ↓reduceIte]
  split
  · rename_i hc
    cases cur <;> simpa using hc
  · simp

/-- a target equal to the default counts as "already there" only when the option is set — it never is
    such a value for string options, and jstype has no default. -/
theorem change_or (hd : ∀ v, t = some v → d ≠ some v) :
    (change p cur d t).or cur = if p && cur.isSome then cur else t.or cur := by
  unfold change
  cases hp : p && cur.isSome
  · cases t with
    | none => rfl
    | some v =>
      by_cases hc : cur.or d = some v
      · cases cur with
        | none => exact absurd hc (hd v rfl)
        | some w => simp at hc; simp [hc]
      · simp [hc]
  · simp

theorem change_map {β : Type} [DecidableEq β] (c : α → β) (hc : ∀ a b, c a = c b → a = b) :
    (change p cur d t).map c = change p (cur.map c) (d.map c) (t.map c) := by
  unfold change
  cases hp : p && cur.isSome
  · cases t with
    | none => simp
    | some v =>
      have : (cur.map c).or (d.map c) = some (c v) ↔ cur.or d = some v := by
        cases cur <;> cases d <;> simp <;> exact ⟨hc _ _, congrArg c⟩
      by_cases h : cur.or d = some v <;> simp [h, this, hp]
  · simp [hp]

end change

theorem or_some_eq {α : Type} {cur : Option α} {d v : α} : cur.or (some d) = some v ↔ cur.getD d = v := by
  cases cur <;> simp

theorem strChange_eq (p : Bool) (cfg : Config) (f : File) (o : StrOpt) :
    strChange p cfg f o = change p (f.strOpts o) (some []) (strTarget cfg f o) := by
  unfold strChange change
  simp only [or_some_eq]
  cases strTarget cfg f o <;> rfl

theorem boolChange_eq (p : Bool) (cfg : Config) (f : File) (o : BoolOpt) :
    boolChange p cfg f o = change p (f.boolOpts o) (some o.protoDefault) (boolTarget cfg f o) := by
  unfold boolChange change
  simp only [or_some_eq]
  cases boolTarget cfg f o <;> rfl

theorem optimizeChange_eq (p : Bool) (cfg : Config) (f : File) :
    optimizeChange p cfg f = change p f.optimizeFor (some optimizeSpeed) (optimizeTarget cfg f) := by
  unfold optimizeChange change
  simp only [or_some_eq]
  cases optimizeTarget cfg f <;> rfl

/-- what `options.Xxx != nil` / `GetXxx()` see of a governed option: the entry at its field number, if
    it has the option's type. -/
def govCur (f : File) : Gov → Option OVal
  | .str o => (f.strOpts o).map .str
  | .bool o => (f.boolOpts o).map .bool
  | .optimize => f.optimizeFor.map .num

/-- what the getter returns for an unset option. -/
def govDflt : Gov → OVal
  | .str _ => .str []
  | .bool o => .bool o.protoDefault
  | .optimize => .num optimizeSpeed

/-- the value the modifier wants (`none`: exempted, or nothing to write). -/
def govTarget (cfg : Config) (f : File) : Gov → Option OVal
  | .str o => (strTarget cfg f o).map .str
  | .bool o => (boolTarget cfg f o).map .bool
  | .optimize => (optimizeTarget cfg f).map .num

theorem govChange_eq (p : Bool) (cfg : Config) (f : File) (g : Gov) :
    govChange p cfg f g = change p (govCur f g) (some (govDflt g)) (govTarget cfg f g) := by
  cases g with
  | str o => exact (congrArg _ (strChange_eq p cfg f o)).trans (change_map _ fun _ _ => OVal.str.inj)
  | bool o => exact (congrArg _ (boolChange_eq p cfg f o)).trans (change_map _ fun _ _ => OVal.bool.inj)
  | optimize => exact (congrArg _ (optimizeChange_eq p cfg f)).trans (change_map _ fun _ _ => OVal.num.inj)

theorem govCur_congr {f c : File} {g : Gov} (h : getOpt g.tag c.opts = getOpt g.tag f.opts) :
    govCur c g = govCur f g := by
  cases g <;> simp only [Gov.tag] at h <;> simp only [govCur, File.strOpts, File.boolOpts, File.optimizeFor, h]

/-- a target has the option's type, so an entry equal to it is what the getter sees. -/
theorem govCur_of_target {cfg : Config} {f c : File} {g : Gov} {v : OVal} (ht : govTarget cfg f g = some v)
    (h : getOpt g.tag c.opts = some v) : govCur c g = some v := by
  cases g <;> obtain ⟨s, -, rfl⟩ := Option.map_eq_some_iff.mp ht <;> simp only [Gov.tag] at h <;>
    simp only [govCur, File.strOpts, File.boolOpts, File.optimizeFor, h, Option.map_some]

def SameKey (f g : File) : Prop := g.path = f.path ∧ g.pkg = f.pkg ∧ g.module = f.module

/-- After rewriting with this, whatever reads a file only through path / package / module is the same for
    both by `rfl`. -/
theorem SameKey.eq_update {f g : File} (h : SameKey f g) :
    g = { f with opts := g.opts, fields := g.fields, locs := g.locs, payload := g.payload } := by
  obtain ⟨h1, h2, h3⟩ := h
  cases g; cases f; simp_all

theorem govTarget_congr {f c : File} (h : SameKey f c) (cfg : Config) (g : Gov) :
    govTarget cfg c g = govTarget cfg f g := by
  rw [h.eq_update]; rfl

theorem govChange_congr {f c : File} (h : SameKey f c) (p : Bool) (cfg : Config) (g : Gov)
    (ho : getOpt g.tag c.opts = getOpt g.tag f.opts) : govChange p cfg c g = govChange p cfg f g := by
  rw [govChange_eq, govChange_eq, govCur_congr ho, govTarget_congr h]

theorem govChange_ne (p : Bool) (cfg : Config) (f : File) (g : Gov) (v : OVal)
    (h : govChange p cfg f g = some v) : getOpt g.tag f.opts ≠ some v := by
  rw [govChange_eq] at h
  exact fun he => change_ne h (govCur_of_target (change_eq_some.mp h).2.1 he)

/-! ### the modifiers in "parallel" form -/

/-- the writes of the twelve file-option modifiers, each decided on the INPUT file. -/
def fileChanges (preserve : Bool) (cfg : Config) (f : File) (gs : List Gov) : List (Nat × OVal) :=
  gs.filterMap fun g => (govChange preserve cfg f g).map fun v => (g.tag, v)

def setAll (cs : List (Nat × OVal)) (os : Opts) : Opts := cs.foldl (fun os c => setOpt c.1 c.2 os) os

/-- the thirteen modifiers, each reading the input file. -/
def applyOptions (preserve : Bool) (cfg : Config) (f : File) : File :=
  { f with opts := setAll (fileChanges preserve cfg f Gov.all) f.opts
           fields := f.fields.map (applyField preserve cfg f) }

def marks (preserve : Bool) (cfg : Config) (f : File) : List (List Nat) :=
  (fileChanges preserve cfg f Gov.all).map (fun c => [8, c.1]) ++ jsMarks preserve cfg f

theorem jsChange_congr {f g : File} (h : SameKey f g) (p : Bool) (cfg : Config) (fd : Field) :
    jsChange p cfg g fd = jsChange p cfg f fd := by
  rw [h.eq_update]; rfl

theorem applyField_congr {f g : File} (h : SameKey f g) (p : Bool) (cfg : Config) (fd : Field) :
    applyField p cfg g fd = applyField p cfg f fd := by
  rw [h.eq_update]; rfl

theorem jsMarks_congr {f g : File} (h : SameKey f g) (hf : g.fields = f.fields) (p : Bool) (cfg : Config) :
    jsMarks p cfg g = jsMarks p cfg f := by
  unfold jsMarks; simp only [jsChange_congr h, hf]

theorem Gov.mem_all : ∀ g : Gov, g ∈ Gov.all := by
  intro g; cases g with
  | str o => cases o <;> decide
  | bool o => cases o <;> decide
  | optimize => decide

theorem Gov.tag_inj (g g' : Gov) (h : g.tag = g'.tag) : g = g' :=
  (by decide : ∀ a ∈ Gov.all, ∀ b ∈ Gov.all, a.tag = b.tag → a = b) g (Gov.mem_all g) g' (Gov.mem_all g') h

theorem Gov.all_nodup : Gov.all.Nodup := by decide

theorem getOpt_setAll_other (n : Nat) :
    ∀ (cs : List (Nat × OVal)) (os : Opts), (∀ c ∈ cs, c.1 ≠ n) → getOpt n (setAll cs os) = getOpt n os
  | [], _, _ => rfl
  | c :: cs, os, h => by
    show getOpt n (setAll cs (setOpt c.1 c.2 os)) = _
    rw [getOpt_setAll_other n cs _ (fun c' hc' => h c' (by simp [hc']))]
    exact getOpt_setOpt_ne _ (h c (by simp)) _

theorem mem_fileChanges {p : Bool} {cfg : Config} {f : File} {gs : List Gov} {c : Nat × OVal} :
    c ∈ fileChanges p cfg f gs ↔ ∃ g ∈ gs, govChange p cfg f g = some c.2 ∧ g.tag = c.1 := by
  unfold fileChanges
  simp only [List.mem_filterMap, Option.map_eq_some_iff]
  constructor
  · rintro ⟨g, hg, v, hv, rfl⟩; exact ⟨g, hg, hv, rfl⟩
  · rintro ⟨g, hg, hv, ht⟩; exact ⟨g, hg, c.2, hv, by rw [ht]⟩

theorem fileChanges_cons (p : Bool) (cfg : Config) (f : File) (g : Gov) (gs : List Gov) :
    fileChanges p cfg f (g :: gs) =
      match govChange p cfg f g with
      | some v => (g.tag, v) :: fileChanges p cfg f gs
      | none => fileChanges p cfg f gs := by
  unfold fileChanges
  rw [List.filterMap_cons]
  cases govChange p cfg f g <;> rfl

theorem getOpt_setAll_changes (p : Bool) (cfg : Config) (f : File) :
    ∀ (gs : List Gov) (os : Opts), gs.Nodup → ∀ g ∈ gs,
      getOpt g.tag (setAll (fileChanges p cfg f gs) os) = (govChange p cfg f g).or (getOpt g.tag os)
  | [], _, _, g, hg => by simp at hg
  | g0 :: gs, os, hnd, g, hg => by
    have hnd' : gs.Nodup := (List.nodup_cons.mp hnd).2
    have hnot : g0 ∉ gs := (List.nodup_cons.mp hnd).1
    rw [fileChanges_cons]
    by_cases hgg : g = g0
    · subst hgg
      have hrest : ∀ c ∈ fileChanges p cfg f gs, c.1 ≠ g.tag := by
        intro c hc
        obtain ⟨g', hg', _, ht⟩ := mem_fileChanges.mp hc
        intro he
        have : g' = g := Gov.tag_inj _ _ (by rw [ht, he])
        exact hnot (this ▸ hg')
      cases govChange p cfg f g with
      | none => simp only; rw [getOpt_setAll_other _ _ _ hrest]; simp
      | some v =>
        show getOpt g.tag (setAll (fileChanges p cfg f gs) (setOpt g.tag v os)) = _
        rw [getOpt_setAll_other _ _ _ hrest, getOpt_setOpt_same]; simp
    · have hg' : g ∈ gs := (List.mem_cons.mp hg).resolve_left hgg
      have hne : g0.tag ≠ g.tag := fun he => hgg (Gov.tag_inj _ _ he.symm)
      cases govChange p cfg f g0 with
      | none => exact getOpt_setAll_changes p cfg f gs os hnd' g hg'
      | some v =>
        show getOpt g.tag (setAll (fileChanges p cfg f gs) (setOpt g0.tag v os)) = _
        rw [getOpt_setAll_changes p cfg f gs _ hnd' g hg', getOpt_setOpt_ne _ hne]

theorem getOpt_applyOptions_gov (p : Bool) (cfg : Config) (f : File) (g : Gov) :
    getOpt g.tag (applyOptions p cfg f).opts = (govChange p cfg f g).or (getOpt g.tag f.opts) :=
  getOpt_setAll_changes p cfg f Gov.all f.opts Gov.all_nodup g (Gov.mem_all g)

theorem getOpt_applyOptions_other (p : Bool) (cfg : Config) (f : File) (n : Nat)
    (h : ∀ g : Gov, g.tag ≠ n) : getOpt n (applyOptions p cfg f).opts = getOpt n f.opts := by
  apply getOpt_setAll_other
  intro c hc
  obtain ⟨g, _, _, ht⟩ := mem_fileChanges.mp hc
  rw [← ht]; exact h g

theorem foldl_stepGov (p : Bool) (cfg : Config) (f : File) :
    ∀ (gs : List Gov) (c : File) (mk : List (List Nat)), gs.Nodup → SameKey f c →
      (∀ g ∈ gs, getOpt g.tag c.opts = getOpt g.tag f.opts) →
      gs.foldl (stepGov p cfg) (c, mk) =
        ({ c with opts := setAll (fileChanges p cfg f gs) c.opts },
         mk ++ (fileChanges p cfg f gs).map (fun ch => [8, ch.1]))
  | [], c, mk, _, _, _ => by simp [fileChanges, setAll]
  | g :: gs, c, mk, hnd, hk, ho => by
    have hnd' : gs.Nodup := (List.nodup_cons.mp hnd).2
    have hnot : g ∉ gs := (List.nodup_cons.mp hnd).1
    have hstep : stepGov p cfg (c, mk) g =
        match govChange p cfg f g with
        | some v => ({ c with opts := setOpt g.tag v c.opts }, mk ++ [[8, g.tag]])
        | none => (c, mk) := by
      rw [← govChange_congr hk p cfg g (ho g (by simp))]; rfl
    rw [List.foldl_cons, fileChanges_cons, hstep]
    cases govChange p cfg f g with
    | none => exact foldl_stepGov p cfg f gs c mk hnd' hk (fun g' hg' => ho g' (by simp [hg']))
    | some v =>
      simp only
      rw [foldl_stepGov p cfg f gs _ _ hnd' (show SameKey f { c with opts := setOpt g.tag v c.opts } from hk)
        (fun g' hg' => by
          have hne : g.tag ≠ g'.tag := fun he => hnot ((Gov.tag_inj _ _ he) ▸ hg')
          show getOpt g'.tag (setOpt g.tag v c.opts) = _
          rw [getOpt_setOpt_ne _ hne]; exact ho g' (by simp [hg']))]
      simp [setAll]

theorem modifyFile_eq (p : Bool) (cfg : Config) (f : File) :
    modifyFile p cfg f = (applyOptions p cfg f, marks p cfg f) := by
  unfold modifyFile
  rw [foldl_stepGov p cfg f Gov.all f [] Gov.all_nodup ⟨rfl, rfl, rfl⟩ (fun _ _ => rfl)]
  have hk : SameKey f { f with opts := setAll (fileChanges p cfg f Gov.all) f.opts } := ⟨rfl, rfl, rfl⟩
  simp only [List.nil_append]
  unfold applyOptions marks
  rw [jsMarks_congr hk rfl]
  congr 2

theorem modifyOptions_eq (p : Bool) (cfg : Config) (f : File) :
    modifyOptions p cfg f = if isWKT f.path then f else applyOptions p cfg f := by
  unfold modifyOptions; rw [modifyFile_eq]

theorem fileMarks_eq (p : Bool) (cfg : Config) (f : File) :
    fileMarks p cfg f = if isWKT f.path then [] else marks p cfg f := by
  unfold fileMarks; rw [modifyFile_eq]


/-! ### typed views of the modifiers' output -/

theorem govCur_applyOptions (p : Bool) (cfg : Config) (f : File) (g : Gov) :
    govCur (applyOptions p cfg f) g = (govChange p cfg f g).or (govCur f g) := by
  have h := getOpt_applyOptions_gov p cfg f g
  cases hc : govChange p cfg f g with
  | none => rw [hc] at h; exact govCur_congr h
  | some v =>
    rw [hc] at h
    exact govCur_of_target (change_eq_some.mp (govChange_eq .. ▸ hc)).2.1 h

theorem applyOptions_strOpts (p : Bool) (cfg : Config) (f : File) (o : StrOpt) :
    (applyOptions p cfg f).strOpts o = (strChange p cfg f o).or (f.strOpts o) :=
  Option.map_injective (fun _ _ => OVal.str.inj) ((govCur_applyOptions p cfg f (.str o)).trans Option.map_or.symm)

theorem applyOptions_boolOpts (p : Bool) (cfg : Config) (f : File) (o : BoolOpt) :
    (applyOptions p cfg f).boolOpts o = (boolChange p cfg f o).or (f.boolOpts o) :=
  Option.map_injective (fun _ _ => OVal.bool.inj) ((govCur_applyOptions p cfg f (.bool o)).trans Option.map_or.symm)

theorem applyOptions_optimizeFor (p : Bool) (cfg : Config) (f : File) :
    (applyOptions p cfg f).optimizeFor = (optimizeChange p cfg f).or f.optimizeFor :=
  Option.map_injective (fun _ _ => OVal.num.inj) ((govCur_applyOptions p cfg f .optimize).trans Option.map_or.symm)

theorem applyField_jstype (p : Bool) (cfg : Config) (f : File) (fd : Field) :
    (applyField p cfg f fd).jstype =
      (jsChange p cfg f fd).or fd.jstype := by
  unfold applyField
  cases jsChange p cfg f fd with
  | none => rfl
  | some v => simp only [Field.jstype, getOpt_setOpt_same, Option.some_or]

theorem applyField_getOpt_other (p : Bool) (cfg : Config) (f : File) (fd : Field) (n : Nat)
    (h : n ≠ jstypeTag) : getOpt n (applyField p cfg f fd).opts = getOpt n fd.opts := by
  unfold applyField
  cases jsChange p cfg f fd with
  | none => rfl
  | some v => exact getOpt_setOpt_ne _ (Ne.symm h) _

theorem applyField_getOpt_js (p : Bool) (cfg : Config) (f : File) (fd : Field) :
    getOpt jstypeTag (applyField p cfg f fd).opts =
      ((jsChange p cfg f fd).map OVal.num).or (getOpt jstypeTag fd.opts) := by
  unfold applyField
  cases jsChange p cfg f fd with
  | none => simp
  | some v => simp [getOpt_setOpt_same]

theorem gov_marked_iff_changed (p : Bool) (cfg : Config) (f : File) (g : Gov) :
    (govChange p cfg f g).isSome = true ↔
      getOpt g.tag (applyOptions p cfg f).opts ≠ getOpt g.tag f.opts := by
  rw [getOpt_applyOptions_gov]
  cases hc : govChange p cfg f g with
  | none => simp
  | some v =>
    simp only [Option.isSome_some, true_iff]
    exact fun he => govChange_ne p cfg f g v hc he.symm

/-! ### what managed mode governs -/

/-- `checkOptionSetFunc(descriptor.Options)`. -/
def govIsSet (f : File) : Gov → Bool
  | .str o => (f.strOpts o).isSome
  | .bool o => (f.boolOpts o).isSome
  | .optimize => f.optimizeFor.isSome

/-- Managed mode governs FileOptions field number `n` of file `f`: managed mode is enabled, the
    file is not a well-known type, `n` is the number of one of the twelve governed options, no
    disable rule exempts that option for this file, and (with `ModifyPreserveExisting`) the
    option is not already set. -/
def Governs (p : Bool) (cfg : Config) (f : File) (n : Nat) : Prop :=
  cfg.enabled = true ∧ isWKT f.path = false ∧
    ∃ g : Gov, g.tag = n ∧ isFileOptionDisabled cfg f g.fileOpt = false ∧ (p && govIsSet f g) = false

def JsGoverns (p : Bool) (cfg : Config) (f : File) (fd : Field) : Prop :=
  cfg.enabled = true ∧ isWKT f.path = false ∧ jsDisabledFor cfg f fd.fullName = false ∧
    (jsSpec cfg f fd.fullName).isSome = true ∧ fd.typ.any jsTypePermitted = true ∧
    (p && fd.jstype.isSome) = false

theorem govIsSet_eq (f : File) (g : Gov) : govIsSet f g = (govCur f g).isSome := by
  cases g <;> simp [govIsSet, govCur]

theorem govTarget_disabled {cfg : Config} {f : File} {g : Gov}
    (h : isFileOptionDisabled cfg f g.fileOpt = true) : govTarget cfg f g = none := by
  cases g with
  | str o =>
    simp [govTarget, strTarget, stringOverride_disabled (v := o.valueOpt) h]
  | bool o => simp [govTarget, boolTarget, show isFileOptionDisabled cfg f o.fileOpt = true from h]
  | optimize => simp [govTarget, optimizeTarget, show isFileOptionDisabled cfg f .optimizeFor = true from h]

/-- what `Governs` denies: a modifier does nothing for an exempted option and, under
    preserve-existing, for one that is set. -/
theorem govChange_none {p : Bool} {cfg : Config} {f : File} {g : Gov}
    (h : isFileOptionDisabled cfg f g.fileOpt = true ∨ (p && govIsSet f g) = true) :
    govChange p cfg f g = none := by
  rw [govChange_eq]
  rcases h with h | h
  · rw [govTarget_disabled h]
    exact change_no_target
  · simp only [Bool.and_eq_true] at h
    obtain ⟨rfl, h⟩ := h
    exact change_preserved (govIsSet_eq f g ▸ h)

theorem modifyOptions_frame_opts (p : Bool) (cfg : Config) (f : File) (he : cfg.enabled = true) (n : Nat)
    (h : ¬ Governs p cfg f n) : getOpt n (modifyOptions p cfg f).opts = getOpt n f.opts := by
  rw [modifyOptions_eq]
  by_cases hw : isWKT f.path = true
  · simp [hw]
  · simp only [hw, Bool.false_eq_true, ↓reduceIte]
    by_cases hg : ∃ g : Gov, g.tag = n
    · obtain ⟨g, rfl⟩ := hg
      rw [getOpt_applyOptions_gov]
      have : govChange p cfg f g = none := by
        by_cases hd : isFileOptionDisabled cfg f g.fileOpt = true
        · exact govChange_none (.inl hd)
        · by_cases hp : (p && govIsSet f g) = true
          · exact govChange_none (.inr hp)
          · exact absurd ⟨he, by simpa using hw, g, rfl, by simpa using hd, by simpa using hp⟩ h
      simp [this]
    · exact getOpt_applyOptions_other p cfg f n (fun g hgt => hg ⟨g, hgt⟩)

/-! ### jstype: the walk callback against the declarative description -/

/-- the value `modifyJsType` leaves in `jstype` of one field, stated without the code's
    filters and loops: exempted by a disable rule, or no matching override, or preserved, or a
    type jstype is not permitted on ⇒ unchanged; otherwise the last matching override. -/
def jsWant (p : Bool) (cfg : Config) (f : File) (fd : Field) : Option Nat :=
  if isWKT f.path then fd.jstype
  else if jsDisabledFor cfg f fd.fullName then fd.jstype
  else match jsSpec cfg f fd.fullName with
    | none => fd.jstype
    | some v =>
      if p && fd.jstype.isSome then fd.jstype
      else if fd.typ.any jsTypePermitted then some v else fd.jstype

/-- the value `modifyJsType` wants in a field (`none`: WKT file, exempted, no override, or a type jstype
    is not permitted on). -/
def jsGovTarget (cfg : Config) (f : File) (fd : Field) : Option Nat :=
  if isWKT f.path || jsDisabledFor cfg f fd.fullName || !fd.typ.any jsTypePermitted then none
  else jsSpec cfg f fd.fullName

theorem jsGovTarget_eq_some {cfg : Config} {f : File} {fd : Field} {v : Nat} :
    jsGovTarget cfg f fd = some v ↔
      isWKT f.path = false ∧ jsDisabledFor cfg f fd.fullName = false ∧ fd.typ.any jsTypePermitted = true ∧
      jsSpec cfg f fd.fullName = some v := by
  unfold jsGovTarget
  cases isWKT f.path <;> cases jsDisabledFor cfg f fd.fullName <;> cases fd.typ.any jsTypePermitted <;> simp

/-- the walk callback of `modifyJsType` has the shape of the file-option modifiers; it compares with the
    entry itself (`*existing == *jsType`), not through a getter with a default. -/
theorem jsChange_eq (p : Bool) (cfg : Config) (f : File) (fd : Field) :
    jsChange p cfg f fd = change p fd.jstype none (jsGovTarget cfg f fd) := by
  unfold jsGovTarget
  rw [jsDisabledFor_eq, ← jsTarget_eq]
  unfold jsChange jsFileActive change
  by_cases hov : (jsOverrides cfg f).isEmpty = true
  · simp [hov, jsTarget_nil cfg f _ (List.isEmpty_iff.mp hov)]
  · cases jsTarget cfg f fd.fullName <;> rcases fd.typ with _ | ty <;> cases isWKT f.path <;>
      cases (jsDisables cfg f).any (fun r => r.fieldName = []) <;>
      cases (jsDisables cfg f).any (fun r => r.fieldName = fd.fullName) <;> simp [hov]
    cases jsTypePermitted ty <;> rfl

theorem jsChange_ne (p : Bool) (cfg : Config) (f : File) (fd : Field) (v : Nat)
    (h : jsChange p cfg f fd = some v) : getOpt jstypeTag fd.opts ≠ some (.num v) := by
  intro he
  exact change_ne (jsChange_eq .. ▸ h) (by unfold Field.jstype; rw [he])

theorem js_marked_iff_changed (p : Bool) (cfg : Config) (f : File) (fd : Field) :
    (jsChange p cfg f fd).isSome = true ↔
      getOpt jstypeTag (applyField p cfg f fd).opts ≠ getOpt jstypeTag fd.opts := by
  rw [applyField_getOpt_js]
  cases hc : jsChange p cfg f fd with
  | none => simp
  | some v =>
    simp only [Option.isSome_some, Option.map_some, true_iff]
    exact fun he => jsChange_ne p cfg f fd v hc he.symm


theorem jsChange_spec (p : Bool) (cfg : Config) (f : File) (fd : Field) :
    (jsChange p cfg f fd).or fd.jstype = jsWant p cfg f fd := by
  rw [jsChange_eq, change_or (d := none) (fun _ _ => nofun)]
  unfold jsWant jsGovTarget
  cases isWKT f.path <;> cases jsDisabledFor cfg f fd.fullName <;> cases jsSpec cfg f fd.fullName <;>
    cases p && fd.jstype.isSome <;> cases fd.typ.any jsTypePermitted <;> rfl

theorem applyField_jstype_spec (p : Bool) (cfg : Config) (f : File) (fd : Field) :
    (applyField p cfg f fd).jstype = jsWant p cfg f fd :=
  (applyField_jstype p cfg f fd).trans (jsChange_spec p cfg f fd)

theorem jsChange_none_of_not_governs (p : Bool) (cfg : Config) (f : File) (fd : Field)
    (he : cfg.enabled = true) (h : ¬ JsGoverns p cfg f fd) : jsChange p cfg f fd = none := by
  cases hc : jsChange p cfg f fd with
  | none => rfl
  | some v =>
    obtain ⟨hp, ht, -⟩ := change_eq_some.mp (jsChange_eq .. ▸ hc)
    obtain ⟨hw, hd, hty, hs⟩ := jsGovTarget_eq_some.mp ht
    exact absurd ⟨he, hw, hd, by rw [hs]; rfl, hty, hp⟩ h

/-! ### frame -/

/-- `fd'` is `fd` except, where `JsGoverns`, for its jstype option. -/
def FieldFrame (p : Bool) (cfg : Config) (f : File) (fd fd' : Field) : Prop :=
  fd'.fullName = fd.fullName ∧ fd'.path = fd.path ∧ fd'.typ = fd.typ ∧ fd'.rest = fd.rest ∧
  ∀ n : Nat, (n ≠ jstypeTag ∨ ¬ JsGoverns p cfg f fd) → getOpt n fd'.opts = getOpt n fd.opts

/-- `f'` is `f` except for the options `Governs` names, the jstype of fields (`FieldFrame`), and source
    locations that went. -/
def FileFrame (p : Bool) (cfg : Config) (f f' : File) : Prop :=
  f'.payload = f.payload ∧ f'.path = f.path ∧ f'.pkg = f.pkg ∧ f'.module = f.module ∧
  (∀ n : Nat, ¬ Governs p cfg f n → getOpt n f'.opts = getOpt n f.opts) ∧
  AllRel (FieldFrame p cfg f) f.fields f'.fields ∧ f'.locs.Sublist f.locs

theorem applyField_keeps (p : Bool) (cfg : Config) (f : File) (fd : Field) :
    (applyField p cfg f fd).fullName = fd.fullName ∧ (applyField p cfg f fd).path = fd.path ∧
    (applyField p cfg f fd).typ = fd.typ ∧ (applyField p cfg f fd).rest = fd.rest := by
  unfold applyField; split <;> exact ⟨rfl, rfl, rfl, rfl⟩

theorem applyField_frame (p : Bool) (cfg : Config) (f : File) (he : cfg.enabled = true) (fd : Field) :
    FieldFrame p cfg f fd (applyField p cfg f fd) := by
  have h4 := applyField_keeps p cfg f fd
  refine ⟨h4.1, h4.2.1, h4.2.2.1, h4.2.2.2, ?_⟩
  intro n hn
  rcases hn with hn | hn
  · exact applyField_getOpt_other p cfg f fd n hn
  · unfold applyField; rw [jsChange_none_of_not_governs p cfg f fd he hn]

theorem FileFrame.refl (p : Bool) (cfg : Config) (f : File) : FileFrame p cfg f f :=
  ⟨rfl, rfl, rfl, rfl, fun _ _ => rfl, AllRel.refl_of (fun _ => ⟨rfl, rfl, rfl, rfl, fun _ _ => rfl⟩) _, .refl _⟩

theorem applyOptions_proj (p : Bool) (cfg : Config) (f : File) :
    (applyOptions p cfg f).payload = f.payload ∧ (applyOptions p cfg f).path = f.path ∧
    (applyOptions p cfg f).pkg = f.pkg ∧ (applyOptions p cfg f).module = f.module ∧
    (applyOptions p cfg f).locs = f.locs ∧
    (applyOptions p cfg f).fields = f.fields.map (applyField p cfg f) := ⟨rfl, rfl, rfl, rfl, rfl, rfl⟩

theorem modifyOptions_locs (p : Bool) (cfg : Config) (f : File) :
    (modifyOptions p cfg f).locs = f.locs := by
  rw [modifyOptions_eq]; split <;> rfl

theorem modifyOptions_frame (p : Bool) (cfg : Config) (f : File) (he : cfg.enabled = true) :
    FileFrame p cfg f (modifyOptions p cfg f) := by
  have hopts := modifyOptions_frame_opts p cfg f he
  rw [modifyOptions_eq] at hopts ⊢
  by_cases hw : isWKT f.path = true
  · simp only [hw, ↓reduceIte] at hopts ⊢
    exact .refl p cfg f
  · simp only [hw, Bool.false_eq_true, ↓reduceIte] at hopts ⊢
    exact ⟨rfl, rfl, rfl, rfl, hopts, AllRel.map_self _ (applyField_frame p cfg f he) _, List.Sublist.refl _⟩


/-! ### marks = options whose value changed -/

/-- `p` is the SourceCodeInfo path of an option whose value differs between `f` and `f'`:
    `[8, n]` for FileOptions field `n`, `field path ++ [8, 6]` for a field's jstype. -/
def Changed (f f' : File) (p : List Nat) : Prop :=
  (∃ n : Nat, p = [8, n] ∧ getOpt n f'.opts ≠ getOpt n f.opts) ∨
  (∃ (j : Nat) (fd fd' : Field), f.fields[j]? = some fd ∧ f'.fields[j]? = some fd' ∧
    getOpt jstypeTag fd'.opts ≠ getOpt jstypeTag fd.opts ∧ fd.path ≠ [] ∧ p = fd.path ++ [8, jstypeTag])

theorem not_changed_self (f : File) (p : List Nat) : ¬ Changed f f p := by
  rintro (⟨n, _, h⟩ | ⟨j, fd, fd', h1, h2, h3, _⟩)
  · exact h rfl
  · rw [h1] at h2; cases h2; exact h3 rfl

theorem mem_jsMarks {p : Bool} {cfg : Config} {f : File} {q : List Nat} :
    q ∈ jsMarks p cfg f ↔ ∃ fd ∈ f.fields, (jsChange p cfg f fd).isSome = true ∧ fd.path ≠ [] ∧
      q = fd.path ++ [8, jstypeTag] := by
  unfold jsMarks
  simp only [List.mem_filterMap]
  refine exists_congr fun fd => and_congr_right fun _ => ?_
  cases jsChange p cfg f fd with
  | none => simp
  | some v => by_cases hp : fd.path = [] <;> simp [hp, eq_comm]

theorem marks_iff_changed (p : Bool) (cfg : Config) (f : File) (q : List Nat) :
    q ∈ marks p cfg f ↔ Changed f (applyOptions p cfg f) q := by
  unfold marks Changed
  simp only [List.mem_append, List.mem_map, mem_jsMarks]
  refine or_congr ⟨?_, ?_⟩ ⟨?_, ?_⟩
  · rintro ⟨c, hc, rfl⟩
    obtain ⟨g, _, hg, ht⟩ := mem_fileChanges.mp hc
    exact ⟨c.1, rfl, ht ▸ (gov_marked_iff_changed p cfg f g).mp (by simp [hg])⟩
  · rintro ⟨n, rfl, hne⟩
    by_cases hg : ∃ g : Gov, g.tag = n
    · obtain ⟨g, rfl⟩ := hg
      obtain ⟨v, hv⟩ := Option.isSome_iff_exists.mp ((gov_marked_iff_changed p cfg f g).mpr hne)
      exact ⟨(g.tag, v), mem_fileChanges.mpr ⟨g, Gov.mem_all g, hv, rfl⟩, rfl⟩
    · exact absurd (getOpt_applyOptions_other p cfg f n (fun g hgt => hg ⟨g, hgt⟩)) hne
  · rintro ⟨fd, hfd, hc, hp, rfl⟩
    obtain ⟨j, hj⟩ := List.getElem?_of_mem hfd
    exact ⟨j, fd, applyField p cfg f fd, hj, by simp [applyOptions, hj], (js_marked_iff_changed p cfg f fd).mp hc, hp, rfl⟩
  · rintro ⟨j, fd, fd', hj, hj', hne, hp, rfl⟩
    obtain rfl : applyField p cfg f fd = fd' := by simpa [applyOptions, hj] using hj'
    exact ⟨fd, List.mem_of_getElem? hj, (js_marked_iff_changed p cfg f fd).mpr hne, hp, rfl⟩

theorem fileMarks_iff_changed (p : Bool) (cfg : Config) (f : File) (q : List Nat) :
    q ∈ fileMarks p cfg f ↔ Changed f (modifyOptions p cfg f) q := by
  rw [fileMarks_eq, modifyOptions_eq]
  by_cases hw : isWKT f.path = true
  · simp only [hw, ↓reduceIte, List.not_mem_nil, false_iff]; exact not_changed_self f q
  · simp only [hw, Bool.false_eq_true, ↓reduceIte]; exact marks_iff_changed p cfg f q


/-! ### fixed points and idempotence -/

theorem jsGovTarget_congr {f g : File} (h : SameKey f g) (cfg : Config) {fd fd' : Field}
    (hn : fd'.fullName = fd.fullName) (ht : fd'.typ = fd.typ) : jsGovTarget cfg g fd' = jsGovTarget cfg f fd := by
  rw [h.eq_update]
  unfold jsGovTarget
  rw [hn, ht]
  rfl

theorem jsChange_fixed {f g : File} (h : SameKey f g) (p : Bool) (cfg : Config) (fd : Field) :
    jsChange p cfg g (applyField p cfg f fd) = none := by
  have hk := applyField_keeps p cfg f fd
  rw [jsChange_eq, jsGovTarget_congr h cfg hk.1 hk.2.2.1, applyField_jstype, jsChange_eq]
  exact change_fixed

theorem govChange_applyOptions (p : Bool) (cfg : Config) (f : File) (g : Gov) :
    govChange p cfg (applyOptions p cfg f) g = none := by
  rw [govChange_eq, govCur_applyOptions, govTarget_congr (f := f) (c := applyOptions p cfg f) ⟨rfl, rfl, rfl⟩,
    govChange_eq]
  exact change_fixed

theorem govChange_fixed {f c : File} (h : SameKey f c) (p : Bool) (cfg : Config) (g : Gov)
    (hc : getOpt g.tag c.opts = getOpt g.tag (applyOptions p cfg f).opts) : govChange p cfg c g = none :=
  (govChange_congr (f := applyOptions p cfg f) h p cfg g hc).trans (govChange_applyOptions p cfg f g)

/-- a file that agrees with the modifiers' output on options and fields is a fixed point of
    the modifiers and yields no marks. -/
theorem applyOptions_fixed (p : Bool) (cfg : Config) (f : File) (l : List Loc) :
    applyOptions p cfg { applyOptions p cfg f with locs := l } = { applyOptions p cfg f with locs := l } ∧
    marks p cfg { applyOptions p cfg f with locs := l } = [] := by
  have hk : SameKey f { applyOptions p cfg f with locs := l } := ⟨rfl, rfl, rfl⟩
  generalize hG : ({ applyOptions p cfg f with locs := l } : File) = G at hk
  have hGo : G.opts = (applyOptions p cfg f).opts := by rw [← hG]
  have hGf : G.fields = f.fields.map (applyField p cfg f) := by rw [← hG]; rfl
  have hch : fileChanges p cfg G Gov.all = [] := by
    unfold fileChanges
    apply List.filterMap_eq_nil_iff.mpr
    intro g _
    rw [govChange_fixed hk p cfg g (by rw [hGo])]; rfl
  have hf : ∀ fd ∈ G.fields, jsChange p cfg G fd = none := by
    intro fd hfd
    rw [hGf] at hfd
    obtain ⟨fd0, _, rfl⟩ := List.mem_map.mp hfd
    exact jsChange_fixed hk p cfg fd0
  have h4 : G.fields.map (applyField p cfg G) = G.fields :=
    BufProofs.ListLemmas.map_id_of_forall _ _ fun fd hfd => by unfold applyField; simp [hf fd hfd]
  constructor
  · unfold applyOptions
    rw [hch, h4]; rfl
  · unfold marks
    rw [hch]
    simp only [List.map_nil, List.nil_append]
    unfold jsMarks
    apply List.filterMap_eq_nil_iff.mpr
    intro fd hfd; simp [hf fd hfd]

theorem modifyOptions_fixed (p : Bool) (cfg : Config) (f : File) (l : List Loc) :
    modifyOptions p cfg { modifyOptions p cfg f with locs := l } = { modifyOptions p cfg f with locs := l } ∧
    fileMarks p cfg { modifyOptions p cfg f with locs := l } = [] := by
  simp only [modifyOptions_eq, fileMarks_eq]
  by_cases hw : isWKT f.path = true
  · simp only [hw, ↓reduceIte]
    simp
  · simp only [hw, Bool.false_eq_true, ↓reduceIte]
    have hp : isWKT ({ applyOptions p cfg f with locs := l } : File).path = false := by
      show isWKT f.path = false
      simpa using hw
    simp only [hp, Bool.false_eq_true, ↓reduceIte]
    exact applyOptions_fixed p cfg f l

theorem sweepAll_nomarks (fixed : Bool) :
    ∀ l : List File, sweepAll fixed (l.map fun f => (f, ([] : List (List Nat)))) = ⟨l, false⟩
  | [] => rfl
  | f :: fs => by
    simp only [List.map_cons]
    unfold sweepAll
    have : sweepLocs fixed [] f.locs = some f.locs := by unfold sweepLocs; simp
    simp only [this, sweepAll_nomarks fixed fs]

theorem modifyWith_idempotent (fixed p : Bool) (cfg : Config) (img : List File) :
    modifyWith fixed p cfg (modifyWith fixed p cfg img).files =
      ⟨(modifyWith fixed p cfg img).files, false⟩ := by
  cases he : cfg.enabled
  · unfold modifyWith; simp [he]
  · have hrel := modifyWith_rel fixed p cfg img he
    generalize (modifyWith fixed p cfg img).files = out at hrel
    unfold modifyWith
    simp only [he, Bool.not_true, Bool.false_eq_true, ↓reduceIte]
    have : out.map (fun f => (modifyOptions p cfg f, fileMarks p cfg f)) =
        out.map (fun f => (f, ([] : List (List Nat)))) := by
      apply List.map_congr_left
      intro g hg
      obtain ⟨f, _, l, rfl, _⟩ := AllRel.mem_right hrel g hg
      have := modifyOptions_fixed p cfg f l
      rw [this.1, this.2]
    rw [this, sweepAll_nomarks]

/-! ### what `Modify` leaves at the place of an input file -/

/-- `f'` is what `Modify(img, cfg)` (with `ModifyPreserveExisting` iff `p`) leaves at the
    position where `img` holds `f`. -/
def Out (p : Bool) (cfg : Config) (img : List File) (f f' : File) : Prop :=
  ∃ i : Nat, img[i]? = some f ∧ (modifyWith true p cfg img).files[i]? = some f'


/-- What `Modify` leaves at the place of `f`: `f` itself when managed mode is off; else the modifiers'
    file with its location list swept by the file's marks, or unswept when `Sweep()` stopped at an error. -/
theorem out_cases {p : Bool} {cfg : Config} {img : List File} {f f' : File} (h : Out p cfg img f f') :
    (cfg.enabled = false ∧ f' = f) ∨
    (cfg.enabled = true ∧ ∃ l, f' = { modifyOptions p cfg f with locs := l } ∧
      (sweepLocs true (fileMarks p cfg f) f.locs = some l ∨ ((modifyWith true p cfg img).err = true ∧ l = f.locs))) := by
  obtain ⟨i, h1, h2⟩ := h
  cases he : cfg.enabled
  · have hid : (modifyWith true p cfg img).files = img := by unfold modifyWith; simp [he]
    exact .inl ⟨rfl, Option.some.inj ((hid ▸ h2).symm.trans h1)⟩
  · exact .inr ⟨rfl, modifyOptions_locs p cfg f ▸ AllRel.get (modifyWith_rel true p cfg img he) i f f' h1 h2⟩

/-- The source info of an output file, for both `modify_sweep_*` theorems: the input list minus what the
    sweeper removes for the marks = the `Changed` paths; with no mark the sweeper is not called. -/
theorem out_sweep {p : Bool} {cfg : Config} {img : List File} {f f' : File}
    (herr : (modifyWith true p cfg img).err = false) (h : Out p cfg img f f') :
    ∃ (mk : List (List Nat)) (rm : List Nat), f'.locs = removeIndices f.locs rm ∧
      (∀ q, q ∈ mk ↔ Changed f f' q) ∧ (mk = [] ∧ rm = [] ∨ sweepRemoved true mk f.locs = some rm) := by
  obtain ⟨-, rfl⟩ | ⟨-, l, rfl, hl | ⟨he, -⟩⟩ := out_cases h
  · exact ⟨[], [], (removeIndices_nil _).symm, fun q => ⟨nofun, (not_changed_self _ q).elim⟩, .inl ⟨rfl, rfl⟩⟩
  · have hch := fileMarks_iff_changed p cfg f
    unfold sweepLocs at hl
    split at hl
    · -- with no mark the sweeper is not called and nothing goes
      rename_i hnil
      cases hl
      exact ⟨[], [], (removeIndices_nil _).symm, hnil ▸ hch, .inl ⟨rfl, rfl⟩⟩
    · obtain ⟨rm, hs, rfl⟩ := Option.map_eq_some_iff.mp hl
      exact ⟨_, rm, rfl, hch, .inr hs⟩
  · rw [herr] at he; cases he

theorem out_typed {p : Bool} {cfg : Config} {img : List File} {f f' : File} (he : cfg.enabled = true)
    (h : Out p cfg img f f') (hw : isWKT f.path = false) :
    (∀ o, f'.strOpts o = (applyOptions p cfg f).strOpts o) ∧
    (∀ o, f'.boolOpts o = (applyOptions p cfg f).boolOpts o) ∧
    f'.optimizeFor = (applyOptions p cfg f).optimizeFor ∧
    f'.fields = f.fields.map (applyField p cfg f) := by
  obtain ⟨hd, -⟩ | ⟨-, l, rfl, -⟩ := out_cases h
  · rw [he] at hd; cases hd
  · rw [modifyOptions_eq, hw]
    exact ⟨fun _ => rfl, fun _ => rfl, rfl, rfl⟩

/-! ### a concrete image and configuration for the non-vacuity examples -/

def exFile : File :=
  { path := "acme/weather/v1/weather.proto".toList, pkg := "acme.weather.v1".toList,
    module := some "buf.build/acme/weather".toList,
    opts := [(1, .str "com.old".toList), (23, .bool true), (50001, .raw 77)],
    fields := [⟨"acme.weather.v1.M.id".toList, [4, 0, 2, 0], some 3, [(3, .bool true), (6, .num 1)], 11⟩,
               ⟨"acme.weather.v1.M.n".toList, [4, 0, 2, 1], some 5, [], 12⟩],
    locs := [⟨[], 0⟩, ⟨[8], 1⟩, ⟨[8, 1], 2⟩, ⟨[8], 3⟩, ⟨[8, 23], 4⟩, ⟨[4, 0, 2, 0, 8], 5⟩,
             ⟨[4, 0, 2, 0, 8, 6], 6⟩, ⟨[4, 0, 2, 0, 8, 3], 7⟩, ⟨[4, 0, 2, 1, 8], 8⟩],
    payload := 7 }

def exWkt : File :=
  { exFile with path := "google/protobuf/timestamp.proto".toList, pkg := "google.protobuf".toList }

def exCfg : Config :=
  { enabled := true,
    disables := [⟨"acme".toList, [], [], .csharpNamespace, false⟩],
    overrides := [⟨[], [], [], .javaPackage, false, "ignored.earlier".toList, false, 0⟩,
                  ⟨[], [], [], .javaPackageSuffix, false, "gen".toList, false, 0⟩,
                  ⟨[], [], [], .goPackagePrefix, false, "gen/go".toList, false, 0⟩,
                  ⟨[], [], [], .javaMultipleFiles, false, [], false, 0⟩,
                  ⟨[], [], [], .unspecified, true, [], false, 2⟩] }

theorem exWkt_wkt : isWKT exWkt.path = true := by
  unfold isWKT wktPaths exWkt exFile
  simp only [List.map]
  -- literals to character lists by rewriting: evaluation would decode the fifteen `wktPaths` literals
  repeat rw [String.toList_ofList]
  decide +kernel

theorem exFile_not_wkt : isWKT exFile.path = false := by
  unfold isWKT wktPaths exFile
  simp only [List.map]
  repeat rw [String.toList_ofList]
  decide +kernel

end BufProofs.ManagedLemmas
