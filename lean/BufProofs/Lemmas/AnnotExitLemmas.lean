import BufProofs.Lemmas.AnnotOrderLemmas
/-
  Lemmas about what a command run ends with (C20): the exit status over Go error values (the
  shapes a command's result can have, `Shape`, and their observables), the modes of `buf format`,
  the `-w` walk, the output sinks and their summaries, import paths that cannot be resolved.
-/
namespace BufModel.Annot

/-! ### exit status: errors, wrapError, GetExitCode -/

theorem findApp_of_noApp : ∀ {e : GoErr}, e.noApp = true → e.findApp = none
  | .wrapf i, h | .sys i, h | .connect _ i, h => findApp_of_noApp (e := i) h
  | .app _ _, h => by simp [GoErr.noApp] at h
  | .join a b, h => by
    simp only [GoErr.noApp, Bool.and_eq_true] at h
    simp [GoErr.findApp, findApp_of_noApp h.1, findApp_of_noApp h.2]
  | .annotSet .., _ | .importNotExist, _ | .plain _, _ => rfl

theorem noApp_of_findSys : ∀ {e u : GoErr}, e.findSys = some u → e.noApp = true → u.noApp = true
  | .annotSet .., _, h, _ | .importNotExist, _, h, _ | .plain _, _, h, _ => by simp [GoErr.findSys] at h
  | .wrapf i, _, h, hn | .connect _ i, _, h, hn => noApp_of_findSys (e := i) h hn
  | .app _ _, _, _, hn => by simp [GoErr.noApp] at hn
  | .sys i, u, h, hn => by
    simp only [GoErr.findSys, Option.some.injEq] at h
    subst h; exact hn
  | .join a b, u, h, hn => by
    simp only [GoErr.noApp, Bool.and_eq_true] at hn
    simp only [GoErr.findSys] at h
    cases ha : a.findSys with
    | some x => rw [ha] at h; simp only [Option.orElse_some, Option.some.injEq] at h; subst h; exact noApp_of_findSys ha hn.1
    | none => rw [ha] at h; simp only [Option.orElse_none] at h; exact noApp_of_findSys h hn.2

theorem sysStrip_noApp {e : GoErr} (h : e.noApp = true) : (sysStrip e).noApp = true := by
  cases hs : e.findSys with
  | none => simp only [sysStrip, hs]; exact h
  | some u => simp only [sysStrip, hs, GoErr.noApp]; exact noApp_of_findSys hs h

theorem text_of_findConnect : ∀ {e : GoErr}, e.findConnect ≠ none → e.text = true
  | .app _ i, h => text_of_findConnect (e := i) h
  | .plain _, h => by simp [GoErr.findConnect] at h
  | .annotSet .., _ | .importNotExist, _ | .wrapf _, _ | .sys _, _ | .connect .., _ | .join .., _ => rfl

theorem text_of_hasImport : ∀ {e : GoErr}, e.hasImport = true → e.text = true
  | .app _ i, h => text_of_hasImport (e := i) h
  | .plain _, h => by simp [GoErr.hasImport] at h
  | .annotSet .., _ | .importNotExist, _ | .wrapf _, _ | .sys _, _ | .connect .., _ | .join .., _ => rfl

theorem newAppError_100 (i : GoErr) : newAppError exitCodeFileAnnotation i = .app 100 i := by
  simp [newAppError, exitCodeFileAnnotation]

theorem errFileAnnotation_eq : errFileAnnotation = .app 100 (.plain false) := newAppError_100 _

theorem findSys_of_silent : ∀ {e : GoErr}, e.text = false → e.findSys = none
  | .app _ i, h => findSys_of_silent (e := i) h
  | .plain _, _ => rfl
  | .annotSet .., h | .importNotExist, h | .wrapf _, h | .sys _, h | .connect .., h | .join .., h => nomatch h

/-- THE exit-code mapping (wrapError, then GetExitCode) of ANY error value: 100 when wrapError takes
    its import-not-found branch; otherwise 1 for the connect codes it answers itself, and else the
    code of the first *appError left after the system-error step, 1 if there is none. -/
theorem wrapError_exitCode (e : GoErr) : getExitCode (wrapError (some e)) =
    if importBranch e then 100 else if e.findConnect = some true then 1 else ((sysStrip e).findApp).getD 1 := by
  have tail : getExitCode (some (wrapTail e)) =
      if (sysStrip e).hasImport then 100 else ((sysStrip e).findApp).getD 1 := by
    unfold wrapTail
    simp only [getExitCode, GoErr.findApp]
    split
    · rw [newAppError_100]; rfl
    · rfl
  cases hc : e.findConnect with
  | none =>
    cases ht : e.text with
    | true => simpa [wrapError, importBranch, hc, ht] using tail
    | false =>
      -- returned as it is; a silent error holds no system error, so `sysStrip` leaves it alone
      simp [wrapError, importBranch, hc, ht, getExitCode, sysStrip, findSys_of_silent ht]
  | some s =>
    cases s with
    | true => simp [wrapError, importBranch, hc, getExitCode, GoErr.findApp]
    | false => simpa [wrapError, importBranch, hc] using tail

theorem wrapError_exit (e : GoErr) (h : e.noApp = true) :
    getExitCode (wrapError (some e)) = if importBranch e then 100 else 1 := by
  rw [wrapError_exitCode, findApp_of_noApp (sysStrip_noApp h)]
  simp only [Option.getD_none, ite_self]

theorem wrapError_failureLine (e : GoErr) :
    textOf (wrapError (some e)) = e.text := by
  cases hc : e.findConnect with
  | none =>
    cases ht : e.text with
    | true => simp [wrapError, hc, ht, wrapTail, GoErr.text, textOf]
    | false => simp [wrapError, hc, ht, textOf]
  | some s =>
    have ht : e.text = true := text_of_findConnect (by rw [hc]; simp)
    cases s <;> simp [wrapError, hc, wrapTail, GoErr.text, ht, textOf]

theorem errFileAnnotation_facts :
    wrapError (some errFileAnnotation) = some errFileAnnotation ∧
    getExitCode (some errFileAnnotation) = 100 ∧ errFileAnnotation.text = false ∧
    errFileAnnotation.findAnnots = none ∧ importBranch errFileAnnotation = false := by
  rw [errFileAnnotation_eq]; decide

theorem reported_observables {o : Outcome} (h : o.ret = some errFileAnnotation) :
    o.exit = 100 ∧ o.failureLine = false := by
  simp only [Outcome.exit, Outcome.failureLine, Outcome.err, h, errFileAnnotation_facts.1, errFileAnnotation_facts.2.1,
    textOf, errFileAnnotation_facts.2.2.1, and_self]

/-- what a `wasmRuntime.Close` error must not be for the verdict to survive the join: a system
    error or a connect error (wrapError would drop the ErrFileAnnotation it is joined with) -/
def CloseBenign (c : Step) : Prop := ∀ e, c = some e → e.findSys = none ∧ e.findConnect = none

theorem join_annotation_exit (c : GoErr) (hs : c.findSys = none) (hc : c.findConnect = none) :
    getExitCode (wrapError (some (.join errFileAnnotation c))) = 100 ∧
    textOf (wrapError (some (.join errFileAnnotation c))) = true := by
  refine ⟨?_, by rw [wrapError_failureLine]; rfl⟩
  rw [wrapError_exitCode, errFileAnnotation_eq]
  simp [sysStrip, GoErr.findSys, GoErr.findConnect, GoErr.findApp, hs, hc]

/-- The shapes the result of a command can have before the close error is joined. -/
inductive Shape0 (o : Outcome) : Prop where
  | ok : o.ret = none → o.printed = [] → o.diff = false → Shape0 o
  | reported : o.ret = some errFileAnnotation → (o.printed ≠ [] ∨ o.diff = true) → Shape0 o
  | failed (e : GoErr) : o.ret = some e → e.noApp = true → e.text = true → o.printed = [] →
      o.diff = false → Shape0 o

/-- The shapes of the result once the close error is joined. -/
inductive Shape (o : Outcome) : Prop where
  | base : Shape0 o → Shape o
  | reportedClose (c : GoErr) : o.ret = some (.join errFileAnnotation c) → c.findSys = none →
      c.findConnect = none → (o.printed ≠ [] ∨ o.diff = true) → Shape o

/-- the hypothesis on the inputs of the step model: an error returned by a step carries no exit
    code of its own and has a message -/
def ErrOK (e : GoErr) : Prop := e.noApp = true ∧ e.text = true

/-- `ErrOK` of every error among the results of a list of steps (the shape `Cmd.stepErrs` has) -/
def ErrsOK (l : List Step) : Prop := ∀ e, some e ∈ l → ErrOK e

theorem errsOK_append {a b : List Step} : ErrsOK (a ++ b) ↔ ErrsOK a ∧ ErrsOK b := by
  simp [ErrsOK, or_imp, forall_and]

theorem errsOK_cons {s : Step} {l : List Step} : ErrsOK (s :: l) ↔ (∀ e, s = some e → ErrOK e) ∧ ErrsOK l := by
  simp [ErrsOK, or_imp, forall_and, eq_comm]

theorem handleFAS_cases (e : GoErr) :
    ((handleFAS e).1 = errFileAnnotation ∧ (handleFAS e).2 ≠ []) ∨
    ((handleFAS e).1 = e ∧ (handleFAS e).2 = []) := by
  unfold handleFAS
  cases hf : e.findAnnots with
  | none => exact Or.inr ⟨rfl, rfl⟩
  | some p =>
    obtain ⟨hd, tl⟩ := p
    exact Or.inl ⟨rfl, dedupSort_ne_nil (by simp)⟩

theorem failStep_of_findAnnots {e : GoErr} {hd : Annot} {tl : List Annot} (h : e.findAnnots = some (hd, tl)) :
    failStep e [] = { ret := some errFileAnnotation, printed := dedupSort (hd :: tl), diff := false } := by
  simp [failStep, handleFAS, h]

theorem failStep_shape (e : GoErr) (h : ErrOK e) : Shape0 (failStep e []) := by
  rcases handleFAS_cases e with ⟨h1, h2⟩ | ⟨h1, h2⟩
  · exact .reported (by simp [failStep, h1]) (Or.inl (by simpa [failStep] using h2))
  · exact .failed e (by simp [failStep, h1]) h.1 h.2 (by simp [failStep, h2]) rfl

theorem failDirect_shape (e : GoErr) (h : ErrOK e) : Shape0 (failDirect e) :=
  .failed e rfl h.1 h.2 rfl rfl

def failVia (s : CStep) : Option Outcome := s.2.map fun e => if s.1 then failStep e [] else failDirect e

theorem runSteps_eq : ∀ steps : List CStep, runSteps steps = steps.findSome? failVia
  | [] => rfl
  | (_, none) :: rest => runSteps_eq rest
  | (true, some _) :: _ => rfl
  | (false, some _) :: _ => rfl

theorem runSteps_some {steps : List CStep} {o : Outcome} (h : runSteps steps = some o) :
    ∃ via e, (via, some e) ∈ steps ∧ o = if via then failStep e [] else failDirect e := by
  obtain ⟨⟨via, s⟩, hm, hs⟩ := List.exists_of_findSome?_eq_some (runSteps_eq steps ▸ h)
  cases s with
  | none => cases hs
  | some e => exact ⟨via, e, hm, (Option.some.inj hs).symm⟩

theorem runSteps_shape (steps : List CStep) (o : Outcome) (hs : ErrsOK (steps.map (·.2)))
    (h : runSteps steps = some o) : Shape0 o := by
  obtain ⟨via, e, hm, rfl⟩ := runSteps_some h
  have he := hs e (List.mem_map.mpr ⟨_, hm, rfl⟩)
  cases via
  · exact failDirect_shape e he
  · exact failStep_shape e he

theorem runSteps_diff (steps : List CStep) (o : Outcome) (h : runSteps steps = some o) : o.diff = false := by
  obtain ⟨via, e, _, rfl⟩ := runSteps_some h
  cases via <;> rfl

theorem checkLoop_shape : ∀ (steps : List Step) (acc : List Annot), ErrsOK steps → Shape0 (checkLoop steps acc)
  | [], acc, _ => by
    simp only [checkLoop]
    split
    · exact .ok rfl rfl rfl
    · rename_i h; exact .reported rfl (Or.inl (dedupSort_ne_nil h))
  | none :: rest, acc, hs => checkLoop_shape rest acc (errsOK_cons.mp hs).2
  | some e :: rest, acc, hs => by
    simp only [checkLoop]
    split
    · exact checkLoop_shape rest _ (errsOK_cons.mp hs).2
    · exact failDirect_shape e ((errsOK_cons.mp hs).1 e rfl)

theorem runSteps_eq_none_iff (steps : List CStep) : runSteps steps = none ↔ ∀ s ∈ steps, s.2 = none := by
  simp [runSteps_eq, failVia]

theorem runSteps_append (a b : List CStep) : runSteps (a ++ b) = (runSteps a).or (runSteps b) := by
  simp only [runSteps_eq, List.findSome?_append]

theorem map_direct_snd (l : List Step) : (l.map fun s => ((false, s) : CStep)).map (·.2) = l := by
  rw [List.map_map]; exact List.map_id l

theorem join_shape (o : Outcome) (c : Step) (ho : Shape0 o) (hc : ∀ e, c = some e → ErrOK e)
    (hb : CloseBenign c) : Shape { o with ret := joinErr o.ret c } := by
  cases c with
  | none =>
    have : joinErr o.ret none = o.ret := by cases o.ret <;> rfl
    rw [this]; exact .base ho
  | some ce =>
    have hce := hc ce rfl
    have hbe := hb ce rfl
    cases ho with
    | ok h1 h2 h3 => exact .base (.failed ce (by simp [h1, joinErr]) hce.1 hce.2 h2 h3)
    | reported h1 h2 => exact .reportedClose ce (by simp [h1, joinErr]) hbe.1 hbe.2 h2
    | failed e h1 h2 h3 h4 h5 =>
      exact .base (.failed (.join e ce) (by simp [h1, joinErr]) (by simp [GoErr.noApp, h2, hce.1]) rfl h4 h5)

theorem fmtTail_clean (m : FmtMode) (d : Bool) (io : FmtIO) (h : ∀ s ∈ m.ioSteps d io, s = none) :
    fmtTail m d io = (fmtDeferred m d,
      { stdoutDiff := m.diff && d,
        stdoutSource := !m.diff && !m.write && m.out == .stdout,
        rewrote := m.write && d,
        wroteOut := !m.write && m.out == .path }) := by
  rcases m with ⟨md, mw, mo, me⟩
  rcases io with ⟨c, r, o⟩
  cases md <;> cases mw <;> cases mo <;> cases d <;>
    simp_all [fmtTail, FmtMode.ioSteps, FmtEffects.none]

theorem fmtTail_fst (m : FmtMode) (d : Bool) (io : FmtIO) : (fmtTail m d io).1 =
    (runSteps ((m.ioSteps d io).map fun s => (false, s))).getD (fmtDeferred m d) := by
  unfold fmtTail FmtMode.ioSteps
  generalize (m.diff && d) = p
  generalize (m.diff && m.out == .stdout && !m.write) = q
  generalize m.write = w
  rcases io with ⟨c, r, o⟩
  cases p <;> cases c
  case true.some e => rfl
  all_goals
    cases q
    case true => rfl
    cases w <;> cases d <;> cases r <;> cases o <;> rfl

/-- A valid `buf format` is ONE sequence of steps - the controller's, the formatter, the I/O steps
    the mode performs (all but the controller's directly in `run`) - and the deferred verdict when
    none of them fails. -/
theorem format_eq (m : FmtMode) {sw : Bool} (ctl : List CStep) (f : Step) (d : Bool) (io : FmtIO)
    (hv : m.valid sw = true) :
    format m sw ctl f d io =
      (runSteps (ctl ++ (f :: m.ioSteps d io).map fun s => (false, s))).getD (fmtDeferred m d) := by
  have : ctl ++ ((f :: m.ioSteps d io).map fun s => (false, s)) =
      (ctl ++ [(false, f)]) ++ (m.ioSteps d io).map fun s => (false, s) := by simp
  rw [this, runSteps_append, format, formatFull, hv]
  cases runSteps (ctl ++ [(false, f)]) with
  | some o => rfl
  | none => exact fmtTail_fst m d io

theorem fmtDeferred_shape (m : FmtMode) (d : Bool) : Shape0 (fmtDeferred m d) := by
  unfold fmtDeferred
  split
  · exact .reported rfl (Or.inr rfl)
  · exact .ok rfl rfl rfl

theorem mem_ioSteps {m : FmtMode} {d : Bool} {io : FmtIO} {s : Step} (h : s ∈ m.ioSteps d io) :
    s ∈ [io.copyDiff, io.rewrite, io.output] := by
  unfold FmtMode.ioSteps at h
  rcases List.mem_append.mp h with h | h
  · split at h
    · exact List.mem_singleton.mp h ▸ .head _
    · cases h
  · split at h
    · cases h
    · split at h
      · split at h
        · exact List.mem_singleton.mp h ▸ .tail _ (.head _)
        · cases h
      · exact List.mem_singleton.mp h ▸ .tail _ (.tail _ (.head _))

theorem format_shape (m : FmtMode) (sw : Bool) (ctl : List CStep) (f : Step) (d : Bool) (io : FmtIO)
    (h : ErrsOK (ctl.map (·.2) ++ f :: m.ioSteps d io)) : Shape0 (format m sw ctl f d io) := by
  cases hv : m.valid sw with
  | false => simp only [format, formatFull, hv]; exact failDirect_shape _ ⟨rfl, rfl⟩
  | true =>
    rw [format_eq m ctl f d io hv]
    cases hr : runSteps (ctl ++ (f :: m.ioSteps d io).map fun s => (false, s)) with
    | none => exact fmtDeferred_shape m d
    | some o => exact runSteps_shape _ o (by rwa [List.map_append, map_direct_snd]) hr

/-- the run reaches the mode's return path and every I/O step the mode performs succeeds -/
def FmtClean (m : FmtMode) (sw : Bool) (ctl : List CStep) (f : Step) (d : Bool) (io : FmtIO) : Prop :=
  m.valid sw = true ∧ (∀ s ∈ ctl, s.2 = none) ∧ f = none ∧ (∀ s ∈ m.ioSteps d io, s = none)

theorem fmtClean_iff (m : FmtMode) (sw : Bool) (ctl : List CStep) (f : Step) (d : Bool) (io : FmtIO) :
    FmtClean m sw ctl f d io ↔
      m.valid sw = true ∧ runSteps (ctl ++ (f :: m.ioSteps d io).map fun s => (false, s)) = none := by
  simp [FmtClean, runSteps_eq_none_iff, or_imp, forall_and]

theorem formatFull_clean {m : FmtMode} {sw : Bool} {ctl : List CStep} {f : Step} {d : Bool} {io : FmtIO}
    (h : FmtClean m sw ctl f d io) :
    formatFull m sw ctl f d io = (fmtDeferred m d,
      { stdoutDiff := m.diff && d,
        stdoutSource := !m.diff && !m.write && m.out == .stdout,
        rewrote := m.write && d,
        wroteOut := !m.write && m.out == .path }) := by
  obtain ⟨hv, hc, hf, hio⟩ := h
  have hr : runSteps (ctl ++ [(false, f)]) = none := by
    rw [runSteps_eq_none_iff]
    intro s hs
    rcases List.mem_append.mp hs with h | h
    · exact hc s h
    · rw [List.mem_singleton] at h; rw [h]; exact hf
  unfold formatFull
  rw [hv, hr]
  simp only [Bool.not_true, Bool.false_eq_true, if_false]
  exact fmtTail_clean m d io hio

/-- the hypotheses of the exit-status theorems: every error a step returns carries no exit code
    of its own and has a message; the `wasmRuntime.Close` error is no system / connect error -/
def StepsOK (c : Cmd) : Prop := (∀ e ∈ c.stepErrs, ErrOK e) ∧ CloseBenign c.closeErr

theorem lintLike_shape (p : List Step) (b : List CStep) (k : List Step) (cl : Step)
    (h : ErrsOK (p ++ b.map (·.2) ++ k ++ [cl])) (hb : CloseBenign cl) : Shape (lintLike p b k cl) := by
  obtain ⟨⟨⟨hp, hb'⟩, hk⟩, hc⟩ : ((ErrsOK p ∧ ErrsOK (b.map (·.2))) ∧ ErrsOK k) ∧ ErrsOK [cl] := by
    simpa only [errsOK_append] using h
  unfold lintLike
  split
  · rename_i o ho
    exact .base (runSteps_shape _ o (by rwa [map_direct_snd]) ho)
  · refine join_shape _ cl ?_ (errsOK_cons.mp hc).1 hb
    split
    · rename_i o ho; exact runSteps_shape _ o hb' ho
    · exact checkLoop_shape _ _ hk

theorem build_shape (s : List CStep) (h : ErrsOK (s.map (·.2))) : Shape (build s) := by
  unfold build
  split
  · rename_i o ho; exact .base (runSteps_shape _ o h ho)
  · exact .base (.ok rfl rfl rfl)

theorem run_shape (c : Cmd) (h : StepsOK c) : Shape c.run := by
  have h1 {l : List Step} (hl : c.stepErrs = l.filterMap id) : ErrsOK l :=
    fun e he => h.1 e (hl ▸ List.mem_filterMap.mpr ⟨some e, he, rfl⟩)
  cases c with
  | lint p b k cl | breaking p b k cl => exact lintLike_shape p b k cl (h1 rfl) h.2
  | build s | depGraph s | lsFiles s => exact build_shape s (h1 rfl)
  | format m sw ctl f d io =>
    -- `Cmd.stepErrs` lists all three I/O steps, the mode performs some of them
    refine .base (format_shape m sw ctl f d io fun e he => h1 rfl e ?_)
    simp only [List.mem_append, List.mem_cons] at he ⊢
    rcases he with he | rfl | he
    · exact .inl he
    · exact .inr (.inl rfl)
    · exact .inr (.inr (by simpa using mem_ioSteps he))

theorem shape_observables {o : Outcome} (h : Shape o) :
    (o.exit = 0 ∧ o.printed = [] ∧ o.failureLine = false ∧ o.diff = false ∧ o.importNotFound = false ∧ o.ret = none) ∨
    (o.exit = 100 ∧ (o.printed ≠ [] ∨ o.diff = true) ∧ ∃ e, o.ret = some e ∧ e.noApp = false) ∨
    (∃ e, o.ret = some e ∧ e.noApp = true ∧ o.exit = (if importBranch e then 100 else 1) ∧
      o.printed = [] ∧ o.failureLine = true ∧ o.diff = false ∧ o.importNotFound = importBranch e) := by
  cases h with
  | base h0 =>
    cases h0 with
    | ok h1 h2 h3 =>
      exact Or.inl ⟨by simp [Outcome.exit, Outcome.err, h1, wrapError, getExitCode], h2,
        by simp [Outcome.failureLine, Outcome.err, h1, wrapError, textOf], h3,
        by simp [Outcome.importNotFound, h1], h1⟩
    | reported h1 h2 =>
      exact Or.inr (Or.inl ⟨(reported_observables h1).1, h2, _, h1, by rw [errFileAnnotation_eq]; rfl⟩)
    | failed e h1 h2 h3 h4 h5 =>
      refine Or.inr (Or.inr ⟨e, h1, h2, ?_, h4, ?_, h5, by simp [Outcome.importNotFound, h1]⟩)
      · simp only [Outcome.exit, Outcome.err, h1]; exact wrapError_exit e h2
      · simp only [Outcome.failureLine, Outcome.err, h1]; rw [wrapError_failureLine, h3]
  | reportedClose c h1 hs hc h2 =>
    refine Or.inr (Or.inl ⟨?_, h2, _, h1, by rw [errFileAnnotation_eq]; rfl⟩)
    simp only [Outcome.exit, Outcome.err, h1]
    exact (join_annotation_exit c hs hc).1

/-! ### the `-w` walk at the level of file contents -/

theorem WFile.written_eq_want (f : WFile) :
    (if f.changed then writeTrunc f.orig (f.fmt.getD f.orig) else f.orig) = f.want := by
  unfold WFile.changed WFile.want writeTrunc
  cases ht : f.target
  · simp
  · cases hf : f.fmt with
    | none => simp
    | some t =>
      by_cases h : t = f.orig
      · simp [h]
      · simp [h]

theorem rewriteWalk_append (wr : Str → Str → Str) (pre rest : List WFile)
    (h : ∀ g ∈ pre, g.changed = true → g.openable = true) :
    rewriteWalk wr (pre ++ rest) =
      ((pre.map fun g => (g.path, if g.changed then wr g.orig (g.fmt.getD g.orig) else g.orig))
        ++ (rewriteWalk wr rest).1, (rewriteWalk wr rest).2) := by
  induction pre with
  | nil => rfl
  | cons g pre ih =>
    have ih' := ih fun x hx => h x (List.mem_cons_of_mem _ hx)
    rw [List.cons_append, rewriteWalk]
    cases hg : g.changed
    · simp [hg, ih']
    · simp [hg, h g List.mem_cons_self hg, ih']

theorem rewriteWalk_clean (wr : Str → Str → Str) (fs : List WFile)
    (h : ∀ f ∈ fs, f.changed = true → f.openable = true) :
    rewriteWalk wr fs =
      (fs.map fun f => (f.path, if f.changed then wr f.orig (f.fmt.getD f.orig) else f.orig), false) := by
  simpa [rewriteWalk] using rewriteWalk_append wr fs [] h

theorem rewriteWalk_stops (wr : Str → Str → Str) (pre : List WFile) (f : WFile) (post : List WFile)
    (hpre : ∀ g ∈ pre, g.changed = true → g.openable = true)
    (hc : f.changed = true) (ho : f.openable = false) :
    rewriteWalk wr (pre ++ f :: post) =
      ((pre.map fun g => (g.path, if g.changed then wr g.orig (g.fmt.getD g.orig) else g.orig))
        ++ (f.path, f.orig) :: untouched post, true) := by
  rw [rewriteWalk_append wr pre _ hpre]
  simp [rewriteWalk, hc, ho]

theorem rewriteWalk_frame (wr : Str → Str → Str) (fs : List WFile) :
    (rewriteWalk wr fs).1.map Prod.fst = fs.map (·.path) ∧
    ∀ f ∈ fs, f.changed = false → (f.path, f.orig) ∈ (rewriteWalk wr fs).1 := by
  induction fs with
  | nil => exact ⟨rfl, fun f hf => nomatch hf⟩
  | cons g rest ih =>
    obtain ⟨ih1, ih2⟩ := ih
    have hu : ∀ f ∈ rest, (f.path, f.orig) ∈ untouched rest := fun f hf => List.mem_map.mpr ⟨f, hf, rfl⟩
    unfold rewriteWalk
    cases hg : g.changed <;> cases hgo : g.openable <;>
      simp_all [untouched, List.map_map, Function.comp_def]

theorem writeOver_eq_iff (old new : Str) : writeOver old new = new ↔ old.length ≤ new.length := by
  unfold writeOver
  constructor
  · intro h
    have : (new ++ old.drop new.length).length = new.length := by rw [h]
    simp only [List.length_append, List.length_drop] at this
    omega
  · intro h
    rw [List.drop_eq_nil_of_le h, List.append_nil]

/-! ### the output sinks of `buf format` (stdout, `-o file`, `-o dir`) and summaries -/

theorem polyVal_shift (s : List Nat) : ∀ h, polyVal h s = h * hashB ^ s.length + polyVal 0 s := by
  induction s with
  | nil => intro h; simp [polyVal]
  | cons c s ih =>
    intro h
    have e1 : polyVal h (c :: s) = polyVal (h * hashB + c) s := rfl
    have e2 : polyVal 0 (c :: s) = polyVal (0 * hashB + c) s := rfl
    rw [e1, e2, ih (h * hashB + c), ih (0 * hashB + c), List.length_cons, Nat.pow_succ]
    grind

theorem polyVal_append (h : Nat) (a b : List Nat) :
    polyVal h (a ++ b) = polyVal h a * hashB ^ b.length + polyVal 0 b := by
  have : polyVal h (a ++ b) = polyVal (polyVal h a) b := by
    unfold polyVal; rw [List.foldl_append]
  rw [this, polyVal_shift b]

theorem mod_combine (x y z p : Nat) : (x % p * y + z % p) % p = (x * y + z) % p := by
  rw [Nat.add_mod (x * y) z p, Nat.add_mod (x % p * y) (z % p) p, Nat.mod_mod, Nat.mul_mod (x % p) y p,
    Nat.mod_mod, ← Nat.mul_mod]

theorem summ_nil : summ [] = Summ.empty := rfl

theorem summ_append (a b : List Nat) : summ (a ++ b) = (summ a).append (summ b) := by
  unfold summ Summ.append
  simp only [List.length_append, polyVal_append, Nat.mod_mod]
  congr 1
  exact (mod_combine _ _ _ _).symm

theorem summS_nil : summS [] = Summ.empty := rfl

theorem summS_append (a b : Str) : summS (a ++ b) = (summS a).append (summS b) := by
  unfold summS; rw [List.map_append, summ_append]

theorem sinkOut_cons (f : WFile) (fs : List WFile) :
    sinkOut (f :: fs) = (if f.target then f.fmt.getD [] else []) ++ sinkOut fs := by
  unfold sinkOut
  cases h : f.target <;> simp [h]

theorem sinkOut_append (a b : List WFile) : sinkOut (a ++ b) = sinkOut a ++ sinkOut b := by
  unfold sinkOut; rw [List.filter_append, List.flatMap_append]

theorem sinkOut_length (fs : List WFile) :
    (sinkOut fs).length = ((fs.filter (·.target)).map fun f => (f.fmt.getD []).length).sum := by
  induction fs with
  | nil => rfl
  | cons f fs ih =>
    rw [sinkOut_cons, List.length_append, ih]
    cases h : f.target <;> simp [h]

theorem toS_fmt (f : WFile) : (f.toS.fmt).getD Summ.empty = summS (f.fmt.getD []) := by
  unfold WFile.toS
  cases f.fmt <;> rfl

theorem sinkSumm_go (fs : List WFile) : ∀ pre : Str,
    ((fs.map WFile.toS).filter (·.target)).foldl (fun acc f => acc.append (f.fmt.getD Summ.empty)) (summS pre)
      = summS (pre ++ sinkOut fs) := by
  induction fs with
  | nil => intro pre; simp [sinkOut]
  | cons f fs ih =>
    intro pre
    rw [sinkOut_cons, List.map_cons, List.filter_cons]
    have ht : f.toS.target = f.target := rfl
    rw [ht]
    cases h : f.target
    · simp only [Bool.false_eq_true, if_false, List.nil_append]
      exact ih pre
    · simp only [if_true, List.foldl_cons]
      rw [toS_fmt, ← summS_append, ih, List.append_assoc]

theorem sinkSumm_eq (fs : List WFile) : sinkSumm (fs.map WFile.toS) = summS (sinkOut fs) := by
  have := sinkSumm_go fs []
  rw [summS_nil, List.nil_append] at this
  exact this

theorem sfmtStepOk_toS (fs : List WFile) : sfmtStepOk (fs.map WFile.toS) = fmtStepOk fs := by
  unfold sfmtStepOk fmtStepOk
  rw [List.all_map]
  congr 1
  funext f
  simp only [Function.comp, WFile.toS, Option.isSome_map]

theorem sinkCut_cons (n : Nat) (f : WFile) (fs : List WFile) :
    sinkCut n (f :: fs) = (if f.target then (f.fmt.getD []).take n else []) ++ sinkCut n fs := by
  unfold sinkCut
  cases h : f.target <;> simp [h]

theorem sinkCut_length_le (n : Nat) (fs : List WFile) : (sinkCut n fs).length ≤ (sinkOut fs).length := by
  induction fs with
  | nil => exact Nat.le_refl _
  | cons f fs ih =>
    rw [sinkCut_cons, sinkOut_cons, List.length_append, List.length_append]
    cases f.target
    · simpa using ih
    · simp only [if_true, List.length_take]; omega

theorem sinkCut_eq_iff (n : Nat) (fs : List WFile) :
    sinkCut n fs = sinkOut fs ↔ ∀ f ∈ fs, f.target = true → (f.fmt.getD []).length ≤ n := by
  induction fs with
  | nil => simp [sinkCut, sinkOut]
  | cons f fs ih =>
    rw [sinkCut_cons, sinkOut_cons, List.forall_mem_cons, ← ih]
    cases f.target
    · simp
    · simp only [if_true, true_imp_iff]
      constructor
      · intro h
        -- neither part can be shorter than its counterpart, so both have the counterpart's length
        have hl := congrArg List.length h
        have h2 := sinkCut_length_le n fs
        simp only [List.length_append, List.length_take] at hl
        obtain ⟨h3, h4⟩ := List.append_inj h (by simp only [List.length_take]; omega)
        exact ⟨by have := congrArg List.length h3; simp only [List.length_take] at this; omega, h4⟩
      · rintro ⟨h1, h2⟩
        rw [List.take_of_length_le h1, h2]

/-! ### import statements that cannot be resolved -/

theorem runSteps_oks_then (oks : List CStep) (hoks : ∀ s ∈ oks, s.2 = none) (via : Bool) (e : GoErr)
    (rest : List CStep) :
    runSteps (oks ++ (via, some e) :: rest) = some (if via then failStep e [] else failDirect e) := by
  rw [runSteps_append, (runSteps_eq_none_iff oks).mpr hoks]
  cases via <;> rfl

theorem failStep_annotation (a : Annot) :
    (failStep (.annotSet a []) []).exit = 100 ∧ (failStep (.annotSet a []) []).printed = [a] ∧
    (failStep (.annotSet a []) []).failureLine = false := by
  rw [failStep_of_findAnnots rfl, dedupSort_singleton]
  exact ⟨(reported_observables rfl).1, rfl, (reported_observables rfl).2⟩

theorem importFate_ok (files wkt : List Str) (p q : Str)
    (hv : BufModel.Path.normalizeAndValidate p = .ok q) :
    importFate files wkt p =
      if files.contains q then (if q = p then .file else .notNormal)
      else if wkt.contains q then (if q = p then .wkt else .notNormal) else .notExist := by
  simp only [importFate, hv]

end BufModel.Annot
