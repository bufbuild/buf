import BufProofs.Lemmas.MigrateRulesFaithful
/-
  The facts about the REGENERATED rule tables that the C16 migration theorems use, checked by
  kernel evaluation for (v1beta1 | v1) × (lint | breaking) against v2.  (A file of its own, so that the
  evaluation is repeated only when the tables change.)
-/
namespace BufProofs.C16
open BufModel.Path BufModel.Rules BufModel.MigrateRules BufGen.RuleTables

/-- What is evaluated.  Faithfulness of keys is swept over the CATEGORIES only: that a rule id is a faithful key is
    `ruleKey_faithful`, which needs — beyond `TablesOK` — that no v2 category bears the name of a rule of the old
    table (second fact); that no drifting category is a rule id lets the sweep speak for all keys. -/
def TableFacts (v : Version) (lint : Bool) : Prop :=
  tablesOKb (oldRules v lint) (v2Rules lint) ∧
  (∀ q ∈ v2Rules lint, ∀ c ∈ q.categories, isRuleId (oldRules v lint) c = false) ∧
  (∀ r ∈ oldRules v lint, r.deprecated = false → hasV2Counterpart lint r.id = false →
    v = .v1beta1 ∧ lint = true ∧ r.id = "FIELD_NO_DESCRIPTOR") ∧
  keyFaithful v lint "" = true ∧
  (∀ d ∈ driftingCategories v lint, isRuleId (oldRules v lint) d = false) ∧
  ∀ k ∈ categoryIdsOf (oldRules v lint), keyFaithful v lint k = false ↔ k ∈ driftingCategories v lint

instance (v : Version) (lint : Bool) : Decidable (TableFacts v lint) := by
  unfold TableFacts; infer_instance

/- One evaluation per rule type: what the kernel pays for is encoding the id literals and comparing
   them, the v1beta1 and v1 tables of a rule type share nearly all ids (and the whole v2 side), and
   within one evaluation the kernel does each of these once. -/
theorem tableFacts_lint : TableFacts .v1beta1 true ∧ TableFacts .v1 true := by decide +kernel
theorem tableFacts_breaking : TableFacts .v1beta1 false ∧ TableFacts .v1 false := by decide +kernel

theorem tableFacts (v : Version) (hv : v ≠ .v2) (lint : Bool) : TableFacts v lint := by
  cases v with
  | v1beta1 => cases lint; exact tableFacts_breaking.1; exact tableFacts_lint.1
  | v1 => cases lint; exact tableFacts_breaking.2; exact tableFacts_lint.2
  | v2 => exact absurd rfl hv

theorem tablesOK_all (v : Version) (hv : v ≠ .v2) (lint : Bool) : TablesOK (oldRules v lint) (v2Rules lint) :=
  .of_b (tableFacts v hv lint).1

/-- Every key a configuration can name: a rule id is faithful by `ruleKey_keyFaithful` and is no drifting category;
    for the categories the sweep says which are. -/
theorem faithful_keys (v : Version) (hv : v ≠ .v2) (lint : Bool) :
    keyFaithful v lint "" = true ∧
    ∀ k ∈ idUniverse (oldRules v lint), keyFaithful v lint k = false ↔ k ∈ driftingCategories v lint := by
  obtain ⟨_, hcat, _, h0, hdrift, hsweep⟩ := tableFacts v hv lint
  refine ⟨h0, fun k hk => ?_⟩
  rcases List.mem_append.1 hk with hid | hc
  · have hk' : isRuleId (oldRules v lint) k = true :=
      (isRuleId_iff _ _).2 (by simpa using hid)
    rw [ruleKey_keyFaithful (tablesOK_all v hv lint) hcat hk']
    refine ⟨fun h => Bool.noConfusion h, fun hd => ?_⟩
    rw [hdrift k hd] at hk'
    cases hk'
  · exact hsweep k hc

end BufProofs.C16
