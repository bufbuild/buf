import BufModel.RulesWorkspace
import BufProofs.Lemmas.RulesLemmas
import BufProofs.Lemmas.ListLemmas
import BufProofs.Lemmas.SplitLemmas
/-
  C06: several modules in one v2 buf.yaml (`readYamlModules`) and the directive parser (`parseIgnoreDirectives`, `commentNames`).
-/
namespace BufModel.Rules
open BufModel.Path BufGen.RuleTables

/-! ## the loop over the modules -/

theorem readYamlModules_nil (lint : Bool) (ws : YSection) : readYamlModules lint ws [] = .ok [] := rfl

theorem readYamlModules_cons_ok (lint : Bool) (ws : YSection) (m : Str × YSection) (rest : List (Str × YSection))
    (o : Str × EffConfig) (out : List (Str × EffConfig))
    (h1 : convertModule lint ws m = .ok o) (h2 : readYamlModules lint ws rest = .ok out) :
    readYamlModules lint ws (m :: rest) = .ok (o :: out) := by
  rw [readYamlModules, h1, h2]

theorem readYamlModules_cons_inv (lint : Bool) (ws : YSection) (m : Str × YSection) (rest : List (Str × YSection))
    (res : List (Str × EffConfig)) (h : readYamlModules lint ws (m :: rest) = .ok res) :
    ∃ o out, convertModule lint ws m = .ok o ∧ readYamlModules lint ws rest = .ok out ∧ res = o :: out := by
  rw [readYamlModules] at h
  cases h1 : convertModule lint ws m with
  | error e => rw [h1] at h; cases h
  | ok o =>
    rw [h1] at h
    cases h2 : readYamlModules lint ws rest with
    | error e => rw [h2] at h; cases h
    | ok out =>
      rw [h2] at h
      exact ⟨o, out, rfl, rfl, by cases h; rfl⟩

theorem readYamlModules_ok_iff_map (lint : Bool) (ws : YSection) :
    ∀ (mods : List (Str × YSection)) (out : List (Str × EffConfig)),
      readYamlModules lint ws mods = .ok out ↔ mods.map (convertModule lint ws) = out.map Except.ok
  | [], out => by
    rw [readYamlModules_nil]
    cases out with
    | nil => simp
    | cons o out => simp
  | m :: rest, res => by
    constructor
    · intro h
      obtain ⟨o, out, h1, h2, rfl⟩ := readYamlModules_cons_inv lint ws m rest res h
      rw [List.map_cons, List.map_cons, h1, (readYamlModules_ok_iff_map lint ws rest out).1 h2]
    · intro h
      cases res with
      | nil => simp at h
      | cons o out =>
        rw [List.map_cons, List.map_cons] at h
        have h1 : convertModule lint ws m = .ok o := (List.cons.inj h).1
        have h2 := (readYamlModules_ok_iff_map lint ws rest out).2 (List.cons.inj h).2
        exact readYamlModules_cons_ok lint ws m rest o out h1 h2

theorem readYamlModules_mem_out (lint : Bool) (ws : YSection) (mods : List (Str × YSection))
    (out : List (Str × EffConfig)) (h : readYamlModules lint ws mods = .ok out) (o : Str × EffConfig) :
    o ∈ out ↔ ∃ m ∈ mods, convertModule lint ws m = .ok o := by
  have hm : Except.ok o ∈ out.map (Except.ok (ε := RErr)) ↔ o ∈ out := by
    simp only [List.mem_map, Except.ok.injEq, exists_eq_right]
  rw [← hm, ← (readYamlModules_ok_iff_map lint ws mods out).1 h, List.mem_map]

theorem except_error_iff_not_ok {ε α : Type} {x : Except ε α} : (∃ e, x = .error e) ↔ ¬ ∃ a, x = .ok a := by
  cases x <;> simp

theorem readYamlModules_ok_iff (lint : Bool) (ws : YSection) :
    ∀ (mods : List (Str × YSection)),
      (∃ out, readYamlModules lint ws mods = .ok out) ↔ ∀ m ∈ mods, ∃ o, convertModule lint ws m = .ok o
  | [] => by simp [readYamlModules_nil]
  | m :: rest => by
    have ih := readYamlModules_ok_iff lint ws rest
    constructor
    · rintro ⟨res, h⟩
      obtain ⟨o, out, h1, h2, rfl⟩ := readYamlModules_cons_inv lint ws m rest res h
      intro m' hm'
      rcases List.mem_cons.1 hm' with rfl | hm'
      · exact ⟨o, h1⟩
      · exact ih.1 ⟨out, h2⟩ m' hm'
    · intro hall
      obtain ⟨o, h1⟩ := hall m List.mem_cons_self
      obtain ⟨out, h2⟩ := ih.2 (fun m' hm' => hall m' (List.mem_cons_of_mem _ hm'))
      exact ⟨o :: out, readYamlModules_cons_ok lint ws m rest o out h1 h2⟩

theorem readYamlModules_perm (lint : Bool) (ws : YSection) {mods mods' : List (Str × YSection)}
    (hp : mods.Perm mods') :
    ∀ out, readYamlModules lint ws mods = .ok out →
      ∃ out', readYamlModules lint ws mods' = .ok out' ∧ out.Perm out' := by
  induction hp with
  | nil => intro out h; exact ⟨out, h, List.Perm.refl _⟩
  | cons m _ ih =>
    intro res h
    obtain ⟨o, out, h1, h2, rfl⟩ := readYamlModules_cons_inv lint ws m _ res h
    obtain ⟨out', h2', hp'⟩ := ih out h2
    exact ⟨o :: out', readYamlModules_cons_ok lint ws m _ o out' h1 h2', List.Perm.cons o hp'⟩
  | swap a b l =>
    intro res h
    obtain ⟨ob, out1, hb, h2, rfl⟩ := readYamlModules_cons_inv lint ws b _ res h
    obtain ⟨oa, out, ha, h3, rfl⟩ := readYamlModules_cons_inv lint ws a _ out1 h2
    exact ⟨oa :: ob :: out,
      readYamlModules_cons_ok lint ws a _ oa _ ha (readYamlModules_cons_ok lint ws b _ ob out hb h3),
      List.Perm.swap oa ob out⟩
  | trans _ _ ih1 ih2 =>
    intro out h
    obtain ⟨out1, h1, p1⟩ := ih1 out h
    obtain ⟨out2, h2, p2⟩ := ih2 out1 h1
    exact ⟨out2, h2, p1.trans p2⟩

/-! ## which workspace-relative paths reach a module -/

theorem relPathsFor_mem_iff (dir : Str) (req : Bool) :
    ∀ (ps rs : List Str), relPathsFor dir req ps = .ok rs →
      ∀ r, r ∈ rs ↔ ∃ p ∈ ps, ∃ n, normalizeAndValidate p = .ok n ∧ equalsOrContainsPath dir n = true ∧
        rel dir n = some r
  | [], rs, h, r => by
    rw [relPathsFor] at h; cases h; simp
  | p :: rest, rs, h, r => by
    rw [relPathsFor] at h
    cases hn : normalizeAndValidate p with
    | error e => rw [hn] at h; cases h
    | ok n =>
      simp only [List.mem_cons, exists_eq_or_imp, hn, Except.ok.injEq, exists_eq_left']
      simp only [hn] at h
      cases hc : equalsOrContainsPath dir n with
      | false =>
        simp only [hc, Bool.not_false, if_true] at h
        cases req with
        | true => cases h
        | false => simp only [relPathsFor_mem_iff dir false rest rs h r, Bool.false_eq_true, false_and, false_or]
      | true =>
        simp only [hc, Bool.not_true, Bool.false_eq_true, if_false] at h
        cases hr : rel dir n with
        | none => rw [hr] at h; cases h
        | some r0 =>
          cases hrest : relPathsFor dir req rest with
          | error e => rw [hr, hrest] at h; cases h
          | ok rs0 =>
            rw [hr, hrest] at h
            cases h
            simp only [List.mem_cons, relPathsFor_mem_iff dir req rest rs0 hrest r, Option.some.injEq, true_and,
              eq_comm]

/-! ## an in-place filter (documentation of seed C06-m9)

    `relPaths := paths[:0]` writes the relative paths over the front of the caller's slice.  The
    external section struct is copied per module but its slices share their backing arrays, so
    the NEXT module reads `result ++ paths.drop result.length`. -/

/-- What the shared slice holds after one module was converted in place. -/
def inPlaceLeftover (ps rs : List Str) : List Str := rs ++ ps.drop rs.length

/-- Two modules converted one after the other from a shared `ignore` list that is filtered in
    place (the second module reads the leftovers of the first). -/
def secondModuleIgnoreInPlace (dir1 dir2 : Str) (ps : List Str) : Except RErr (List Str) :=
  match relPathsFor dir1 false ps with
  | .error e => .error e
  | .ok rs1 => relPathsFor dir2 false (inPlaceLeftover ps rs1)

/-! ## strings: trimming, splitting at newlines -/

theorem dropWhile_all (p : Char → Bool) (a : Str) (h : ∀ c ∈ a, p c = true) : a.dropWhile p = [] := by
  have := List.dropWhile_append_of_pos (l₂ := []) h
  rwa [List.append_nil] at this

/-- The trailing half of `trimSpace`. -/
def dropEndSpaces (s : Str) : Str := (s.reverse.dropWhile isSpaceChar).reverse

theorem dropEndSpaces_append_all (s b : Str) (hb : ∀ c ∈ b, isSpaceChar c = true) :
    dropEndSpaces (s ++ b) = dropEndSpaces s := by
  unfold dropEndSpaces
  rw [List.reverse_append, List.dropWhile_append_of_pos (fun c hc => hb c (List.mem_reverse.1 hc))]

theorem trimSpace_pad (a s b : Str) (ha : ∀ c ∈ a, isSpaceChar c = true) (hb : ∀ c ∈ b, isSpaceChar c = true) :
    trimSpace (a ++ s ++ b) = trimSpace s := by
  show dropEndSpaces _ = dropEndSpaces _
  rw [List.append_assoc, List.dropWhile_append_of_pos ha, List.dropWhile_append]
  split
  · rename_i he
    rw [dropWhile_all _ b hb, List.isEmpty_iff.1 he]
  · exact dropEndSpaces_append_all _ b hb

theorem splitOnChar_eq (sep : Char) : ∀ s, splitOnChar sep s = splitBy sep s :=
  eq_splitBy sep rfl (fun c cs l ls e => by simp [splitOnChar, e])

theorem joinLines_eq : ∀ ls, joinLines ls = joinBy '\n' ls :=
  eq_joinBy '\n' rfl (fun _ => rfl) (fun _ _ _ => rfl)

theorem splitOnChar_noSep (sep : Char) (l : Str) (h : sep ∉ l) : splitOnChar sep l = [l] :=
  (splitOnChar_eq sep l).trans (splitBy_of_not_mem sep h)

theorem splitOnChar_append_sep (sep : Char) (l rest : Str) (h : sep ∉ l) :
    splitOnChar sep (l ++ sep :: rest) = l :: splitOnChar sep rest := by
  rw [splitOnChar_eq, splitOnChar_eq, splitBy_append_sep sep h]

theorem splitOnChar_joinLines (ls : List Str) (hne : ls ≠ []) (hnl : ∀ l ∈ ls, '\n' ∉ l) :
    splitOnChar '\n' (joinLines ls) = ls := by
  rw [splitOnChar_eq, joinLines_eq, splitBy_joinBy '\n' ls hne hnl]

theorem noNewline_pad {a l b : Str} (hpad : ∀ c ∈ a ++ b, isSpaceChar c = true ∧ c ≠ '\n') (hl : '\n' ∉ l) :
    '\n' ∉ a ++ l ++ b := by
  intro hmem
  rcases List.mem_append.1 hmem with h | h
  · rcases List.mem_append.1 h with h | h
    · exact (hpad '\n' (List.mem_append.2 (Or.inl h))).2 rfl
    · exact hl h
  · exact (hpad '\n' (List.mem_append.2 (Or.inr h))).2 rfl

/-! ## the directive parser -/

theorem isPrefixOf_append_split : ∀ (a b t : Str),
    (a ++ b).isPrefixOf t = (a.isPrefixOf t && b.isPrefixOf (t.drop a.length))
  | [], b, t => by simp
  | x :: a, b, [] => by simp
  | x :: a, b, y :: t => by
    simp only [List.cons_append, List.isPrefixOf_cons_cons, List.length_cons, List.drop_succ_cons,
      isPrefixOf_append_split a b t, Bool.and_assoc]

theorem directiveOfLine_pad (pre a l b : Str) (ha : ∀ c ∈ a, isSpaceChar c = true) (hb : ∀ c ∈ b, isSpaceChar c = true) :
    directiveOfLine pre (a ++ l ++ b) = directiveOfLine pre l := by
  unfold directiveOfLine
  rw [trimSpace_pad a l b ha hb]

/-- One line: "the trimmed line starts with `pre ++ " " ++ id`", split into "is a directive" and
    "its text starts with the id". -/
theorem directiveOfLine_names (pre line : Str) (r : Id) :
    (directiveOfLine pre line).any (textNames r) = commentLineIgnores (trimSpace line) pre r := by
  have hsplit : pre ++ ' ' :: r.toList = (pre ++ [' ']) ++ r.toList := by simp
  have hlen : (pre ++ [' ']).length = pre.length + 1 := by simp
  have hd : directiveOfLine pre line =
      if (pre ++ [' ']).isPrefixOf (trimSpace line) = true then some ((trimSpace line).drop (pre.length + 1)) else none := rfl
  have hc : commentLineIgnores (trimSpace line) pre r =
      ((pre ++ [' ']).isPrefixOf (trimSpace line) && r.toList.isPrefixOf ((trimSpace line).drop (pre.length + 1))) := by
    unfold commentLineIgnores
    rw [hsplit, isPrefixOf_append_split, hlen]
  rw [hd, hc]
  cases h : (pre ++ [' ']).isPrefixOf (trimSpace line) with
  | false => rw [if_neg (by simp)]; rfl
  | true => rw [if_pos rfl]; rfl

theorem any_filterMap_eq {α β} (f : α → Option β) (g : β → Bool) : ∀ (l : List α),
    (l.filterMap f).any g = l.any (fun x => (f x).any g)
  | [] => rfl
  | x :: l => by
    cases h : f x with
    | none => simp [h, any_filterMap_eq f g l]
    | some t => simp [h, any_filterMap_eq f g l]

theorem commentLineIgnores_nil (pre : Str) (r : Id) : commentLineIgnores [] pre r = false := by
  unfold commentLineIgnores
  cases h : pre ++ ' ' :: r.toList with
  | nil => simp at h
  | cons x xs => rfl

theorem any_trimmed_lines (pre : Str) (r : Id) : ∀ (ls : List Str),
    ((ls.map trimSpace).filter (· ≠ [])).any (fun line => commentLineIgnores line pre r) =
      ls.any (fun line => commentLineIgnores (trimSpace line) pre r)
  | [] => rfl
  | l :: ls => by
    have ih := any_trimmed_lines pre r ls
    by_cases ht : trimSpace l = []
    · simp only [List.map_cons, List.any_cons]
      rw [List.filter_cons_of_neg (by simp [ht]), ih, ht, commentLineIgnores_nil, Bool.false_or]
    · simp only [List.map_cons, List.any_cons]
      rw [List.filter_cons_of_pos (by simp [ht]), List.any_cons, ih]

/-- The parser is what `commentIgnoresAt` applies to the element's leading comment. -/
theorem commentNames_eq (pre comment : Str) (r : Id) :
    commentNames pre comment r =
      (splitTrimLinesNoEmpty comment).any (fun line => commentLineIgnores line pre r) := by
  unfold commentNames parseIgnoreDirectives splitTrimLinesNoEmpty
  rw [any_filterMap_eq, any_trimmed_lines]
  congr 1
  funext line
  exact directiveOfLine_names pre line r

theorem parseIgnoreDirectives_joinLines (pre : Str) (ls : List Str) (hne : ls ≠ []) (hnl : ∀ l ∈ ls, '\n' ∉ l) :
    parseIgnoreDirectives pre (joinLines ls) = ls.filterMap (directiveOfLine pre) := by
  unfold parseIgnoreDirectives
  rw [splitOnChar_joinLines ls hne hnl]

end BufModel.Rules
