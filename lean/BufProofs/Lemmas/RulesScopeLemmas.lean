import BufProofs.Lemmas.RulesLemmas
import BufProofs.Lemmas.RulesResolveLemmas
/-
  C06: (1) the handler view (`handlerView`): lint handlers
  never annotate import files; (2) exactness of ONE added ignore / ignore_only path on the
  resolved configuration: the kept annotations afterwards are exactly the kept annotations
  before whose file and against-file the path does not cover.
-/
namespace BufProofs.C06
open BufModel.Path BufModel.Rules BufGen.RuleTables

/-! ### handler view -/

theorem handlerView_files (lint : Bool) (img : Image) : (handlerView lint img).files = img.files := by
  unfold handlerView; cases lint <;> rfl

theorem handlerView_againstFiles (lint : Bool) (img : Image) :
    (handlerView lint img).againstFiles = img.againstFiles := by
  unfold handlerView; cases lint <;> rfl

theorem handlerView_breaking (img : Image) : handlerView false img = img := rfl

theorem mem_handlerView_lint (img : Image) (a : Annot) :
    a ∈ (handlerView true img).annots ↔ a ∈ img.annots ∧ locNotImport img a = true := by
  unfold handlerView
  simp [List.mem_filter]

theorem locNotImport_iff (img : Image) (a : Annot) :
    locNotImport img a = true ↔ ∀ l, a.loc = some l → (fileAt img.files l.file).isImport = false := by
  unfold locNotImport
  cases h : a.loc with
  | none => simp
  | some l =>
    simp only [Option.some.injEq, forall_eq']
    cases (fileAt img.files l.file).isImport <;> simp

theorem toFileAnnot_handlerView (lint : Bool) (img : Image) (a : Annot) :
    toFileAnnot (handlerView lint img) a = toFileAnnot img a := by
  unfold toFileAnnot
  rw [handlerView_files]

theorem handlerView_eq_self (lint : Bool) (img : Image)
    (hh : ∀ a ∈ img.annots, ∀ l, a.loc = some l → (fileAt img.files l.file).isImport = false) :
    handlerView lint img = img := by
  cases lint with
  | false => rfl
  | true =>
    unfold handlerView
    simp only [if_true]
    have : img.annots.filter (locNotImport img) = img.annots := by
      apply List.filter_eq_self.2
      intro a ha
      exact (locNotImport_iff img a).2 (hh a ha)
    rw [this]

/-! ### one more ignore path / ignore_only entry on the resolved configuration -/

theorem kept_of_suppressed_or {cfg cfg' : Config} {Q : Id → FileInfo → Prop}
    (hs : ∀ r f sp, Suppressed cfg' r f sp ↔ Suppressed cfg r f sp ∨ Q r f)
    (hr : cfg'.rules.ruleIDs = cfg.rules.ruleIDs) (img : Image) (a : Annot) :
    Kept cfg' img a ↔ Kept cfg img a ∧
      ¬ ((∃ x, a.loc = some x ∧ Q a.ruleId (fileAt img.files x.file)) ∨
         (∃ x, a.against = some x ∧ Q a.ruleId (fileAt img.againstFiles x.file))) := by
  unfold Kept AnnotSuppressed LocSuppressed
  rw [hr]
  -- each "suppressed at a location" splits into the two reasons; what is left is a reordering
  simp only [hs, and_or_left, exists_or, not_or, and_assoc]
  exact ⟨fun ⟨h1, h2, a, aq, b, bq⟩ => ⟨h1, h2, a, b, aq, bq⟩, fun ⟨h1, h2, a, b, aq, bq⟩ => ⟨h1, h2, a, aq, b, bq⟩⟩

/-- `cfg` with the (normalised) path `p` added to `ignore`. -/
def withIgnorePath (cfg : Config) (p : Str) : Config :=
  { cfg with rules := { cfg.rules with ignoreRootPaths := p :: cfg.rules.ignoreRootPaths } }

/-- `cfg` with the (normalised) path `p` added to `ignore_only` for rule `r`. -/
def withIgnoreOnly (cfg : Config) (r : Id) (p : Str) : Config :=
  { cfg with rules := { cfg.rules with ignoreOnly := (r, p) :: cfg.rules.ignoreOnly } }

def CoversLoc (p : Str) (fs : List FileInfo) (l : Option Loc) : Prop :=
  ∃ x, l = some x ∧ equalsOrContainsPath p (fileAt fs x.file).path = true

def CoversAnnot (p : Str) (img : Image) (a : Annot) : Prop :=
  CoversLoc p img.files a.loc ∨ CoversLoc p img.againstFiles a.against

theorem suppressed_withIgnorePath (cfg : Config) (p : Str) (r : Id) (f : FileInfo) (sp : SPath) :
    Suppressed (withIgnorePath cfg p) r f sp ↔
      Suppressed cfg r f sp ∨ equalsOrContainsPath p f.path = true := by
  unfold Suppressed ImportClause IgnorePathClause IgnoreOnlyClause UnstableClause CommentClause
  simp only [withIgnorePath, List.mem_cons, or_and_right, exists_or, exists_eq_left]
  refine Iff.of_eq ?_
  ac_rfl

theorem suppressed_withIgnoreOnly (cfg : Config) (r0 : Id) (p : Str) (r : Id) (f : FileInfo) (sp : SPath) :
    Suppressed (withIgnoreOnly cfg r0 p) r f sp ↔
      Suppressed cfg r f sp ∨ (r = r0 ∧ equalsOrContainsPath p f.path = true) := by
  unfold Suppressed ImportClause IgnorePathClause IgnoreOnlyClause UnstableClause CommentClause
  simp only [withIgnoreOnly, List.mem_cons, Prod.mk.injEq, or_and_right, exists_or, and_assoc, exists_and_left,
    exists_eq_left]
  refine Iff.of_eq ?_
  ac_rfl

theorem kept_withIgnorePath (cfg : Config) (p : Str) (img : Image) (a : Annot) :
    Kept (withIgnorePath cfg p) img a ↔ Kept cfg img a ∧ ¬ CoversAnnot p img a :=
  kept_of_suppressed_or (Q := fun _ f => equalsOrContainsPath p f.path = true)
    (suppressed_withIgnorePath cfg p) rfl img a

theorem kept_withIgnoreOnly (cfg : Config) (r : Id) (p : Str) (img : Image) (a : Annot) :
    Kept (withIgnoreOnly cfg r p) img a ↔ Kept cfg img a ∧ ¬ (a.ruleId = r ∧ CoversAnnot p img a) := by
  rw [kept_of_suppressed_or (Q := fun r' f => r' = r ∧ equalsOrContainsPath p f.path = true)
    (suppressed_withIgnoreOnly cfg r p) rfl img a]
  simp only [CoversAnnot, CoversLoc, and_left_comm (b := a.ruleId = r), exists_and_left, ← and_or_left]
end BufProofs.C06
