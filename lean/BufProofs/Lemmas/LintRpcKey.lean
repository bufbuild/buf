import BufModel.Lint
import BufProofs.Lemmas.ListLemmas
/-
  RPC_REQUEST_RESPONSE_UNIQUE: the handler as coded works on Go MAPS keyed by method names
  (`rpcUniqueBy`), the documentation counts RPCs (`rpcUniqueT` on the method table).  This file
  ties the two: with a key that is distinct on the methods at hand the maps never merge two
  methods and the coded rule IS the documented one; in general the coded rule with the full name
  as key is the documented one or — duplicate full names, impossible in a linked image — nothing
  at all.
-/
namespace BufModel.Lint
open BufModel.Case

/-! ### distinct strings -/

theorem strsDistinct_cons (x : Str) (xs : List Str) :
    strsDistinct (x :: xs) = (!xs.contains x && strsDistinct xs) := rfl

theorem strsDistinct_iff_nodup (l : List Str) : strsDistinct l = true ↔ l.Nodup := by
  induction l with
  | nil => simp [strsDistinct]
  | cons x xs ih =>
    rw [strsDistinct_cons, List.nodup_cons, ← ih]
    simp

theorem strsDistinct_tail {x : Str} {xs : List Str} (h : strsDistinct (x :: xs) = true) :
    strsDistinct xs = true := by
  rw [strsDistinct_cons] at h
  simp only [Bool.and_eq_true] at h
  exact h.2

theorem strsDistinct_head {x : Str} {xs : List Str} (h : strsDistinct (x :: xs) = true) : x ∉ xs := by
  rw [strsDistinct_cons] at h
  simp only [Bool.and_eq_true, Bool.not_eq_true', List.contains_eq_mem, decide_eq_false_iff_not] at h
  exact h.1

theorem strsDistinct_map_filter {α} (key : α → Str) (p : α → Bool) (l : List α)
    (h : strsDistinct (l.map key) = true) : strsDistinct ((l.filter p).map key) = true := by
  rw [strsDistinct_iff_nodup] at h ⊢
  exact (List.filter_sublist.map key).nodup h

/-! ### the Go map of pairwise distinct keys is the list itself -/

theorem goPut_fresh {α} (k : Str) (v : α) (m : List (Str × α)) (h : k ∉ m.map (·.1)) :
    goPut k v m = m ++ [(k, v)] := by
  induction m with
  | nil => rfl
  | cons kv rest ih =>
    obtain ⟨k', v'⟩ := kv
    simp only [List.map_cons, List.mem_cons, not_or] at h
    have hne : (k' == k) = false := by
      apply Bool.eq_false_iff.mpr
      intro he
      have hkk : k' = k := by simpa using he
      exact h.1 hkk.symm
    simp only [goPut, hne, Bool.false_eq_true, if_false, List.cons_append, ih h.2]

theorem foldl_goPut_distinct {α} (kvs acc : List (Str × α))
    (h : strsDistinct ((acc ++ kvs).map (·.1)) = true) :
    kvs.foldl (fun m kv => goPut kv.1 kv.2 m) acc = acc ++ kvs := by
  induction kvs generalizing acc with
  | nil => simp
  | cons kv rest ih =>
    have hnd : ((acc ++ kv :: rest).map (·.1)).Nodup := (strsDistinct_iff_nodup _).mp h
    have hfresh : kv.1 ∉ acc.map (·.1) := by
      intro hm
      rw [List.map_append, List.map_cons] at hnd
      have := (List.nodup_append.mp hnd).2.2 kv.1 hm kv.1 (by simp)
      exact this rfl
    rw [List.foldl_cons, goPut_fresh kv.1 kv.2 acc hfresh]
    have h' : strsDistinct (((acc ++ [(kv.1, kv.2)]) ++ rest).map (·.1)) = true := by
      rw [List.append_assoc]; exact h
    rw [ih _ h', List.append_assoc]
    rfl

theorem goMap_of_distinct {α} (kvs : List (Str × α)) (h : strsDistinct (kvs.map (·.1)) = true) :
    goMap kvs = kvs := by
  unfold goMap
  rw [foldl_goPut_distinct kvs [] (by simpa using h)]
  rfl

/-! ### coded = documented when the key tells the methods apart -/

theorem rpcEntries_rows (w : Schema) : (rpcEntries w).map (·.row) = rpcTable w := by
  unfold rpcEntries rpcTable fileRpcEntries
  rw [List.map_flatMap]
  congr 1
  funext f
  rw [List.map_map]
  rfl

/-- the users of a type, as values of the per-type map, are the users in the method table -/
theorem users_eq (key : RpcEntry → Str) (es : List RpcEntry) (p : RpcRow → Bool)
    (hk : strsDistinct (es.map key) = true) :
    (goMap ((es.filter fun e => p e.row).map fun e => (key e, e.row))).map (·.2) = (es.map (·.row)).filter p := by
  have hd : strsDistinct (((es.filter fun e => p e.row).map fun e => (key e, e.row)).map (·.1)) = true := by
    rw [List.map_map]
    exact strsDistinct_map_filter key _ es hk
  rw [goMap_of_distinct _ hd, List.map_map, List.filter_map]
  rfl

/-- **Coded = documented.**  When the `key` of the per-type maps is pairwise distinct on the
    methods (and so are the full names, or `FullNameToMethod` fails), the handler computes exactly
    the documented rule on the method table. -/
theorem rpcUniqueBy_eq (key : RpcEntry → Str) (o : Options) (es : List RpcEntry)
    (hfull : strsDistinct (es.map (·.full)) = true) (hk : strsDistinct (es.map key) = true) :
    rpcUniqueBy key o es = rpcUniqueT o (es.map (·.row)) := by
  unfold rpcUniqueBy rpcUniqueT
  simp only [hfull, Bool.not_true, Bool.false_eq_true, if_false]
  rw [List.flatMap_map, List.flatMap_map]
  congr 1
  apply BufProofs.ListLemmas.flatMap_congr
  intro t _
  have hu := users_eq key es (fun x => x.inType == t || x.outType == t) hk
  simp only [hu]

/-- the full names of the methods are pairwise distinct — what the linker guarantees for every
    image (a fully-qualified name is declared once) -/
def FullNamesDistinct (w : Schema) : Prop := strsDistinct ((rpcEntries w).map (·.full)) = true

instance (w : Schema) : Decidable (FullNamesDistinct w) := by unfold FullNamesDistinct; infer_instance

theorem rpcUniqueCoded_eq (o : Options) (w : Schema) (h : FullNamesDistinct w) :
    rpcUniqueCoded o w = rpcUnique o w := by
  unfold rpcUniqueCoded rpcUnique
  rw [rpcUniqueBy_eq _ o _ h h, rpcEntries_rows]

theorem rpcUniqueCoded_eq_ite (o : Options) (w : Schema) :
    rpcUniqueCoded o w = if strsDistinct ((rpcEntries w).map (·.full)) then rpcUnique o w else [] := by
  by_cases h : strsDistinct ((rpcEntries w).map (·.full)) = true
  · rw [if_pos h]; exact rpcUniqueCoded_eq o w h
  · rw [if_neg h]
    unfold rpcUniqueCoded rpcUniqueBy
    simp only [Bool.not_eq_true] at h
    simp [h]

theorem rpcUniqueCoded_sub (o : Options) (w : Schema) (a : Annotation) (h : a ∈ rpcUniqueCoded o w) :
    a ∈ rpcUnique o w := by
  rw [rpcUniqueCoded_eq_ite] at h
  split at h
  · exact h
  · simp at h

theorem rpcUniqueCoded_nil (o : Options) (w : Schema) (h : rpcUnique o w = []) : rpcUniqueCoded o w = [] := by
  rw [rpcUniqueCoded_eq_ite, h]; simp

end BufModel.Lint
