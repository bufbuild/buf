/-! `strings.Split` and `strings.Join` on a one-character separator, behind the splitting functions of the
    models: `splitBy` cuts at every `sep` (the result is never empty), `joinBy` puts the pieces together
    again.  A model's own definition is shown equal to `splitBy` / `joinBy` by `eq_splitBy` / `eq_joinBy`
    in the lemma file that first needs it, and takes its facts from here. -/

def splitBy (sep : Char) : List Char → List (List Char)
  | [] => [[]]
  | c :: cs =>
    if c = sep then [] :: splitBy sep cs
    else (c :: (splitBy sep cs).headD []) :: (splitBy sep cs).tail

def joinBy (sep : Char) : List (List Char) → List Char
  | [] => []
  | [x] => x
  | x :: y :: xs => x ++ sep :: joinBy sep (y :: xs)

variable (sep : Char)

theorem splitBy_ne_nil (s : List Char) : splitBy sep s ≠ [] := by
  cases s with
  | nil => simp [splitBy]
  | cons c cs =>
    unfold splitBy
    split <;> simp

/-! ### recognising the two functions

Whatever satisfies the equations is the function; for the models' definitions the equations hold by
unfolding.  The `cons` equation of a split is asked for only where the rest splits into `l :: ls`, so a
model that looks at the split of the rest before it tests the character fits as well.  A join whose
separator is the string `[sep]` has `x ++ [sep] ++ g (y :: xs)` in its third equation, which `simp`
brings into the form asked for. -/

theorem eq_splitBy {f : List Char → List (List Char)} (h0 : f [] = [[]])
    (hc : ∀ c cs l ls, f cs = l :: ls →
      f (c :: cs) = if c = sep then [] :: l :: ls else (c :: l) :: ls) (s : List Char) :
    f s = splitBy sep s := by
  induction s with
  | nil => exact h0
  | cons c cs ih =>
    obtain ⟨l, ls, e⟩ := List.exists_cons_of_ne_nil (splitBy_ne_nil sep cs)
    rw [hc c cs l ls (ih.trans e), splitBy, e]
    rfl

theorem eq_joinBy {g : List (List Char) → List Char} (h0 : g [] = []) (h1 : ∀ x, g [x] = x)
    (h2 : ∀ x y xs, g (x :: y :: xs) = x ++ sep :: g (y :: xs)) : ∀ l, g l = joinBy sep l
  | [] => h0
  | [x] => h1 x
  | x :: y :: xs => by rw [h2, eq_joinBy h0 h1 h2 (y :: xs), joinBy]

/-! ### the laws -/

theorem splitBy_of_not_mem {s : List Char} (h : sep ∉ s) : splitBy sep s = [s] := by
  induction s with
  | nil => rfl
  | cons c cs ih =>
    simp only [List.mem_cons, not_or] at h
    rw [splitBy, if_neg (fun e => h.1 e.symm), ih h.2]
    rfl

/-- `Split (a ++ sep ++ b) = Split a ++ Split b`, whatever `a` contains -/
theorem splitBy_append (a b : List Char) : splitBy sep (a ++ sep :: b) = splitBy sep a ++ splitBy sep b := by
  induction a with
  | nil => simp [splitBy]
  | cons c cs ih =>
    obtain ⟨h, t, e⟩ := List.exists_cons_of_ne_nil (splitBy_ne_nil sep cs)
    simp only [List.cons_append, splitBy, ih, e]
    split <;> rfl

theorem splitBy_append_sep {p : List Char} (h : sep ∉ p) (rest : List Char) :
    splitBy sep (p ++ sep :: rest) = p :: splitBy sep rest := by
  rw [splitBy_append, splitBy_of_not_mem sep h]
  rfl

theorem splitBy_joinBy (ls : List (List Char)) (hne : ls ≠ []) (h : ∀ l ∈ ls, sep ∉ l) :
    splitBy sep (joinBy sep ls) = ls := by
  induction ls with
  | nil => exact absurd rfl hne
  | cons l rest ih =>
    cases rest with
    | nil => exact splitBy_of_not_mem sep (h l (by simp))
    | cons r rest' =>
      rw [joinBy, splitBy_append_sep sep (h l (by simp)), ih (by simp) (fun x hx => h x (by simp [hx]))]

theorem joinBy_splitBy (s : List Char) : joinBy sep (splitBy sep s) = s := by
  induction s with
  | nil => rfl
  | cons c cs ih =>
    obtain ⟨a, b, e⟩ := List.exists_cons_of_ne_nil (splitBy_ne_nil sep cs)
    rw [splitBy, e]
    rw [e] at ih
    split
    · simp [joinBy, *]
    · cases b <;> simp_all [joinBy]

theorem not_mem_of_mem_splitBy (s : List Char) : ∀ p ∈ splitBy sep s, sep ∉ p := by
  induction s with
  | nil => simp [splitBy]
  | cons c cs ih =>
    obtain ⟨a, b, e⟩ := List.exists_cons_of_ne_nil (splitBy_ne_nil sep cs)
    rw [splitBy, e]
    rw [e] at ih
    split
    · simpa using ih
    · simp_all [eq_comm]
