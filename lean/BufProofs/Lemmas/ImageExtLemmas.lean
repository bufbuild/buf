import BufProofs.Lemmas.ImagePathsLemmas
/-
  Helper lemmas for the C11 extension-bit theorems (Props/C11ExtBits.lean):

  NATURALITY of the path filter: `imageWithOnlyPaths` reads only path, import flag and dependency
  list of a file and re-flags with `mark`; so it commutes with every map `φ` on files that keeps
  these three and commutes with `mark` (`BitMap`) — in particular with forgetting the
  unused-dependency indexes.  For EVERY image (duplicate paths included) the closure walk emits only
  re-flagged files of the image (`FromImg`).
-/
namespace BufProofs.ImageExtLemmas
open BufModel.Path BufModel.ImagePaths BufProofs.ImagePathsLemmas

/-- A map on image files that the path filter cannot observe. -/
structure BitMap (φ : File → File) : Prop where
  path : ∀ f, (φ f).path = f.path
  imp : ∀ f, (φ f).isImport = f.isImport
  deps : ∀ f, (φ f).deps = f.deps
  mark : ∀ t f, mark t (φ f) = φ (mark t f)

theorem extbits_eraseUnused_bitmap : BitMap eraseUnused :=
  ⟨fun _ => rfl, fun _ => rfl, fun _ => rfl, fun _ _ => rfl⟩

section Nat
variable {φ : File → File} (hφ : BitMap φ)
include hφ

theorem extbits_paths_map (l : List File) : paths (l.map φ) = paths l := by
  unfold paths
  rw [List.map_map]
  apply List.map_congr_left
  intro f _
  exact hφ.path f

theorem extbits_getFile_map (img : List File) (p : Str) :
    getFile (img.map φ) p = (getFile img p).map φ := by
  induction img with
  | nil => rfl
  | cons g gs ih =>
    simp only [List.map_cons]
    unfold getFile
    rw [hφ.path g]
    by_cases h : g.path = p
    · rw [if_pos h, if_pos h]; rfl
    · rw [if_neg h, if_neg h]; exact ih

def mapSt (φ : File → File) (st : DState) : DState := (st.1, st.2.map φ)

theorem extbits_visit_map (img : List File) (t : List Str) (fuel : Nat) : ∀ (f : File) (st : DState),
    visit (getFile (img.map φ)) t fuel (φ f) (mapSt φ st) = mapSt φ (visit (getFile img) t fuel f st) := by
  induction fuel with
  | zero => intro f st; rfl
  | succ n ih =>
    intro f st
    rw [visit_succ, visit_succ, hφ.path f, hφ.deps f]
    show (if f.path ∈ st.1 then _ else _) = _
    by_cases hs : f.path ∈ st.1
    · rw [if_pos hs, if_pos hs]
    · rw [if_neg hs, if_neg hs]
      have hfold := List.foldl_hom (mapSt φ) (g₁ := depStep (getFile img) t n)
        (g₂ := depStep (getFile (img.map φ)) t n) (l := f.deps) (init := (f.path :: st.1, st.2)) fun s d => by
          unfold depStep
          rw [extbits_getFile_map hφ]
          cases getFile img d with
          | none => rfl
          | some g => exact ih g s
      have h0 : (f.path :: (mapSt φ st).1, (mapSt φ st).2) = mapSt φ (f.path :: st.1, st.2) := rfl
      rw [h0, hfold]
      unfold mapSt
      simp only [List.map_append, List.map_cons, List.map_nil]
      rw [hφ.mark]

theorem extbits_visitAll_map (img : List File) (t : List Str) (fuel : Nat) (fs : List File) (st : DState) :
    visitAll (getFile (img.map φ)) t fuel (fs.map φ) (mapSt φ st) =
      mapSt φ (visitAll (getFile img) t fuel fs st) := by
  unfold visitAll
  rw [List.foldl_map]
  exact List.foldl_hom (mapSt φ) fun s f => extbits_visit_map hφ img t fuel f s

theorem extbits_newImage_map (l : List File) :
    newImage (l.map φ) = (newImage l).map (List.map φ) := by
  unfold newImage
  rw [extbits_paths_map hφ]
  cases l with
  | nil => rfl
  | cons x xs =>
    simp only [List.map_cons, List.isEmpty_cons, Bool.false_eq_true, if_false]
    split <;> rfl

theorem extbits_getImageWithImports_map (img ni : List File) :
    getImageWithImports (img.map φ) (ni.map φ) = (getImageWithImports img ni).map (List.map φ) := by
  unfold getImageWithImports
  rw [extbits_paths_map hφ, List.length_map]
  have := extbits_visitAll_map hφ img (paths ni) (img.length + 1) ni ([], [])
  have h0 : mapSt φ ([], []) = ([], []) := rfl
  rw [h0] at this
  rw [this]
  exact extbits_newImage_map hφ _

theorem extbits_excludesExist_map (img : List File) (excl : List Str) :
    excludesExist (img.map φ) excl = excludesExist img excl := by
  unfold excludesExist
  congr 1
  funext e
  rw [List.any_map]
  congr 1
  funext f
  simp only [Function.comp, hφ.path]

theorem addNew_map : ∀ (l acc : List File), addNew (acc.map φ) (l.map φ) = (addNew acc l).map φ := by
  intro l
  induction l with
  | nil => intro acc; rfl
  | cons f fs ih =>
    intro acc
    simp only [List.map_cons, addNew, hφ.path, extbits_paths_map hφ]
    rw [← ih]
    split <;> simp

theorem hit_map (img : List File) (p : Str) : hit (img.map φ) p = (hit img p).map φ := by
  unfold hit
  split
  · exact extbits_getFile_map hφ img p
  · rfl

theorem potOf_map (img : Image) (pths : List Str) : potOf (img.map φ) pths = potOf img pths := by
  unfold potOf
  simp only [hit_map hφ, Option.isNone_map]

theorem rootsOf_map (img : Image) (pths excl : List Str) :
    rootsOf (img.map φ) pths excl = (rootsOf img pths excl).map φ := by
  unfold rootsOf
  simp only [potOf_map hφ, funext (hit_map hφ img), apply_ite (List.map φ), ← addNew_map hφ, List.map_nil,
    List.map_filterMap, List.filter_map, Function.comp_def, hφ.path, hφ.imp]

theorem iwopErr_map (img : Image) (pths excl : List Str) (a : Bool) :
    iwopErr (img.map φ) pths excl a = iwopErr img pths excl a := by
  unfold iwopErr
  simp only [potOf_map hφ, extbits_excludesExist_map hφ, List.flatMap_map, hφ.path]

theorem extbits_iwop_map (img : Image) (pths excl : List Str) (allow : Bool) :
    imageWithOnlyPaths (img.map φ) pths excl allow =
      (imageWithOnlyPaths img pths excl allow).map (List.map φ) := by
  rw [iwop_eq, iwop_eq, iwopErr_map hφ, rootsOf_map hφ]
  cases iwopErr img pths excl allow with
  | some e => rfl
  | none => exact extbits_getImageWithImports_map hφ img _

theorem extbits_filterImagePaths_map (img : Image) (pths excl : List Str) :
    filterImagePaths (img.map φ) pths excl = (filterImagePaths img pths excl).map (List.map φ) := by
  unfold filterImagePaths
  split
  · rfl
  · exact extbits_iwop_map hφ img pths excl true

end Nat

/-! ## the closure walk only ever emits re-flagged files of the image -/

section Walk
variable (img : Image) (t : List Str)

def FromImg (h : File) : Prop := ∃ g ∈ img, h = mark t g

theorem extbits_visit_from (fuel : Nat) : ∀ (f : File) (st : DState), f ∈ img →
    (∀ h ∈ st.2, FromImg img t h) →
    ∀ h ∈ (visit (getFile img) t fuel f st).2, FromImg img t h := by
  induction fuel with
  | zero => intro f st _ hst; exact hst
  | succ n ih =>
    intro f st hf hst
    rw [visit_succ]
    by_cases hs : f.path ∈ st.1
    · rw [if_pos hs]; exact hst
    · rw [if_neg hs]
      have hfold := ListLemmas.foldl_rel
        (fun a b : DState => (∀ h ∈ a.2, FromImg img t h) → ∀ h ∈ b.2, FromImg img t h)
        (fun _ h => h) (fun h1 h2 h => h2 (h1 h)) (depStep (getFile img) t n) f.deps
        (fun s d _ hs' => by
          cases hg : getFile img d with
          | none => rw [depStep_none hg]; exact hs'
          | some g => rw [depStep_some hg]; exact ih g s (getFile_some hg).1 hs')
        (f.path :: st.1, st.2) hst
      intro h hh
      rcases List.mem_append.mp hh with hh | hh
      · exact hfold h hh
      · exact ⟨f, hf, by simpa using hh⟩

theorem extbits_visitAll_from (fuel : Nat) (fs : List File) (st : DState) (hsub : ∀ f ∈ fs, f ∈ img) :
    (∀ h ∈ st.2, FromImg img t h) →
    ∀ h ∈ (visitAll (getFile img) t fuel fs st).2, FromImg img t h :=
  ListLemmas.foldl_rel
    (fun a b : DState => (∀ h ∈ a.2, FromImg img t h) → ∀ h ∈ b.2, FromImg img t h)
    (fun _ h => h) (fun h1 h2 h => h2 (h1 h)) _ fs
    (fun s f hf => extbits_visit_from img t fuel f s (hsub f hf)) st

end Walk

theorem extbits_getImageWithImports_from {img : Image} {ni : List File} {out : Image}
    (hsub : ∀ f ∈ ni, f ∈ img) (h : getImageWithImports img ni = .ok out) :
    ∀ h ∈ out, FromImg img (paths ni) h := by
  unfold getImageWithImports at h
  rw [eq_of_newImage_ok h]
  exact extbits_visitAll_from img (paths ni) _ ni ([], []) hsub (by intro h hh; cases hh)

theorem extbits_iwop_roots_sub {img : Image} {pths excl : List Str} {allow : Bool} {out : Image}
    (h : imageWithOnlyPaths img pths excl allow = .ok out) :
    ∃ ni, (∀ f ∈ ni, f ∈ img) ∧ getImageWithImports img ni = .ok out := by
  rw [iwop_eq] at h
  split at h
  · cases h
  · exact ⟨_, rootsOf_sub img pths excl, h⟩

theorem extbits_except_map_ok {α β : Type} {f : α → β} {x : Except Err α} {y : β}
    (h : x.map f = .ok y) : ∃ a, x = .ok a ∧ f a = y := by
  cases x with
  | error e => cases h
  | ok a => exact ⟨a, rfl, by injection h⟩

theorem extbits_except_map_error {α β : Type} {f : α → β} {x : Except Err α} {e : Err}
    (h : x.map f = .error e) : x = .error e := by
  cases x with
  | error e' => injection h with h'; rw [h']
  | ok a => cases h

theorem extbits_erase_compilerBits (l : List File) :
    (l.map compilerBits).map eraseUnused = l.map eraseUnused := by
  rw [List.map_map]
  apply List.map_congr_left
  intro f _
  rfl

theorem extbits_unusedPaths_sub (f : File) : ∀ p ∈ unusedPaths f, p ∈ f.deps := by
  intro p hp
  unfold unusedPaths at hp
  obtain ⟨i, _, hi⟩ := List.mem_filterMap.mp hp
  exact List.mem_of_getElem? hi

end BufProofs.ImageExtLemmas
