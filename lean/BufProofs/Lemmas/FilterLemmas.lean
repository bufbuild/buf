import BufModel.Filter
/-
  C12 (type filtering), the base layer: the closure state (`get`/`set`); the task machine read
  along a successful run (`run_ind`, one induction from the end of the run); the phases of `closure`:
  the exclude phase is one `exclKeys` over `exclList` (`excludePhase_eq`), everything after it is a
  sequence of complete runs on a single `add` task (`Runs`, `closure_runs`); `remapSlice`: its index
  arithmetic and the marks it leaves in the source-path trie.
-/
namespace BufProofs.FilterLemmas
open BufModel.Filter

/-! ### the closure state -/

theorem get_set (st : St) (k k' : Key) (m : Mode) :
    (st.set k' m).get k = if k = k' then some m else st.get k := by
  unfold St.get St.set
  simp only [List.lookup_cons]
  by_cases h : k = k'
  · simp [h]
  · have : (k == k') = false := by simp [h]
    simp [this, h]

theorem addImport_spec (st : St) (fr : Option Id) (to : Id) :
    (st.addImport fr to).modes = st.modes ∧ (∀ x ∈ st.seen, x ∈ (st.addImport fr to).seen) ∧
      ∀ e ∈ st.edges, e ∈ (st.addImport fr to).edges := by
  unfold St.addImport
  cases fr with
  | none =>
    simp only []
    split
    · exact ⟨rfl, fun _ h => h, fun _ h => h⟩
    · exact ⟨rfl, fun _ h => List.mem_cons_of_mem _ h, fun _ h => h⟩
  | some f =>
    simp only []
    repeat' split
    all_goals
      refine ⟨rfl, fun _ h => ?_, fun _ h => ?_⟩
      all_goals first | exact h | exact List.mem_cons_of_mem _ h

theorem get_addImport (st : St) (fr : Option Id) (to : Id) (k : Key) :
    (st.addImport fr to).get k = st.get k := by
  unfold St.get; rw [(addImport_spec st fr to).1]

theorem isExcl_false {st : St} {k : Key} (h : st.isExcl k = false) : st.get k ≠ some .excluded := by
  unfold St.isExcl at h; simpa using h

/-- Split `h : (nested if/match) = .ok _` into its successful leaves. -/
macro "leaves" h:ident : tactic =>
  `(tactic| repeat' (first | (cases $h:ident; done) | split at $h:ident))

/-- Induction along a successful run, from its end: `P` holds of the final state with the empty
    stack and goes back over one machine step. -/
theorem run_ind (c : Ctx) (st' : St) (P : St → List Task → Prop) (hnil : P st' [])
    (hcons : ∀ n st t ts st1 new, step c st t = .ok (st1, new) → run c n st1 (new ++ ts) = .ok st' →
      P st1 (new ++ ts) → P st (t :: ts))
    (n : Nat) (st : St) (ts : List Task) (h : run c n st ts = .ok st') : P st ts := by
  induction n generalizing st ts with
  | zero =>
    cases ts with
    | nil => simp [run] at h; subst h; exact hnil
    | cons t ts => simp [run] at h
  | succ n ih =>
    cases ts with
    | nil => simp [run] at h; subst h; exact hnil
    | cons t ts =>
      simp only [run] at h
      split at h
      · cases h
      · rename_i st1 new hs1
        exact hcons n st t ts st1 new hs1 h (ih _ _ h)

theorem run_fuel_mono (c : Ctx) (n k : Nat) (st st' : St) (ts : List Task)
    (h : run c n st ts = .ok st') : run c (n + k) st ts = .ok st' := by
  induction n generalizing st ts with
  | zero =>
    cases ts with
    | nil => cases k <;> simpa [run] using h
    | cons t ts => simp [run] at h
  | succ n ih =>
    cases ts with
    | nil => simpa [run] using h
    | cons t ts =>
      have e : n + 1 + k = (n + k) + 1 := by omega
      rw [e]
      simp only [run] at h ⊢
      split at h
      · cases h
      · exact ih _ _ h

/-- excludeElement marks exactly the listed keys that have no mode yet. -/
theorem get_exclKeys (st : St) (ks : List Key) (k : Key) :
    (exclKeys st ks).get k = if k ∈ ks ∧ st.get k = none then some .excluded else st.get k := by
  induction ks generalizing st with
  | nil => simp [exclKeys]
  | cons a as ih =>
    rw [exclKeys, ih]
    by_cases e : k = a
    · subst e
      cases h : st.get k <;> simp [h, get_set]
    · split <;> simp [e, get_set]

theorem exclKeys_append (st : St) (a b : List Key) : exclKeys st (a ++ b) = exclKeys (exclKeys st a) b := by
  induction a generalizing st with
  | nil => rfl
  | cons k ks ih => simp only [List.cons_append, exclKeys, ih]

/-! ### the phases of `closure` -/

def OnlyExcl (st : St) : Prop := ∀ k, st.get k = none ∨ st.get k = some .excluded

theorem find_key (idx : Index) (k : Key) (i : Info) (h : idx.find k = some i) : i.key = k := by
  unfold Index.find at h
  have := List.find?_some h
  simpa using this

theorem find_mem {idx : Index} {k : Key} {i : Info} (h : idx.find k = some i) : i ∈ idx := by
  unfold Index.find at h
  exact List.mem_of_find?_eq_some h

/-- the keys of an index entry that `excludeElement` marks: the element and its indexed descendants -/
def block (i : Info) : List Key := i.key :: i.desc

/-- the keys exclude `n` marks, in the order `excludeType` marks them: the block of the element, or —
    when `n` is a package — the blocks of its files -/
def exclList (img : Image) (idx : Index) (n : Id) : List Key :=
  match idx.find (.el n) with
  | some i => block i
  | none => (filesOfPkg img n).flatMap fun f => match idx.find (.file f.id) with
    | some i => block i
    | none => []

theorem excludeType_eq {img : Image} {idx : Index} {st st' : St} {n : Id}
    (h : excludeType img idx st n = .ok st') : st' = exclKeys st (exclList img idx n) := by
  unfold excludeType at h
  unfold exclList
  cases hf : idx.find (.el n) with
  | some i => rw [hf] at h; cases h; rfl
  | none =>
    rw [hf] at h
    simp only [] at h ⊢
    split at h
    · cases h
      generalize filesOfPkg img n = fs
      induction fs generalizing st with
      | nil => rfl
      | cons f fs ih =>
        rw [List.foldl_cons, List.flatMap_cons, exclKeys_append, ih]
        cases idx.find (.file f.id) <;> rfl
    · cases h

theorem excludePhase_eq {img : Image} {idx : Index} {st st' : St} {ns : List Id}
    (h : foldlE (excludeType img idx) st ns = .ok st') : st' = exclKeys st (ns.flatMap (exclList img idx)) := by
  induction ns generalizing st with
  | nil => simp only [foldlE, Except.ok.injEq] at h; rw [← h]; rfl
  | cons n ns ih =>
    simp only [foldlE] at h
    split at h
    · cases h
    · rename_i st1 h1
      rw [List.flatMap_cons, exclKeys_append, ← excludeType_eq h1]
      exact ih h

theorem mem_exclList {img : Image} {idx : Index} {n : Id} {k : Key} (hk : k ∈ exclList img idx n) :
    ∃ i ∈ idx, k ∈ block i ∧ ∀ k' ∈ block i, k' ∈ exclList img idx n := by
  unfold exclList at hk ⊢
  split at hk
  · rename_i i hi; exact ⟨i, find_mem hi, hk, fun _ h => h⟩
  · obtain ⟨f, hf, hk⟩ := List.mem_flatMap.mp hk
    split at hk
    · rename_i i hi
      refine ⟨i, find_mem hi, hk, fun k' hk' => List.mem_flatMap.mpr ⟨f, hf, ?_⟩⟩
      rw [hi]; exact hk'
    · cases hk

theorem excludePhase_get {img : Image} {idx : Index} {ns : List Id} {st0 : St}
    (h : foldlE (excludeType img idx) {} ns = .ok st0) (k : Key) :
    st0.get k = if k ∈ ns.flatMap (exclList img idx) then some .excluded else none := by
  rw [excludePhase_eq h, get_exclKeys]
  simp [St.get]

theorem excludePhase_onlyExcl {img : Image} {idx : Index} {ns : List Id} {st0 : St}
    (h : foldlE (excludeType img idx) {} ns = .ok st0) : OnlyExcl st0 := by
  intro k
  rw [excludePhase_get h]
  split
  · exact Or.inr rfl
  · exact Or.inl rfl

/-- The fold principle of the phases: a preorder `R` on states that every iteration respects, and a
    fact `Q a` each iteration establishes for its element and `R` keeps. -/
theorem foldlE_each {α β ε} (R : β → β → Prop) (Q : α → β → Prop) (f : β → α → Except ε β)
    (hrefl : ∀ b, R b b) (htrans : ∀ a b c, R a b → R b c → R a c)
    (hQ : ∀ a b b', Q a b → R b b' → Q a b')
    (hf : ∀ b a b', f b a = .ok b' → R b b' ∧ Q a b')
    (b b' : β) (l : List α) (h : foldlE f b l = .ok b') :
    R b b' ∧ ∀ a ∈ l, Q a b' := by
  induction l generalizing b with
  | nil => simp [foldlE] at h; subst h; exact ⟨hrefl _, by simp⟩
  | cons a as ih =>
    simp only [foldlE] at h
    split at h
    · cases h
    · rename_i b1 hb1
      obtain ⟨r1, q1⟩ := hf _ _ _ hb1
      obtain ⟨r2, q2⟩ := ih _ h
      refine ⟨htrans _ _ _ r1 r2, ?_⟩
      intro x hx
      cases hx with
      | head => exact hQ _ _ _ q1 r2
      | tail _ hx => exact q2 x hx

/-- `Runs c fuel a b`: `b` is reached from `a` by complete runs of the machine, each started on a
    single task `add k none false`.  Includes, the include-everything default and `addExtensions`
    change the state in no other way (`closure_runs`), so whatever such a run preserves holds of
    the final closure once it holds after the exclude phase. -/
inductive Runs (c : Ctx) (fuel : Nat) : St → St → Prop
  | refl (st : St) : Runs c fuel st st
  | step {st st1 st2 : St} {k : Key} :
      run c fuel st [.add k none false] = .ok st1 → Runs c fuel st1 st2 → Runs c fuel st st2

theorem Runs.single {c : Ctx} {fuel : Nat} {st st' : St} {k : Key}
    (h : run c fuel st [.add k none false] = .ok st') : Runs c fuel st st' :=
  .step h (.refl _)

theorem Runs.trans {c : Ctx} {fuel : Nat} {a b d : St} (h1 : Runs c fuel a b) (h2 : Runs c fuel b d) :
    Runs c fuel a d := by
  induction h1 with
  | refl => exact h2
  | step h _ ih => exact .step h (ih h2)

theorem Runs.pres {c : Ctx} {fuel : Nat} {a b : St} (hr : Runs c fuel a b) (P : St → Prop)
    (hrun : ∀ st st' k, run c fuel st [.add k none false] = .ok st' → P st → P st') (ha : P a) : P b := by
  induction hr with
  | refl => exact ha
  | step h _ ih => exact ih (hrun _ _ _ h ha)

theorem runs_foldlE {α} {c : Ctx} {fuel : Nat} (f : St → α → Except Err St)
    (hf : ∀ {b a b'}, f b a = .ok b' → Runs c fuel b b') {st st' : St} {l : List α}
    (h : foldlE f st l = .ok st') : Runs c fuel st st' :=
  (foldlE_each (Runs c fuel) (fun _ _ => True) f .refl (fun _ _ _ => Runs.trans) (fun _ _ _ _ _ => trivial)
    (fun _ _ _ hh => ⟨hf hh, trivial⟩) st st' l h).1

theorem includeFile_runs {c : Ctx} {fuel : Nat} {st st' : St} {f : File}
    (h : includeFile c fuel st f = .ok st') : Runs c fuel st st' := by
  unfold includeFile at h
  split at h
  · cases h
  · exact .single h

theorem includeType_el {c : Ctx} {img : Image} {o : Opts} {fuel : Nat} {st st' : St} {n : Id} {i : Info}
    (hi : c.idx.find (.el n) = some i) (h : includeType c img o fuel st n = .ok st') :
    st.isExcl i.key = false ∧ run c fuel st [.add i.key none false] = .ok st' := by
  unfold includeType at h
  rw [hi] at h
  simp only [] at h
  leaves h
  rename_i hx _ _
  exact ⟨by simpa using hx, h⟩

theorem includeType_runs {c : Ctx} {img : Image} {o : Opts} {fuel : Nat} {st st' : St} {n : Id}
    (h : includeType c img o fuel st n = .ok st') : Runs c fuel st st' := by
  cases hi : c.idx.find (.el n) with
  | some i => exact .single (includeType_el hi h).2
  | none =>
    unfold includeType at h
    rw [hi] at h
    simp only [] at h
    leaves h
    exact runs_foldlE _ includeFile_runs h

theorem includeEverything_runs {c : Ctx} {img : Image} {fuel : Nat} {st st' : St}
    (h : includeEverything c img fuel st = .ok st') : Runs c fuel st st' := by
  unfold includeEverything at h
  refine runs_foldlE _ ?_ h
  intro b a b' hb
  leaves hb
  · cases hb; exact .refl _
  · cases hb; exact .refl _
  · exact .single hb

theorem addExtensions_runs {c : Ctx} {fuel : Nat} {st st' : St}
    (h : addExtensions c fuel st = .ok st') : Runs c fuel st st' := by
  unfold addExtensions at h
  refine runs_foldlE _ ?_ h
  intro b a b' hb
  refine runs_foldlE _ ?_ hb
  intro b2 a2 b2' hb2
  split at hb2
  · cases hb2; exact .refl _
  · exact .single hb2

theorem closure_phases (cfg : Cfg) (img : Image) (o : Opts) (fuel : Nat) (st : St)
    (h : closure cfg img o fuel = .ok st) :
    ∃ st0 st1 st2,
      foldlE (excludeType img (buildIndex img)) {} o.excludes = .ok st0 ∧
      foldlE (includeType ⟨cfg, buildIndex img, o.customOpts⟩ img o fuel) st0 o.includes = .ok st1 ∧
      (if o.includes.isEmpty then includeEverything ⟨cfg, buildIndex img, o.customOpts⟩ img fuel st1 else .ok st1) = .ok st2 ∧
      (if o.knownExts then addExtensions ⟨cfg, buildIndex img, o.customOpts⟩ fuel st2 else .ok st2) = .ok st := by
  unfold closure at h
  simp only [] at h
  split at h
  · cases h
  · rename_i st0 h0
    split at h
    · cases h
    · rename_i st1 h1
      split at h
      · cases h
      · rename_i st2 h2
        exact ⟨st0, st1, st2, h0, h1, h2, h⟩

theorem includeEverythingPhase_runs {c : Ctx} {img : Image} {fuel : Nat} {b : Bool} {st st' : St}
    (h : (if b then includeEverything c img fuel st else .ok st) = .ok st') : Runs c fuel st st' := by
  split at h
  · exact includeEverything_runs h
  · cases h; exact .refl _

theorem addExtensionsPhase_runs {c : Ctx} {fuel : Nat} {b : Bool} {st st' : St}
    (h : (if b then addExtensions c fuel st else .ok st) = .ok st') : Runs c fuel st st' := by
  split at h
  · exact addExtensions_runs h
  · cases h; exact .refl _

theorem closure_runs (cfg : Cfg) (img : Image) (o : Opts) (fuel : Nat) (st : St)
    (h : closure cfg img o fuel = .ok st) :
    ∃ st0, foldlE (excludeType img (buildIndex img)) {} o.excludes = .ok st0 ∧
      Runs ⟨cfg, buildIndex img, o.customOpts⟩ fuel st0 st := by
  obtain ⟨st0, st1, st2, h0, h1, h2, h3⟩ := closure_phases cfg img o fuel st h
  exact ⟨st0, h0, (runs_foldlE _ includeType_runs h1).trans
    ((includeEverythingPhase_runs h2).trans (addExtensionsPhase_runs h3))⟩

/-! ### remapSlice: index arithmetic and the marks it leaves in the source-path trie -/

/-- The items remapSlice keeps, with the index each item had (`fr` = index of the head). -/
def keptFrom {α β} (path : List Nat) (f : List Nat → α → Option β × Marks) : List α → Nat → List β
  | [], _ => []
  | x :: xs, fr => match (f (path ++ [fr]) x).1 with
    | some y => y :: keptFrom path f xs (fr + 1)
    | none => keptFrom path f xs (fr + 1)

theorem remapSlice_items {α β} (path : List Nat) (f : List Nat → α → Option β × Marks) (xs : List α) (fr to : Nat) :
    (remapSlice path f xs fr to).1 = keptFrom path f xs fr := by
  induction xs generalizing fr to with
  | nil => rfl
  | cons x xs ih =>
    unfold remapSlice keptFrom
    cases h : f (path ++ [fr]) x with
    | mk r ms => cases r <;> simp [h, ih]

theorem keptFrom_sublist {α} (path : List Nat) (f : List Nat → α → Option α × Marks)
    (hf : ∀ p x y, (f p x).1 = some y → y = x) (xs : List α) (fr : Nat) :
    (keptFrom path f xs fr).Sublist xs := by
  induction xs generalizing fr with
  | nil => exact List.Sublist.slnil
  | cons x xs ih =>
    unfold keptFrom
    split
    · rename_i y hy
      rw [hf _ _ _ hy]
      exact (ih _).cons_cons _
    · exact (ih _).cons _

/-- The marks of a slice whose items leave no marks of their own, from the keep flags alone. -/
def sliceMarks (path : List Nat) : List Bool → Nat → Nat → Marks
  | [], _, to => if to = 0 then [(path, .deleted)] else []
  | true :: bs, fr, to => (if fr ≠ to then [(path ++ [fr], Act.moved to)] else []) ++ sliceMarks path bs (fr + 1) (to + 1)
  | false :: bs, fr, to => (path ++ [fr], Act.deleted) :: sliceMarks path bs (fr + 1) to

def flagsFrom {α β} (path : List Nat) (f : List Nat → α → Option β × Marks) : List α → Nat → List Bool
  | [], _ => []
  | x :: xs, fr => (f (path ++ [fr]) x).1.isSome :: flagsFrom path f xs (fr + 1)

theorem remapSlice_marks {α β} (path : List Nat) (f : List Nat → α → Option β × Marks)
    (hleaf : ∀ p x, (f p x).2 = []) (xs : List α) (fr to : Nat) :
    (remapSlice path f xs fr to).2 = sliceMarks path (flagsFrom path f xs fr) fr to := by
  induction xs generalizing fr to with
  | nil => rfl
  | cons x xs ih =>
    unfold remapSlice flagsFrom
    have hl := hleaf (path ++ [fr]) x
    cases h : f (path ++ [fr]) x with
    | mk r ms =>
      rw [h] at hl; simp only at hl; subst hl
      cases r <;> simp [h, sliceMarks, ih]

/-- New index of the element that had index `fr + i`: `to` plus the number of kept elements before it. -/
def newIdx : List Bool → Nat → Nat → Nat
  | _, 0, to => to
  | [], _, to => to
  | b :: bs, i + 1, to => newIdx bs i (if b then to + 1 else to)

theorem path_snoc_ne (path : List Nat) (a : Nat) : path ++ [a] ≠ path := by
  intro h
  have := congrArg List.length h
  simp at this

theorem actAt_cons (m : List Nat × Act) (ms : Marks) (p : List Nat) :
    actAt (m :: ms) p = if m.1 = p ∧ m.2 ≠ Act.noComment then some m.2 else actAt ms p := by
  unfold actAt
  rw [List.find?_cons]
  by_cases h : m.1 = p ∧ m.2 ≠ Act.noComment
  · simp [h.1, h.2]
  · rw [if_neg h]
    have : (decide (m.1 = p) && decide (m.2 ≠ Act.noComment)) = false := by simpa using h
    rw [this]

/-- One flag of a slice: its own mark sits at `path ++ [fr]` (a kept item that does not move leaves
    none), the rest of the slice goes on from `fr + 1`. -/
theorem actAt_sliceMarks_cons (path : List Nat) (b : Bool) (bs : List Bool) (fr to j : Nat) :
    actAt (sliceMarks path (b :: bs) fr to) (path ++ [j]) =
      if j = fr ∧ (b = false ∨ fr ≠ to) then some (if b then Act.moved to else Act.deleted)
      else actAt (sliceMarks path bs (fr + 1) (if b then to + 1 else to)) (path ++ [j]) := by
  cases b with
  | false => rw [sliceMarks, actAt_cons]; simp [eq_comm]
  | true =>
    rw [sliceMarks]
    split
    · rename_i hne
      rw [List.singleton_append, actAt_cons]; simp [eq_comm, hne]
    · rename_i heq
      simp [heq]

theorem actAt_sliceMarks_below (path : List Nat) (bs : List Bool) (fr to j : Nat) (hj : j < fr) :
    actAt (sliceMarks path bs fr to) (path ++ [j]) = none := by
  induction bs generalizing fr to with
  | nil =>
    unfold sliceMarks
    split
    · rw [actAt_cons]; simp [Ne.symm (path_snoc_ne path j)]; rfl
    · rfl
  | cons b bs ih => rw [actAt_sliceMarks_cons, if_neg (by omega)]; exact ih _ _ (by omega)

theorem actAt_sliceMarks (path : List Nat) (bs : List Bool) (fr to i : Nat) (hi : i < bs.length) :
    actAt (sliceMarks path bs fr to) (path ++ [fr + i]) =
      if bs[i] = false then some Act.deleted
      else if fr + i ≠ newIdx bs i to then some (Act.moved (newIdx bs i to)) else none := by
  induction bs generalizing fr to i with
  | nil => simp at hi
  | cons b bs ih =>
    rw [actAt_sliceMarks_cons]
    cases i with
    | zero =>
      cases b with
      | false => simp
      | true =>
        by_cases e : fr = to
        · subst e; simp [newIdx, actAt_sliceMarks_below path bs (fr + 1) (fr + 1) fr (Nat.lt_succ_self fr)]
        · simp [newIdx, e]
    | succ i =>
      rw [if_neg (by omega), show fr + (i + 1) = fr + 1 + i by omega, ih _ _ _ (by simpa using hi)]
      rfl

theorem actAt_of_no_node (ms : Marks) (p : List Nat) (h : hasNode ms p = false) : actAt ms p = none := by
  induction ms with
  | nil => rfl
  | cons m ms ih =>
    unfold hasNode at h
    simp only [List.any_cons, Bool.or_eq_false_iff] at h
    rw [actAt_cons]
    have : ¬ m.1 = p := by
      intro e
      have : p.isPrefixOf m.1 = true := by rw [e]; simp
      rw [this] at h; exact absurd h.1 (by simp)
    simp only [this, false_and, if_false]
    exact ih h.2

theorem noCommentAt_sliceMarks (path : List Nat) (bs : List Bool) (fr to : Nat) (p : List Nat) :
    noCommentAt (sliceMarks path bs fr to) p = false := by
  induction bs generalizing fr to with
  | nil => unfold sliceMarks; split <;> simp [noCommentAt]
  | cons b bs ih =>
    cases b with
    | true =>
      unfold sliceMarks
      have := ih (fr + 1) (to + 1)
      unfold noCommentAt at this ⊢
      split <;> simp [this]
    | false =>
      unfold sliceMarks
      have := ih (fr + 1) to
      unfold noCommentAt at this ⊢
      simp [this]

theorem noCommentAt_of_no_node (ms : Marks) (p : List Nat) (h : hasNode ms p = false) : noCommentAt ms p = false := by
  induction ms with
  | nil => rfl
  | cons m ms ih =>
    unfold hasNode at h
    simp only [List.any_cons, Bool.or_eq_false_iff] at h
    unfold noCommentAt
    simp only [List.any_cons, Bool.or_eq_false_iff]
    constructor
    · have : ¬ m.1 = p := by
        intro e
        have : p.isPrefixOf m.1 = true := by rw [e]; simp
        rw [this] at h; exact absurd h.1 (by simp)
      simp [this]
    · exact ih h.2

theorem fixPath_single (ms : Marks) (pre : List Nat) (x : Nat) :
    fixPath ms pre [x] = match actAt ms (pre ++ [x]) with
      | some .deleted => none
      | some (.moved t) => some ([t], noCommentAt ms (pre ++ [x]))
      | _ => some ([x], noCommentAt ms (pre ++ [x])) := by
  unfold fixPath
  by_cases hn : hasNode ms (pre ++ [x]) = true
  · simp only [hn, Bool.not_true, Bool.false_eq_true, if_false]
    cases h : actAt ms (pre ++ [x]) with
    | none => rfl
    | some a => cases a <;> rfl
  · have hn' : hasNode ms (pre ++ [x]) = false := by simpa using hn
    simp only [hn', Bool.not_false, if_true]
    rw [actAt_of_no_node _ _ hn', noCommentAt_of_no_node _ _ hn']

theorem fixPath_of_actAt (ms : Marks) (path : List Nat) (bs : List Bool) (i : Nat) (hi : i < bs.length)
    (hact : actAt ms (path ++ [i]) =
      if bs[i] = false then some Act.deleted
      else if i ≠ newIdx bs i 0 then some (Act.moved (newIdx bs i 0)) else none) :
    fixPath ms path [i] =
      if bs[i] = false then none else some ([newIdx bs i 0], noCommentAt ms (path ++ [i])) := by
  rw [fixPath_single, hact]
  cases bs[i] with
  | false => rfl
  | true =>
    by_cases hm : i = newIdx bs i 0
    · rw [← hm]; simp
    · simp [hm]

end BufProofs.FilterLemmas
