import BufModel.Token
import BufProofs.Lemmas.SplitLemmas
import BufProofs.Lemmas.ListLemmas
/-
  Lemmas about the credential model (C19): `splitOn` is `splitBy` of SplitLemmas; the entry parser,
  the loop of `newMultipleTokenProvider` and the constructor `newTokenProviderFromString` reaches,
  each characterised by an iff or an equation; go-netrc's grouping parser reads back plain files.
-/
namespace BufModel.Token

/-! ### splitOn -/

theorem splitOn_eq (sep : Char) : ∀ s, splitOn sep s = splitBy sep s :=
  eq_splitBy sep rfl (fun c cs l ls e => by simp [splitOn, e, consHead])

theorem splitOn_ne_nil (sep : Char) (s : Str) : splitOn sep s ≠ [] :=
  splitOn_eq sep s ▸ splitBy_ne_nil sep s

theorem join_split (sep : Char) (s : Str) : joinBy sep (splitOn sep s) = s :=
  splitOn_eq sep s ▸ joinBy_splitBy sep s

theorem split_pieces_no_sep (sep : Char) (s : Str) : ∀ p ∈ splitOn sep s, sep ∉ p :=
  splitOn_eq sep s ▸ not_mem_of_mem_splitBy sep s

theorem split_no_sep (sep : Char) (s : Str) (h : sep ∉ s) : splitOn sep s = [s] :=
  (splitOn_eq sep s).trans (splitBy_of_not_mem sep h)

theorem split_append (sep : Char) (t rest : Str) (h : sep ∉ t) :
    splitOn sep (t ++ sep :: rest) = t :: splitOn sep rest := by
  rw [splitOn_eq, splitOn_eq, splitBy_append_sep sep h]

theorem split_two (sep : Char) (t h : Str) (ht : sep ∉ t) (hh : sep ∉ h) :
    splitOn sep (t ++ sep :: h) = [t, h] := by
  rw [split_append sep t h ht, split_no_sep sep h hh]

theorem split_eq_two (sep : Char) (e t h : Str) (hs : splitOn sep e = [t, h]) :
    e = t ++ sep :: h ∧ sep ∉ t ∧ sep ∉ h := by
  have hj := join_split sep e
  have hp := split_pieces_no_sep sep e
  rw [hs] at hj hp
  simp [joinBy] at hj
  exact ⟨hj.symm, hp t (by simp), hp h (by simp)⟩

theorem split_eq_one (sep : Char) (s one : Str) (hs : splitOn sep s = [one]) :
    one = s ∧ sep ∉ s := by
  have hj := join_split sep s
  have hp := split_pieces_no_sep sep s
  rw [hs] at hj hp
  simp [joinBy] at hj
  subst hj
  exact ⟨rfl, hp one (by simp)⟩

/-! ### parseEntry -/

theorem parseEntry_ok (e h t : Str) : parseEntry e = .ok (h, t) ↔ WellFormed e t h := by
  constructor
  · intro hp
    unfold parseEntry at hp
    split at hp
    · rename_i a b hs
      split at hp
      · cases hp
      split at hp
      · cases hp
      split at hp
      · cases hp
      rename_i h1 h2 h3
      cases hp
      obtain ⟨hshape, hna, hnb⟩ := split_eq_two '@' e t h hs
      exact ⟨hshape, fun x => h1 (Or.inl x), fun x => h1 (Or.inr x), hna, hnb, h2, h3⟩
    · cases hp
  · intro w
    have hs := split_two '@' t h w.tok_no_at w.host_no_at
    rw [← w.shape] at hs
    have h1 : ¬ (t = [] ∨ h = []) := fun x => x.elim w.tok_ne w.host_ne
    simp only [parseEntry, hs]
    rw [if_neg h1, if_neg w.tok_no_colon, if_neg w.tok_no_comma]

/-! ### association lists -/

theorem lookup_none_iff (k : Str) (m : List (Str × Str)) : m.lookup k = none ↔ k ∉ m.map Prod.fst := by
  simp only [List.lookup_eq_none_iff, List.mem_map, bne_iff_ne]
  exact ⟨fun h ⟨p, hp, e⟩ => h p hp e.symm, fun h p hp e => h ⟨p, hp, e.symm⟩⟩

theorem mem_of_lookup (k v : Str) (m : List (Str × Str)) (h : m.lookup k = some v) : (k, v) ∈ m :=
  BufProofs.ListLemmas.mem_of_lookup h

theorem lookup_of_mem (k v : Str) (m : List (Str × Str)) (hnd : (m.map Prod.fst).Nodup) (h : (k, v) ∈ m) :
    m.lookup k = some v :=
  BufProofs.ListLemmas.lookup_of_mem hnd h

/-! ### newMultiple: the loop invariant -/

theorem newMultiple_cons (e : Str) (es : List Str) (acc : List (Str × Str)) :
    newMultiple (e :: es) acc =
      match parseEntry e with
      | .error x => .error x
      | .ok (h, t) =>
        if (acc.lookup h).isSome then .error .repeated else newMultiple es (acc ++ [(h, t)]) := rfl

def entryOf (p : Str × Str) : Str := p.2 ++ '@' :: p.1

theorem map_parseEntry_eq (es : List Str) (ps : List (Str × Str)) :
    es.map parseEntry = ps.map .ok ↔ es = ps.map entryOf ∧ ∀ p ∈ ps, WellFormed (entryOf p) p.2 p.1 := by
  induction es generalizing ps with
  | nil => cases ps <;> simp
  | cons e es ih =>
    cases ps with
    | nil => simp
    | cons p ps =>
      obtain ⟨h, t⟩ := p
      simp only [List.map_cons, List.cons.injEq, ih, parseEntry_ok, List.forall_mem_cons]
      constructor
      · rintro ⟨w, rfl, hw⟩
        have hs := w.shape
        subst hs
        exact ⟨⟨rfl, rfl⟩, w, hw⟩
      · rintro ⟨⟨rfl, rfl⟩, w, hw⟩
        exact ⟨w, rfl, hw⟩

theorem newMultiple_eq_ok (es : List Str) : ∀ (acc m : List (Str × Str)), (acc.map Prod.fst).Nodup →
    (newMultiple es acc = .ok m ↔
      ∃ ps, m = acc ++ ps ∧ es.map parseEntry = ps.map .ok ∧ (m.map Prod.fst).Nodup) := by
  induction es with
  | nil =>
    intro acc m hnd
    simp only [newMultiple, Except.ok.injEq, List.map_nil]
    constructor
    · rintro rfl
      exact ⟨[], by simp, rfl, hnd⟩
    · rintro ⟨ps, rfl, hps, -⟩
      cases ps <;> simp_all
  | cons e es ih =>
    intro acc m hnd
    rw [newMultiple_cons]
    cases hp : parseEntry e with
    | error x =>
      simp only [List.map_cons, hp, reduceCtorEq, false_iff]
      rintro ⟨ps, -, hps, -⟩
      cases ps <;> simp at hps
    | ok p =>
      obtain ⟨h, t⟩ := p
      simp only [List.map_cons, hp]
      by_cases hl : (acc.lookup h).isSome
      · -- the host is in the table already: the code reports `repeated`, and no table extends `acc` by it
        simp only [hl, if_true, reduceCtorEq, false_iff]
        rintro ⟨ps, rfl, hps, hn⟩
        cases ps with
        | nil => simp at hps
        | cons q ps =>
          simp only [List.map_cons, List.cons.injEq, Except.ok.injEq] at hps
          have hm : h ∈ acc.map Prod.fst := by
            apply Classical.byContradiction
            intro hn
            rw [(lookup_none_iff h acc).mpr hn] at hl
            simp at hl
          rw [← hps.1, List.map_append, List.nodup_append] at hn
          exact hn.2.2 h hm h (by simp) rfl
      · have hnot := (lookup_none_iff h acc).mp (Option.not_isSome_iff_eq_none.mp hl)
        have hnd' : ((acc ++ [(h, t)]).map Prod.fst).Nodup := by
          rw [List.map_append, List.nodup_append]
          exact ⟨hnd, by simp, fun a ha b hb => by simp at hb; exact hb ▸ fun e => hnot (e ▸ ha)⟩
        rw [if_neg hl, ih _ m hnd']
        constructor
        · rintro ⟨ps, rfl, hps, hn⟩
          exact ⟨(h, t) :: ps, by simp, by simp [hps], hn⟩
        · rintro ⟨ps, rfl, hps, hn⟩
          cases ps with
          | nil => simp at hps
          | cons q ps =>
            simp only [List.map_cons, List.cons.injEq, Except.ok.injEq] at hps
            exact ⟨ps, by simp [hps.1], hps.2, hn⟩

theorem multiOf_eq_ok (es : List Str) (p : Provider) :
    multiOf es = .ok p ↔ ∃ m, p = .multi m ∧ es.map parseEntry = m.map .ok ∧ (m.map Prod.fst).Nodup := by
  have key := fun m => newMultiple_eq_ok es [] m List.nodup_nil
  simp only [List.nil_append, exists_eq_left'] at key
  simp only [← key]
  unfold multiOf
  cases newMultiple es [] with
  | error e => simp
  | ok m0 => simp [eq_comm]

/-! ### newTokenProvider: which constructor is reached -/

/-- `newTokenProviderFromString` without its unreachable branches: which constructor is reached -/
theorem newTokenProvider_eq (s : Str) :
    newTokenProvider s =
      if s = [] then .ok .nop else if '@' ∈ s ∨ ',' ∈ s then multiOf (splitOn ',' s) else .ok (.single s) := by
  unfold newTokenProvider
  split
  · rfl
  · rename_i hs
    cases hsp : splitOn ',' s with
    | nil => exact absurd hsp (splitOn_ne_nil ',' s)
    | cons a r =>
      cases r with
      | nil =>
        obtain ⟨rfl, hnc⟩ := split_eq_one ',' s a hsp
        by_cases hat : '@' ∈ a <;> simp [hat, hnc, hs, newSingle]
      | cons b r2 =>
        have : ',' ∈ s := Classical.byContradiction fun hnc => by simp [split_no_sep ',' s hnc] at hsp
        simp [this]

theorem newTokenProvider_multi (s : Str) (m : List (Str × Str)) :
    newTokenProvider s = .ok (.multi m) ↔
      ('@' ∈ s ∨ ',' ∈ s) ∧ splitOn ',' s = m.map entryOf ∧ (∀ p ∈ m, WellFormed (entryOf p) p.2 p.1) ∧
        (m.map Prod.fst).Nodup := by
  rw [newTokenProvider_eq]
  by_cases hs : s = []
  · subst hs
    simp
  · by_cases hsep : '@' ∈ s ∨ ',' ∈ s
    · simp [hs, hsep, multiOf_eq_ok, map_parseEntry_eq, and_assoc]
    · simp [hs, hsep]

/-! ### go-netrc grouping parser on plain files -/

theorem parseToks_machine (rest : List Str) (acc : List Machine) (nm : Str) (h : rest[1]? = some nm) :
    parseToks (kwMachine :: rest) acc =
      parseToks rest ({ name := nm, isDefault := false, tokens := [kwMachine] } :: acc) := by
  simp [parseToks, h]

theorem parseToks_default (rest : List Str) (acc : List Machine) :
    parseToks (kwDefault :: rest) acc =
      parseToks rest ({ name := kwDefault, isDefault := true, tokens := [kwDefault] } :: acc) := by
  have : kwDefault ≠ kwMachine := by decide
  simp [parseToks, this]

theorem parseToks_words (ws rest : List Str) (m : Machine) (ms : List Machine)
    (h : ∀ w ∈ ws, w ≠ kwMachine ∧ w ≠ kwDefault) :
    parseToks (ws ++ rest) (m :: ms) = parseToks rest ({ m with tokens := m.tokens ++ ws } :: ms) := by
  induction ws generalizing m with
  | nil => simp
  | cons w ws ih =>
    have hw := h w List.mem_cons_self
    simp [parseToks, hw.1, hw.2, ih _ fun x hx => h x (List.mem_cons_of_mem _ hx)]

theorem parseToks_entry (e : Entry) (hp : e.Plain) (rest : List Str) (acc : List Machine) :
    parseToks (e.render ++ rest) acc = parseToks rest (e.toMachine :: acc) := by
  obtain ⟨hn, hl1, hl2, hp1, hp2⟩ := hp
  have kw : ∀ w ∈ [sp, nl, kwLogin, kwPassword], w ≠ kwMachine ∧ w ≠ kwDefault := by decide
  simp only [List.forall_mem_cons] at kw
  cases hname : e.name with
  | some n =>
    have := parseToks_words [sp, n, sp, kwLogin, sp, e.login, sp, kwPassword, sp, e.password, nl] rest
      ⟨n, false, [kwMachine]⟩ acc (by simp [kw, hn n hname, hl1, hl2, hp1, hp2])
    simpa [Entry.render, Entry.toMachine, hname, parseToks_machine _ _ n] using this
  | none =>
    have := parseToks_words [sp, kwLogin, sp, e.login, sp, kwPassword, sp, e.password, nl] rest
      ⟨kwDefault, true, [kwDefault]⟩ acc (by simp [kw, hl1, hl2, hp1, hp2])
    simpa [Entry.render, Entry.toMachine, hname, parseToks_default] using this

theorem parseToks_entries (es : List Entry) : ∀ (acc : List Machine), (∀ e ∈ es, e.Plain) →
    parseToks (renderEntries es) acc = .ok (acc.reverse ++ es.map Entry.toMachine) := by
  induction es with
  | nil => intro acc _; simp [renderEntries, parseToks]
  | cons e es ih =>
    intro acc hp
    have : renderEntries (e :: es) = e.render ++ renderEntries es := by simp [renderEntries]
    rw [this, parseToks_entry e (hp e (by simp)), ih _ (fun x hx => hp x (by simp [hx]))]
    simp

theorem toMachine_password (e : Entry) : e.toMachine.get kwPassword = e.password := by
  have : kwLogin ≠ kwPassword := by decide
  cases hname : e.name with
  | some n => simp [Entry.toMachine, Machine.get, Entry.render, hname, getLoop, this]
  | none => simp [Entry.toMachine, Machine.get, Entry.render, hname, getLoop, this]

theorem findMachine_exact (es : List Entry) (host : Str) (hd : host ≠ kwDefault) :
    findMachine (es.map Entry.toMachine) host = (es.find? (fun e => e.name = some host)).map Entry.toMachine := by
  rw [findMachine, List.find?_map]
  congr 2
  funext e
  cases hname : e.name <;> simp [Entry.toMachine, hname, Ne.symm hd]

theorem findMachine_default (es : List Entry) (hp : ∀ e ∈ es, e.name ≠ some kwDefault) :
    findMachine (es.map Entry.toMachine) kwDefault = (es.find? (fun e => e.name = none)).map Entry.toMachine := by
  rw [findMachine, List.find?_map]
  congr 1
  induction es with
  | nil => rfl
  | cons e es ih =>
    have hn : ∀ n, e.name = some n → n ≠ kwDefault := fun n h e' => hp e List.mem_cons_self (e' ▸ h)
    rw [List.find?_cons, List.find?_cons, ih fun x hx => hp x (List.mem_cons_of_mem _ hx)]
    cases hname : e.name <;> simp [Entry.toMachine, hname, hn]

theorem lookupOwn_some {own : List (Nat × Str)} {i : Nat} {a : Str} (h : lookupOwn own i = some a) : (i, a) ∈ own := by
  unfold lookupOwn at h
  cases hf : own.find? (fun p => p.1 = i) with
  | none => rw [hf] at h; cases h
  | some p =>
    rw [hf] at h
    have hp : p.1 = i := by simpa using List.find?_some hf
    exact hp ▸ Option.some.inj h ▸ List.mem_of_find?_eq_some hf

end BufModel.Token
