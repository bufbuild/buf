import BufProofs.Lemmas.LintLemmas
/-
  C05 — SET-LEVEL SPECIFICATIONS: for any number of violations, the annotations of a rule are
  exactly the violations of its specification.

  * per-element rules: an annotation ⇔ an enumerated element of a target file whose coded
    predicate holds;
  * the nine grouping rules: a file is annotated ⇔ some file with the same key has a different
    value — two files of one package with different option X ⇒ ALL files of that package are
    annotated;
  * RPC_REQUEST_RESPONSE_UNIQUE (`RpcViolation`), STABLE_PACKAGE_NO_IMPORT_UNSTABLE;
  * PACKAGE_NO_IMPORT_CYCLE: unfolded down to the fuelled search `reaches`, as coded; that this
    search decides reachability in the package graph is `reaches_iff_walk` (Props/C05Cycle.lean).
  * every annotation is `ann r f p` for a target file `f`.
-/
namespace BufModel.Lint
open BufModel.Case

/-! ### per-element rules -/

theorem mem_runRule_elem_iff (o : Options) (w : Schema) (r : Rule) (er : ElemRule) (he : elemRule r = some er)
    (a : Annotation) :
    a ∈ runRule o w r ↔ ∃ f ∈ w, f.isImport = false ∧ ∃ e ∈ er.els f, er.bad o e = true ∧ a = ann r f (er.loc e) := by
  constructor
  · rw [runRule_elem o w r er he]
    simp only [List.mem_flatMap, List.mem_map, ElemRule.flagged, List.mem_filter, nonImport, Bool.not_eq_true']
    rintro ⟨f, ⟨hf, hni⟩, _, ⟨e, ⟨hmem, hbad⟩, rfl⟩, rfl⟩
    exact ⟨f, hf, hni, e, hmem, hbad, rfl⟩
  · rintro ⟨f, hf, hni, e, hmem, hbad, rfl⟩
    exact mem_runRule_of_bad o w r er he f hf hni e hmem hbad

/-! ### dedup -/

theorem dedup_cons (x : Str) (xs : List Str) :
    dedup (x :: xs) = if (dedup xs).contains x then dedup xs else x :: dedup xs := rfl

theorem mem_dedup (xs : List Str) (y : Str) : y ∈ dedup xs ↔ y ∈ xs := by
  induction xs with
  | nil => simp [dedup]
  | cons x t ih =>
    rw [dedup_cons]
    split
    · next hc =>
      have hx : x ∈ dedup t := by simpa using hc
      constructor
      · intro h; exact List.mem_cons_of_mem _ (ih.mp h)
      · intro h
        simp only [List.mem_cons] at h
        rcases h with rfl | h
        · exact hx
        · exact ih.mpr h
    · simp only [List.mem_cons, ih]

theorem dedup_length_gt_one_iff (xs : List Str) :
    (dedup xs).length > 1 ↔ ∃ x ∈ xs, ∃ y ∈ xs, x ≠ y := by
  constructor
  · intro h
    apply Classical.byContradiction
    intro hn
    have : (dedup xs).length ≤ 1 := dedup_length_le_one xs (fun x hx y hy =>
      Classical.byContradiction fun hne => hn ⟨x, hx, y, hy, hne⟩)
    omega
  · rintro ⟨x, hx, y, hy, hne⟩
    have hx' := (mem_dedup xs x).mpr hx
    have hy' := (mem_dedup xs y).mpr hy
    match hd : dedup xs, hx', hy' with
    | [], h, _ => simp at h
    | [a], h1, h2 =>
      simp only [List.mem_singleton] at h1 h2
      exact absurd (h1.trans h2.symm) hne
    | _ :: _ :: _, _, _ => simp

/-! ### the grouping rules -/

/-- **Set-level specification of the nine grouping rules** (PACKAGE_SAME_<option> ×7,
    PACKAGE_SAME_DIRECTORY, DIRECTORY_SAME_PACKAGE).  A file `g` is annotated (at `loc g`) exactly
    when some file with the same `key` has a different `val`; nothing else is reported.  Hence: two
    files of one package with different option values ⇒ every file of that package is annotated. -/
theorem mem_groupRule_iff (r : Rule) (files : List File) (key val : File → Str) (loc : File → List Nat)
    (a : Annotation) :
    a ∈ groupRule r files key val loc ↔
      ∃ g ∈ files, a = ann r g (loc g) ∧ ∃ g' ∈ files, key g' = key g ∧ val g' ≠ val g := by
  unfold groupRule
  simp only [List.mem_flatMap, mem_dedup, List.mem_ite_nil_right, dedup_length_gt_one_iff, List.mem_map, List.mem_filter,
    beq_iff_eq]
  constructor
  · rintro ⟨k, -, ⟨_, ⟨g1, ⟨h1, rfl⟩, rfl⟩, _, ⟨g2, ⟨h2, k2⟩, rfl⟩, hne⟩, g, ⟨hg, kg⟩, rfl⟩
    refine ⟨g, hg, rfl, ?_⟩
    -- of two files of the group with different values, one differs from `g`
    by_cases e : val g1 = val g
    · exact ⟨g2, h2, k2.trans kg.symm, fun e2 => hne (e.trans e2.symm)⟩
    · exact ⟨g1, h1, kg.symm, e⟩
  · rintro ⟨g, hg, rfl, g', hg', hk, hv⟩
    exact ⟨key g, ⟨g, hg, rfl⟩, ⟨_, ⟨g', ⟨hg', hk⟩, rfl⟩, _, ⟨g, ⟨hg, rfl⟩, rfl⟩, hv⟩, g, ⟨hg, rfl⟩, rfl⟩

theorem groupRule_nil_iff (r : Rule) (files : List File) (key val : File → Str) (loc : File → List Nat) :
    groupRule r files key val loc = [] ↔ groupClean files key val = true := by
  constructor
  · intro h
    rw [groupClean_iff]
    intro g hg g' hg' e
    apply Classical.byContradiction
    intro hne
    have : ann r g (loc g) ∈ groupRule r files key val loc :=
      (mem_groupRule_iff r files key val loc _).mpr ⟨g, hg, rfl, g', hg', e.symm, fun e2 => hne e2.symm⟩
    rw [h] at this
    simp at this
  · exact groupRule_nil r files key val loc

/-! ### RPC_REQUEST_RESPONSE_UNIQUE -/

def usesType (t : Str) (x : RpcRow) : Bool := x.inType == t || x.outType == t

/-- The documented meaning of RPC_REQUEST_RESPONSE_UNIQUE for one RPC `x` of the method table `ms`:
    (1) request and response type are the same message — unless `rpc_allow_same_request_response`,
    or it is google.protobuf.Empty and BOTH allow_google_protobuf_empty_* options are set; or
    (2) a type `t` that `x` uses is used by at least two RPCs — where google.protobuf.Empty, when at
    least one allow_* option is set, only counts on the side(s) the options do NOT allow: `x` must
    have Empty on such a side, and at least two RPCs must. -/
def RpcViolation (o : Options) (ms : List RpcRow) (x : RpcRow) : Prop :=
  (o.rpcAllowSameRequestResponse = false ∧ x.inType = x.outType ∧
    ¬(x.inType = emptyType ∧ o.rpcAllowGoogleProtobufEmptyRequests = true ∧
      o.rpcAllowGoogleProtobufEmptyResponses = true)) ∨
  (∃ t, usesType t x = true ∧ 2 ≤ (ms.filter (usesType t)).length ∧
    ((¬(t = emptyType ∧ (o.rpcAllowGoogleProtobufEmptyRequests = true ∨ o.rpcAllowGoogleProtobufEmptyResponses = true))) ∨
     (t = emptyType ∧ o.rpcAllowGoogleProtobufEmptyRequests = false ∧ o.rpcAllowGoogleProtobufEmptyResponses = true ∧
        x.inType = emptyType ∧ 2 ≤ (ms.filter (fun y => y.inType == emptyType)).length) ∨
     (t = emptyType ∧ o.rpcAllowGoogleProtobufEmptyResponses = false ∧ o.rpcAllowGoogleProtobufEmptyRequests = true ∧
        x.outType = emptyType ∧ 2 ≤ (ms.filter (fun y => y.outType == emptyType)).length)))

theorem filter_filter_sub {α} (l : List α) (p q : α → Bool) (h : ∀ x, q x = true → p x = true) :
    (l.filter p).filter q = l.filter q := by
  rw [List.filter_filter]
  apply List.filter_congr
  intro x _
  cases hq : q x
  · simp
  · simp [h x hq]

theorem filter_or_filter_left {α} (l : List α) (p q : α → Bool) :
    (l.filter fun x => p x || q x).filter p = l.filter p :=
  filter_filter_sub l _ _ (fun x hx => by simp [hx])

theorem filter_or_filter_right {α} (l : List α) (p q : α → Bool) :
    (l.filter fun x => p x || q x).filter q = l.filter q :=
  filter_filter_sub l _ _ (fun x hx => by simp [hx])

theorem mem_rpcUniqueT_iff (o : Options) (ms : List RpcRow) (a : Annotation) :
    a ∈ rpcUniqueT o ms ↔ ∃ x ∈ ms, a = x.ann ∧ RpcViolation o ms x := by
  unfold rpcUniqueT RpcViolation
  -- the code read as a proposition: `if c then l else []` is `c ∧ a ∈ l`, membership in a
  -- `flatMap` / `map` / `filter` an existential; what is left of the code is the `if` on the type
  simp only [List.mem_append, List.mem_flatMap, apply_ite (a ∈ ·), List.not_mem_nil, if_false_left, if_false_right,
    List.mem_singleton, List.mem_map, List.mem_filter, mem_dedup, Bool.and_eq_true, Bool.or_eq_true, beq_iff_eq,
    Bool.not_eq_true', decide_eq_true_eq, usesType]
  constructor
  · rintro (⟨hs, x, hx, ⟨hio, hc⟩, rfl⟩ | ⟨t, -, hlen, ht⟩)
    · exact ⟨x, hx, rfl, Or.inl ⟨by simpa using hs, hio, fun hcon => by simp [hcon] at hc⟩⟩
    · have hlen2 : 2 ≤ (ms.filter (usesType t)).length := Nat.lt_of_not_le hlen
      split at ht
      · next hsp =>
        obtain ⟨rfl, hallow⟩ := hsp
        rw [filter_or_filter_left, filter_or_filter_right] at ht
        rcases ht with ⟨-, ⟨⟨hf, hcnt⟩, x, ⟨⟨hx, hu⟩, hin⟩, rfl⟩ | ⟨⟨hf, hcnt⟩, x, ⟨⟨hx, hu⟩, hout⟩, rfl⟩⟩
        · exact ⟨x, hx, rfl, Or.inr ⟨_, hu, hlen2, Or.inr (Or.inl
            ⟨rfl, hf, hallow.resolve_left (by simp [hf]), hin, hcnt⟩)⟩⟩
        · exact ⟨x, hx, rfl, Or.inr ⟨_, hu, hlen2, Or.inr (Or.inr
            ⟨rfl, hf, hallow.resolve_right (by simp [hf]), hout, hcnt⟩)⟩⟩
      · next hsp =>
        obtain ⟨x, ⟨hx, hu⟩, rfl⟩ := ht
        exact ⟨x, hx, rfl, Or.inr ⟨t, hu, hlen2, Or.inl hsp⟩⟩
  · rintro ⟨x, hx, rfl, ⟨hs, hio, hne⟩ | ⟨t, hu, hlen, hcase⟩⟩
    · exact Or.inl ⟨by simp [hs], x, hx, ⟨hio, by simpa using hne⟩, rfl⟩
    · refine Or.inr ⟨t, ⟨x, hx, by simpa [eq_comm (a := t)] using hu⟩, Nat.not_le_of_lt hlen, ?_⟩
      rcases hcase with hns | ⟨rfl, hreqf, hrespt, hin, hcnt⟩ | ⟨rfl, hrespf, hreqt, hout, hcnt⟩
      · rw [if_neg hns]
        exact ⟨x, ⟨hx, hu⟩, rfl⟩
      · rw [if_pos ⟨rfl, Or.inr hrespt⟩, filter_or_filter_left]
        exact ⟨by simp [hreqf], Or.inl ⟨⟨hreqf, hcnt⟩, x, ⟨⟨hx, hu⟩, hin⟩, rfl⟩⟩
      · rw [if_pos ⟨rfl, Or.inl hreqt⟩, filter_or_filter_right]
        exact ⟨by simp [hrespf], Or.inr ⟨⟨hrespf, hcnt⟩, x, ⟨⟨hx, hu⟩, hout⟩, rfl⟩⟩

/-! ### STABLE_PACKAGE_NO_IMPORT_UNSTABLE -/

/-- **Set-level specification of STABLE_PACKAGE_NO_IMPORT_UNSTABLE**: import number `i` of a
    target file `f` is annotated exactly when `f`'s package is stable and the import resolves
    (among the target files) to a file whose package is versioned and unstable. -/
theorem mem_stableNoUnstable_iff (w : Schema) (a : Annotation) :
    a ∈ stableNoUnstable w ↔ ∃ f ∈ nonImport w, isStable f.pkg = some true ∧
      ∃ i imp, (i, imp) ∈ indexed f.imports ∧ ∃ g, findFile (nonImport w) imp.path = some g ∧
        isStable g.pkg = some false ∧ a = ann .STABLE_PACKAGE_NO_IMPORT_UNSTABLE f [3, i] := by
  unfold stableNoUnstable
  simp only [List.mem_flatMap, List.mem_ite_nil_left, Prod.exists, bne_iff_ne, ne_eq, Decidable.not_not]
  constructor
  · rintro ⟨f, hf, hst, i, imp, himp, ha⟩
    split at ha
    · cases ha
    · next g hg => exact ⟨f, hf, hst, i, imp, himp, g, hg, by simpa using ha⟩
  · rintro ⟨f, hf, hst, i, imp, himp, g, hg, hus, rfl⟩
    exact ⟨f, hf, hst, i, imp, himp, by simp [hg, hus]⟩

/-! ### PACKAGE_NO_IMPORT_CYCLE -/

/-- one step of the coded search, read as a proposition -/
theorem reaches_succ_iff (w : Schema) (t : Str) (fuel : Nat) (used : List Str) (cur : Str) :
    reaches w t (fuel + 1) used cur = true ↔ cur = t ∨ (cur ∉ used ∧
      ∃ nxt ∈ pkgEdges w cur, nxt.isEmpty = false ∧ reaches w t fuel (cur :: used) nxt = true) := by
  by_cases hc : cur = t <;> simp [reaches, hc]

/-- unfolding of `importCycle` down to the coded search `reaches` (what that search decides:
    `reaches_iff_walk`, Props/C05Cycle.lean) -/
theorem mem_importCycle_iff (w : Schema) (a : Annotation) :
    a ∈ importCycle w ↔ ∃ f ∈ nonImport w, f.pkg.isEmpty = false ∧
      ∃ i imp, (i, imp) ∈ indexed f.imports ∧ ∃ g, findFile w imp.path = some g ∧
        (g.pkg == f.pkg || g.pkg.isEmpty) = false ∧
        reaches w f.pkg (w.length + 1) [f.pkg] g.pkg = true ∧ a = ann .PACKAGE_NO_IMPORT_CYCLE f [3, i] := by
  unfold importCycle
  simp only [List.mem_flatMap, List.mem_ite_nil_left, Prod.exists, Bool.not_eq_true]
  constructor
  · rintro ⟨f, hf, hpk, i, imp, himp, ha⟩
    split at ha
    · cases ha
    · next g hg => exact ⟨f, hf, hpk, i, imp, himp, g, hg, by simpa using ha⟩
  · rintro ⟨f, hf, hpk, i, imp, himp, g, hg, hne, hre, rfl⟩
    exact ⟨f, hf, hpk, i, imp, himp, by simp [hg, hne, hre]⟩

/-! ### every annotation is `ann r f p` for a target file `f` -/

theorem rpcTable_files (w : Schema) (x : RpcRow) (h : x ∈ rpcTable w) :
    ∃ f ∈ nonImport w, x.file = f.path := by
  unfold rpcTable at h
  obtain ⟨f, hf, hx⟩ := List.mem_flatMap.mp h
  obtain ⟨y, _, rfl⟩ := List.mem_map.mp hx
  exact ⟨f, hf, rfl⟩

theorem globalRule_shape (o : Options) (w : Schema) (r : Rule) (a : Annotation) (h : a ∈ globalRule o w r) :
    ∃ f ∈ nonImport w, ∃ p, a = ann r f p := by
  cases r <;> simp only [globalRule, List.not_mem_nil] at h
  case PACKAGE_NO_IMPORT_CYCLE =>
    obtain ⟨f, hf, _, i, _, _, _, _, _, _, rfl⟩ := (mem_importCycle_iff w a).mp h
    exact ⟨f, hf, _, rfl⟩
  case STABLE_PACKAGE_NO_IMPORT_UNSTABLE =>
    obtain ⟨f, hf, _, i, _, _, _, _, _, rfl⟩ := (mem_stableNoUnstable_iff w a).mp h
    exact ⟨f, hf, _, rfl⟩
  case RPC_REQUEST_RESPONSE_UNIQUE =>
    obtain ⟨x, hx, rfl, _⟩ := (mem_rpcUniqueT_iff o _ a).mp (rpcUniqueCoded_sub o w a h)
    obtain ⟨f, hf, e⟩ := rpcTable_files w x hx
    exact ⟨f, hf, x.path, by rw [RpcRow.ann, ann, e]⟩
  all_goals
    obtain ⟨g, hg, rfl, _⟩ := (mem_groupRule_iff _ _ _ _ _ a).mp h
    exact ⟨g, hg, _, rfl⟩

theorem runRule_shape (o : Options) (w : Schema) (r : Rule) (a : Annotation) (h : a ∈ runRule o w r) :
    ∃ f ∈ nonImport w, ∃ p, a = ann r f p := by
  cases he : elemRule r with
  | some er =>
    rw [runRule_elem o w r er he] at h
    obtain ⟨f, hf, ha⟩ := List.mem_flatMap.mp h
    obtain ⟨p, _, rfl⟩ := List.mem_map.mp ha
    exact ⟨f, hf, p, rfl⟩
  | none =>
    rw [runRule_global o w r he] at h
    exact globalRule_shape o w r a h

theorem runRule_files (o : Options) (w : Schema) (r : Rule) (a : Annotation) (h : a ∈ runRule o w r) :
    ∃ f ∈ nonImport w, a.file = f.path := by
  obtain ⟨f, hf, p, rfl⟩ := runRule_shape o w r a h
  exact ⟨f, hf, rfl⟩

theorem runRule_rule (o : Options) (w : Schema) (r : Rule) (a : Annotation) (h : a ∈ runRule o w r) :
    a.rule = r := by
  obtain ⟨f, _, p, rfl⟩ := runRule_shape o w r a h
  rfl

theorem mem_lint_iff (o : Options) (rules : List Rule) (w : Schema) (a : Annotation) :
    a ∈ lint o rules w ↔ a.rule ∈ rules ∧ a ∈ runRule o w a.rule := by
  unfold lint
  constructor
  · intro h
    obtain ⟨r, hr, ha⟩ := List.mem_flatMap.mp h
    have := runRule_rule o w r a ha
    subst this
    exact ⟨hr, ha⟩
  · rintro ⟨hr, ha⟩
    exact List.mem_flatMap.mpr ⟨_, hr, ha⟩

theorem mem_lint_rule_iff (o : Options) (rules : List Rule) (w : Schema) (r : Rule) (a : Annotation) :
    (a ∈ lint o rules w ∧ a.rule = r) ↔ r ∈ rules ∧ a ∈ runRule o w r := by
  rw [mem_lint_iff]
  exact ⟨fun ⟨⟨hr, ha⟩, e⟩ => e ▸ ⟨hr, ha⟩, fun ⟨hr, ha⟩ =>
    have e := runRule_rule o w r a ha; ⟨⟨e ▸ hr, e ▸ ha⟩, e⟩⟩

end BufModel.Lint
