import BufModel.Targeting
/-
  Inversion of the image assembly of `BufModel.Targeting` (C01): `checkAndSortFiles` as one conditional,
  what a successful `buildImage` went through, `newImage.go` accepts only pairwise distinct paths.
-/
namespace BufModel.Targeting
open BufModel.Path BufModel.Graph

theorem dedup_length_le {β : Type} [DecidableEq β] (l : List β) : (dedup l).length ≤ l.length := by
  induction l with
  | nil => simp [dedup]
  | cons x xs ih =>
    simp only [dedup]
    split
    · simp only [List.length_cons]; omega
    · simp only [List.length_cons]; omega

theorem dedup_length_eq_iff {β : Type} [DecidableEq β] (l : List β) : (dedup l).length = l.length ↔ l.Nodup := by
  induction l with
  | nil => simp [dedup]
  | cons x xs ih =>
    simp only [dedup, List.nodup_cons]
    split
    · rename_i h
      have := dedup_length_le xs
      constructor
      · intro he; simp only [List.length_cons] at he; omega
      · intro hn; exact absurd h hn.1
    · rename_i h
      simp only [List.length_cons, Nat.add_right_cancel_iff]
      rw [ih]
      exact ⟨fun hn => ⟨h, hn⟩, fun hn => hn.2⟩

theorem checkAndSortFiles_eq (c roots : List Str) : checkAndSortFiles c roots =
    if c.length = roots.length ∧ (∀ x ∈ c, x ≠ []) ∧ c.Nodup ∧ ∀ r ∈ roots, r ∈ c then .ok roots
    else .error .sortMismatch := by
  unfold checkAndSortFiles
  by_cases h1 : c.length = roots.length
  · rw [if_neg (fun h => h h1)]
    by_cases h2 : c.any (· = []) = true
    · rw [if_pos h2, if_neg]
      rintro ⟨_, hne, _⟩
      obtain ⟨x, hx, he⟩ := List.any_eq_true.mp h2
      exact hne x hx (by simpa using he)
    · rw [if_neg h2]
      by_cases h3 : (dedup c).length ≠ c.length
      · rw [if_pos h3, if_neg]
        rintro ⟨_, _, hnd, _⟩
        exact h3 ((dedup_length_eq_iff c).mpr hnd)
      · rw [if_neg h3]
        by_cases h4 : roots.all (fun r => decide (r ∈ c)) = true
        · rw [if_pos h4, if_pos]
          exact ⟨h1, fun x hx he => h2 (List.any_eq_true.mpr ⟨x, hx, by simpa using he⟩),
            (dedup_length_eq_iff c).mp (Classical.not_not.mp h3), by simpa using h4⟩
        · rw [if_neg h4, if_neg]
          rintro ⟨_, _, _, h⟩
          exact h4 (by simpa using h)
  · rw [if_pos h1, if_neg]
    exact fun h => h1 h.1

theorem checkAndSortFiles_ok {compiled roots sorted : List Str}
    (h : checkAndSortFiles compiled roots = .ok sorted) : sorted = roots := by
  rw [checkAndSortFiles_eq] at h
  split at h
  · injection h with h; exact h.symm
  · cases h

theorem checkAndSortFiles_error {compiled roots : List Str} {e : BErr}
    (h : checkAndSortFiles compiled roots = .error e) : e = .sortMismatch := by
  rw [checkAndSortFiles_eq] at h
  split at h
  · cases h
  · injection h with h; exact h.symm

theorem checkAndSortFiles_perm {c c' roots : List Str} (hp : c.Perm c') :
    checkAndSortFiles c roots = checkAndSortFiles c' roots := by
  rw [checkAndSortFiles_eq, checkAndSortFiles_eq]
  simp only [hp.length_eq, hp.nodup_iff, hp.mem_iff]

theorem newImage_ok {files fs : List ImgFile} (h : newImage files = .ok fs) : fs = files := by
  unfold newImage at h
  split at h; · exact absurd h (by simp)
  split at h
  · exact absurd h (by simp)
  · injection h with h; exact h.symm

theorem mkImgFile_path (ws : WS) (c : Compiler) (r : List Str) (p : Str) : (mkImgFile ws c r p).path = p := rfl

theorem map_mk_path (ws : WS) (c : Compiler) (r : List Str) (l : List Str) :
    (l.map (mkImgFile ws c r)).map (·.path) = l := by
  induction l with
  | nil => rfl
  | cons x xs ih => simp [mkImgFile_path, ih]

theorem buildImage_ok {t : TWS} {c : Compiler} {perm : List Str → List Str} {img : List ImgFile}
    (h : buildImage t c perm = .ok img) :
    ∃ roots vis, targetList t = .ok roots ∧
      dfsRoots (csucc t.ws c) ((allPaths t.ws).length + roots.length + 1) roots = .ok (vis, img.map (·.path)) ∧
      isTopo (csucc t.ws c) [] (img.map (·.path)) = true ∧
      ∀ f ∈ img, f = mkImgFile t.ws c roots f.path := by
  unfold buildImage at h
  split at h; · exact absurd h (by simp)
  rename_i roots hroots
  split at h
  · exact absurd h (by simp)
  · exact absurd h (by simp)
  · rename_i vis closure hdfs
    split at h; · exact absurd h (by simp)
    rename_i htopo
    split at h; · exact absurd h (by simp)
    rename_i sorted hsort
    cases checkAndSortFiles_ok hsort
    rw [hdfs] at h
    cases newImage_ok h
    rw [map_mk_path]
    refine ⟨_, vis, hroots, hdfs, by simpa using htopo, fun f hf => ?_⟩
    obtain ⟨p, _, rfl⟩ := List.mem_map.mp hf
    rfl

theorem newImage_go_nodup : ∀ (files : List ImgFile) (seen : List Str) (commits : List (Nat × Nat)),
    newImage.go files seen commits = .ok () → (files.map (·.path)).Nodup ∧ ∀ f ∈ files, f.path ∉ seen := by
  intro files
  induction files with
  | nil => intros; simp
  | cons f fs ih =>
    intro seen commits h
    simp only [newImage.go] at h
    split at h; · exact absurd h (by simp)
    rename_i hnot
    have key : ∀ commits', newImage.go fs (f.path :: seen) commits' = .ok () →
        ((f :: fs).map (·.path)).Nodup ∧ ∀ g ∈ f :: fs, g.path ∉ seen := by
      intro commits' h'
      obtain ⟨hnd, hns⟩ := ih (f.path :: seen) commits' h'
      refine ⟨?_, ?_⟩
      · simp only [List.map_cons, List.nodup_cons]
        refine ⟨?_, hnd⟩
        intro hm
        obtain ⟨g, hg, hgp⟩ := List.mem_map.mp hm
        exact hns g hg (by rw [hgp]; exact List.mem_cons_self)
      · intro g hg
        rcases List.mem_cons.mp hg with h | h
        · subst h; exact hnot
        · exact fun hh => hns g h (List.mem_cons_of_mem _ hh)
    split at h
    · exact key _ h
    · split at h
      · split at h
        · exact absurd h (by simp)
        · exact key _ h
      · exact key _ h

end BufModel.Targeting
