import BufProofs.Lemmas.BreakingDetect
import BufProofs.Lemmas.BreakingDecide
/-
  Witness schemas for the non-vacuity examples of Props/C03.lean and Props/C04.lean.

  `wPrev → wCur` is ONE pair of schemas (5 → 4 files, nesting depth 3, two packages) in which every
  edit family of C03 occurs at the same time, each surrounded by unrelated additive changes that
  shift the indices (a new first file, a new first message, a new first field, a new first
  service, a new first RPC), so the annotations have to be located on the CURRENT tree.
  The edited message `acme.v1.Outer.Mid.Inner` sits at depth 3, the edited enums at depth 3
  inside `acme.v1.Outer.Mid`.

      acme/v1/a.proto   the element-level edits (fields of Inner, enums / oneofs / reserved of Mid,
                        nested deletions, RPCs of service Api, deleted service OldSvc)
      acme/v1/b.proto   syntax and file-option changes
      acme/v1/c.proto   package change acme.v1 → acme.v2
      old/d.proto       deleted together with its package `old`
      acme/v1/e.proto   deleted, its package survives
      acme/v1/new.proto new (additive), first in the current image

  `aS0 → aS1 → aS2` is a chain of purely additive edits for C04.
-/
namespace BufProofs.Breaking.W
open BufModel.Schema BufModel.Breaking

deriving instance DecidableEq for FlatMsg
deriving instance DecidableEq for FlatEnum
deriving instance DecidableEq for FlatExt
deriving instance DecidableEq for FlatSvc
deriving instance DecidableEq for FlatField
deriving instance DecidableEq for FlatMethod

/-! ### constructors with defaults -/

/-- an optional scalar field without presence (proto3 style), json name = name, zero default -/
def fld (n : Int) (name : String) (k : Kind) : Field :=
  { number := n, name := name, fullName := "", jsonName := name, label := .optional, ty := k, kind := k,
    typeName := [], oneof := none, isMap := false, hasPresence := false, reqCard := false,
    inMapEntry := false, extendee := "", jstype := 0, utf8 := 0, dflt := .num "0" true }

def info (name : String) : MsgInfo :=
  { name := name, fields := [], extensions := [], enums := [], oneofs := [], reservedRanges := [],
    reservedNames := [], extRanges := [], messageSet := false, noStdAccessor := false, jsonAllow := true,
    mapEntry := false }

def enm (name : String) (vals : List EnumValue) : Enum :=
  { name := name, values := vals, reservedRanges := [], reservedNames := [], closed := true, jsonAllow := true }

def mth (name inp out : String) : Method := ⟨name, inp, out, false, false, 0⟩

def pkgV1 : QName := ["acme", "v1"]

/-! ### previous image -/

def pInnerFields : List Field := [
  fld 1 "f_del" .int32,
  fld 2 "f_type" .int32,
  { fld 3 "f_msg" .message with typeName := ["acme", "v1", "Outer"], hasPresence := true },
  { fld 4 "f_card" .int32 with hasPresence := true },
  fld 5 "old_name" .string,
  { fld 6 "f_json" .string with jsonName := "fJson" },
  fld 7 "f_oneof" .int32,
  { fld 8 "f_dflt" .int32 with hasPresence := true, dflt := .num "5" false },
  { fld 9 "f_req" .int32 with label := .required, reqCard := true, hasPresence := true },
  fld 11 "f_js" .int64,
  { fld 12 "f_utf8" .string with utf8 := 2 },
  fld 13 "f_del2" .bool]

def pColor : Enum :=
  { enm "Color" [⟨"RED", 0⟩, ⟨"GREEN", 1⟩, ⟨"BLUE", 2⟩] with reservedRanges := [(10, 20)], reservedNames := ["OLD"] }
def pMode : Enum := enm "Mode" [⟨"MODE_A", 0⟩]

def pMidExt : Field :=
  { fld 100 "mid_ext" .int32 with fullName := "acme.v1.Outer.Mid.mid_ext", extendee := "acme.v1.Ext" }

def pInnerM : Msg := .mk { info "Inner" with fields := pInnerFields, oneofs := [⟨"choice", false⟩] } []

def pMid : Msg :=
  .mk { info "Mid" with
        fields := [fld 1 "m" .string], extensions := [pMidExt],
        enums := [pColor, pMode, enm "OldEnum" [⟨"X", 0⟩]],
        oneofs := [⟨"choice", false⟩, ⟨"gone", false⟩],
        reservedRanges := [(50, 60)], reservedNames := ["legacy"] }
    [pInnerM, .mk (info "Gone") []]

def pApi : Service :=
  ⟨"Api", [mth "Get" ".acme.v1.Outer" ".acme.v1.Outer", mth "Put" ".acme.v1.Outer" ".acme.v1.Outer",
           mth "Up" ".acme.v1.Outer" ".acme.v1.Outer", mth "Down" ".acme.v1.Outer" ".acme.v1.Outer",
           mth "Idem" ".acme.v1.Outer" ".acme.v1.Outer", mth "Del" ".acme.v1.Outer" ".acme.v1.Outer"]⟩

def pOuterM : Msg := .mk { info "Outer" with fields := [fld 1 "id" .int32] } [pMid]

def pKeptExt : Field := { fld 102 "kept_ext" .int32 with fullName := "acme.v1.kept_ext", extendee := "acme.v1.Ext" }

def pA : File :=
  { path := "acme/v1/a.proto", pkg := pkgV1, syn := .proto2, opts := [], locs := [],
    messages := [pOuterM,
                 .mk { info "Ext" with extRanges := [(100, 200)] } []],
    enums := [enm "Status" [⟨"S0", 0⟩]],
    services := [pApi, ⟨"OldSvc", [mth "Ping" ".acme.v1.Outer" ".acme.v1.Outer"]⟩],
    extensions := [pKeptExt] }

def pB : File :=
  { path := "acme/v1/b.proto", pkg := pkgV1, syn := .proto2, opts := [(11, "example.com/old"), (1, "com.acme")],
    locs := [], messages := [.mk (info "B") []], enums := [], services := [], extensions := [] }

def pC : File :=
  { path := "acme/v1/c.proto", pkg := pkgV1, syn := .proto3, opts := [], locs := [],
    messages := [.mk (info "C") []], enums := [], services := [], extensions := [] }

def pD : File :=
  { path := "old/d.proto", pkg := ["old"], syn := .proto3, opts := [], locs := [],
    messages := [.mk (info "D") []], enums := [], services := [], extensions := [] }

def pEExt : Field := { fld 150 "e_ext" .int32 with fullName := "acme.v1.e_ext", extendee := "acme.v1.Ext" }

def pE : File :=
  { path := "acme/v1/e.proto", pkg := pkgV1, syn := .proto2, opts := [], locs := [],
    messages := [.mk (info "EM") []], enums := [enm "EE" [⟨"EE_0", 0⟩]],
    services := [⟨"ES", []⟩], extensions := [pEExt] }

def wPrev : Schema := [pA, pB, pC, pD, pE]

/-! ### current image -/

def cInnerFields : List Field := [
  fld 20 "f_new" .int32,
  { fld 2 "f_type" .string with dflt := .str "" },
  { fld 3 "f_msg" .message with typeName := ["acme", "v1", "Ext"], hasPresence := true },
  { fld 4 "f_card" .int32 with label := .repeated },
  { fld 5 "new_name" .string with jsonName := "old_name" },
  { fld 6 "f_json" .string with jsonName := "other" },
  { fld 7 "f_oneof" .int32 with oneof := some ("choice", false), hasPresence := true },
  { fld 8 "f_dflt" .int32 with hasPresence := true, dflt := .num "7" false },
  { fld 9 "f_req" .int32 with hasPresence := true },
  { fld 10 "f_newreq" .int32 with label := .required, reqCard := true, hasPresence := true },
  { fld 11 "f_js" .int64 with jstype := 1 },
  { fld 12 "f_utf8" .string with utf8 := 3 }]

def cColor : Enum :=
  { enm "Color" [⟨"RED", 0⟩, ⟨"LIME", 1⟩] with reservedRanges := [(10, 15)], reservedNames := ["FUTURE"] }
def cMode : Enum := { enm "Mode" [⟨"MODE_A", 0⟩, ⟨"MODE_B", 1⟩] with closed := false, jsonAllow := false }

def cInnerM : Msg :=
  .mk { info "Inner" with fields := cInnerFields, oneofs := [⟨"choice", false⟩],
                          reservedRanges := [(30, 40)], reservedNames := ["f_future"] } [.mk (info "Deeper") []]

def cMid : Msg :=
  .mk { info "Mid" with
        fields := [fld 2 "m2" .string, fld 1 "m" .string],
        enums := [enm "NewEnum" [⟨"N", 0⟩], cColor, cMode],
        oneofs := [⟨"choice", false⟩],
        reservedRanges := [(50, 55)], jsonAllow := false }
    [.mk (info "Added") [],
     cInnerM]

def cApi : Service :=
  ⟨"Api", [mth "Fresh" ".acme.v1.Outer" ".acme.v1.Outer",
           mth "Get" ".acme.v1.Ext" ".acme.v1.Outer", mth "Put" ".acme.v1.Outer" ".acme.v1.Ext",
           { mth "Up" ".acme.v1.Outer" ".acme.v1.Outer" with clientStreaming := true },
           { mth "Down" ".acme.v1.Outer" ".acme.v1.Outer" with serverStreaming := true },
           { mth "Idem" ".acme.v1.Outer" ".acme.v1.Outer" with idempotency := 1 }]⟩

/-- path of the current `acme.v1.Outer.Mid` and `acme.v1.Outer.Mid.Inner` -/
def midP : SPath := [4, 1, 3, 1]
def innerP : SPath := [4, 1, 3, 1, 3, 1]

/-- the source paths of a.proto that have a location.  Deliberately incomplete: no `json_name`
    ([…,10]) on f_json, no `jstype` option, no `features` on the enums and messages — there the
    annotations fall back as the code prescribes. -/
def cALocs : List SPath := [
  [2], [12], [4, 0], [4, 1], [4, 1, 3, 0], midP, innerP, [4, 2], [4, 2, 7, 2],
  innerP ++ [2, 1], innerP ++ [2, 1, 5], innerP ++ [2, 2], innerP ++ [2, 2, 6], innerP ++ [2, 3],
  innerP ++ [2, 4], innerP ++ [2, 4, 1], innerP ++ [2, 5], innerP ++ [2, 6], innerP ++ [2, 7],
  innerP ++ [2, 7, 7], innerP ++ [2, 8], innerP ++ [2, 9], innerP ++ [2, 10], innerP ++ [2, 11],
  midP ++ [4, 1], midP ++ [4, 1, 2, 1], midP ++ [4, 1, 2, 1, 2], midP ++ [4, 2],
  [6, 1], [6, 1, 2, 1], [6, 1, 2, 1, 2], [6, 1, 2, 2], [6, 1, 2, 2, 3], [6, 1, 2, 3], [6, 1, 2, 4],
  [6, 1, 2, 5], [6, 1, 2, 5, 4, 34], [7, 1], [7, 1, 1], [7, 1, 5]]

/-- the surviving extension 102 of acme.v1.Ext: int32 → string, renamed -/
def cKeptExt : Field :=
  { fld 102 "renamed_ext" .string with fullName := "acme.v1.renamed_ext", extendee := "acme.v1.Ext", dflt := .str "" }
def cTopExt : Field := { fld 101 "top_ext" .int32 with fullName := "acme.v1.top_ext", extendee := "acme.v1.Ext" }

def cOuterM : Msg :=
  .mk { info "Outer" with fields := [fld 2 "extra" .int32, fld 1 "id" .int32] } [.mk (info "Sib") [], cMid]

def cA : File :=
  { path := "acme/v1/a.proto", pkg := pkgV1, syn := .proto2, opts := [], locs := cALocs,
    messages := [.mk (info "Fresh") [],
                 cOuterM,
                 .mk { info "Ext" with extRanges := [(100, 150)], noStdAccessor := true } []],
    enums := [enm "Status" [⟨"S0", 0⟩, ⟨"S1", 1⟩]],
    services := [⟨"NewSvc", []⟩, cApi],
    extensions := [cTopExt, cKeptExt] }

def cB : File :=
  { path := "acme/v1/b.proto", pkg := pkgV1, syn := .proto3, opts := [(11, "example.com/new"), (1, "com.acme")],
    locs := [[8, 11], [12], [4, 0]], messages := [.mk (info "B") []], enums := [], services := [], extensions := [] }

def cC : File :=
  { path := "acme/v1/c.proto", pkg := ["acme", "v2"], syn := .proto3, opts := [], locs := [[2], [4, 0]],
    messages := [.mk (info "C") []], enums := [], services := [], extensions := [] }

def cNew : File :=
  { path := "acme/v1/new.proto", pkg := pkgV1, syn := .proto3, opts := [], locs := [[4, 0]],
    messages := [.mk (info "N2") []], enums := [], services := [], extensions := [] }

def wCur : Schema := [cNew, cA, cB, cC]

/-! ### the flattened elements the theorems talk about -/

def msgOf (s : Schema) (q : QName) : FlatMsg := ((allMsgs s).find? fun m => m.fullName == q).getD default
def enumOf (s : Schema) (q : QName) : FlatEnum := ((allEnums s).find? fun e => e.fullName == q).getD default
def svcOf (s : Schema) (q : QName) : FlatSvc := ((allSvcs s).find? fun e => e.fullName == q).getD default
def fieldOf (m : FlatMsg) (n : Int) : FlatField := ((msgFields m).find? fun f => f.field.number == n).getD default
def methodOf (s : FlatSvc) (n : String) : FlatMethod := ((svcMethods s).find? fun f => f.m.name == n).getD default

def pInner : FlatMsg := msgOf wPrev ["acme", "v1", "Outer", "Mid", "Inner"]
def cInner : FlatMsg := msgOf wCur ["acme", "v1", "Outer", "Mid", "Inner"]
def pMidF : FlatMsg := msgOf wPrev ["acme", "v1", "Outer", "Mid"]
def cMidF : FlatMsg := msgOf wCur ["acme", "v1", "Outer", "Mid"]
def pExtF : FlatMsg := msgOf wPrev ["acme", "v1", "Ext"]
def cExtF : FlatMsg := msgOf wCur ["acme", "v1", "Ext"]
def pColorF : FlatEnum := enumOf wPrev ["acme", "v1", "Outer", "Mid", "Color"]
def cColorF : FlatEnum := enumOf wCur ["acme", "v1", "Outer", "Mid", "Color"]
def pModeF : FlatEnum := enumOf wPrev ["acme", "v1", "Outer", "Mid", "Mode"]
def cModeF : FlatEnum := enumOf wCur ["acme", "v1", "Outer", "Mid", "Mode"]
def extOf (s : Schema) (q : QName) : FlatExt := ((allExts s).find? fun e => e.pkg ++ e.nested == q).getD default
def pGoneF : FlatMsg := msgOf wPrev ["acme", "v1", "Outer", "Mid", "Gone"]
def pEMF : FlatMsg := msgOf wPrev ["acme", "v1", "EM"]
def pOldEnumF : FlatEnum := enumOf wPrev ["acme", "v1", "Outer", "Mid", "OldEnum"]
def pEEF : FlatEnum := enumOf wPrev ["acme", "v1", "EE"]
def pMidExtF : FlatExt := extOf wPrev ["acme", "v1", "Outer", "Mid", "mid_ext"]
def pEExtF : FlatExt := extOf wPrev ["acme", "v1", "e_ext"]
def pOldSvcF : FlatSvc := svcOf wPrev ["acme", "v1", "OldSvc"]
def pESF : FlatSvc := svcOf wPrev ["acme", "v1", "ES"]
def pApiF : FlatSvc := svcOf wPrev ["acme", "v1", "Api"]
def cApiF : FlatSvc := svcOf wCur ["acme", "v1", "Api"]

theorem wCur_wf : WF wCur := WF_of_wfB _ (by decide +kernel)

theorem pA_mem : pA ∈ wPrev := by simp [wPrev]
theorem pB_mem : pB ∈ wPrev := by simp [wPrev]
theorem pC_mem : pC ∈ wPrev := by simp [wPrev]
theorem pD_mem : pD ∈ wPrev := by simp [wPrev]
theorem pE_mem : pE ∈ wPrev := by simp [wPrev]
theorem cA_mem : cA ∈ wCur := by simp [wCur]
theorem cB_mem : cB ∈ wCur := by simp [wCur]
theorem cC_mem : cC ∈ wCur := by simp [wCur]

/-- where the flattened elements sit and that the pairs have the same full name: ONE evaluation (each
    one decodes every name of the two images again); the statements below are its components — group
    `n < 8` is `.2` taken `n - 1` times, then `.1`; group 8 is `.2` taken 7 times -/
theorem w_elements :
    (pInner ∈ allMsgs wPrev ∧ pMidF ∈ allMsgs wPrev ∧ pExtF ∈ allMsgs wPrev ∧ pEMF ∈ allMsgs wPrev ∧
      pGoneF ∈ pA.flatMsgs) ∧                                                           -- 1 previous messages
    (pColorF ∈ allEnums wPrev ∧ pModeF ∈ allEnums wPrev ∧ pEEF ∈ allEnums wPrev ∧
      pOldEnumF ∈ pA.flatEnums) ∧                                                       -- 2 previous enums
    (pMidExtF ∈ pA.flatExts ∧ pEExtF ∈ allExts wPrev) ∧                                 -- 3 previous extensions
    (pOldSvcF ∈ pA.flatSvcs ∧ pESF ∈ allSvcs wPrev ∧ pApiF ∈ allSvcs wPrev) ∧           -- 4 previous services
    (cInner ∈ allMsgs wCur ∧ cMidF ∈ allMsgs wCur ∧ cExtF ∈ allMsgs wCur) ∧             -- 5 current messages
    (cColorF ∈ allEnums wCur ∧ cModeF ∈ allEnums wCur ∧ cApiF ∈ allSvcs wCur) ∧         -- 6 current enums, service
    (cInner.fullName = pInner.fullName ∧ cMidF.fullName = pMidF.fullName ∧
      cExtF.fullName = pExtF.fullName) ∧                                                -- 7 message names
    (cColorF.fullName = pColorF.fullName ∧ cModeF.fullName = pModeF.fullName ∧
      cApiF.fullName = pApiF.fullName) := by                                            -- 8 enum, service names
  decide +kernel

theorem pInner_mem : pInner ∈ allMsgs wPrev := w_elements.1.1
theorem cInner_mem : cInner ∈ allMsgs wCur := w_elements.2.2.2.2.1.1
theorem inner_name : cInner.fullName = pInner.fullName := w_elements.2.2.2.2.2.2.1.1
theorem pMid_mem : pMidF ∈ allMsgs wPrev := w_elements.1.2.1
theorem cMid_mem : cMidF ∈ allMsgs wCur := w_elements.2.2.2.2.1.2.1
theorem mid_name : cMidF.fullName = pMidF.fullName := w_elements.2.2.2.2.2.2.1.2.1
theorem pExt_mem : pExtF ∈ allMsgs wPrev := w_elements.1.2.2.1
theorem cExt_mem : cExtF ∈ allMsgs wCur := w_elements.2.2.2.2.1.2.2
theorem ext_name : cExtF.fullName = pExtF.fullName := w_elements.2.2.2.2.2.2.1.2.2
theorem pColor_mem : pColorF ∈ allEnums wPrev := w_elements.2.1.1
theorem cColor_mem : cColorF ∈ allEnums wCur := w_elements.2.2.2.2.2.1.1
theorem color_name : cColorF.fullName = pColorF.fullName := w_elements.2.2.2.2.2.2.2.1
theorem pMode_mem : pModeF ∈ allEnums wPrev := w_elements.2.1.2.1
theorem cMode_mem : cModeF ∈ allEnums wCur := w_elements.2.2.2.2.2.1.2.1
theorem mode_name : cModeF.fullName = pModeF.fullName := w_elements.2.2.2.2.2.2.2.2.1
theorem pGone_mem : pGoneF ∈ pA.flatMsgs := w_elements.1.2.2.2.2
theorem pEM_mem : pEMF ∈ allMsgs wPrev := w_elements.1.2.2.2.1
theorem pOldEnum_mem : pOldEnumF ∈ pA.flatEnums := w_elements.2.1.2.2.2
theorem pEE_mem : pEEF ∈ allEnums wPrev := w_elements.2.1.2.2.1
theorem pMidExt_mem : pMidExtF ∈ pA.flatExts := w_elements.2.2.1.1
theorem pEExt_mem : pEExtF ∈ allExts wPrev := w_elements.2.2.1.2
theorem pOldSvc_mem : pOldSvcF ∈ pA.flatSvcs := w_elements.2.2.2.1.1
theorem pES_mem : pESF ∈ allSvcs wPrev := w_elements.2.2.2.1.2.1
theorem pA_flatMsgs_sub {m : FlatMsg} (h : m ∈ pA.flatMsgs) : m ∈ allMsgs wPrev :=
  List.mem_flatMap.2 ⟨pA, pA_mem, h⟩
theorem pA_flatEnums_sub {m : FlatEnum} (h : m ∈ pA.flatEnums) : m ∈ allEnums wPrev :=
  List.mem_flatMap.2 ⟨pA, pA_mem, h⟩
theorem pA_flatExts_sub {m : FlatExt} (h : m ∈ pA.flatExts) : m ∈ allExts wPrev :=
  List.mem_flatMap.2 ⟨pA, pA_mem, h⟩
theorem pA_flatSvcs_sub {m : FlatSvc} (h : m ∈ pA.flatSvcs) : m ∈ allSvcs wPrev :=
  List.mem_flatMap.2 ⟨pA, pA_mem, h⟩
theorem pApi_mem : pApiF ∈ allSvcs wPrev := w_elements.2.2.2.1.2.2
theorem cApi_mem : cApiF ∈ allSvcs wCur := w_elements.2.2.2.2.2.1.2.2
theorem api_name : cApiF.fullName = pApiF.fullName := w_elements.2.2.2.2.2.2.2.2.2

/-! ### C04: a chain of purely additive edits `aS0 → aS1 → aS2`, a neighbour that is breaking only in
    the stricter categories (`aDel`), and the closed-enum first-value pair (`cxP → cxC`) -/

def statusFld : Field := { fld 2 "status" .enum with typeName := ["shop", "v1", "Status"] }
def openEnum (name : String) (vals : List EnumValue) : Enum := { enm name vals with closed := false }

def orderFile (msgs : List Msg) (enums : List Enum) (svcs : List Service) : File :=
  { path := "shop/v1/order.proto", pkg := ["shop", "v1"], syn := .proto3, opts := [(11, "shop/v1;shopv1")],
    locs := [[4, 0], [4, 1], [4, 1, 2, 0]], messages := msgs, enums := enums, services := svcs, extensions := [] }

def getRpc : Method := mth "Get" ".shop.v1.Order" ".shop.v1.Order"

def aS0 : Schema := [orderFile
  [.mk { info "Order" with fields := [fld 1 "id" .string, statusFld], enums := [openEnum "Kind" [⟨"K0", 0⟩]] }
     [.mk { info "Line" with fields := [fld 1 "sku" .string] } []]]
  [openEnum "Status" [⟨"S_UNSPECIFIED", 0⟩, ⟨"S_PAID", 1⟩]]
  [⟨"Orders", [getRpc]⟩]]

/-- S₁ = S₀ + a new first top-level message, a new first field and a oneof in Order, a message at
    depth 3 (Order.Line.Tax), a reserved range in Order.Line, an appended enum value and an alias in
    Status, a new first RPC -/
def aS1 : Schema := [orderFile
  [.mk (info "Audit") [],
   .mk { info "Order" with fields := [fld 3 "note" .string, fld 1 "id" .string, statusFld],
                           enums := [openEnum "Kind" [⟨"K0", 0⟩]], oneofs := [⟨"extra", false⟩] }
     [.mk { info "Line" with fields := [fld 1 "sku" .string], reservedRanges := [(5, 9)] } [.mk (info "Tax") []]]]
  [openEnum "Status" [⟨"S_UNSPECIFIED", 0⟩, ⟨"S_PAID", 1⟩, ⟨"S_SETTLED", 1⟩, ⟨"S_SHIPPED", 2⟩]]
  [⟨"Orders", [mth "List" ".shop.v1.Audit" ".shop.v1.Audit", getRpc]⟩]]

def payFile : File :=
  { path := "shop/v1/pay.proto", pkg := ["shop", "v1"], syn := .proto3, opts := [], locs := [[4, 0]],
    messages := [.mk { info "Payment" with fields := [fld 1 "amount" .int64] } []], enums := [], services := [],
    extensions := [] }

/-- S₂ = S₁ + a new first file, a field in the depth-3 message, a nested enum at depth 2, a reserved
    name, an extension range, a new enum and a new service -/
def aS2 : Schema := [payFile, orderFile
  [.mk (info "Audit") [],
   .mk { info "Order" with fields := [fld 3 "note" .string, fld 1 "id" .string, statusFld],
                           enums := [openEnum "Kind" [⟨"K0", 0⟩]], oneofs := [⟨"extra", false⟩],
                           extRanges := [(1000, 2000)] }
     [.mk { info "Line" with fields := [fld 1 "sku" .string], reservedRanges := [(5, 9)], reservedNames := ["old"],
                             enums := [openEnum "Unit" [⟨"U0", 0⟩]] }
        [.mk { info "Tax" with fields := [fld 1 "rate" .double] } []]]]
  [openEnum "Currency" [⟨"C0", 0⟩],
   openEnum "Status" [⟨"S_UNSPECIFIED", 0⟩, ⟨"S_PAID", 1⟩, ⟨"S_SETTLED", 1⟩, ⟨"S_SHIPPED", 2⟩]]
  [⟨"Orders", [mth "List" ".shop.v1.Audit" ".shop.v1.Audit", getRpc]⟩, ⟨"Admin", []⟩]]

/-- S₁ with field 3 `note` of Order deleted and its number and name reserved: breaking under FILE and
    PACKAGE (FIELD_NO_DELETE), compatible under WIRE_JSON and WIRE -/
def aDel : Schema := [orderFile
  [.mk (info "Audit") [],
   .mk { info "Order" with fields := [fld 1 "id" .string, statusFld],
                           enums := [openEnum "Kind" [⟨"K0", 0⟩]], oneofs := [⟨"extra", false⟩],
                           reservedRanges := [(3, 3)], reservedNames := ["note"] }
     [.mk { info "Line" with fields := [fld 1 "sku" .string], reservedRanges := [(5, 9)] } [.mk (info "Tax") []]]]
  [openEnum "Status" [⟨"S_UNSPECIFIED", 0⟩, ⟨"S_PAID", 1⟩, ⟨"S_SETTLED", 1⟩, ⟨"S_SHIPPED", 2⟩]]
  [⟨"Orders", [mth "List" ".shop.v1.Audit" ".shop.v1.Audit", getRpc]⟩]]

theorem aS1_wf : WF aS1 := WF_of_wfB _ (by decide +kernel)
theorem aS2_wf : WF aS2 := WF_of_wfB _ (by decide +kernel)
theorem aS0_wf : WF aS0 := WF_of_wfB _ (by decide +kernel)
theorem aS01 : aS0 ⊑ₐ aS1 := schemaExtB_sound _ _ (by decide +kernel)
theorem aS12 : aS1 ⊑ₐ aS2 := schemaExtB_sound _ _ (by decide +kernel)

/-- proto2 `enum Level { LOW = 1; HIGH = 2; }  message Cfg { optional Level level = 1; }`: the
    default of `level` is the FIRST value, LOW = 1 -/
def cfgFile (vals : List EnumValue) (dflt : DefVal) : File :=
  { path := "cfg.proto", pkg := ["cfg"], syn := .proto2, opts := [], locs := [[4, 0], [4, 0, 2, 0], [5, 0]],
    messages := [.mk { info "Cfg" with fields :=
      [{ fld 1 "level" .enum with typeName := ["cfg", "Level"], hasPresence := true, dflt := dflt }] } []],
    enums := [enm "Level" vals], services := [], extensions := [] }

def cxP : Schema := [cfgFile [⟨"LOW", 1⟩, ⟨"HIGH", 2⟩] (.num "1" false)]
/-- the same source with `NONE = 0;` inserted in front: the default of `level` becomes NONE = 0 -/
def cxC : Schema := [cfgFile [⟨"NONE", 0⟩, ⟨"LOW", 1⟩, ⟨"HIGH", 2⟩] (.num "0" true)]


def fileA : String := "acme/v1/a.proto"

/-- the previous / current field number `n` of `Inner`, as a flattened field -/
def pF (n : Int) : FlatField := fieldOf pInner n
def cF (n : Int) : FlatField := fieldOf cInner n
/-- the previous / current method `n` of service `Api` -/
def pM (n : String) : FlatMethod := methodOf pApiF n
def cM (n : String) : FlatMethod := methodOf cApiF n

/-! ### the same elements as literals
    `msgOf`, `enumOf`, `svcOf` find an element by its name: evaluating one decodes the names of the whole
    image, and the elaborator does so again whenever it unifies a location term (`msgLoc cInner …`) with
    an annotation.  The examples of Props/C03.lean instantiate the theorems on these literals. -/

def pInnerL : FlatMsg := ⟨fileA, [], pkgV1, ["Outer", "Mid", "Inner"], [4, 0, 3, 0, 3, 0], none, pInnerM.info⟩
def cInnerL : FlatMsg := ⟨fileA, cALocs, pkgV1, ["Outer", "Mid", "Inner"], innerP, none, cInnerM.info⟩
def pMidL : FlatMsg := ⟨fileA, [], pkgV1, ["Outer", "Mid"], [4, 0, 3, 0], none, pMid.info⟩
def cMidL : FlatMsg := ⟨fileA, cALocs, pkgV1, ["Outer", "Mid"], midP, none, cMid.info⟩
def pExtL : FlatMsg := ⟨fileA, [], pkgV1, ["Ext"], [4, 1], none, { info "Ext" with extRanges := [(100, 200)] }⟩
def cExtL : FlatMsg :=
  ⟨fileA, cALocs, pkgV1, ["Ext"], [4, 2], none, { info "Ext" with extRanges := [(100, 150)], noStdAccessor := true }⟩
def pColorL : FlatEnum := ⟨fileA, [], pkgV1, ["Outer", "Mid", "Color"], [4, 0, 3, 0, 4, 0], pColor⟩
def cColorL : FlatEnum := ⟨fileA, cALocs, pkgV1, ["Outer", "Mid", "Color"], midP ++ [4, 1], cColor⟩
def pModeL : FlatEnum := ⟨fileA, [], pkgV1, ["Outer", "Mid", "Mode"], [4, 0, 3, 0, 4, 1], pMode⟩
def cModeL : FlatEnum := ⟨fileA, cALocs, pkgV1, ["Outer", "Mid", "Mode"], midP ++ [4, 2], cMode⟩
def pApiL : FlatSvc := ⟨fileA, [], pkgV1, [6, 0], pApi⟩
def cApiL : FlatSvc := ⟨fileA, cALocs, pkgV1, [6, 1], cApi⟩

theorem w_literals :
    (pInner = pInnerL ∧ cInner = cInnerL ∧ pMidF = pMidL ∧ cMidF = cMidL ∧ pExtF = pExtL ∧ cExtF = cExtL) ∧
    (pColorF = pColorL ∧ cColorF = cColorL ∧ pModeF = pModeL ∧ cModeF = cModeL) ∧
    (pApiF = pApiL ∧ cApiF = cApiL) := by
  decide +kernel

theorem pInnerL_mem : pInnerL ∈ allMsgs wPrev := w_literals.1.1 ▸ pInner_mem
theorem cInnerL_mem : cInnerL ∈ allMsgs wCur := w_literals.1.2.1 ▸ cInner_mem
theorem pMidL_mem : pMidL ∈ allMsgs wPrev := w_literals.1.2.2.1 ▸ pMid_mem
theorem cMidL_mem : cMidL ∈ allMsgs wCur := w_literals.1.2.2.2.1 ▸ cMid_mem
theorem pExtL_mem : pExtL ∈ allMsgs wPrev := w_literals.1.2.2.2.2.1 ▸ pExt_mem
theorem cExtL_mem : cExtL ∈ allMsgs wCur := w_literals.1.2.2.2.2.2 ▸ cExt_mem
theorem pColorL_mem : pColorL ∈ allEnums wPrev := w_literals.2.1.1 ▸ pColor_mem
theorem cColorL_mem : cColorL ∈ allEnums wCur := w_literals.2.1.2.1 ▸ cColor_mem
theorem pModeL_mem : pModeL ∈ allEnums wPrev := w_literals.2.1.2.2.1 ▸ pMode_mem
theorem cModeL_mem : cModeL ∈ allEnums wCur := w_literals.2.1.2.2.2 ▸ cMode_mem
theorem pApiL_mem : pApiL ∈ allSvcs wPrev := w_literals.2.2.1 ▸ pApi_mem
theorem cApiL_mem : cApiL ∈ allSvcs wCur := w_literals.2.2.2 ▸ cApi_mem

theorem inner_paired (n : Int) (hp : pF n ∈ msgFields pInner) (hc : cF n ∈ msgFields cInner)
    (hn : (cF n).field.number = (pF n).field.number) : FieldPaired wCur wPrev (cF n) (pF n) :=
  Or.inl ⟨pInner, cInner, pInner_mem, cInner_mem, inner_name, hp, hc, hn⟩

/-- the fields of `Inner` with a number that both images have, paired (one evaluation for all numbers) -/
theorem innerL_paired {n : Int} (h : n ∈ [2, 3, 4, 5, 6, 7, 8, 11, 12]) :
    FieldPaired wCur wPrev (fieldOf cInnerL n) (fieldOf pInnerL n) := by
  have hf : ∀ n ∈ [2, 3, 4, 5, 6, 7, 8, 11, 12], fieldOf pInnerL n ∈ msgFields pInnerL ∧
      fieldOf cInnerL n ∈ msgFields cInnerL ∧
      (fieldOf cInnerL n).field.number = (fieldOf pInnerL n).field.number := by decide +kernel
  exact Or.inl ⟨pInnerL, cInnerL, pInnerL_mem, cInnerL_mem, rfl, (hf n h).1, (hf n h).2.1, (hf n h).2.2⟩

/-- the extension 102 of acme.v1.Ext, previous and current (the 2nd file-level extension of the current image) -/
def pKeptX : FlatField := ⟨fileA, [], [7, 0], none, pKeptExt⟩
def cKeptX : FlatField := ⟨fileA, cALocs, [7, 1], none, cKeptExt⟩
theorem kept_paired : FieldPaired wCur wPrev cKeptX pKeptX := by
  have h : pKeptX ∈ extFields wPrev ∧ cKeptX ∈ extFields wCur := by decide +kernel
  exact Or.inr ⟨h.1, h.2, rfl, rfl⟩


/-! ### group / delimited encoded fields: witness `gPrev → gCur` (see the examples at the end of
    Props/C03.lean for the source-level reading) -/

def gE (fs : List Field) : File :=
  { path := "g/e.proto", pkg := ["g"], syn := .editions, opts := [],
    locs := [[4, 0], [4, 0, 2, 0], [4, 0, 2, 0, 6], [4, 0, 2, 1], [4, 0, 2, 1, 6], [4, 0, 2, 2], [4, 0, 2, 2, 6],
             [4, 0, 2, 3], [4, 0, 2, 3, 6]],
    messages := [.mk { info "M" with fields := fs } [], .mk (info "X") [], .mk (info "Y") []],
    enums := [], services := [], extensions := [] }

def gP (g fname : String) : File :=
  { path := "g/p.proto", pkg := ["g"], syn := .proto2, opts := [],
    locs := [[4, 0], [4, 0, 2, 0], [4, 0, 2, 0, 6], [4, 0, 3, 0]],
    messages := [.mk { info "P" with fields :=
      [{ fld 1 fname .group with typeName := ["g", "P", g], hasPresence := true }] } [.mk (info g) []]],
    enums := [], services := [], extensions := [] }

def gmsg (n : Int) (name : String) (k : Kind) (t : String) : Field :=
  { fld n name .message with kind := k, typeName := ["g", t], hasPresence := true }

def gPrev : Schema :=
  [gE [gmsg 1 "a" .group "X", gmsg 2 "b" .message "X", gmsg 3 "c" .message "X"], gP "Grp1" "grp1"]
def gCur : Schema :=
  [gE [fld 9 "fresh" .int32, gmsg 1 "a" .group "Y", gmsg 2 "b" .group "X", gmsg 3 "c" .message "Y"], gP "Grp2" "grp2"]

theorem gCur_wf : WF gCur := WF_of_wfB _ (by decide +kernel)

def gpM : FlatMsg := msgOf gPrev ["g", "M"]
def gcM : FlatMsg := msgOf gCur ["g", "M"]
def gpP : FlatMsg := msgOf gPrev ["g", "P"]
def gcP : FlatMsg := msgOf gCur ["g", "P"]

theorem gM_paired (n : Int) (hp : fieldOf gpM n ∈ msgFields gpM) (hc : fieldOf gcM n ∈ msgFields gcM)
    (hn : (fieldOf gcM n).field.number = (fieldOf gpM n).field.number) :
    FieldPaired gCur gPrev (fieldOf gcM n) (fieldOf gpM n) := by
  have h : gpM ∈ allMsgs gPrev ∧ gcM ∈ allMsgs gCur ∧ gcM.fullName = gpM.fullName := by decide +kernel
  exact Or.inl ⟨gpM, gcM, h.1, h.2.1, h.2.2, hp, hc, hn⟩

theorem gP_paired : FieldPaired gCur gPrev (fieldOf gcP 1) (fieldOf gpP 1) := by
  have h : gpP ∈ allMsgs gPrev ∧ gcP ∈ allMsgs gCur ∧ gcP.fullName = gpP.fullName ∧
      fieldOf gpP 1 ∈ msgFields gpP ∧ fieldOf gcP 1 ∈ msgFields gcP := by decide +kernel
  exact Or.inl ⟨gpP, gcP, h.1, h.2.1, h.2.2.1, h.2.2.2.1, h.2.2.2.2, rfl⟩


/-! ### defaults of 64-bit integer fields above 2^53: witness `dPrev → dCur`
    proto2 `message Lim { optional int64 max_offset = 1 [default = 9007199254740993];
    optional uint64 max_id = 2 [default = 18446744073709551615]; optional sint64 floor = 3
    [default = -9223372036854775807]; optional string tag = 4 [default = "abc"]; }` versus the same
    with the defaults 9007199254740992, 18446744073709551614, -9223372036854775808, "ABC" (each pair
    of integers rounds to the same float64) -/
def dFile (d1 d2 d3 d4 : DefVal) : File :=
  { path := "lim.proto", pkg := ["lim"], syn := .proto2, opts := [],
    locs := [[4, 0], [4, 0, 2, 0], [4, 0, 2, 0, 7], [4, 0, 2, 1], [4, 0, 2, 1, 7], [4, 0, 2, 2], [4, 0, 2, 2, 7],
             [4, 0, 2, 3], [4, 0, 2, 3, 7]],
    messages := [.mk { info "Lim" with fields :=
      [{ fld 1 "max_offset" .int64 with hasPresence := true, dflt := d1 },
       { fld 2 "max_id" .uint64 with hasPresence := true, dflt := d2 },
       { fld 3 "floor" .sint64 with hasPresence := true, dflt := d3 },
       { fld 4 "tag" .string with hasPresence := true, dflt := d4 }] } []],
    enums := [], services := [], extensions := [] }

def dPrev : Schema := [dFile (.num "9007199254740993/1" false) (.num "18446744073709551615/1" false)
  (.num "-9223372036854775807/1" false) (.str "616263")]
def dCur : Schema := [dFile (.num "9007199254740992/1" false) (.num "18446744073709551614/1" false)
  (.num "-9223372036854775808/1" false) (.str "414243")]

theorem dCur_wf : WF dCur := WF_of_wfB _ (by decide +kernel)
def dpM : FlatMsg := msgOf dPrev ["lim", "Lim"]
def dcM : FlatMsg := msgOf dCur ["lim", "Lim"]
theorem dM_paired (n : Int) (hp : fieldOf dpM n ∈ msgFields dpM) (hc : fieldOf dcM n ∈ msgFields dcM)
    (hn : (fieldOf dcM n).field.number = (fieldOf dpM n).field.number) :
    FieldPaired dCur dPrev (fieldOf dcM n) (fieldOf dpM n) := by
  have h : dpM ∈ allMsgs dPrev ∧ dcM ∈ allMsgs dCur ∧ dcM.fullName = dpM.fullName := by decide +kernel
  exact Or.inl ⟨dpM, dcM, h.1, h.2.1, h.2.2, hp, hc, hn⟩

/-! ### the ALIAS family of the enum-value rules: witness `alPrev → alCur…`
    proto2 `al.proto`, package `al`:
      enum Mode { option allow_alias = true; OFF = 0; ON = 1; LEGACY = 2; ENABLED = 1; OLD = 2;
                  ANCIENT = 2; X = 3; Y = 3; }
      message Holder { enum Inner { option allow_alias = true; A = 0; B = 5; C = 5; } }
    versus (`alCurSome`) the same with number 1 gone and only ONE of its two names reserved
    (`reserved "ON";`), alias OLD of number 2 gone (LEGACY, ANCIENT stay), number 3 gone with BOTH
    names and the number reserved (`reserved "X", "Y"; reserved 3;`), `Inner` without number 5 and
    `reserved "C"; reserved 6 to 8;` (a range NEXT TO the number).  `alCurAll` differs from
    `alCurSome` in reserving both names of 1 (`reserved "ON", "ENABLED";`). -/
def alMode (vals : List EnumValue) (rn : List Name) (rr : List Range) : Enum :=
  { enm "Mode" vals with reservedNames := rn, reservedRanges := rr }
def alInner (vals : List EnumValue) (rn : List Name) (rr : List Range) : Enum :=
  { enm "Inner" vals with reservedNames := rn, reservedRanges := rr }
def alFile (mode inner : Enum) : File :=
  { path := "al.proto", pkg := ["al"], syn := .proto2, opts := [],
    locs := [[5, 0], [5, 0, 2, 0], [5, 0, 2, 0, 2], [5, 0, 2, 1], [5, 0, 2, 1, 2], [5, 0, 2, 2], [5, 0, 2, 2, 2],
             [5, 0, 2, 3], [5, 0, 2, 3, 2], [5, 0, 2, 4], [5, 0, 2, 4, 2], [5, 0, 2, 5], [5, 0, 2, 5, 2],
             [5, 0, 2, 6], [5, 0, 2, 6, 2], [5, 0, 2, 7], [5, 0, 2, 7, 2], [4, 0], [4, 0, 4, 0]],
    messages := [.mk { info "Holder" with enums := [inner] } []],
    enums := [mode], services := [], extensions := [] }

def alPrev : Schema := [alFile
  (alMode [⟨"OFF", 0⟩, ⟨"ON", 1⟩, ⟨"LEGACY", 2⟩, ⟨"ENABLED", 1⟩, ⟨"OLD", 2⟩, ⟨"ANCIENT", 2⟩, ⟨"X", 3⟩, ⟨"Y", 3⟩] [] [])
  (alInner [⟨"A", 0⟩, ⟨"B", 5⟩, ⟨"C", 5⟩] [] [])]
def alCurSome : Schema := [alFile
  (alMode [⟨"OFF", 0⟩, ⟨"LEGACY", 2⟩, ⟨"ANCIENT", 2⟩] ["ON", "X", "Y"] [(3, 3)])
  (alInner [⟨"A", 0⟩] ["C"] [(6, 8)])]
def alCurAll : Schema := [alFile
  (alMode [⟨"OFF", 0⟩, ⟨"LEGACY", 2⟩, ⟨"ANCIENT", 2⟩] ["ON", "ENABLED", "X", "Y"] [(3, 3)])
  (alInner [⟨"A", 0⟩] ["C"] [(6, 8)])]

theorem alCurSome_wf : WF alCurSome := WF_of_wfB _ (by decide +kernel)
theorem alCurAll_wf : WF alCurAll := WF_of_wfB _ (by decide +kernel)
def alpMode : FlatEnum := enumOf alPrev ["al", "Mode"]
def alcMode : FlatEnum := enumOf alCurSome ["al", "Mode"]
def alpInner : FlatEnum := enumOf alPrev ["al", "Holder", "Inner"]
def alcInner : FlatEnum := enumOf alCurSome ["al", "Holder", "Inner"]
theorem al_elements :
    (alpMode ∈ allEnums alPrev ∧ alcMode ∈ allEnums alCurSome ∧ alcMode.fullName = alpMode.fullName) ∧
    (alpInner ∈ allEnums alPrev ∧ alcInner ∈ allEnums alCurSome ∧ alcInner.fullName = alpInner.fullName) := by
  decide +kernel
theorem alpMode_mem : alpMode ∈ allEnums alPrev := al_elements.1.1
theorem alcMode_mem : alcMode ∈ allEnums alCurSome := al_elements.1.2.1
theorem alMode_name : alcMode.fullName = alpMode.fullName := al_elements.1.2.2
theorem alpInner_mem : alpInner ∈ allEnums alPrev := al_elements.2.1
theorem alcInner_mem : alcInner ∈ allEnums alCurSome := al_elements.2.2.1
theorem alInner_name : alcInner.fullName = alpInner.fullName := al_elements.2.2.2

end BufProofs.Breaking.W
