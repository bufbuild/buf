import BufProofs.Lemmas.LintPlant
/-
  C05 — a concrete MULTI-FILE workspace for the non-vacuity examples of the planting theorems:
  two target files of one package (`a.proto` with a top-level enum, a message with a nested
  message + nested enum + oneof, request/response messages, a service with two RPCs, an import
  and a file-level extension; `b.proto` with one message) and the import-only file `exDep`, which
  is full of violations.
-/
namespace BufModel.Lint
open BufModel.Case

def pColor : Enum :=
  { name := "Color".toList, comment := " A color.\n".toList,
    values := [⟨"COLOR_UNSPECIFIED".toList, " Zero.\n".toList, 0⟩, ⟨"COLOR_RED".toList, " Red.\n".toList, 1⟩] }

def pKind : Enum :=
  { name := "Kind".toList, comment := " A kind.\n".toList,
    values := [⟨"KIND_UNSPECIFIED".toList, " Zero.\n".toList, 0⟩, ⟨"KIND_A".toList, " A.\n".toList, 1⟩] }

def pInner : Message :=
  .mk "Inner".toList " Inner.\n".toList false [fld "id" " Id.\n"] [] [] [pColor] []

def pFooBar : Field := fld "foo_bar" " Foo.\n"
def pChoice : Oneof := ⟨"choice".toList, " Choice.\n".toList, false⟩

def pOuter : Message :=
  .mk "Outer".toList " Outer.\n".toList false
    [pFooBar, ⟨"a".toList, " A.\n".toList, false, false, false, some 0⟩,
     ⟨"b".toList, " B.\n".toList, false, false, false, some 0⟩]
    [pChoice] [] [] [pInner]

def pGet : Rpc :=
  ⟨"GetFoo".toList, " Get.\n".toList, "acme.foo.v1.GetFooRequest".toList, "acme.foo.v1.GetFooResponse".toList, false, false⟩
def pList : Rpc :=
  ⟨"ListFoo".toList, " List.\n".toList, "acme.foo.v1.ListFooRequest".toList, "acme.foo.v1.ListFooResponse".toList, false, false⟩
def pSvc : Service := ⟨"FooService".toList, " Svc.\n".toList, [pGet, pList]⟩
def pImp : Import := ⟨"Dep/Bad.proto".toList, false, false, false⟩
def pOpts : List (Option Str) := [none, some "example.com/foo/v1;foov1".toList, none, none, none, none, none]

def pA : File :=
  { path := "acme/foo/v1/a.proto".toList, pkg := "acme.foo.v1".toList,
    imports := [pImp], langOpts := pOpts, enums := [pKind],
    msgs := [pOuter, exReq "GetFooRequest", exReq "GetFooResponse", exReq "ListFooRequest", exReq "ListFooResponse"],
    svcs := [pSvc], exts := [fld "file_ext" " File-level extension.\n"] }

def pB : File :=
  { path := "acme/foo/v1/b.proto".toList, pkg := "acme.foo.v1".toList, langOpts := pOpts,
    msgs := [exReq "Other"] }

def pw : Schema := [pA, pB, exDep]

theorem pA_at : FileAt pw pA := ⟨.head _, rfl, by decide +kernel⟩
theorem pB_at : FileAt pw pB := ⟨.tail _ (.head _), rfl, by decide +kernel⟩

def pathOuter : List Nat := [4, 0]
def pathInner : List Nat := [4, 0, 3, 0]
def pathColor : List Nat := [4, 0, 3, 0, 4, 0]
def pathRed : List Nat := [4, 0, 3, 0, 4, 0, 2, 1]
def pathZero : List Nat := [4, 0, 3, 0, 4, 0, 2, 0]
def pathFooBar : List Nat := [4, 0, 2, 0]
def pathChoice : List Nat := [4, 0, 8, 0]
def pathSvc : List Nat := [6, 0]
def pathList : List Nat := [6, 0, 2, 1]

theorem pInner_mem : (pathInner, pInner) ∈ fileMsgs pA := .tail _ (.head _)
theorem pColor_mem : (pathColor, pColor) ∈ fileEnums pA :=
  List.mem_append_right _ (List.mem_flatMap.mpr ⟨(pathInner, pInner), pInner_mem, .head _⟩)
theorem pRed_mem : (pathRed, pColor, (⟨"COLOR_RED".toList, " Red.\n".toList, 1⟩ : EnumValue)) ∈ fileEnumValues pA :=
  List.mem_flatMap.mpr ⟨(pathColor, pColor), pColor_mem, .tail _ (.head _)⟩
theorem pZero_mem :
    (pathZero, pColor, (⟨"COLOR_UNSPECIFIED".toList, " Zero.\n".toList, 0⟩ : EnumValue)) ∈ fileEnumValues pA :=
  List.mem_flatMap.mpr ⟨(pathColor, pColor), pColor_mem, .head _⟩
theorem pFooBar_mem : (pathFooBar, some pOuter, pFooBar) ∈ fileFields pA := .head _
-- by way of the message: `.head _` on `fileOneofs pA` itself makes the kernel compare the whole tail
theorem pChoice_mem : (pathChoice, pOuter, 0, pChoice) ∈ fileOneofs pA :=
  List.mem_flatMap.mpr ⟨(pathOuter, pOuter), .head _, .head _⟩
theorem pSvc_mem : (pathSvc, pSvc) ∈ fileSvcs pA := .head _
theorem pList_mem : (pathList, pSvc, pList) ∈ fileRpcs pA := .tail _ (.head _)
theorem pImp_mem : (0, pImp) ∈ indexed pA.imports := .head _

theorem pw_clean : cleanB {} Rule.all pw = true := by decide +kernel
theorem exWs_clean : cleanB {} Rule.all exWs = true := by decide +kernel

theorem pw_full_names : FullNamesDistinct pw := by decide +kernel
theorem all_nodup : Rule.all.Nodup := by decide +kernel
theorem pB_mem : pB ∈ nonImport pw := .tail _ (.head _)

end BufModel.Lint
