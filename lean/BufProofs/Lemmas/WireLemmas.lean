import BufModel.ImagePaths
/-
  For `stripBufExtensionField` (section (iv) of BufModel/ImagePaths.lean, clause (3) of Props/C11):
  an independent reading of unknown-field bytes as a list of top-level fields, and `stripLoop`
  expressed through it.
-/
namespace BufProofs.WireLemmas
open BufModel.ImagePaths

/-- One top-level field: its number and its raw bytes (tag + value). -/
structure Field where
  num : Nat
  raw : Bytes
  deriving DecidableEq, Repr

/-- Split bytes into top-level fields (`none` = malformed), with the protowire rules of the model. -/
def parseFields : Nat → Bytes → Option (List Field)
  | 0, _ => none
  | fuel + 1, rest =>
    if rest.isEmpty then some []
    else match consumeTag rest with
      | none => none
      | some (num, typ, n) =>
        match consumeFieldValue num typ (rest.drop n) with
        | none => none
        | some m =>
          match parseFields fuel (rest.drop (n + m)) with
          | none => none
          | some fs => some ({ num := num, raw := rest.take (n + m) } :: fs)

def parse (u : Bytes) : Option (List Field) := parseFields (u.length + 1) u

def render (fs : List Field) : Bytes := fs.flatMap (·.raw)

def keep (fs : List Field) : List Field := fs.filter (fun f => f.num ≠ bufExtensionFieldNumber)

theorem stripLoop_eq (fuel : Nat) : ∀ (rest acc : Bytes),
    stripLoop fuel rest acc = (parseFields fuel rest).map (fun fs => acc ++ render (keep fs)) := by
  induction fuel with
  | zero => intro rest acc; rfl
  | succ fuel ih =>
    intro rest acc
    unfold stripLoop parseFields
    by_cases he : rest.isEmpty = true
    · simp [he, render, keep]
    · simp only [he, Bool.false_eq_true, if_false]
      cases ht : consumeTag rest with
      | none => rfl
      | some x =>
        obtain ⟨num, typ, n⟩ := x
        simp only
        cases hv : consumeFieldValue num typ (rest.drop n) with
        | none => rfl
        | some m =>
          simp only
          rw [ih]
          cases hp : parseFields fuel (rest.drop (n + m)) with
          | none => rfl
          | some fs =>
            simp only [Option.map_some]
            by_cases h8 : num = bufExtensionFieldNumber
            · simp [h8, keep, render]
            · simp [h8, keep, render, List.append_assoc]

theorem parseFields_render (fuel : Nat) : ∀ (rest : Bytes) (fs : List Field),
    parseFields fuel rest = some fs → render fs = rest := by
  induction fuel with
  | zero => intro rest fs h; cases h
  | succ fuel ih =>
    intro rest fs h
    unfold parseFields at h
    by_cases he : rest.isEmpty = true
    · simp only [he, if_true] at h
      cases h
      simp [render, List.isEmpty_iff.mp he]
    · simp only [he, Bool.false_eq_true, if_false] at h
      cases ht : consumeTag rest with
      | none => rw [ht] at h; cases h
      | some x =>
        obtain ⟨num, typ, n⟩ := x
        rw [ht] at h
        simp only at h
        cases hv : consumeFieldValue num typ (rest.drop n) with
        | none => rw [hv] at h; cases h
        | some m =>
          rw [hv] at h
          simp only at h
          cases hp : parseFields fuel (rest.drop (n + m)) with
          | none => rw [hp] at h; cases h
          | some fs' =>
            rw [hp] at h
            cases h
            have := ih _ _ hp
            simp only [render, List.flatMap_cons] at this ⊢
            rw [this, List.take_append_drop]

end BufProofs.WireLemmas
