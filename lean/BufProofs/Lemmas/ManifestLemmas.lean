import BufModel.Manifest
import BufProofs.Lemmas.SortLemmas
import BufProofs.Lemmas.ListLemmas
import BufProofs.Lemmas.SplitLemmas
/-
  Lemmas about the bufcas model (C08; the file-node gate of C13 rests on them too): hex,
  split/join/cut, insertion sort, digest strings, file-node and manifest text with their parsers.
-/
namespace BufModel.Manifest
open BufModel.Path

/-! ### utf8 -/

theorem utf8_inj {a b : Str} (h : utf8 a = utf8 b) : a = b := by
  unfold utf8 at h
  apply String.ofList_injective
  apply String.toByteArray_inj.mp
  apply ByteArray.ext
  apply Array.toList_inj.mp
  simpa using h

/-- `utf8` without the detour through `String` and `ByteArray`.  Closed instances are evaluated
    through this form: `List.toByteArray` pushes byte by byte, which is quadratic for the kernel. -/
theorem utf8_eq_flatMap (s : Str) : utf8 s = s.flatMap String.utf8EncodeChar := by
  unfold utf8
  rw [String.toUTF8_eq_toByteArray, String.toByteArray_ofList]
  exact List.toList_data_toByteArray

/-! ### hex -/

theorem hexVal_hexDigit : ∀ n : Fin 16, hexVal (hexDigit n.val) = some n.val := by decide

theorem hexDigit_plain : ∀ n : Fin 16,
    hexDigit n.val ≠ ' ' ∧ hexDigit n.val ≠ '\n' ∧ hexDigit n.val ≠ ':' := by decide

theorem hexDecode_hexEncode (bs : Bytes) : hexDecode (hexEncode bs) = some bs := by
  induction bs with
  | nil => rfl
  | cons b bs ih =>
    have h1 : b.toNat / 16 < 16 := by have := b.toNat_lt; omega
    have h2 : b.toNat % 16 < 16 := Nat.mod_lt _ (by decide)
    have e1 := hexVal_hexDigit ⟨b.toNat / 16, h1⟩
    have e2 := hexVal_hexDigit ⟨b.toNat % 16, h2⟩
    simp only at e1 e2
    simp only [hexEncode, hexDecode, e1, e2, ih]
    have : b.toNat / 16 * 16 + b.toNat % 16 = b.toNat := by omega
    rw [this, UInt8.ofNat_toNat]

theorem hexEncode_inj {a b : Bytes} (h : hexEncode a = hexEncode b) : a = b := by
  have := hexDecode_hexEncode a
  rw [h, hexDecode_hexEncode] at this
  exact (Option.some.inj this).symm

theorem hexEncode_plain (bs : Bytes) : ∀ c ∈ hexEncode bs, c ≠ ' ' ∧ c ≠ '\n' ∧ c ≠ ':' := by
  induction bs with
  | nil => intro c h; cases h
  | cons b bs ih =>
    have h1 : b.toNat / 16 < 16 := by have := b.toNat_lt; omega
    have h2 : b.toNat % 16 < 16 := Nat.mod_lt _ (by decide)
    intro c hc
    simp only [hexEncode, List.mem_cons] at hc
    rcases hc with rfl | rfl | hc
    · exact hexDigit_plain ⟨_, h1⟩
    · exact hexDigit_plain ⟨_, h2⟩
    · exact ih c hc

/-! ### split / join / cut on a character -/

theorem splitOnC_eq (sep : Char) : ∀ s, splitOnC sep s = splitBy sep s :=
  eq_splitBy sep rfl (fun c cs l ls e => by simp [splitOnC, e])

theorem joinC_eq (sep : Char) : ∀ ls, joinC sep ls = joinBy sep ls :=
  eq_joinBy sep rfl (fun _ => rfl) (fun _ _ _ => rfl)

theorem splitOnC_ne_nil (sep : Char) (s : Str) : splitOnC sep s ≠ [] :=
  splitOnC_eq sep s ▸ splitBy_ne_nil sep s

theorem splitOnC_cons_ne (sep c : Char) (cs : Str) (h : c ≠ sep) (hd : Str) (tl : List Str)
    (heq : splitOnC sep cs = hd :: tl) : splitOnC sep (c :: cs) = (c :: hd) :: tl := by
  simp [splitOnC, h, heq]

theorem splitOnC_piece (sep : Char) (p : Str) (h : sep ∉ p) : splitOnC sep p = [p] :=
  (splitOnC_eq sep p).trans (splitBy_of_not_mem sep h)

theorem splitOnC_append_sep (sep : Char) (p : Str) (h : sep ∉ p) (rest : Str) :
    splitOnC sep (p ++ sep :: rest) = p :: splitOnC sep rest := by
  rw [splitOnC_eq, splitOnC_eq, splitBy_append_sep sep h]

theorem splitOnC_joinC (sep : Char) (ls : List Str) (hne : ls ≠ []) (h : ∀ l ∈ ls, sep ∉ l) :
    splitOnC sep (joinC sep ls) = ls := by
  rw [splitOnC_eq, joinC_eq, splitBy_joinBy sep ls hne h]

theorem joinC_inj (sep : Char) {a b : List Str} (ha : a ≠ []) (hb : b ≠ [])
    (hsa : ∀ l ∈ a, sep ∉ l) (hsb : ∀ l ∈ b, sep ∉ l) (h : joinC sep a = joinC sep b) : a = b := by
  have := splitOnC_joinC sep a ha hsa
  rw [h, splitOnC_joinC sep b hb hsb] at this
  exact this.symm

theorem cutC_append (sep : Char) (a : Str) (h : sep ∉ a) (b : Str) :
    cutC sep (a ++ sep :: b) = some (a, b) := by
  induction a with
  | nil => simp [cutC]
  | cons c cs ih =>
    have hc : c ≠ sep := fun e => h (by simp [e])
    have hcs : sep ∉ cs := fun e => h (by simp [e])
    show cutC sep (c :: (cs ++ sep :: b)) = _
    unfold cutC
    rw [if_neg hc, ih hcs]

theorem cut2sp_append (a : Str) (h : ' ' ∉ a) (p : Str) :
    cut2sp (a ++ ' ' :: ' ' :: p) = some (a, p) := by
  induction a with
  | nil => simp [cut2sp]
  | cons c cs ih =>
    have hc : c ≠ ' ' := fun e => h (by simp [e])
    have hcs : ' ' ∉ cs := fun e => h (by simp [e])
    have ih' := ih hcs
    cases cs with
    | nil =>
      show cut2sp (c :: ' ' :: ' ' :: p) = _
      have : cut2sp (' ' :: ' ' :: p) = some ([], p) := by simp [cut2sp]
      unfold cut2sp
      rw [if_neg (fun e => hc e.1), this]
    | cons d ds =>
      show cut2sp (c :: d :: (ds ++ ' ' :: ' ' :: p)) = _
      unfold cut2sp
      rw [if_neg (fun e => hc e.1)]
      have : d :: (ds ++ ' ' :: ' ' :: p) = (d :: ds) ++ ' ' :: ' ' :: p := rfl
      rw [this, ih']

/-! ### insertion sort -/

section Sorting
variable {α : Type} (le : α → α → Bool)

theorem insertBy_eq : ∀ a l, insertBy le a l = insBy (fun b a => !le a b) a l :=
  eq_insBy_not (fun _ => rfl) (fun _ _ _ => rfl)

theorem sortBy_eq : ∀ l, sortBy le l = isortBy (fun b a => !le a b) l :=
  eq_isortBy _ (insertBy_eq le) rfl (fun _ _ => rfl)

theorem sortBy_perm (l : List α) : (sortBy le l).Perm l := sortBy_eq le l ▸ isortBy_perm _ l

section Order
variable (htot : ∀ a b, le a b = true ∨ le b a = true)
  (htr : ∀ a b c, le a b = true → le b c = true → le a c = true)
include htot htr

theorem sortBy_pairwise (l : List α) : (sortBy le l).Pairwise (fun x y => le x y = true) :=
  sortBy_eq le l ▸ isortBy_pairwise (R := fun x y => le x y = true)
    (fun a b h => (htot a b).resolve_right (by simpa using h)) (fun a b h => by simpa using h) htr l

theorem sortBy_eq_of_perm {l₁ l₂ : List α} (hp : l₁.Perm l₂)
    (hanti : ∀ a b, a ∈ l₁ → b ∈ l₁ → le a b = true → le b a = true → a = b) :
    sortBy le l₁ = sortBy le l₂ := by
  rw [sortBy_eq, sortBy_eq]
  exact isortBy_eq_of_perm (R := fun x y => le x y = true)
    (fun a b h => (htot a b).resolve_right (by simpa using h)) (fun a b h => by simpa using h) htr hp hanti

end Order

theorem sortBy_eq_self (l : List α) (hl : l.Pairwise (fun x y => le x y = true)) : sortBy le l = l :=
  (sortBy_eq le l).trans (isortBy_eq_self _ (hl.imp fun h => congrArg not h))

end Sorting

/-! ### digest strings -/

theorem shake256Name_plain : ∀ c ∈ shake256Name, c ≠ ' ' ∧ c ≠ '\n' ∧ c ≠ ':' := by decide

theorem digestString_plain (d : Digest) : ∀ c ∈ digestString d, c ≠ ' ' ∧ c ≠ '\n' := by
  intro c hc
  simp only [digestString, List.mem_append, List.mem_cons] at hc
  rcases hc with h | rfl | h
  · exact ⟨(shake256Name_plain c h).1, (shake256Name_plain c h).2.1⟩
  · decide
  · exact ⟨(hexEncode_plain _ c h).1, (hexEncode_plain _ c h).2.1⟩

theorem parseDigest_digestString (d : Digest) : parseDigest (digestString d) = .ok d := by
  have hcut : cutC ':' (digestString d) = some (shake256Name, hexEncode d.val) :=
    cutC_append ':' shake256Name (fun h => (shake256Name_plain _ h).2.2 rfl) _
  have hne : digestString d ≠ [] :=
    List.append_ne_nil_of_right_ne_nil _ (List.cons_ne_nil _ _)
  unfold parseDigest
  rw [if_neg hne, hcut]
  simp only [ne_eq, not_true_eq_false, if_false, hexDecode_hexEncode]
  rw [dif_pos d.property]

theorem digestString_inj {a b : Digest} (h : digestString a = digestString b) : a = b := by
  have := parseDigest_digestString a
  rw [h, parseDigest_digestString] at this
  exact (Except.ok.inj this).symm

/-! ### file nodes -/

/-- The repaired `validateFileNodeParameters` accepts exactly the paths the pre-fix one accepted
    that contain no line feed. -/
theorem validateNodePath_ok_iff (p : Str) :
    validateNodePath p = .ok () ↔ validateNodePathOld p = .ok () ∧ '\n' ∉ p := by
  unfold validateNodePath
  cases h : validateNodePathOld p with
  | error e => simp
  | ok u =>
    cases u
    by_cases hn : '\n' ∈ p
    · simp [hn]
    · simp [hn]

theorem validateNodePath_no_newline {p : Str} (h : validateNodePath p = .ok ()) : '\n' ∉ p :=
  ((validateNodePath_ok_iff p).mp h).2

theorem validateNodePath_old_of_ok {p : Str} (h : validateNodePath p = .ok ()) :
    validateNodePathOld p = .ok () :=
  ((validateNodePath_ok_iff p).mp h).1

theorem validateNodePath_of_old {p : Str} (h : validateNodePathOld p = .ok ()) :
    validateNodePath p = if '\n' ∈ p then .error .pathLineFeed else .ok () := by
  unfold validateNodePath
  rw [h]

theorem newFileNode_eq_old {p : Str} (d : Digest) (h : '\n' ∉ p) :
    newFileNode p d = newFileNodeOld p d := by
  unfold newFileNode newFileNodeOld validateNodePath
  cases validateNodePathOld p with
  | error e => rfl
  | ok u => cases u; simp [h]

theorem newFileNode_ok {p : Str} (d : Digest) (h : validateNodePath p = .ok ()) :
    newFileNode p d = .ok ⟨p, d⟩ := by
  simp [newFileNode, h]

theorem newFileNode_eq_ok {p : Str} {d : Digest} {n : FileNode} (h : newFileNode p d = .ok n) :
    validateNodePath p = .ok () ∧ n = ⟨p, d⟩ := by
  unfold newFileNode at h
  split at h
  · cases h
  · rename_i hv
    exact ⟨hv, (Except.ok.inj h).symm⟩

theorem parseFileNode_fileNodeString_eq (n : FileNode) :
    parseFileNode (fileNodeString n) = newFileNode n.path n.digest := by
  have hcut : cut2sp (fileNodeString n) = some (digestString n.digest, n.path) :=
    cut2sp_append _ (fun hm => (digestString_plain _ _ hm).1 rfl) _
  unfold parseFileNode
  rw [hcut]
  simp only [finishNode, parseDigest_digestString]

theorem parseFileNode_fileNodeString (n : FileNode) (h : validateNodePath n.path = .ok ()) :
    parseFileNode (fileNodeString n) = .ok n :=
  (parseFileNode_fileNodeString_eq n).trans (newFileNode_ok _ h)

theorem fileNodeString_no_newline (n : FileNode) (h : '\n' ∉ n.path) : '\n' ∉ fileNodeString n := by
  intro hm
  simp only [fileNodeString, List.mem_append, List.mem_cons] at hm
  rcases hm with hm | hm | hm | hm
  · exact (digestString_plain _ _ hm).2 rfl
  · exact absurd hm (by decide)
  · exact absurd hm (by decide)
  · exact h hm

/-! ### manifests -/

theorem hasDupPath_false_iff (l : List FileNode) :
    hasDupPath l = false ↔ (l.map (·.path)).Nodup := by
  induction l with
  | nil => simp [hasDupPath]
  | cons n ns ih =>
    simp only [hasDupPath, Bool.or_eq_false_iff, List.map_cons, List.nodup_cons, ih]
    constructor
    · rintro ⟨h1, h2⟩
      refine ⟨?_, h2⟩
      intro hm
      rcases List.mem_map.mp hm with ⟨m, hm1, hm2⟩
      have : ns.any (fun m => m.path = n.path) = true :=
        List.any_eq_true.mpr ⟨m, hm1, by simp [hm2]⟩
      rw [h1] at this; cases this
    · rintro ⟨h1, h2⟩
      refine ⟨?_, h2⟩
      apply Bool.eq_false_iff.mpr
      intro hany
      rcases List.any_eq_true.mp hany with ⟨m, hm1, hm2⟩
      exact h1 (List.mem_map.mpr ⟨m, hm1, by simpa using hm2⟩)

theorem pathLe_total (a b : FileNode) : pathLe a b = true ∨ pathLe b a = true := by
  simp only [pathLe, decide_eq_true_eq]
  exact List.le_total _ _

theorem pathLe_trans (a b c : FileNode) (h1 : pathLe a b = true) (h2 : pathLe b c = true) :
    pathLe a c = true := by
  simp only [pathLe, decide_eq_true_eq] at *
  exact List.le_trans h1 h2

theorem pathLe_antisymm_path {a b : FileNode} (h1 : pathLe a b = true) (h2 : pathLe b a = true) :
    a.path = b.path := by
  simp only [pathLe, decide_eq_true_eq] at *
  exact List.le_antisymm h1 h2

theorem pathLe_antisymm_of_nodup {l : List FileNode} (hnd : (l.map (·.path)).Nodup)
    {a b : FileNode} (ha : a ∈ l) (hb : b ∈ l) (h1 : pathLe a b = true) (h2 : pathLe b a = true) :
    a = b := by
  have hp := pathLe_antisymm_path h1 h2
  exact BufProofs.ListLemmas.eq_of_nodup_map _ hnd ha hb hp

/-- The canonical (sorted, duplicate-free) form that `NewManifest` stores. -/
def Canonical (m : Manifest) : Prop :=
  m.Pairwise (fun x y => pathLe x y = true) ∧ (m.map (·.path)).Nodup

theorem newManifest_of_nodup (nodes : List FileNode) (h : (nodes.map (·.path)).Nodup) :
    newManifest nodes = .ok (sortBy pathLe nodes) := by
  unfold newManifest
  rw [(hasDupPath_false_iff nodes).mpr h]
  rfl

theorem newManifest_eq_ok {nodes : List FileNode} {m : Manifest} (h : newManifest nodes = .ok m) :
    (nodes.map (·.path)).Nodup ∧ m = sortBy pathLe nodes := by
  unfold newManifest at h
  split at h
  · cases h
  · rename_i hd
    exact ⟨(hasDupPath_false_iff nodes).mp (by simpa using hd), (Except.ok.inj h).symm⟩

theorem newManifest_perm {l₁ l₂ : List FileNode} (hp : l₁.Perm l₂) : newManifest l₁ = newManifest l₂ := by
  have hiff : (l₁.map (·.path)).Nodup ↔ (l₂.map (·.path)).Nodup := (hp.map _).nodup_iff
  unfold newManifest
  cases h1 : hasDupPath l₁ with
  | false =>
    have nd := (hasDupPath_false_iff l₁).mp h1
    rw [(hasDupPath_false_iff l₂).mpr (hiff.mp nd)]
    exact congrArg Except.ok (sortBy_eq_of_perm pathLe pathLe_total pathLe_trans hp
      (fun a b ha hb => pathLe_antisymm_of_nodup nd ha hb))
  | true =>
    cases h2 : hasDupPath l₂ with
    | true => rfl
    | false => rw [(hasDupPath_false_iff l₁).mpr (hiff.mpr ((hasDupPath_false_iff l₂).mp h2))] at h1; cases h1

theorem sortBy_canonical (nodes : List FileNode) (h : (nodes.map (·.path)).Nodup) :
    Canonical (sortBy pathLe nodes) :=
  ⟨sortBy_pairwise pathLe pathLe_total pathLe_trans nodes,
   (((sortBy_perm pathLe nodes).map (·.path)).nodup_iff).mpr h⟩

theorem newManifest_canonical {m : Manifest} (h : Canonical m) : newManifest m = .ok m := by
  rw [newManifest_of_nodup m h.2, sortBy_eq_self pathLe m h.1]

theorem manifestString_eq_join (m : Manifest) (hne : m ≠ []) :
    manifestString m = joinC '\n' (m.map fileNodeString) ++ ['\n'] := by
  induction m with
  | nil => exact absurd rfl hne
  | cons n ns ih =>
    cases ns with
    | nil => simp [manifestString, joinC]
    | cons n' rest =>
      have ih' := ih (by simp)
      show fileNodeString n ++ '\n' :: manifestString (n' :: rest) = _
      rw [ih']
      simp [joinC]

theorem parseLines_map (parse : Str → Except MErr FileNode) (m : List FileNode)
    (h : ∀ n ∈ m, parse (fileNodeString n) = .ok n) :
    parseLines parse (m.map fileNodeString) = .ok m := by
  induction m with
  | nil => rfl
  | cons n ns ih =>
    simp only [List.map_cons, parseLines, h n (by simp), ih (fun x hx => h x (by simp [hx]))]

/-- The line format needs only that no path holds a line feed. -/
theorem parseManifest_manifestString_eq (m : List FileNode) (hnl : ∀ n ∈ m, '\n' ∉ n.path) :
    parseManifest (manifestString m) =
      match parseLines parseFileNode (m.map fileNodeString) with
      | .error e => .error e
      | .ok nodes => newManifest nodes := by
  cases hm : m with
  | nil => rfl
  | cons n ns =>
    rw [← hm, manifestString_eq_join m (by simp [hm])]
    unfold parseManifest parseManifestWith
    rw [if_neg (by simp), if_neg (by simp), List.dropLast_concat,
      splitOnC_joinC '\n' _ (by simp [hm]) (by
        intro l hl
        rcases List.mem_map.mp hl with ⟨x, hx, rfl⟩
        exact fileNodeString_no_newline x (hnl x hx))]
    cases parseLines parseFileNode (m.map fileNodeString) <;> rfl

theorem parseManifest_manifestString (m : Manifest) (hc : Canonical m)
    (hv : ∀ n ∈ m, validateNodePath n.path = .ok ()) :
    parseManifest (manifestString m) = .ok m := by
  rw [parseManifest_manifestString_eq m fun n hn => validateNodePath_no_newline (hv n hn),
    parseLines_map _ m fun n hn => parseFileNode_fileNodeString n (hv n hn)]
  exact newManifest_canonical hc

theorem manifestString_inj {m₁ m₂ : Manifest} (h1 : Canonical m₁) (h2 : Canonical m₂)
    (hv1 : ∀ n ∈ m₁, validateNodePath n.path = .ok ()) (hv2 : ∀ n ∈ m₂, validateNodePath n.path = .ok ())
    (h : manifestString m₁ = manifestString m₂) : m₁ = m₂ := by
  have := parseManifest_manifestString m₁ h1 hv1
  rw [h, parseManifest_manifestString m₂ h2 hv2] at this
  exact (Except.ok.inj this).symm

end BufModel.Manifest
