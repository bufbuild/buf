import BufProofs.Lemmas.VersionLemmas
/-
  A consequence of the version grammar (`versionForComponent_shape`, VersionLemmas): a component
  with a character that no documented form contains, and without "test", is not a version.
-/
namespace BufModel.Lint
open BufModel.Case

theorem contains_mid (pat : Str) (hp : pat ≠ []) : ∀ (a b : Str), contains pat (a ++ pat ++ b) = true
  | [], b => by
    obtain ⟨p, ps, rfl⟩ := List.exists_cons_of_ne_nil hp
    simp [contains, splitFirst]
  | c :: a, b => by
    have ih := contains_mid pat hp a b
    simp only [contains, List.cons_append, splitFirst] at ih ⊢
    split
    · rfl
    · cases h : splitFirst pat (a ++ pat ++ b) with
      | none => rw [h] at ih; cases ih
      | some x => rfl

theorem versionForComponent_foreign (b : Bool) (s : Str) (x : Char) (hx : x ∈ s) (hd : isDigit x = false)
    (hf : x ∉ versionAlphabet) (ht : contains "test".toList s = false) : versionForComponent b s = none := by
  cases h : versionForComponent b s with
  | none => rfl
  | some v =>
    exfalso
    obtain ⟨rest, rfl, hshape⟩ := versionForComponent_shape b s v h
    by_cases hst : v.stability = .test
    · rw [hst] at hshape
      cases hshape with
      | test n sfx hn =>
        have := contains_mid "test".toList (by decide) ('v' :: n) sfx
        simp only [List.cons_append] at this ht
        rw [this] at ht
        cases ht
      | ab n m _ hst' _ _ => rcases hst' with e | e <;> cases e
      | patch n q m _ hst' _ _ _ => rcases hst' with e | e <;> cases e
    · rcases List.mem_cons.mp hx with rfl | hx
      · exact hf (by decide)
      · rcases docShape_chars rest _ hshape hst x hx with h1 | h1
        · rw [h1] at hd; cases hd
        · exact hf h1

end BufModel.Lint
