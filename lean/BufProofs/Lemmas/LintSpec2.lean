import BufProofs.Lemmas.LintLemmas
/-
  C05 — INDEPENDENT readings of the Clean conditions that are not grammars (audit S2): what
  `good` means in the words of the rule documentation, proved equivalent to the coded predicate.
-/
namespace BufModel.Lint
open BufModel.Case

/-! ### comments -/

theorem dropWhile_nil_iff (p : Char → Bool) : ∀ s : Str, s.dropWhile p = [] ↔ ∀ c ∈ s, p c = true
  | [] => by simp
  | a :: t => by cases ha : p a <;> simp [ha, dropWhile_nil_iff p t]

theorem dropWhile_head_not (p : Char → Bool) (s : Str) (a : Char) (t : Str) (h : s.dropWhile p = a :: t) :
    p a = false := by
  simpa [h] using List.head_dropWhile_not p (l := s) (by simp [h])

theorem trimBoth_eq_nil_iff (p : Char → Bool) (s : Str) : trimBoth p s = [] ↔ ∀ c ∈ s, p c = true := by
  unfold trimBoth
  constructor
  · intro h
    rw [← dropWhile_nil_iff]
    match hd : s.dropWhile p with
    | [] => rfl
    | a :: t =>
      obtain ⟨r, hr⟩ := dropEnd_cons_of_not p a t (dropWhile_head_not p s a t hd)
      rw [hd, hr] at h
      simp at h
  · intro h
    rw [(dropWhile_nil_iff p s).mpr h]; rfl

theorem hasPrefix_iff (pre s : Str) : hasPrefix pre s = true ↔ ∃ rest, s = pre ++ rest := by
  unfold hasPrefix
  rw [List.isPrefixOf_iff_prefix]
  constructor
  · rintro ⟨t, rfl⟩; exact ⟨t, rfl⟩
  · rintro ⟨t, rfl⟩; exact ⟨t, rfl⟩

theorem hasSuffix_iff (suf s : Str) : hasSuffix suf s = true ↔ ∃ pre, s = pre ++ suf := by
  unfold hasSuffix
  rw [List.isPrefixOf_iff_prefix, List.reverse_prefix]
  constructor
  · rintro ⟨t, rfl⟩; exact ⟨t, rfl⟩
  · rintro ⟨t, rfl⟩; exact ⟨t, rfl⟩

/-- **COMMENT_* in the words of the documentation** (with the one exclude prefix `ex` that
    bufcheck.Client always passes, "buf:lint:ignore"): the leading comment is accepted iff it has a
    line that contains a non-space character and, trimmed, does not start with `ex`. -/
theorem validLeadingComment_single_iff (ex c : Str) :
    validLeadingComment [ex] c = true ↔
      ∃ line ∈ splitLines c, (∃ ch ∈ line, isSpace ch = false) ∧ ¬ ∃ rest, trimSpace line = ex ++ rest := by
  unfold validLeadingComment
  -- per line: non-empty after trimming = some character is no space; no prefix = no decomposition
  simp only [List.any_eq_true, List.mem_singleton, exists_eq_left, Bool.and_eq_true, Bool.not_eq_true',
    ← Bool.not_eq_true, List.isEmpty_iff, hasPrefix_iff, trimSpace, trimBoth_eq_nil_iff, Classical.not_forall, exists_prop]

/-! ### RPC_REQUEST_STANDARD_NAME / RPC_RESPONSE_STANDARD_NAME -/

/-- the message name of a fully-qualified type name -/
def typeBase (full : Str) : Str := if contains ['.'] full then lastDotComponent full else full

theorem stdName_core (allow : Bool) (full base e1 e2 : Str) :
    (if (allow && full == emptyType) = true then false else (base != e1 && base != e2)) = false ↔
      (allow = true ∧ full = emptyType) ∨ base = e1 ∨ base = e2 := by
  by_cases h : allow = true ∧ full = emptyType
  · simp [h.1, h.2]
  · simp [h, Decidable.or_iff_not_imp_left]

/-- **The standard-name rules in the words of the documentation**, for PascalCase RPC and
    service names: the request (response) message is named `<Rpc>Request` or
    `<Service><Rpc>Request` (…`Response`) — or it is google.protobuf.Empty and the side's allow
    option is set. -/
theorem stdNameBad_iff (o : Options) (isReq : Bool) (s : Service) (m : Rpc)
    (hm : isPascalIdent m.name = true) (hs : isPascalIdent s.name = true) :
    stdNameBad o isReq s m = false ↔
      ((if isReq then o.rpcAllowGoogleProtobufEmptyRequests else o.rpcAllowGoogleProtobufEmptyResponses) = true ∧
        (if isReq then m.inType else m.outType) = emptyType) ∨
      typeBase (if isReq then m.inType else m.outType) =
        m.name ++ (if isReq then "Request".toList else "Response".toList) ∨
      typeBase (if isReq then m.inType else m.outType) =
        s.name ++ (m.name ++ (if isReq then "Request".toList else "Response".toList)) := by
  unfold stdNameBad typeBase
  simp only [pascalIdent_fix _ hm, pascalIdent_fix _ hs]
  cases isReq <;> simp only [Bool.false_eq_true, if_false, if_true] <;> exact stdName_core _ _ _ _ _

/-! ### PACKAGE_VERSION_SUFFIX -/

theorem splitDots_append_dot (a b : Str) : splitDots (a ++ '.' :: b) = splitDots a ++ splitDots b := by
  rw [splitDots_eq, splitDots_eq, splitDots_eq, splitBy_append]

theorem versionForPackage_last_component (b : Bool) (pre : Str) (c : Char) (cs : Str)
    (hnodot : ∀ x ∈ c :: cs, x ≠ '.') :
    versionForPackage b (pre ++ '.' :: c :: cs) = versionForComponent b (c :: cs) := by
  unfold versionForPackage
  rw [splitDots_append_dot, splitDots_no_dot _ hnodot]
  have hlen : ¬ (splitDots pre ++ [c :: cs]).length < 2 := by
    have := splitDots_ne_nil pre
    cases h : splitDots pre with
    | nil => exact absurd h this
    | cons a t => simp
  simp only [List.append_eq_nil_iff, reduceCtorEq, and_false, List.isEmpty_iff, if_false, hlen,
    List.getLast?_append, List.getLast?_singleton, Option.some_or]

/-- **PACKAGE_VERSION_SUFFIX accepts every package `<anything>.v<N>`** (1 ≤ N ≤ 2³¹-1): the grammar
    theorem `versionForComponent_stable`, composed with the package splitting. -/
theorem versionForPackage_stable (pre ds : Str) (hne : ds ≠ []) (hd : ds.all isDigit = true)
    (h1 : 1 ≤ digitsVal ds) (h2 : digitsVal ds ≤ 2147483647) :
    versionForPackage false (pre ++ '.' :: 'v' :: ds) = some ⟨digitsVal ds, .stable, 0, 0, []⟩ := by
  have hnodot : ∀ c ∈ ('v' :: ds), c ≠ '.' := List.forall_mem_cons.mpr
    ⟨by decide, fun c hc => digit_ne c '.' (List.all_eq_true.mp hd c hc) (by decide)⟩
  rw [versionForPackage_last_component false pre 'v' ds hnodot]
  exact versionForComponent_stable ds hne hd h1 h2

theorem versionForPackage_no_v (b : Bool) (pre : Str) (c : Char) (cs : Str) (hc : c ≠ 'v')
    (hnodot : ∀ x ∈ c :: cs, x ≠ '.') : versionForPackage b (pre ++ '.' :: c :: cs) = none := by
  rw [versionForPackage_last_component b pre c cs hnodot]
  exact versionForComponent_no_v b c cs hc

/-! ### PACKAGE_LOWER_SNAKE_CASE -/

theorem joinSep_mem (sep : Str) : ∀ (l : List Str) (x : Char), x ∈ joinSep sep l → x ∈ sep ∨ ∃ a ∈ l, x ∈ a
  | [], _, h => by simp [joinSep] at h
  | [a], x, h => by
    simp only [joinSep] at h
    exact Or.inr ⟨a, by simp, h⟩
  | a :: b :: t, x, h => by
    simp only [joinSep, List.mem_append] at h
    rcases h with (h | h) | h
    · exact Or.inr ⟨a, by simp, h⟩
    · exact Or.inl h
    · rcases joinSep_mem sep (b :: t) x h with h | ⟨y, hy, hx⟩
      · exact Or.inl h
      · exact Or.inr ⟨y, by simp [hy], hx⟩

theorem pkgLowerSnake_ne_of_upper (pkg : Str) (c : Char) (hc : c ∈ pkg) (hu : isUpper c = true) :
    pkg ≠ pkgLowerSnake pkg := by
  intro e
  rw [e] at hc
  unfold pkgLowerSnake at hc
  rcases joinSep_mem _ _ c hc with h | ⟨a, ha, hx⟩
  · simp only [List.mem_singleton] at h
    subst h
    exact absurd hu (by decide)
  · obtain ⟨comp, _, rfl⟩ := List.mem_map.mp ha
    unfold toLowerSnakeCase at hx
    obtain ⟨y, _, rfl⟩ := List.mem_map.mp hx
    simp [isUpper_toLower] at hu

end BufModel.Lint
