import BufProofs.Lemmas.FilterIndexLemmas
/-
  C12 — from the closure to the OUTPUT of `filterWith cfgFixed`.
  Two more invariants of the closure state, each checked against the writes of the machine
  (`FilterClosure.Write`): `SInv` (an extension is never marked enclosing-only; a visited extension's
  extendee is not excluded) and `OInv` (a oneof key is excluded only if every member field has an
  excluded type).  `ClosurePost` collects what the statements about the output use of the final
  closure state.  On the rewrite side `origin_*` say where each component of an output file comes
  from in the index.  The two meet in `ref_visited`: every reference of an output file is a reference
  (`FilterClosure.Refers`) of a VISITED index entry of its input file, with a target that is not
  excluded; the statements about references are read off it through `Reqs.refers`.
-/
namespace BufProofs.FilterOutput
open BufModel.Filter BufProofs.FilterLemmas BufProofs.FilterClosure BufProofs.FilterRewrite BufProofs.FilterIndex

/-! ### `SInv`: what is marked enclosing-only, and the extendee of a visited extension -/

structure SInv (c : Ctx) (st : St) : Prop where
  noEncl : ∀ k, rk st k = 1 → PKey c k
  ext : ∀ k i f e, c.idx.find k = some i → i.kind = .ext → i.fld = some f → f.extendee = some e →
    NonExt c (.el e) → 2 ≤ rk st k → rk st k ≤ 3 → rk st (.el e) ≠ 4

theorem sinv_of_unch (c : Ctx) (hc : c.cfg.svcMarksInput = false) (st st1 : St) (hle : Le c st st1)
    (hu : ∀ k, rk st1 k = rk st k ∨ rk st1 k = 4 ∨ 2 ≤ rk st k) (hs : SInv c st) : SInv c st1 := by
  constructor
  · intro k h1
    have hm := hle.mono k
    rcases hu k with h | h | h
    · exact hs.noEncl k (by omega)
    · omega
    · omega
  · intro k i f e hi hk hf he hne h2 h3 h4
    have h4' := hle.frozen hc _ hne h4
    have hm := hle.mono k
    rcases hu k with h | h | h
    · exact hs.ext k i f e hi hk hf he hne (by omega) (by omega) h4'
    · omega
    · exact hs.ext k i f e hi hk hf he hne h (by omega) h4'

theorem sinv_of_onlyExcl (c : Ctx) (st : St) (h : OnlyExcl st) : SInv c st := by
  have h04 : ∀ k, rk st k = 0 ∨ rk st k = 4 := by
    intro k
    rcases h k with h | h <;> rw [rk_of_get h] <;> simp [rank]
  constructor
  · intro k h1; rcases h04 k with h | h <;> omega
  · intro k i f e _ _ _ _ _ h2 h3; rcases h04 k with h | h <;> omega

/-- a write that sets the one key `k` -/
theorem sinv_set {c : Ctx} (hcfg : c.cfg.svcMarksInput = false) {st : St} {k : Key} {m : Mode}
    (hle : Le c st (st.set k m)) (hs : SInv c st)
    (h1 : m = .enclosing → PKey c k)
    (hv : (m = .implicit ∨ m = .explicit) → rk st k < 2 → ∀ i f e, c.idx.find k = some i → i.kind = .ext →
      i.fld = some f → f.extendee = some e → rk (st.set k m) (.el e) ≠ 4) : SInv c (st.set k m) := by
  constructor
  · intro k' h1'
    rw [rk_set] at h1'
    split at h1'
    · rename_i e; rw [e]; exact h1 (by cases m <;> simp [rank] at h1' ⊢)
    · exact hs.noEncl k' h1'
  · intro k' i f e hi hk hf he hne h2 h3 h4
    have h4' := hle.frozen hcfg _ hne h4
    by_cases ek : k' = k
    · subst ek
      by_cases hlow : rk st k' < 2
      · rw [rk_set, if_pos rfl] at h2 h3
        exact hv (by cases m <;> simp [rank] at h2 h3 ⊢) hlow i f e hi hk hf he h4
      · have := hle.mono k'
        exact hs.ext k' i f e hi hk hf he hne (by omega) (by have := hle.mono k'; omega) h4'
    · rw [rk_set, if_neg ek] at h2 h3
      exact hs.ext k' i f e hi hk hf he hne h2 h3 h4'

theorem write_sinv {c : Ctx} (hwf : ∀ j ∈ c.idx, ∀ p, j.parent = some p → PKey c p)
    (hcfg : c.cfg.svcMarksInput = false) {a b : St} (w : Write c a b) (hs : SInv c a) : SInv c b := by
  have hle := write_le w
  cases w with
  | imp fr to =>
    exact sinv_of_unch c hcfg _ _ hle (fun _ => Or.inl (rk_addImport _ _ _ _)) hs
  | encl hk _ hp =>
    obtain ⟨j, hj, hjp⟩ := hp
    exact sinv_set hcfg hle hs (fun _ => hwf j hj _ hjp) (fun h => by rcases h with h | h <;> cases h)
  | visit implied hk hi hx =>
    refine sinv_set hcfg hle hs (fun h => by cases implied <;> cases h) fun _ _ i' f e hi' hkind hf he => ?_
    rw [hi] at hi'; cases hi'
    exact hx hkind f e hf he
  | visitDrop implied hk hi hf =>
    refine sinv_of_unch c hcfg _ _ hle (fun k' => ?_) hs
    rw [rk_set]; split
    · exact Or.inr (Or.inl rfl)
    · rw [rk_set]; split
      · rename_i h1 h2; exact absurd h2 h1
      · exact Or.inl rfl
  | promote hm _ =>
    refine sinv_of_unch c hcfg _ _ hle (fun k' => ?_) hs
    rw [rk_set]; split
    · rename_i e; rw [e, rk_of_get hm]; exact Or.inr (Or.inr (by simp [rank]))
    · exact Or.inl rfl
  | dropExt _ _ | dropOneof _ _ _ _ | markInput _ _ =>
    refine sinv_of_unch c hcfg _ _ hle (fun k' => ?_) hs
    rw [rk_set]; split
    · exact Or.inr (Or.inl rfl)
    · exact Or.inl rfl

theorem closure_sinv (cfg : Cfg) (hcfg : cfg.svcMarksInput = false) (img : Image) (o : Opts) (fuel : Nat) (st : St)
    (hu : UniqIdx (buildIndex img)) (h : closure cfg img o fuel = .ok st) :
    SInv ⟨cfg, buildIndex img, o.customOpts⟩ st :=
  closure_pres cfg img o fuel st h (SInv _)
    (fun _ _ w => write_sinv (parent_pkey cfg img o.customOpts hu) hcfg w)
    (fun st0 h0 => sinv_of_onlyExcl _ st0 (excludePhase_onlyExcl h0))

/-! ### `OInv`: a oneof is dropped only when all its members are -/

/-- what the invariant needs of the index: entries of kind `msg` have element keys, no entry has a
    oneof key (true of every `buildIndex` output: `idxKeys_buildIndex`) -/
structure IdxKeys (idx : Index) : Prop where
  msgEl : ∀ j ∈ idx, j.kind = .msg → ∃ m, j.key = .el m
  noOneof : ∀ j ∈ idx, ∀ m n, j.key ≠ .oneof m n
  descEl : ∀ j ∈ idx, ∀ k ∈ j.desc, ∃ n, k = .el n

theorem idxKeys_buildIndex (img : Image) : IdxKeys (buildIndex img) := by
  have hkeys : ∀ j ∈ buildIndex img, (j.kind = .file ∧ ∃ x, j.key = .file x) ∨ ∃ n, j.key = .el n := by
    intro j hj
    obtain ⟨f, _, hjf⟩ := mem_buildIndex img j hj
    rw [fileInfos_eq] at hjf
    cases hjf with
    | head => exact Or.inl ⟨rfl, f.id, rfl⟩
    | tail _ hjf => exact Or.inr ((fileSub_B f).2.2.2 j hjf)
  refine ⟨?_, ?_, ?_⟩
  · intro j hj hk
    rcases hkeys j hj with ⟨hf, _⟩ | h
    · rw [hk] at hf; cases hf
    · exact h
  · intro j hj m n e
    rcases hkeys j hj with ⟨_, x, hx⟩ | ⟨x, hx⟩ <;> rw [hx] at e <;> cases e
  · intro j hj k hk
    obtain ⟨f, _, hjf⟩ := mem_buildIndex img j hj
    exact file_desc_el f j hjf k hk

/-- a oneof key is excluded only if every member field of that oneof has an excluded type -/
def OInv (c : Ctx) (st : St) : Prop :=
  ∀ m n i, rk st (.oneof m n) = 4 → c.idx.find (.el m) = some i →
    ∀ f ∈ i.fields, f.oneof = some n → ∃ t, f.ty = some t ∧ rk st (.el t) = 4

theorem rk_set_oneof (st : St) (k : Key) (md : Mode) (m n : Nat) (hk : k ≠ .oneof m n) :
    rk (st.set k md) (.oneof m n) = rk st (.oneof m n) := by
  rw [rk_set]
  have : ¬ (Key.oneof m n = k) := fun e => hk e.symm
  simp [this]

theorem write_oinv {c : Ctx} (hk : IdxKeys c.idx) {a b : St} (w : Write c a b) (hs : OInv c a) : OInv c b := by
  have hle := write_le w
  have notOneof : ∀ k i, c.idx.find k = some i → ∀ m n, k ≠ .oneof m n := by
    intro k i hi m n e
    exact hk.noOneof i (find_mem hi) m n (by rw [find_key _ _ _ hi, e])
  have unch : (∀ m n, rk b (.oneof m n) = rk a (.oneof m n)) → OInv c b := by
    intro hrk m n i h4 hi f hf ho
    obtain ⟨t, ht, h⟩ := hs m n i (hrk m n ▸ h4) hi f hf ho
    exact ⟨t, ht, hle.excl h⟩
  cases w with
  | imp fr to => exact unch fun m n => rk_addImport _ _ _ _
  | encl _ hi _ | visit _ _ hi _ | promote _ hi | dropExt hi _ =>
    exact unch fun m n => rk_set_oneof _ _ _ _ _ (notOneof _ _ hi m n)
  | visitDrop implied _ hi _ =>
    exact unch fun m n => by rw [rk_set_oneof _ _ _ _ _ (notOneof _ _ hi m n), rk_set_oneof _ _ _ _ _ (notOneof _ _ hi m n)]
  | dropOneof n hi hkind hall =>
    rename_i k i
    obtain ⟨m', hm'⟩ := hk.msgEl i (find_mem hi) hkind
    rw [find_key _ _ _ hi] at hm'
    subst hm'
    intro m n' i' h4 hi' f hf ho
    rw [rk_set] at h4
    split at h4
    · rename_i e
      cases e
      have hi'' : c.idx.find (.el m') = some i' := hi'
      rw [hi] at hi''; cases hi''
      obtain ⟨t, ht, hx⟩ := hall f hf ho
      exact ⟨t, ht, hle.excl hx⟩
    · obtain ⟨t, ht, hx⟩ := hs m n' i' h4 hi' f hf ho
      exact ⟨t, ht, hle.excl hx⟩
  | markInput x _ => exact unch fun m n => rk_set_oneof _ _ _ _ _ (by simp)

/-- no oneof key has a mode (true after the exclude phase) -/
def NoOneofMode (st : St) : Prop := ∀ m n, st.get (.oneof m n) = none

theorem noOneofMode_excludePhase (img : Image) (st' : St) (ns : List Id)
    (h : foldlE (excludeType img (buildIndex img)) {} ns = .ok st') : NoOneofMode st' := by
  intro m n
  rw [excludePhase_get h, if_neg]
  intro hm
  obtain ⟨x, _, hx⟩ := List.mem_flatMap.mp hm
  obtain ⟨i, hi, hpi, _⟩ := mem_exclList hx
  have hk := idxKeys_buildIndex img
  rcases List.mem_cons.mp hpi with e | e
  · exact hk.noOneof i hi m n e.symm
  · obtain ⟨y, hy⟩ := hk.descEl i hi _ e
    cases hy

theorem oinv_of_noOneofMode (c : Ctx) (st : St) (h : NoOneofMode st) : OInv c st := by
  intro m n i h4
  rw [rk_of_get (h m n)] at h4
  simp [rank] at h4

theorem closure_oinv (cfg : Cfg) (img : Image) (o : Opts) (fuel : Nat) (st : St)
    (h : closure cfg img o fuel = .ok st) : OInv ⟨cfg, buildIndex img, o.customOpts⟩ st :=
  closure_pres cfg img o fuel st h (OInv _) (fun _ _ w => write_oinv (idxKeys_buildIndex img) w)
    (fun st0 h0 => oinv_of_noOneofMode _ st0 (noOneofMode_excludePhase img st0 _ h0))

/-! ### the keys an exclude list names are excluded in the final closure -/

/-- the keys exclude `n` names: the element `n` and its indexed descendants, or — when `n` is a
    package — the files of that package with everything they declare -/
def ExclKeyOf (img : Image) (idx : Index) (n : Id) (k : Key) : Prop :=
  (∃ i, idx.find (.el n) = some i ∧ k ∈ i.key :: i.desc) ∨
  (idx.find (.el n) = none ∧ ∃ f ∈ filesOfPkg img n, ∃ i, idx.find (.file f.id) = some i ∧ k ∈ i.key :: i.desc)

def ExclKey (img : Image) (o : Opts) (k : Key) : Prop := ∃ n ∈ o.excludes, ExclKeyOf img (buildIndex img) n k

theorem exclKeyOf_iff (img : Image) (idx : Index) (n : Id) (k : Key) :
    ExclKeyOf img idx n k ↔ k ∈ exclList img idx n := by
  unfold ExclKeyOf exclList block
  cases h : idx.find (.el n) with
  | some i => simp
  | none =>
    simp only [reduceCtorEq, false_and, exists_false, false_or, true_and, List.mem_flatMap]
    constructor
    · rintro ⟨f, hf, i, hi, hk⟩
      exact ⟨f, hf, by rw [hi]; exact hk⟩
    · rintro ⟨f, hf, hk⟩
      split at hk
      · rename_i i hi; exact ⟨f, hf, i, hi, hk⟩
      · cases hk

theorem closure_exclKey (cfg : Cfg) (img : Image) (o : Opts) (fuel : Nat) (st : St)
    (h : closure cfg img o fuel = .ok st) (k : Key) (hk : ExclKey img o k) : rk st k = 4 := by
  obtain ⟨st0, h0, hr⟩ := closure_runs cfg img o fuel st h
  obtain ⟨n, hn, hkn⟩ := hk
  refine (runs_le hr).excl (rk_excl.mpr ?_)
  rw [excludePhase_get h0, if_pos (List.mem_flatMap.mpr ⟨n, hn, (exclKeyOf_iff _ _ _ _).mp hkn⟩)]

/-! ### where the components of the output come from -/

mutual
/-- the ordinary fields of a message and of everything nested in it -/
def msgFieldsAll : Msg → List Field
  | .mk _ fields _ _ nested _ _ _ _ _ => fields ++ msgsFieldsAll nested
def msgsFieldsAll : List Msg → List Field
  | [] => []
  | m :: ms => msgFieldsAll m ++ msgsFieldsAll ms
end

mutual
/-- the extensions declared inside a message, at any depth -/
def msgExtsAll : Msg → List Field
  | .mk _ _ _ exts nested _ _ _ _ _ => exts ++ msgsExtsAll nested
def msgsExtsAll : List Msg → List Field
  | [] => []
  | m :: ms => msgExtsAll m ++ msgsExtsAll ms
end

theorem msgsFieldsAll_eq (ms : List Msg) : msgsFieldsAll ms = ms.flatMap msgFieldsAll := by
  induction ms with
  | nil => rfl
  | cons m ms ih => rw [msgsFieldsAll, ih, List.flatMap_cons]

theorem msgsExtsAll_eq (ms : List Msg) : msgsExtsAll ms = ms.flatMap msgExtsAll := by
  induction ms with
  | nil => rfl
  | cons m ms ih => rw [msgsExtsAll, ih, List.flatMap_cons]

def allFields (f : OFile) : List Field := msgsFieldsAll f.msgs
def allExts (f : OFile) : List Field := msgsExtsAll f.msgs ++ f.exts
def allMethods (f : OFile) : List Method := (f.svcs.map (·.methods)).flatten

/-- ids of the elements an output file declares (messages, enums, services, methods, extensions) -/
def outIds (f : OFile) : List Id := (presentFile f).map (·.id)
/-- type references of an output file: field and extension types, request and response types -/
def typeRefs (f : OFile) : List Id :=
  (allFields f ++ allExts f).filterMap (·.ty) ++ ((allMethods f).map (fun m => [m.input, m.output])).flatten
/-- extendee references of an output file -/
def extendeeRefs (f : OFile) : List Id := (allFields f ++ allExts f).filterMap (·.extendee)

theorem remapField_some (c : RCtx) (p : List Nat) (x y : Field) (h : (remapField c p x).1 = some y) :
    y = x ∧ (x.extendee.isSome = true → c.has (.el x.id) = true) ∧ ∀ t, x.ty = some t → c.has (.el t) = true := by
  unfold remapField at h
  split at h
  · cases h
  · rename_i hx
    have hext : x.extendee.isSome = true → c.has (.el x.id) = true := by
      intro he
      simp only [he, Bool.true_and, Bool.not_eq_true', Bool.not_eq_false] at hx
      exact hx
    split at h
    · rename_i t ht
      split at h
      · rename_i hh
        simp only [Option.some.injEq] at h
        exact ⟨h.symm, hext, fun t' ht' => by rw [ht] at ht'; cases ht'; exact hh⟩
      · cases h
    · rename_i ht
      simp only [Option.some.injEq] at h
      exact ⟨h.symm, hext, fun t' ht' => by rw [ht] at ht'; cases ht'⟩

theorem remapEnum_some (c : RCtx) (p : List Nat) (x y : Enum) (h : (remapEnum c p x).1 = some y) :
    y = x ∧ c.has (.el x.id) = true := by
  unfold remapEnum at h
  split at h
  · rename_i hh
    simp only [Option.some.injEq] at h
    exact ⟨h.symm, hh⟩
  · cases h

theorem remapMethod_some (c : RCtx) (p : List Nat) (x y : Method) (h : (remapMethod c p x).1 = some y) :
    y = x ∧ c.has (.el x.id) = true ∧
      (c.methodIO = true → c.has (.el x.input) = true ∧ c.has (.el x.output) = true) := by
  unfold remapMethod at h
  split at h
  · rename_i hh
    simp only [Option.some.injEq] at h
    simp only [Bool.and_eq_true, Bool.or_eq_true, Bool.not_eq_true'] at hh
    refine ⟨h.symm, hh.1, ?_⟩
    intro hio
    rcases hh.2 with h' | h'
    · rw [hio] at h'; cases h'
    · exact h'
  · cases h

theorem renumberOneof_same (tbl : List Nat) (f : Field) :
    (renumberOneof tbl f).ty = f.ty ∧ (renumberOneof tbl f).extendee = f.extendee := by
  unfold renumberOneof
  split
  · exact ⟨rfl, rfl⟩
  · split <;> exact ⟨rfl, rfl⟩

/-- the fields of a kept, not enclosing-only message: the kept fields, their oneof indexes renumbered -/
def fieldsOut (c : RCtx) (id : Id) (nOneofs : Nat) (kept : List Field) : List Field :=
  if c.renumber then kept.map (renumberOneof (newOneofIndexes c.st id nOneofs 0 0)) else kept

theorem mem_fieldsOut (c : RCtx) (id : Id) (n : Nat) (kept : List Field) (g : Field)
    (h : g ∈ fieldsOut c id n kept) :
    ∃ g0 ∈ kept, g.ty = g0.ty ∧ g.extendee = g0.extendee := by
  unfold fieldsOut at h
  split at h
  · obtain ⟨g0, hg0, rfl⟩ := List.mem_map.mp h
    exact ⟨g0, hg0, renumberOneof_same _ g0⟩
  · exact ⟨g, h, rfl, rfl⟩

theorem remapMsg_shape (c : RCtx) (path : List Nat) (id : Id) (fields : List Field) (oneofs : List Oneof)
    (exts : List Field) (nested : List Msg) (enums : List Enum) (rangeOpts : List (List OptUse))
    (reserved mapEntry : Bool) (opts : List OptUse) (y : Msg)
    (h : (remapMsg c path (.mk id fields oneofs exts nested enums rangeOpts reserved mapEntry opts)).1 = some y) :
    c.has (.el id) = true ∧ ∃ fs os ro rs,
      y = .mk id fs os (remapSlice (path ++ [6]) (remapField c) exts 0 0).1
        (remapMsgs c (path ++ [3]) nested 0 0).1 (remapSlice (path ++ [4]) (remapEnum c) enums 0 0).1
        ro rs mapEntry opts ∧
      ((fs = [] ∧ os = []) ∨ (c.st.get (.el id) ≠ some .enclosing ∧
        fs = fieldsOut c id oneofs.length (remapSlice (path ++ [2]) (remapField c) fields 0 0).1 ∧
        os = (remapSlice (path ++ [8]) (remapOneof c id) oneofs 0 0).1)) := by
  unfold remapMsg at h
  split at h
  · cases h
  · rename_i hh
    simp only [Bool.not_eq_true, Bool.not_eq_false'] at hh
    refine ⟨hh, ?_⟩
    split at h
    · split at h
      · simp only [Option.some.injEq] at h
        exact ⟨_, _, _, _, h.symm, Or.inl ⟨rfl, rfl⟩⟩
      · rename_i hne
        simp only [Bool.or_eq_true, Bool.not_eq_true', not_or, Bool.not_eq_true, Bool.not_eq_false] at hne
        simp only [Option.some.injEq] at h
        refine ⟨_, _, _, _, h.symm, Or.inl ⟨?_, ?_⟩⟩
        · simpa using hne.1.1.1
        · simpa using hne.1.1.2
    · rename_i hne
      simp only [Option.some.injEq] at h
      exact ⟨_, _, _, _, h.symm, Or.inr ⟨hne, rfl, rfl⟩⟩

/-- a kept field `g` of the output comes from field `g0` of the kept, not enclosing-only message
    with index entry `j` -/
structure FieldFrom (c : RCtx) (g : Field) (j : Info) (g0 : Field) : Prop where
  mem : g0 ∈ j.fields
  kind : j.kind = .msg
  ty : g.ty = g0.ty
  extendee : g.extendee = g0.extendee
  has : c.has j.key = true
  notEncl : c.st.get j.key ≠ some .enclosing
  tyHas : ∀ t, g.ty = some t → c.has (.el t) = true

def FieldOrigin (c : RCtx) (L : List Info) (g : Field) : Prop := ∃ j ∈ L, ∃ g0, FieldFrom c g j g0

/-- a kept extension `g` of the output is the extension with index entry `j` -/
structure ExtFrom (c : RCtx) (g : Field) (j : Info) : Prop where
  kind : j.kind = .ext
  fld : j.fld = some g
  key : j.key = .el g.id
  has : c.has (.el g.id) = true
  tyHas : ∀ t, g.ty = some t → c.has (.el t) = true

def ExtOrigin (c : RCtx) (L : List Info) (g : Field) : Prop := ∃ j ∈ L, ExtFrom c g j

/-- every extension entry of the block carries an extendee -/
def ExtsOK (L : List Info) : Prop := ∀ j ∈ L, ∀ f, j.fld = some f → f.extendee.isSome = true

theorem ext_slice_origin (c : RCtx) (file : Id) (par : Key) (path : List Nat) (exts : List Field) {L : List Info}
    (hL : ∀ x ∈ exts, extInfo file par x ∈ L) (hX : ExtsOK L) (g : Field)
    (hg : g ∈ (remapSlice path (remapField c) exts 0 0).1) : ExtOrigin c L g := by
  obtain ⟨x, hx, p, hp⟩ := remapSlice_origin _ _ _ _ _ _ hg
  obtain ⟨rfl, h1, h2⟩ := remapField_some c p x g hp
  exact ⟨extInfo file par g, hL g hx, ⟨rfl, rfl, rfl, h1 (hX _ (hL g hx) g rfl), h2⟩⟩

theorem remapMsgs_origin (c : RCtx) (path : List Nat) (ms : List Msg) (fr to : Nat) (y : Msg)
    (h : y ∈ (remapMsgs c path ms fr to).1) : ∃ m ∈ ms, ∃ p, (remapMsg c p m).1 = some y := by
  rw [remapMsgs_eq] at h
  exact remapSlice_origin _ _ _ _ _ _ h

/-- where the declarations, fields and extensions of a kept message `y` (at any depth) come from,
    in terms of a list `L` of index entries -/
def MsgOrigin (c : RCtx) (file : Id) (L : List Info) (y : Msg) : Prop :=
  (∀ p ∈ presentMsg file y, c.has (.el p.id) = true) ∧
  (∀ g ∈ msgFieldsAll y, FieldOrigin c L g) ∧ (∀ g ∈ msgExtsAll y, ExtOrigin c L g)

/-- `L` is any list that holds the index block of `m` (the block of the file, for every caller): the
    induction hypothesis then speaks of the same `L`. -/
theorem origin_msg (c : RCtx) (file : Id) (parent : Key) (path : List Nat) (m y : Msg) {L : List Info}
    (hL : ∀ j ∈ msgInfos file parent m, j ∈ L) (hX : ExtsOK L) (h : (remapMsg c path m).1 = some y) :
    MsgOrigin c file L y := by
  induction m using Msg.ind generalizing parent path y with
  | h id fields oneofs exts nested enums rangeOpts reserved mapEntry opts ih =>
    obtain ⟨hid, fs, os, ro, rs, rfl, hfs⟩ := remapMsg_shape c path id fields oneofs exts nested enums rangeOpts
      reserved mapEntry opts y h
    have ext := ext_slice_origin c file (.el id) (path ++ [6]) exts (fun x hx => hL _ (by
      simp only [msgInfos, List.mem_cons, List.mem_append]
      exact Or.inr (Or.inr (List.mem_map_of_mem hx)))) hX
    -- a kept nested message comes from a nested message, to which the induction hypothesis applies
    have nest : ∀ y' ∈ (remapMsgs c (path ++ [3]) nested 0 0).1, MsgOrigin c file L y' := by
      intro y' hy'
      obtain ⟨n, hn, q, hq⟩ := remapMsgs_origin _ _ _ _ _ _ hy'
      exact ih n hn (.el id) q y' (fun j hj => hL j (msgInfos_nested hn hj)) hq
    refine ⟨?_, ?_, ?_⟩
    · intro p hp
      simp only [presentMsg, presentMsgs_eq, List.mem_cons, List.mem_append, List.mem_map, List.mem_flatMap] at hp
      rcases hp with rfl | (⟨y', hy', hp⟩ | ⟨e, he, rfl⟩) | ⟨x, hx, rfl⟩
      · exact hid
      · exact (nest y' hy').1 p hp
      · rw [remapSlice_enums, List.mem_filter] at he
        exact he.2
      · obtain ⟨_, _, e⟩ := ext x hx
        exact e.has
    · intro g hg
      simp only [msgFieldsAll, msgsFieldsAll_eq, List.mem_append, List.mem_flatMap] at hg
      rcases hg with hg | ⟨y', hy', hg⟩
      · rcases hfs with ⟨rfl, _⟩ | ⟨hne, rfl, _⟩
        · cases hg
        · obtain ⟨g0, hg0, e2, e3⟩ := mem_fieldsOut _ _ _ _ g hg
          obtain ⟨x, hx, q, hq⟩ := remapSlice_origin _ _ _ _ _ _ hg0
          obtain ⟨rfl, _, h2⟩ := remapField_some c q x g0 hq
          refine ⟨_, hL _ (by simp only [msgInfos]; exact List.mem_cons_self), g0, ⟨hx, rfl, e2, e3, hid, hne, ?_⟩⟩
          intro t ht
          exact h2 t (by rw [← e2]; exact ht)
      · exact (nest y' hy').2.1 g hg
    · intro g hg
      simp only [msgExtsAll, msgsExtsAll_eq, List.mem_append, List.mem_flatMap] at hg
      rcases hg with hg | ⟨y', hy', hg⟩
      · exact ext g hg
      · exact (nest y' hy').2.2 g hg

/-- a kept method `m` of the output is the method with index entry `j`, of a kept service of `L` -/
structure MethodFrom (c : RCtx) (L : List Info) (m : Method) (j : Info) : Prop where
  kind : j.kind = .method
  key : j.key = .el m.id
  input : j.input = m.input
  output : j.output = m.output
  has : c.has (.el m.id) = true
  io : c.methodIO = true → c.has (.el m.input) = true ∧ c.has (.el m.output) = true
  svc : ∃ js ∈ L, js.kind = .svc ∧ m ∈ js.methods ∧ c.has js.key = true

def MethodOrigin (c : RCtx) (L : List Info) (m : Method) : Prop := ∃ j ∈ L, MethodFrom c L m j

theorem origin_svcs (c : RCtx) (file : Id) (svcs : List Service) {L : List Info}
    (hL : ∀ s ∈ svcs, ∀ j ∈ svcInfos file s, j ∈ L) (s' : Service)
    (hs : s' ∈ (remapSlice [6] (remapService c) svcs 0 0).1) :
    c.has (.el s'.id) = true ∧ ∀ m ∈ s'.methods, c.has (.el m.id) = true ∧ MethodOrigin c L m := by
  obtain ⟨s, hsm, p, hp⟩ := remapSlice_origin _ _ _ _ _ _ hs
  unfold remapService at hp
  split at hp
  · cases hp
  · rename_i hh
    simp only [Bool.not_eq_true, Bool.not_eq_false'] at hh
    simp only [Option.some.injEq] at hp
    subst hp
    refine ⟨hh, ?_⟩
    intro m hm
    simp only at hm
    obtain ⟨x, hx, q, hq⟩ := remapSlice_origin _ _ _ _ _ _ hm
    obtain ⟨rfl, h1, h2⟩ := remapMethod_some c q x m hq
    refine ⟨h1, methodInfo file (.el s.id) m, hL s hsm _ ?_, ⟨rfl, rfl, rfl, rfl, h1, h2, ?_⟩⟩
    · simp only [svcInfos, List.mem_cons, List.mem_map]
      exact Or.inr ⟨m, hx, rfl⟩
    · exact ⟨_, hL s hsm _ (by unfold svcInfos; exact List.mem_cons_self), rfl, hx, hh⟩

theorem origin_file (c : RCtx) (f : File) (of : OFile) (hX : ExtsOK (fileInfos f)) (h : remapFile c f = some of) :
    (∀ x ∈ outIds of, c.has (.el x) = true) ∧
    (∀ g ∈ allFields of, FieldOrigin c (fileInfos f) g) ∧
    (∀ g ∈ allExts of, ExtOrigin c (fileInfos f) g) ∧
    (∀ m ∈ allMethods of, MethodOrigin c (fileInfos f) m) := by
  unfold remapFile at h
  split at h
  · cases h
  · simp only [Option.some.injEq] at h
    subst h
    have msg : ∀ y ∈ (remapMsgs c [4] f.msgs 0 0).1, MsgOrigin c f.id (fileInfos f) y := by
      intro y hy
      obtain ⟨m, hm, q, hq⟩ := remapMsgs_origin _ _ _ _ _ _ hy
      exact origin_msg c f.id (.file f.id) q m y (fun j hj => mem_fileInfos_msgs f j (msgsInfos_mem hm hj)) hX hq
    have svc := origin_svcs c f.id f.svcs (L := fileInfos f) fun s hs j hj => by
      simp only [fileInfos, List.mem_cons, List.mem_append, List.mem_flatten, List.mem_map]
      exact Or.inr (Or.inl (Or.inr ⟨_, ⟨s, hs, rfl⟩, hj⟩))
    have ext := ext_slice_origin c f.id (.file f.id) [7] f.exts (fun x hx => by
      simp only [fileInfos, List.mem_cons, List.mem_append]
      exact Or.inr (Or.inr (List.mem_map_of_mem hx))) hX
    refine ⟨?_, ?_, ?_, ?_⟩
    · intro x hx
      simp only [outIds, presentFile, presentMsgs_eq, List.map_append, List.mem_append, List.mem_map, List.mem_flatten,
        List.mem_flatMap] at hx
      rcases hx with ((⟨p, ⟨y, hy, hp⟩, rfl⟩ | ⟨p, ⟨e, he, rfl⟩, rfl⟩) | ⟨p, ⟨l, ⟨s, hs, rfl⟩, hp⟩, rfl⟩) | ⟨p, ⟨x, hx, rfl⟩, rfl⟩
      · exact (msg y hy).1 p hp
      · rw [remapSlice_enums, List.mem_filter] at he
        exact he.2
      · simp only [List.mem_cons, List.mem_map] at hp
        rcases hp with rfl | ⟨m, hm, rfl⟩
        · exact (svc s hs).1
        · exact ((svc s hs).2 m hm).1
      · obtain ⟨_, _, e⟩ := ext x hx
        exact e.has
    · intro g hg
      simp only [allFields, msgsFieldsAll_eq, List.mem_flatMap] at hg
      obtain ⟨y, hy, hg⟩ := hg
      exact (msg y hy).2.1 g hg
    · intro g hg
      simp only [allExts, msgsExtsAll_eq, List.mem_append, List.mem_flatMap] at hg
      rcases hg with ⟨y, hy, hg⟩ | hg
      · exact (msg y hy).2.2 g hg
      · exact ext g hg
    · intro m hm
      simp only [allMethods, List.mem_flatten, List.mem_map] at hm
      obtain ⟨l, ⟨s, hs, rfl⟩, hm⟩ := hm
      exact ((svc s hs).2 m hm).2

/-! ### well-formedness of references (decidable input conditions) -/

/-- What the output-level theorems need of the references of an image, read off its index:
    every extension names an extendee, extendees are not themselves extensions, and ordinary
    fields carry no extendee. -/
structure WFRefs (idx : Index) : Prop where
  extHasExtendee : ∀ j ∈ idx, ∀ f, j.fld = some f → f.extendee.isSome = true
  extendeeMsg : ∀ j ∈ idx, ∀ f e, j.fld = some f → f.extendee = some e →
    ∀ ie, idx.find (.el e) = some ie → ie.fld = none
  fieldsPlain : ∀ j ∈ idx, ∀ g ∈ j.fields, g.extendee = none

def wfRefsB (idx : Index) : Bool :=
  idx.all (fun j => match j.fld with
    | some f => (match f.extendee with
      | some e => (match idx.find (.el e) with | some ie => ie.fld.isNone | none => true)
      | none => false)
    | none => true) &&
  idx.all (fun j => j.fields.all (fun g => g.extendee.isNone))

theorem wfRefs_of_B (idx : Index) (h : wfRefsB idx = true) : WFRefs idx := by
  unfold wfRefsB at h
  simp only [Bool.and_eq_true, List.all_eq_true] at h
  obtain ⟨h1, h2⟩ := h
  refine ⟨?_, ?_, ?_⟩
  · intro j hj f hf
    have := h1 j hj
    simp only [hf] at this
    cases he : f.extendee with
    | none => simp only [he] at this; cases this
    | some e => rfl
  · intro j hj f e hf he ie hie
    have := h1 j hj
    simp only [hf, he, hie] at this
    simpa using this
  · intro j hj g hg
    have := h2 j hj g hg
    simpa using this

/-- the hypothesis that excludes known finding 9e for exclude-only filters: the image has no
    import (non-target) file, and `FileTypes` of every file lists the extensions it declares -/
def NoImportCover (img : Image) : Prop :=
  ∀ f ∈ img.files, f.isImport = false ∧
    ∀ j ∈ fileInfos f, j.kind ≠ .file → j.kind ≠ .method → ∀ n, j.key = .el n → n ∈ f.types

def noImportCoverB (img : Image) : Bool :=
  img.files.all (fun f => !f.isImport && (fileInfos f).all (fun j => j.kind == .file || j.kind == .method ||
    (match j.key with | .el n => f.types.contains n | _ => true)))

theorem noImportCover_of_B (img : Image) (h : noImportCoverB img = true) : NoImportCover img := by
  unfold noImportCoverB at h
  simp only [List.all_eq_true, Bool.and_eq_true, Bool.not_eq_true', Bool.or_eq_true, beq_iff_eq] at h
  intro f hf
  refine ⟨(h f hf).1, ?_⟩
  intro j hj hk1 hk2 n hn
  rcases (h f hf).2 j hj with (h' | h') | h'
  · exact absurd h' hk1
  · exact absurd h' hk2
  · rw [hn] at h'; simpa using h'

/-! ### exclude-only filters without import files visit every message, enum, service and extension -/

/-- an excluded file key has all its descendants excluded -/
def FE (idx : Index) (st : St) : Prop :=
  ∀ i ∈ idx, ∀ n, i.key = .file n → rk st i.key = 4 → ∀ k ∈ i.desc, rk st k = 4

theorem fe_excludePhase (img : Image) (hu : UniqIdx (buildIndex img)) (st' : St) (ns : List Id)
    (h : foldlE (excludeType img (buildIndex img)) {} ns = .ok st') : FE (buildIndex img) st' := by
  intro i hi n hn h4 k hk
  have hx := rk_excl.mp h4
  rw [excludePhase_get h] at hx
  split at hx
  · rename_i hm
    obtain ⟨x, hx', hix⟩ := List.mem_flatMap.mp hm
    obtain ⟨i', hi', hpi, hall⟩ := mem_exclList hix
    -- a file key in a block is the block's head: descendants are element keys
    have hkk : i.key = i'.key := by
      rcases List.mem_cons.mp hpi with e | e
      · exact e
      · obtain ⟨y, hy⟩ := (idxKeys_buildIndex img).descEl i' hi' _ e
        rw [hn] at hy; cases hy
    have e1 := hu i hi
    rw [hkk, hu i' hi'] at e1
    cases e1
    refine rk_excl.mpr ?_
    rw [excludePhase_get h, if_pos (List.mem_flatMap.mpr ⟨x, hx', hall _ (List.mem_cons_of_mem _ hk)⟩)]
  · cases hx

theorem fileHead_find (img : Image) (hu : UniqIdx (buildIndex img)) (f : File) (hf : f ∈ img.files) :
    (buildIndex img).find (.file f.id) = some (fileHead f) :=
  hu (fileHead f) (mem_buildIndex_of img f hf _ (by rw [fileInfos_eq]; exact List.mem_cons_self))

theorem excludeOnly_visited (cfg : Cfg) (hcfg : cfg.svcMarksInput = false) (img : Image) (o : Opts) (fuel : Nat)
    (st : St) (h : closure cfg img o fuel = .ok st) (hu : UniqIdx (buildIndex img)) (hinc : o.includes = [])
    (hni : NoImportCover img) (f : File) (hf : f ∈ img.files) (j : Info) (hj : j ∈ fileInfos f)
    (hk1 : j.kind ≠ .file) (hk2 : j.kind ≠ .method) : 2 ≤ rk st j.key := by
  obtain ⟨st0, st1, st2, h0, h1, h2, h3⟩ := closure_phases cfg img o fuel st h
  let c : Ctx := ⟨cfg, buildIndex img, o.customOpts⟩
  have ho := excludePhase_onlyExcl h0
  have hfe := fe_excludePhase img hu st0 o.excludes h0
  rw [hinc] at h1 h2
  simp only [foldlE, Except.ok.injEq] at h1
  subst h1
  simp only [List.isEmpty_nil, if_true] at h2
  have g2 : Good c st0 st2 := runs_good hcfg (includeEverything_runs h2) ⟨closed_of_onlyExcl _ _ ho, Le.refl _ _⟩
  have g3 : Good c st2 st := runs_good hcfg (addExtensionsPhase_runs h3) ⟨g2.1, Le.refl _ _⟩
  have hfind : c.idx.find (.file f.id) = some (fileHead f) := fileHead_find img hu f hf
  have hfile2 : 2 ≤ rk st (.file f.id) :=
    Nat.le_trans (includeEverything_visits h2 f hf (hni f hf).1) (g3.2.mono _)
  have hle : Le c st0 st := Le.trans g2.2 g3.2
  have hjsub : j ∈ fileSub f := by
    rw [fileInfos_eq] at hj
    cases hj with
    | head => exact absurd rfl hk1
    | tail _ hj => exact hj
  have hjidx : j ∈ buildIndex img := mem_buildIndex_of img f hf j hj
  by_cases h4 : rk st (.file f.id) = 4
  · have hn : NonExt c (.file f.id) := ⟨by intro m n; simp, fun i hi => by rw [hfind] at hi; cases hi; rfl⟩
    have h40 := hle.frozen hcfg _ hn h4
    have := hfe (fileHead f) (find_mem hfind) f.id rfl h40 j.key (List.mem_map.mpr ⟨j, hjsub, rfl⟩)
    have := hle.excl this
    omega
  · have hr := g3.1.reqs hfind hfile2 h4
    obtain ⟨n, hn⟩ := (fileSub_B f).2.2.2 j hjsub
    have hjf : c.idx.find (.el n) = some j := by rw [← hn]; exact hu j hjidx
    have hty : n ∈ fileTys c (fileHead f) := by
      unfold fileTys
      have hc' : c.cfg.svcMarksInput = false := hcfg
      rw [hc']
      simp only [Bool.false_eq_true, if_false, List.mem_filter]
      refine ⟨(hni f hf).2 j hj hk1 hk2 n hn, ?_⟩
      rw [hjf]; simpa using hk2
    rw [hn]
    exact (hr.fileTy rfl hty j hjf).1

/-! ### what the rewrite needs of the closure -/

/-- The final closure state under `cfgFixed`, as the rewrite sees it (with the one input
    condition `uniq`); every statement about the output speaks of a state with these properties. -/
structure ClosurePost (img : Image) (o : Opts) (st : St) : Prop where
  uniq : UniqIdx (buildIndex img)
  closed : Closed ⟨cfgFixed, buildIndex img, o.customOpts⟩ st
  sinv : SInv ⟨cfgFixed, buildIndex img, o.customOpts⟩ st
  oinv : OInv ⟨cfgFixed, buildIndex img, o.customOpts⟩ st
  up : ∀ j ∈ buildIndex img, Up ⟨st, o.includes.isEmpty, true, true⟩ j
  excl : ∀ k, ExclKey img o k → rk st k = 4
  explicit : ∀ n ∈ o.includes, ∀ i, (buildIndex img).find (.el n) = some i → i.fld = none →
    st.get (.el n) = some .explicit
  visited : o.includes = [] → NoImportCover img → ∀ f ∈ img.files, ∀ j ∈ fileInfos f, j.kind ≠ .file →
    j.kind ≠ .method → 2 ≤ rk st j.key

theorem closure_post (img : Image) (o : Opts) (fuel : Nat) (st : St) (hcl : closure cfgFixed img o fuel = .ok st)
    (hu : UniqIdx (buildIndex img)) : ClosurePost img o st := by
  have hwf := wfIdx_of_uniq img hu
  obtain ⟨st0, h0, _, hg⟩ := closure_good cfgFixed rfl img o fuel st hcl
  have hd := dc_of_le ⟨cfgFixed, buildIndex img, o.customOpts⟩ rfl hwf st0 st
    (dc_excludePhase img (buildIndex img) hwf st0 o.excludes h0).2 hg.2
  exact ⟨hu, hg.1, closure_sinv cfgFixed rfl img o fuel st hu hcl, closure_oinv cfgFixed img o fuel st hcl,
    up_of_closed _ hwf st hg.1 hd _ true true, closure_exclKey cfgFixed img o fuel st hcl,
    closure_keeps_includes cfgFixed rfl img o fuel st hcl,
    excludeOnly_visited cfgFixed rfl img o fuel st hcl hu⟩

/-! ### filter_drops_excludes, output level -/

theorem filterWith_parts (cfg : Cfg) (img : Image) (o : Opts) (fuel : Nat) (out : List OFile)
    (h : filterWith cfg img o fuel = .ok out) :
    ∃ st, closure cfg img o fuel = .ok st ∧ rewrite cfg st o.includes.isEmpty img = .ok out := by
  unfold filterWith at h
  split at h
  · cases h
  · rename_i st hcl
    exact ⟨st, hcl, h⟩

theorem filterWith_file (img : Image) (o : Opts) (fuel : Nat) (out : List OFile)
    (h : filterWith cfgFixed img o fuel = .ok out) (hu : UniqIdx (buildIndex img)) (of : OFile) (hof : of ∈ out) :
    ∃ st f, ClosurePost img o st ∧ rewrite cfgFixed st o.includes.isEmpty img = .ok out ∧
      f ∈ img.files ∧ remapFile ⟨st, o.includes.isEmpty, true, true⟩ f = some of := by
  obtain ⟨st, hcl, hrw⟩ := filterWith_parts _ _ _ _ _ h
  obtain ⟨f, hf, hrf⟩ := rewrite_origin cfgFixed rfl st _ img out hrw of hof
  exact ⟨st, f, closure_post img o fuel st hcl hu, hrw, hf, hrf⟩

theorem extsOK_file (img : Image) (hr : WFRefs (buildIndex img)) (f : File) (hf : f ∈ img.files) :
    ExtsOK (fileInfos f) :=
  fun j hj g hg => hr.extHasExtendee j (mem_buildIndex_of img f hf j hj) g hg

/-- `has` and not enclosing-only, plus the mode hypothesis, means VISITED -/
theorem visited_of_has {img : Image} {o : Opts} {st : St} (P : ClosurePost img o st)
    (hmode : o.includes ≠ [] ∨ NoImportCover img) (f : File) (hf : f ∈ img.files) (j : Info) (hj : j ∈ fileInfos f)
    (hk1 : j.kind ≠ .file) (hk2 : j.kind ≠ .method)
    (hh : RCtx.has ⟨st, o.includes.isEmpty, true, true⟩ j.key = true) (h1 : rk st j.key ≠ 1) :
    2 ≤ rk st j.key ∧ rk st j.key ≤ 3 := by
  obtain ⟨hne4, h1'⟩ := (has_iff _ _ _ _ _).mp hh
  refine ⟨?_, rk_le_three hne4⟩
  cases hinc : o.includes with
  | nil => exact P.visited hinc (hmode.resolve_left fun h => h hinc) f hf j hj hk1 hk2
  | cons a as =>
    have := h1' (by simp [hinc])
    omega

/-- a kept extension of the output is a VISITED index entry (not merely `has`) -/
theorem kept_ext_visited {img : Image} {o : Opts} {st : St} (P : ClosurePost img o st)
    (hmode : o.includes ≠ [] ∨ NoImportCover img) (f : File) (hf : f ∈ img.files) {g : Field} {j : Info}
    (hj : j ∈ fileInfos f) (e : ExtFrom ⟨st, o.includes.isEmpty, true, true⟩ g j) :
    2 ≤ rk st j.key ∧ rk st j.key ≤ 3 := by
  have hne1 : rk st j.key ≠ 1 := fun h1 => by
    have := (P.sinv.noEncl _ h1).1.2 j (P.uniq j (mem_buildIndex_of img f hf j hj))
    rw [e.fld] at this; cases this
  exact visited_of_has P hmode f hf j hj (by rw [e.kind]; simp) (by rw [e.kind]; simp) (by rw [e.key]; exact e.has) hne1

theorem ref_visited {img : Image} {o : Opts} {st : St} (P : ClosurePost img o st) (hr : WFRefs (buildIndex img))
    (hmode : o.includes ≠ [] ∨ NoImportCover img) (f : File) (hf : f ∈ img.files) (of : OFile)
    (hrf : remapFile ⟨st, o.includes.isEmpty, true, true⟩ f = some of) (x : Id)
    (hx : x ∈ typeRefs of ∨ x ∈ extendeeRefs of) :
    ∃ j, (buildIndex img).find j.key = some j ∧ j.file = f.id ∧ Refers j x ∧
      2 ≤ rk st j.key ∧ rk st j.key ≤ 3 ∧ rk st (.el x) ≠ 4 := by
  obtain ⟨_, o2, o3, o4⟩ := origin_file _ f of (extsOK_file img hr f hf) hrf
  let c : Ctx := ⟨cfgFixed, buildIndex img, o.customOpts⟩
  have live : ∀ k, RCtx.has ⟨st, o.includes.isEmpty, true, true⟩ k = true → rk st k ≠ 4 :=
    fun k hk => ((has_iff _ _ _ _ _).mp hk).1
  have idx : ∀ j ∈ fileInfos f, c.idx.find j.key = some j := fun j hj => P.uniq j (mem_buildIndex_of img f hf j hj)
  -- a kept extension, through its value type or its extendee
  have extCase : ∀ g ∈ allExts of, (g.ty = some x ∨ g.extendee = some x) →
      ∃ j, (buildIndex img).find j.key = some j ∧ j.file = f.id ∧ Refers j x ∧
        2 ≤ rk st j.key ∧ rk st j.key ≤ 3 ∧ rk st (.el x) ≠ 4 := by
    intro g hg hgx
    obtain ⟨j, hj, e⟩ := o3 g hg
    obtain ⟨h2, h3⟩ := kept_ext_visited P hmode f hf hj e
    refine ⟨j, idx j hj, file_fileInfos f j hj, hgx.elim (.extTy e.kind e.fld) (.extendee e.kind e.fld), h2, h3, ?_⟩
    rcases hgx with hty | hext
    · exact live _ (e.tyHas x hty)
    · exact P.sinv.ext j.key j g x (idx j hj) e.kind e.fld hext
        ⟨by intro m n; simp, hr.extendeeMsg j (find_mem (idx j hj)) g x e.fld hext⟩ h2 h3
  rcases hx with hx | hx
  · simp only [typeRefs, List.mem_append, List.mem_filterMap, List.mem_flatten, List.mem_map] at hx
    rcases hx with ⟨g, hg | hg, hty⟩ | ⟨l, ⟨m, hm, rfl⟩, hxl⟩
    · -- a kept ordinary field: its message is kept and not enclosing-only
      obtain ⟨j, hj, g0, e⟩ := o2 g hg
      have h1 : rk st j.key ≠ 1 := fun h1 => e.notEncl (rk_encl.mp h1)
      obtain ⟨h2, h3⟩ := visited_of_has P hmode f hf j hj (by rw [e.kind]; simp) (by rw [e.kind]; simp) e.has h1
      exact ⟨j, idx j hj, file_fileInfos f j hj, .field e.kind e.mem (e.ty ▸ hty), h2, h3, live _ (e.tyHas x hty)⟩
    · exact extCase g hg (Or.inl hty)
    · -- a kept method: visited through `has` under an include, through its visited service otherwise
      obtain ⟨j, hj, e⟩ := o4 m hm
      have hjfind : c.idx.find (.el m.id) = some j := e.key ▸ idx j hj
      have hio := e.io rfl
      have h1 : rk st (.el m.id) ≠ 1 := fun h1 => (P.sinv.noEncl _ h1).2 j hjfind e.kind
      have h2 : 2 ≤ rk st (.el m.id) := by
        cases hinc : o.includes with
        | cons a as =>
          have := ((has_iff _ _ _ _ _).mp e.has).2 (by simp [hinc])
          omega
        | nil =>
          obtain ⟨js, hjs, hks, hmjs, hhs⟩ := e.svc
          have hv2 := P.visited hinc (hmode.resolve_left fun h => h hinc) f hf js hjs (by rw [hks]; simp) (by rw [hks]; simp)
          rcases (P.closed.reqs (idx js hjs) hv2 (live _ hhs)).svcMethod hks hmjs with h4 | h4 | hp
          · exact absurd h4 (live _ hio.1)
          · exact absurd h4 (live _ hio.2)
          · exact (hp j hjfind).1
      have h3 : rk st (.el m.id) ≤ 3 := rk_le_three (live _ e.has)
      simp only [List.mem_cons, List.mem_nil_iff, or_false] at hxl
      rw [← e.key] at h2 h3
      refine ⟨j, idx j hj, file_fileInfos f j hj, ?_, h2, h3, ?_⟩
      · exact hxl.elim (fun h => .input e.kind (h ▸ e.input)) (fun h => .output e.kind (h ▸ e.output))
      · rcases hxl with rfl | rfl
        · exact live _ hio.1
        · exact live _ hio.2
  · simp only [extendeeRefs, List.mem_filterMap, List.mem_append] at hx
    obtain ⟨g, hg | hg, hext⟩ := hx
    · obtain ⟨j, hj, g0, e⟩ := o2 g hg
      have := hr.fieldsPlain j (mem_buildIndex_of img f hf j hj) g0 e.mem
      rw [e.extendee, this] at hext; cases hext
    · exact extCase g hg (Or.inr hext)

/-- **filter_drops_excludes** (output of `filterWith cfgFixed`). -/
theorem filterWith_drops_excludes (img : Image) (o : Opts) (fuel : Nat) (out : List OFile)
    (h : filterWith cfgFixed img o fuel = .ok out) (hu : UniqIdx (buildIndex img)) (hr : WFRefs (buildIndex img))
    (x : Id) (hx : ExclKey img o (.el x)) (of : OFile) (hof : of ∈ out) :
    x ∉ outIds of ∧ x ∉ typeRefs of ∧ ((o.includes ≠ [] ∨ NoImportCover img) → x ∉ extendeeRefs of) := by
  obtain ⟨st, f, P, _, hf, hrf'⟩ := filterWith_file img o fuel out h hu of hof
  obtain ⟨o1, o2, o3, o4⟩ := origin_file _ f of (extsOK_file img hr f hf) hrf'
  have h4 : rk st (.el x) = 4 := P.excl _ hx
  have hno : RCtx.has ⟨st, o.includes.isEmpty, true, true⟩ (.el x) = true → False :=
    fun h => ((has_iff _ _ _ _ _).mp h).1 h4
  refine ⟨?_, ?_, ?_⟩
  · exact fun hm => hno (o1 x hm)
  · intro hm
    simp only [typeRefs, List.mem_append, List.mem_filterMap, List.mem_flatten, List.mem_map] at hm
    rcases hm with ⟨g, hg | hg, hty⟩ | ⟨l, ⟨m, hm, rfl⟩, hxl⟩
    · obtain ⟨_, _, _, e⟩ := o2 g hg
      exact hno (e.tyHas x hty)
    · obtain ⟨_, _, e⟩ := o3 g hg
      exact hno (e.tyHas x hty)
    · obtain ⟨_, _, e⟩ := o4 m hm
      simp only [List.mem_cons, List.mem_nil_iff, or_false] at hxl
      rcases hxl with rfl | rfl
      · exact hno (e.io rfl).1
      · exact hno (e.io rfl).2
  · intro hmode hm
    obtain ⟨_, _, _, _, _, _, hne⟩ := ref_visited P hr hmode f hf of hrf' x (Or.inr hm)
    exact hne h4

/-! ### filter_links, output level: every reference resolves inside the output -/

/-- a reference target: an indexed message / enum (not an extension, a method or a file) -/
def Target (idx : Index) (t : Id) : Prop :=
  ∃ it, idx.find (.el t) = some it ∧ it.fld = none ∧ it.kind ≠ .method ∧ it.kind ≠ .file

/-- the input image is well-formed: every reference resolves inside the image -/
structure RefsResolve (idx : Index) : Prop where
  fieldTy : ∀ j ∈ idx, ∀ g ∈ j.fields, ∀ t, g.ty = some t → Target idx t
  extRefs : ∀ j ∈ idx, ∀ g, j.fld = some g →
    (∀ t, g.ty = some t → Target idx t) ∧ ∀ e, g.extendee = some e → Target idx e
  methodIO : ∀ j ∈ idx, j.kind = .method → Target idx j.input ∧ Target idx j.output

def targetB (idx : Index) (t : Id) : Bool :=
  match idx.find (.el t) with
  | some it => it.fld.isNone && it.kind != .method && it.kind != .file
  | none => false

theorem target_of_B (idx : Index) (t : Id) (h : targetB idx t = true) : Target idx t := by
  unfold targetB at h
  split at h
  · rename_i it hit
    simp only [Bool.and_eq_true, bne_iff_ne, ne_eq, Option.isNone_iff_eq_none] at h
    exact ⟨it, hit, h.1.1, h.1.2, h.2⟩
  · cases h

def refsResolveB (idx : Index) : Bool :=
  idx.all (fun j => j.fields.all (fun g => match g.ty with | some t => targetB idx t | none => true)) &&
  idx.all (fun j => match j.fld with
    | some g => (match g.ty with | some t => targetB idx t | none => true) &&
        (match g.extendee with | some e => targetB idx e | none => true)
    | none => true) &&
  idx.all (fun j => j.kind != .method || (targetB idx j.input && targetB idx j.output))

theorem refsResolve_of_B (idx : Index) (h : refsResolveB idx = true) : RefsResolve idx := by
  unfold refsResolveB at h
  simp only [Bool.and_eq_true, List.all_eq_true] at h
  obtain ⟨⟨h1, h2⟩, h3⟩ := h
  refine ⟨?_, ?_, ?_⟩
  · intro j hj g hg t ht
    have := h1 j hj g hg
    simp only [ht] at this
    exact target_of_B idx t this
  · intro j hj g hg
    have := h2 j hj
    simp only [hg, Bool.and_eq_true] at this
    constructor
    · intro t ht
      have := this.1; simp only [ht] at this; exact target_of_B idx t this
    · intro e he
      have := this.2; simp only [he] at this; exact target_of_B idx e this
  · intro j hj hk
    have := h3 j hj
    simp only [hk, bne_self_eq_false, Bool.false_or, Bool.and_eq_true] at this
    exact ⟨target_of_B idx _ this.1, target_of_B idx _ this.2⟩

theorem RefsResolve.target {idx : Index} (h : RefsResolve idx) {j : Info} (hj : j ∈ idx) {x : Id} (r : Refers j x) :
    Target idx x := by
  cases r with
  | field _ hg ht => exact h.fieldTy j hj _ hg x ht
  | extTy _ hf ht => exact (h.extRefs j hj _ hf).1 x ht
  | extendee _ hf he => exact (h.extRefs j hj _ hf).2 x he
  | input hk e => exact e ▸ (h.methodIO j hj hk).1
  | output hk e => exact e ▸ (h.methodIO j hj hk).2

theorem present_of_visited {img : Image} {o : Opts} {st : St} (P : ClosurePost img o st) (out : List OFile)
    (hrw : rewrite cfgFixed st o.includes.isEmpty img = .ok out) (t : Id) (it : Info) (hfind : (buildIndex img).find (.el t) = some it)
    (hfld : it.fld = none) (hkm : it.kind ≠ .method) (hkf : it.kind ≠ .file)
    (h2 : 2 ≤ rk st (.el t)) (h3 : rk st (.el t) ≤ 3) :
    ∃ of ∈ out, of.id = it.file ∧ t ∈ outIds of := by
  obtain ⟨f, hf, hif⟩ := mem_buildIndex img it (find_mem hfind)
  have hkey := find_key _ _ _ hfind
  have hhas : RCtx.has ⟨st, o.includes.isEmpty, true, true⟩ it.key = true := by
    rw [hkey]
    exact (has_iff _ _ _ _ _).mpr ⟨by omega, fun _ => by omega⟩
  obtain ⟨of, hof, hid, hpres⟩ := pres_file ⟨st, o.includes.isEmpty, true, true⟩ f
    (fun j hj => P.up j (mem_buildIndex_of img f hf j hj)) it hif hfld hkm hkf hhas
  have hfile := file_fileInfos f it hif
  have hseen : f.id ∈ st.seen := by
    rw [← hfile]
    exact ((P.closed (.el t) it hfind).2 h2 h3).seen
  refine ⟨of, rewrite_mem cfgFixed rfl st _ img out hrw f hf hseen of hof, by rw [hid, hfile], ?_⟩
  rw [hkey] at hpres
  exact hpres

/-- **filter_keeps_includes** (messages, enums, services named by an include of a successful
    filter are present in the output, in their own file). -/
theorem filterWith_keeps_include (img : Image) (o : Opts) (fuel : Nat) (out : List OFile)
    (h : filterWith cfgFixed img o fuel = .ok out) (hu : UniqIdx (buildIndex img))
    (n : Id) (hn : n ∈ o.includes) (i : Info) (hi : (buildIndex img).find (.el n) = some i)
    (hfld : i.fld = none) (hkm : i.kind ≠ .method) (hkf : i.kind ≠ .file) :
    ∃ of ∈ out, of.id = i.file ∧ n ∈ (presentFile of).map (·.id) := by
  obtain ⟨st, hcl, hrw⟩ := filterWith_parts _ _ _ _ _ h
  have P := closure_post img o fuel st hcl hu
  have hexp := rk_of_get (P.explicit n hn i hi hfld)
  exact present_of_visited P out hrw n i hi hfld hkm hkf (by rw [hexp]; simp [rank])
    (by rw [hexp]; simp [rank])

/-- **filter_links, output level (references).** -/
theorem filterWith_refs_resolve (img : Image) (o : Opts) (fuel : Nat) (out : List OFile)
    (h : filterWith cfgFixed img o fuel = .ok out) (hu : UniqIdx (buildIndex img)) (hr : WFRefs (buildIndex img))
    (hres : RefsResolve (buildIndex img)) (hmode : o.includes ≠ [] ∨ NoImportCover img)
    (of : OFile) (hof : of ∈ out) (t : Id) (ht : t ∈ typeRefs of ∨ t ∈ extendeeRefs of) :
    ∃ of' ∈ out, t ∈ outIds of' ∧ (of'.id = of.id ∨ of'.id ∈ of.deps) := by
  obtain ⟨st, f, P, hrw, hf, hrf⟩ := filterWith_file img o fuel out h hu of hof
  obtain ⟨hid, hdeps⟩ := remapFile_deps _ f of hrf
  obtain ⟨j, hjfind, hjfile, r, h2, h3, hne⟩ := ref_visited P hr hmode f hf of hrf t ht
  obtain ⟨it, hit, hfld, hkm, hkf⟩ := hres.target (find_mem hjfind) r
  obtain ⟨ht2, he⟩ := ((P.closed j.key j hjfind).2 h2 h3).refers r it hit
  obtain ⟨of', hof', hid', hpres⟩ := present_of_visited P out hrw t it hit hfld hkm hkf ht2 (rk_le_three hne)
  refine ⟨of', hof', hpres, ?_⟩
  rcases he.resolve_left hne |>.2 j.file rfl with e | e
  · left; rw [hid', hid, ← hjfile, e]
  · right; rw [hid', hdeps]; exact remapDeps_lists st f it.file (hjfile ▸ e)

/-- executable form of `ExclKey` (for concrete witnesses) -/
def exclKeyB (img : Image) (o : Opts) (k : Key) : Bool :=
  o.excludes.any (fun n => match (buildIndex img).find (.el n) with
    | some i => (i.key :: i.desc).contains k
    | none => (filesOfPkg img n).any (fun f => match (buildIndex img).find (.file f.id) with
      | some i => (i.key :: i.desc).contains k
      | none => false))

theorem exclKey_of_B (img : Image) (o : Opts) (k : Key) (h : exclKeyB img o k = true) : ExclKey img o k := by
  unfold exclKeyB at h
  rw [List.any_eq_true] at h
  obtain ⟨n, hn, hb⟩ := h
  refine ⟨n, hn, ?_⟩
  cases hf : (buildIndex img).find (.el n) with
  | some i =>
    rw [hf] at hb
    exact Or.inl ⟨i, hf, by simpa using hb⟩
  | none =>
    rw [hf] at hb
    simp only [List.any_eq_true] at hb
    obtain ⟨f, hfm, hb⟩ := hb
    cases hg : (buildIndex img).find (.file f.id) with
    | some i =>
      rw [hg] at hb
      exact Or.inr ⟨hf, f, hfm, i, hg, by simpa using hb⟩
    | none => rw [hg] at hb; cases hb

end BufProofs.FilterOutput
