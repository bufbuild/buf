import BufModel.MigrateRules
import BufProofs.Lemmas.RulesLemmas
import BufProofs.Lemmas.RulesResolveLemmas
import BufProofs.Lemmas.RulesKeysLemmas
/-
  Base lemmas and the decidable table facts for the rule-selection part of C16 (`buf config migrate`), on top of the C06 lemmas
  about `newRulesConfig` (`Selected`, `denote`).
-/
namespace BufModel.MigrateRules
open BufModel.Path BufModel.Rules BufGen.RuleTables

theorem isDeprecatedIn_row {rs : List RuleRow} (hnd : (rs.map (·.id)).Nodup) {r : RuleRow} (hr : r ∈ rs) :
    isDeprecatedIn rs r.id = r.deprecated := by
  unfold isDeprecatedIn
  rw [find?_id hnd hr]

/-! ### what an id denotes are non-deprecated rule ids -/

/-- every replacement of a deprecated rule is a non-deprecated, non-empty rule id (what
    `tables_replacements_wellformed` of C06 states about the regenerated tables) -/
def ReplacementsWF (rs : List RuleRow) : Prop :=
  ∀ d ∈ rs, d.deprecated = true → ∀ r ∈ d.replacements, r ≠ "" ∧ isRuleId rs r = true ∧ replacementsOf rs r = none

theorem denote_wf (rs : List RuleRow) (hwf : ReplacementsWF rs) (u x : Id) (hx : x ∈ denote rs u) :
    isRuleId rs x = true ∧ replacementsOf rs x = none := by
  rcases (mem_denote rs u x).1 hx with ⟨e, he, id, hid, hxid⟩
  unfold undeprecateOne at hxid
  cases hrep : replacementsOf rs id with
  | none => simp [hrep] at hxid; subst hxid; exact ⟨expandOne_mem_isRule rs u e he x hid, hrep⟩
  | some repl =>
    simp [hrep] at hxid
    rcases replacementsOf_some rs id repl hrep with ⟨d, hd, _, hdep, hrepl⟩
    subst hrepl
    exact (hwf d hd hdep x hxid).2

theorem selected_wf (rs : List RuleRow) (hwf : ReplacementsWF rs) (use exc : List Id) (x : Id)
    (hs : Selected rs use exc x) : isRuleId rs x = true ∧ replacementsOf rs x = none := by
  rcases hs.1 with ⟨u, _, hx⟩
  exact denote_wf rs hwf u x hx

/-! ### `Client.ConfiguredRules` -/

theorem configuredRules_mem (all : List RuleRow) (lint : Bool) (c : CheckConfig) (ids : List Id)
    (hdb : c.disableBuiltin = false) (hrs : rulesForType all lint ≠ [])
    (hwf : ReplacementsWF (rulesForType all lint))
    (h : configuredRules all lint false c = .ok ids) (x : Id) :
    x ∈ ids ↔ Selected (rulesForType all lint) c.use c.except x := by
  unfold configuredRules resolve at h
  simp only [hdb, Bool.false_eq_true, if_false] at h
  cases hr : newRulesConfig all lint c with
  | error e => simp [hr] at h
  | ok rc =>
    simp only [hr, Except.ok.injEq] at h
    subst h
    have sel := newRulesConfig_sel all lint c rc hrs hr x
    rw [← sel, mem_configuredRuleIds]
    refine ⟨And.left, fun hx => ⟨hx, ?_⟩⟩
    rcases (isRuleId_iff _ _).1 (selected_wf _ hwf _ _ x (sel.1 hx)).1 with ⟨r, hr', rfl⟩
    exact ⟨r, ((mem_rulesForType _ _ _).1 hr').1, rfl⟩

/-! ### a rule id as a key: what it denotes, how it is translated -/

theorem existsIn_of_isRuleId {new : List RuleRow} {x : Id} (h : isRuleId new x = true) : existsIn new x = true := by
  rcases (isRuleId_iff _ _).1 h with ⟨r, hr, rfl⟩
  exact List.any_eq_true.2 ⟨r, hr, by simp⟩

theorem translateId_ruleId {old new : List RuleRow} {k : Id} (hk : isRuleId old k = true) :
    translateId old new k = (undeprecateOne old k).filter (existsIn new) := by
  unfold translateId replacementInV2 undeprecateOne replacementsOf
  cases hf : old.find? (fun r => r.id = k) with
  | none =>
    rcases (isRuleId_iff _ _).1 hk with ⟨r, hr, hrk⟩
    exact absurd (List.find?_eq_none.1 hf r hr) (by simp [hrk])
  | some r =>
    cases hd : r.deprecated
    · cases hex : existsIn new k <;> simp [hd, hex]
    · simp [hd]

/-! ### decidable facts about a pair of tables (old version, v2) that the theorems need -/

/-- ids (rule ids and the categories the rules carry) that a configuration of the table can name:
    `acceptedKeys` of BufModel.Rules under the name the C16 statements use (equal by `rfl`, so the lemmas
    about `acceptedKeys` apply as they stand) -/
def idUniverse (rs : List RuleRow) : List Id := rs.map (·.id) ++ rs.flatMap (·.categories)

/-- The decidable table facts (checked by `decide` on the regenerated tables). -/
structure TablesOK (old new : List RuleRow) : Prop where
  newIdsNonblank : ∀ r ∈ new, blankId r.id = false
  oldIdsNonblank : ∀ r ∈ old, blankId r.id = false
  newWF : ReplacementsWF new
  oldWF : ReplacementsWF old
  nondepKept : ∀ r ∈ old, isDeprecatedIn old r.id = false → isRuleId new r.id = true → replacementsOf new r.id = none
  defaults : ∀ r ∈ old, r.isDefault = true →
    replacementsOf old r.id = none ∧ (isRuleId new r.id = true → r.id ∈ defaultIds new)
  translateKeeps : ∀ u ∈ idUniverse old, ∀ x ∈ denote old u, isRuleId new x = true →
    (translateId old new u).any (fun t => !blankId t) = true

instance (rs : List RuleRow) : Decidable (ReplacementsWF rs) := by unfold ReplacementsWF; infer_instance

/-- Not blank, decided on the first character alone: the kernel gets at it without decoding the
    whole literal, which is most of the work of evaluating `blankId` on the tables. -/
def startsNonSpace (s : Id) : Bool :=
  match s.front? with
  | some c => !isSpaceChar c
  | none => false

theorem not_blank_of_startsNonSpace {s : Id} (h : startsNonSpace s = true) : blankId s = false := by
  unfold startsNonSpace at h
  rw [String.front?_eq] at h
  unfold blankId
  cases hl : s.toList with
  | nil => simp [hl] at h
  | cons c cs =>
    have hc : isSpaceChar c = false := by simpa [hl] using h
    simp [hc]

/-- The same facts as one decidable proposition, in the form that is cheapest to evaluate: `startsNonSpace` for
    "not blank"; a row's own `deprecated` flag where `TablesOK` looks the row up by its id (the ids of the old
    table are unique: the first fact); `translateKeeps` for the categories only (for a rule id it is
    `translateId_ruleId`). -/
def tablesOKb (old new : List RuleRow) : Prop :=
  (old.map (·.id)).Nodup ∧
  (∀ r ∈ new, startsNonSpace r.id = true) ∧ (∀ r ∈ old, startsNonSpace r.id = true) ∧
  ReplacementsWF new ∧ ReplacementsWF old ∧
  (∀ r ∈ old, r.deprecated = false → isRuleId new r.id = true → replacementsOf new r.id = none) ∧
  (∀ r ∈ old, r.isDefault = true →
    r.deprecated = false ∧ (isRuleId new r.id = true → r.id ∈ defaultIds new)) ∧
  (∀ u ∈ categoryIdsOf old, ∀ x ∈ denote old u, isRuleId new x = true →
    (translateId old new u).any startsNonSpace = true)

instance (old new : List RuleRow) : Decidable (tablesOKb old new) := by unfold tablesOKb; infer_instance

theorem TablesOK.of_b {old new : List RuleRow} (h : tablesOKb old new) : TablesOK old new where
  newIdsNonblank r hr := not_blank_of_startsNonSpace (h.2.1 r hr)
  oldIdsNonblank r hr := not_blank_of_startsNonSpace (h.2.2.1 r hr)
  newWF := h.2.2.2.1
  oldWF := h.2.2.2.2.1
  nondepKept r hr hd := h.2.2.2.2.2.1 r hr (by rw [← isDeprecatedIn_row h.1 hr]; exact hd)
  defaults r hr hdef := by
    have D := h.2.2.2.2.2.2.1 r hr hdef
    exact ⟨by rw [replacementsOf_row h.1 hr, D.1]; rfl, D.2⟩
  translateKeeps u hu x hx hr := by
    rcases List.mem_append.1 hu with hid | hc
    · -- a rule id is translated to what it denotes, as far as v2 has it: `x` itself is kept
      rcases List.mem_map.1 hid with ⟨q, hq, rfl⟩
      have hk : isRuleId old q.id = true := (isRuleId_iff _ _).2 ⟨q, hq, rfl⟩
      rw [denote_ruleId old (nonblank_ne_empty (not_blank_of_startsNonSpace (h.2.2.1 q hq))) hk] at hx
      rcases (isRuleId_iff _ _).1 hr with ⟨n, hn, rfl⟩
      refine List.any_eq_true.2 ⟨n.id, ?_, by rw [not_blank_of_startsNonSpace (h.2.1 n hn)]; rfl⟩
      rw [translateId_ruleId hk]
      exact List.mem_filter.2 ⟨hx, existsIn_of_isRuleId hr⟩
    · rcases List.any_eq_true.1 (h.2.2.2.2.2.2.2 u hc x hx hr) with ⟨t, ht, hs⟩
      exact List.any_eq_true.2 ⟨t, ht, by rw [not_blank_of_startsNonSpace hs]; rfl⟩

end BufModel.MigrateRules
