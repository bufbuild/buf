import BufProofs.Lemmas.GraphLemmas
/-
  The workspace-construction clauses of C10 (BufModel.Graph §3), below the theorems of `Props/C10`:
  `selectAdded` is two levels of one preference (`prefer`: target first, then local) above
  `selectRemote` (newest commit), and each level returns one of its candidates.  In front, membership
  in `dedup` and a non-empty `sortBy`.
-/
namespace BufModel.Graph
open BufModel.Path

theorem mem_dedup {β : Type} [DecidableEq β] : ∀ {l : List β} {x : β}, x ∈ dedup l ↔ x ∈ l
  | [], _ => by simp [dedup]
  | y :: ys, x => by
    simp only [dedup]
    split
    · rename_i hy
      constructor
      · intro h; exact List.mem_cons_of_mem _ (mem_dedup.mp h)
      · intro h
        rcases List.mem_cons.mp h with h | h
        · subst h; exact mem_dedup.mpr hy
        · exact mem_dedup.mpr h
    · constructor
      · intro h
        rcases List.mem_cons.mp h with h | h
        · subst h; exact List.mem_cons_self
        · exact List.mem_cons_of_mem _ (mem_dedup.mp h)
      · intro h
        rcases List.mem_cons.mp h with h | h
        · subst h; exact List.mem_cons_self
        · exact List.mem_cons_of_mem _ (mem_dedup.mpr h)

theorem sortBy_ne_nil {β : Type} (le : β → β → Bool) {l : List β} (h : l ≠ []) : sortBy le l ≠ [] :=
  fun hs => h (hs ▸ sortBy_perm le l).symm.eq_nil

theorem selectRemote_isSome {as : List Added} (h : as ≠ []) : ∃ a, selectRemote as = some a := by
  unfold selectRemote
  split
  · exact absurd rfl h
  · exact ⟨_, rfl⟩
  · split
    · rename_i hnil
      cases as with
      | nil => exact absurd rfl h
      | cons a rest =>
        have : firstPerCommit (a :: rest) [] ≠ [] := by simp [firstPerCommit]
        exact absurd hnil (sortBy_ne_nil commitLe this)
    · exact ⟨_, rfl⟩

theorem selectIgnoreTargeting_isSome {as : List Added} (h : as ≠ []) :
    ∃ a, selectIgnoreTargeting as = some a := by
  unfold selectIgnoreTargeting
  split
  · exact selectRemote_isSome h
  · exact ⟨_, rfl⟩

/-! ### the preference order of `selectAdded`: target first, then local, then newest commit -/

/-- the candidates with `p` if there are any, else all of them: one level of a preference. -/
def prefer (p : Added → Bool) (as : List Added) : List Added :=
  if as.filter p = [] then as else as.filter p

theorem prefer_sub {p : Added → Bool} {as : List Added} {a : Added} (h : a ∈ prefer p as) : a ∈ as := by
  unfold prefer at h
  split at h
  · exact h
  · exact (List.mem_filter.mp h).1

theorem mem_prefer {p : Added → Bool} {as : List Added} {a : Added} (ha : a ∈ as) (hp : p a = true) :
    a ∈ prefer p as ∧ ∀ b ∈ prefer p as, p b = true := by
  have hm : a ∈ as.filter p := List.mem_filter.mpr ⟨ha, hp⟩
  unfold prefer
  rw [if_neg (List.ne_nil_of_mem hm)]
  exact ⟨hm, fun b hb => (List.mem_filter.mp hb).2⟩

theorem prefer_eq_self {p : Added → Bool} {as : List Added} (h : ∀ x ∈ as, p x = false) : prefer p as = as :=
  if_pos (List.filter_eq_nil_iff.mpr fun x hx => by simp [h x hx])

theorem prefer_ne_nil {p : Added → Bool} {as : List Added} (h : as ≠ []) : prefer p as ≠ [] := by
  unfold prefer
  split
  · exact h
  · assumption

theorem newest_mem : ∀ (l : List Added) (best : Added), newest best l = best ∨ newest best l ∈ l
  | [], _ => Or.inl rfl
  | y :: ys, best => by
    simp only [newest]
    split
    · exact Or.inr ((newest_mem ys y).elim (fun h => by rw [h]; exact List.mem_cons_self) (List.mem_cons_of_mem _))
    · exact (newest_mem ys best).imp id (List.mem_cons_of_mem _)

theorem firstPerCommit_sub : ∀ (l : List Added) (seen : List Nat), ∀ z ∈ firstPerCommit l seen, z ∈ l
  | [], _, z, hz => by simp [firstPerCommit] at hz
  | y :: ys, seen, z, hz => by
    simp only [firstPerCommit] at hz
    split at hz
    · exact List.mem_cons_of_mem _ (firstPerCommit_sub ys _ z hz)
    · exact (List.mem_cons.mp hz).elim (fun h => h ▸ List.mem_cons_self)
        fun h => List.mem_cons_of_mem _ (firstPerCommit_sub ys _ z h)

theorem selectRemote_mem {as : List Added} {a : Added} (h : selectRemote as = some a) : a ∈ as := by
  unfold selectRemote at h
  split at h
  · cases h
  · injection h with h; subst h; exact List.mem_cons_self
  · split at h
    · cases h
    · rename_i u us hsort
      injection h with h
      refine firstPerCommit_sub as [] a ((mem_sortBy commitLe).mp ?_)
      rw [hsort, ← h]
      exact (newest_mem us u).elim (fun e => by rw [e]; exact List.mem_cons_self) (List.mem_cons_of_mem _)

theorem selectIgnoreTargeting_mem_prefer {as : List Added} {a : Added} (h : selectIgnoreTargeting as = some a) :
    a ∈ prefer (·.isLocal) as := by
  unfold selectIgnoreTargeting at h
  unfold prefer
  split at h
  · rename_i hnil
    rw [if_pos hnil]
    exact selectRemote_mem h
  · rename_i l rest heq
    injection h with h; subst h
    rw [if_neg (by rw [heq]; simp), heq]
    exact List.mem_cons_self

theorem selectAdded_eq (as : List Added) : selectAdded as = selectIgnoreTargeting (prefer (·.isTarget) as) := by
  unfold selectAdded prefer
  split
  · rename_i h; rw [if_pos h]
  · rename_i t h
    rw [if_neg (by rw [h]; simp), h]
    cases hl : t.isLocal <;> simp [selectIgnoreTargeting, selectRemote, hl]
  · rename_i h _; rw [if_neg h]

end BufModel.Graph
