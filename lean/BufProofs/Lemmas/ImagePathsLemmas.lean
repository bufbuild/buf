import BufModel.ImagePaths
import BufProofs.Lemmas.SortLemmas
import BufProofs.Lemmas.ListLemmas
import BufProofs.Lemmas.PathLemmas
import BufProofs.Lemmas.DfsLemmas
/-
  Helper lemmas for C11.  The import-closure walk `visit` is the shared DFS `Graph.dfs` run on paths, over
  the graph of resolvable declared dependencies (`succOf`, `visit_sim`); what a walk with enough fuel emits
  (`dfs_spec`) and that a lookup function and its restriction to a closed set give the same files
  (`walk_perm`) are read off `dfsRoots_exact` / `dfs_sets_agree`.  The two loops of `imageWithOnlyPaths` as
  list expressions (`splitPaths_eq`, `dirFold_eq`); the filter as its first failing check, else the closure of a
  list of roots (`iwopErr`, `rootsOf`, `iwop_eq`); the roots under the side conditions (`iwop_roots`); and the
  comparison of the image-level filter with a build under module-level targeting (`targeting_main`): both start
  from the target paths the selection keeps.
-/
namespace BufProofs.ImagePathsLemmas
open BufModel.Path BufModel.ImagePaths
open BufModel.Graph (dfs dfsRoots foldE Reach dfsRoots_exact dfsRoots_ok_of dfs_sets_agree)

@[simp] theorem mark_path (t : List Str) (f : File) : (mark t f).path = f.path := rfl
@[simp] theorem mark_deps (t : List Str) (f : File) : (mark t f).deps = f.deps := rfl
theorem mark_isImport (t : List Str) (f : File) : (mark t f).isImport = !(t.contains f.path) := rfl

theorem getFile_eq (img : List File) (p : Str) : getFile img p = img.find? (fun f => f.path = p) :=
  ListLemmas.eq_find?_key (·.path) (fun _ => rfl) (fun _ _ _ => rfl) img p

theorem getFile_some {img : List File} {p : Str} {f : File} (h : getFile img p = some f) :
    f ∈ img ∧ f.path = p :=
  ListLemmas.find?_key_some (key := File.path) (getFile_eq img p ▸ h)

theorem getFile_isSome_iff {img : List File} {p : Str} : (getFile img p).isSome ↔ p ∈ paths img :=
  getFile_eq img p ▸ ListLemmas.find?_key_isSome (key := File.path)

theorem getFile_dom (img : List File) (p : Str) (f : File) (h : getFile img p = some f) : p ∈ paths img :=
  getFile_isSome_iff.mp (by rw [h]; rfl)

theorem getFile_of_mem_nodup {img : List File} {f : File} (hn : (paths img).Nodup) (hf : f ∈ img) :
    getFile img f.path = some f :=
  getFile_eq img _ ▸ ListLemmas.find?_key_of_nodup (key := File.path) hn hf

theorem mem_paths_of_mem {img : List File} {f : File} (h : f ∈ img) : f.path ∈ paths img :=
  List.mem_map.mpr ⟨f, h, rfl⟩

/-! ### the walk is the shared DFS -/

section DFS
variable (look : Str → Option File) (t : List Str)

def depStep (fuel : Nat) (st : DState) (d : Str) : DState :=
  match look d with
  | some g => visit look t fuel g st
  | none => st

theorem visit_zero (f : File) (st : DState) : visit look t 0 f st = st := rfl

theorem visit_succ (fuel : Nat) (f : File) (st : DState) :
    visit look t (fuel + 1) f st =
      if f.path ∈ st.1 then st
      else ((f.deps.foldl (depStep look t fuel) (f.path :: st.1, st.2)).1,
            (f.deps.foldl (depStep look t fuel) (f.path :: st.1, st.2)).2 ++ [mark t f]) := rfl

theorem depStep_some {look : Str → Option File} {t : List Str} {fuel : Nat} {st : DState} {d : Str} {g : File}
    (h : look d = some g) : depStep look t fuel st d = visit look t fuel g st := by
  unfold depStep; rw [h]

theorem depStep_none {look : Str → Option File} {t : List Str} {fuel : Nat} {st : DState} {d : Str}
    (h : look d = none) : depStep look t fuel st d = st := by
  unfold depStep; rw [h]

def Src (g : File) : Prop := look g.path = some g

def LookOK : Prop := ∀ p f, look p = some f → f.path = p

variable {look}

theorem src_of_look (hl : LookOK look) {p : Str} {g : File} (h : look p = some g) : Src look g := by
  unfold Src; rw [hl p g h]; exact h

theorem src_filterMap (hl : LookOK look) {ps : List Str} : ∀ f ∈ ps.filterMap look, Src look f := fun _ hf =>
  (List.mem_filterMap.mp hf).elim fun _ h => src_of_look hl h.2

theorem paths_filterMap {ps : List Str} (hl : LookOK look) (h : ∀ p ∈ ps, (look p).isSome) :
    paths (ps.filterMap look) = ps :=
  ListLemmas.map_filterMap_key look (·.path) fun p hp =>
    (Option.isSome_iff_exists.mp (h p hp)).imp fun g hg => ⟨hg, hl p g hg⟩

/-- `q` is reachable from `p` along resolvable declared dependencies. -/
inductive Conn (look : Str → Option File) : Str → Str → Prop where
  | refl (p : Str) : Conn look p p
  | step {p d q : Str} {f g : File} : look p = some f → d ∈ f.deps → look d = some g →
      Conn look d q → Conn look p q

variable (look)

/-- The graph the walk runs on: the resolvable declared dependencies of a known path. -/
def succOf (p : Str) : Option (List Str) :=
  (look p).map fun f => f.deps.filter fun d => (look d).isSome

/-- The files a list of output paths stands for. -/
def emit (ps : List Str) : List File := ps.filterMap fun p => (look p).map (mark t)

variable {look t}

theorem conn_snoc {look : Str → Option File} {p q d : Str} {f g : File} (hc : Conn look p q)
    (hf : look q = some f) (hd : d ∈ f.deps) (hg : look d = some g) : Conn look p d := by
  induction hc with
  | refl p => exact Conn.step hf hd hg (Conn.refl d)
  | @step p d' q f' g' hf' hd' hg' _ ih => exact Conn.step hf' hd' hg' (ih hf)

theorem succOf_eq_some {p : Str} {cs : List Str} :
    succOf look p = some cs ↔ ∃ f, look p = some f ∧ (f.deps.filter fun d => (look d).isSome) = cs := by
  simp [succOf]

theorem succOf_ne_none {p : Str} : succOf look p ≠ none ↔ (look p).isSome := by
  cases h : look p <;> simp [succOf, h]

theorem conn_iff_reach {p q : Str} : Conn look p q ↔ Reach (succOf look) p q := by
  constructor
  · intro h
    induction h with
    | refl p => exact Reach.refl p
    | step hf hd hg _ ih =>
      exact Reach.head (succOf_eq_some.mpr ⟨_, hf, rfl⟩) (List.mem_filter.mpr ⟨hd, by simp [hg]⟩) ih
  · intro h
    induction h with
    | refl => exact Conn.refl p
    | step _ hs hc ih =>
      obtain ⟨f, hf, rfl⟩ := succOf_eq_some.mp hs
      obtain ⟨hd, hsome⟩ := List.mem_filter.mp hc
      obtain ⟨g, hg⟩ := Option.isSome_iff_exists.mp (by simpa using hsome)
      exact conn_snoc ih hf hd hg

theorem emit_snoc {f : File} (hf : Src look f) (ps : List Str) :
    emit look t (ps ++ [f.path]) = emit look t ps ++ [mark t f] := by
  unfold emit
  rw [List.filterMap_append]
  unfold Src at hf
  simp [hf]

/-- The walk is the shared DFS: whenever `Graph.dfs` succeeds on the path of a known file, `visit`
    ends in the same visited set, with the files of the same output paths. -/
theorem visit_sim (hl : LookOK look) (fuel : Nat) : ∀ (f : File) (s s' : List Str × List Str), Src look f →
    dfs (succOf look) fuel f.path s = .ok s' →
    visit look t fuel f (s.1, emit look t s.2) = (s'.1, emit look t s'.2) := by
  induction fuel with
  | zero => intro f s s' _ h; cases h
  | succ fuel ih =>
    intro f ⟨vis, ps⟩ s' hf h
    have hs : succOf look f.path = some (f.deps.filter fun d => (look d).isSome) :=
      succOf_eq_some.mpr ⟨f, hf, rfl⟩
    -- the loop over the declared dependencies: an unresolvable one is skipped on both sides
    have hfold : ∀ (ds : List Str) (s s' : List Str × List Str),
        foldE (dfs (succOf look) fuel) (ds.filter fun d => (look d).isSome) s = .ok s' →
        ds.foldl (depStep look t fuel) (s.1, emit look t s.2) = (s'.1, emit look t s'.2) := by
      intro ds
      induction ds with
      | nil => intro s s' h; cases h; rfl
      | cons d ds ihd =>
        intro s s' h
        rw [List.foldl_cons]
        cases hg : look d with
        | none =>
          rw [List.filter_cons_of_neg (by simp [hg])] at h
          rw [depStep_none hg]
          exact ihd s s' h
        | some g =>
          rw [List.filter_cons_of_pos (by simp [hg])] at h
          simp only [foldE] at h
          split at h
          · cases h
          · rename_i s1 h1
            rw [← hl d g hg] at h1
            rw [depStep_some hg, ih g s s1 (src_of_look hl hg) h1]
            exact ihd s1 s' h
    rw [visit_succ]
    simp only [dfs] at h
    split at h
    · rename_i hmem; cases h; rw [if_pos hmem]
    · rename_i hnot
      rw [hs] at h
      simp only at h
      split at h
      · cases h
      · rename_i v1 o1 hfe
        cases h
        rw [if_neg hnot]
        have := hfold f.deps (f.path :: vis, ps) (v1, o1) hfe
        simp only at this
        rw [this, emit_snoc hf]

theorem visitAll_sim (hl : LookOK look) (fuel : Nat) : ∀ (fs : List File) (s s' : List Str × List Str),
    (∀ f ∈ fs, Src look f) → foldE (dfs (succOf look) fuel) (paths fs) s = .ok s' →
    visitAll look t fuel fs (s.1, emit look t s.2) = (s'.1, emit look t s'.2) := by
  intro fs
  induction fs with
  | nil => intro s s' _ h; cases h; rfl
  | cons f fs ih =>
    intro s s' hfs h
    simp only [paths, List.map_cons, foldE] at h
    split at h
    · cases h
    · rename_i s1 h1
      show visitAll look t fuel fs (visit look t fuel f (s.1, emit look t s.2)) = _
      rw [visit_sim hl fuel f s s1 (hfs f (by simp)) h1]
      exact ih s1 s' (fun g hg => hfs g (List.mem_cons_of_mem _ hg)) h

theorem paths_emit {ps : List Str} (hl : LookOK look) (h : ∀ p ∈ ps, (look p).isSome) :
    paths (emit look t ps) = ps := by
  rw [emit, ← List.map_filterMap, paths, List.map_map]
  exact paths_filterMap hl h

/-- With enough fuel the shared DFS succeeds from known files, and the walk is its image. -/
theorem visitAll_run (hl : LookOK look) (dom : List Str) (hdom : ∀ p f, look p = some f → p ∈ dom)
    (fuel : Nat) (hfuel : dom.length < fuel) (fs : List File) (hfs : ∀ f ∈ fs, Src look f) :
    ∃ vis ps, dfsRoots (succOf look) fuel (paths fs) = .ok (vis, ps) ∧
      visitAll look t fuel fs ([], []) = (vis, emit look t ps) ∧ ∀ p ∈ ps, (look p).isSome := by
  have hex : ∀ x, succOf look x ≠ none → x ∈ dom := fun x hx =>
    (Option.isSome_iff_exists.mp (succOf_ne_none.mp hx)).elim fun f h => hdom x f h
  -- a resolvable path leads only to resolvable paths, so the shared DFS cannot fail
  have hall : ∀ r ∈ paths fs, ∀ x, Reach (succOf look) r x → succOf look x ≠ none := by
    intro r hr x hx
    apply succOf_ne_none.mpr
    cases hx with
    | refl =>
      obtain ⟨f, hf, rfl⟩ := List.mem_map.mp hr
      rw [hfs f hf]; rfl
    | step _ hs hc =>
      obtain ⟨f, _, rfl⟩ := succOf_eq_some.mp hs
      simpa using (List.mem_filter.mp hc).2
  obtain ⟨vis, ps, hrun⟩ := dfsRoots_ok_of (succOf look) dom hex fuel (paths fs) hfuel hall
  obtain ⟨hvo, _, hcl, _⟩ := dfsRoots_exact hrun
  refine ⟨vis, ps, hrun, visitAll_sim hl fuel fs ([], []) (vis, ps) hfs hrun, fun p hp => ?_⟩
  obtain ⟨cs, hs, _⟩ := hcl p ((hvo p).mpr hp)
  exact succOf_ne_none.mp (by rw [hs]; simp)

theorem dfs_spec (hl : LookOK look) (dom : List Str) (hdom : ∀ p f, look p = some f → p ∈ dom)
    (fuel : Nat) (hfuel : dom.length < fuel) (fs : List File) (hfs : ∀ f ∈ fs, Src look f) :
    let out := (visitAll look t fuel fs ([], [])).2
    (paths out).Nodup ∧ (∀ h ∈ out, ∃ g, Src look g ∧ h = mark t g) ∧
    (∀ q, q ∈ paths out ↔ ∃ f ∈ fs, Conn look f.path q) ∧
    (∀ h ∈ out, ∀ d ∈ h.deps, (look d).isSome → d ∈ paths out) := by
  obtain ⟨vis, ps, hrun, hsim, hsome⟩ := visitAll_run (t := t) hl dom hdom fuel hfuel fs hfs
  obtain ⟨hvo, hnd, hcl, hre⟩ := dfsRoots_exact hrun
  have hemit : ∀ h ∈ emit look t ps, ∃ g, Src look g ∧ h = mark t g ∧ g.path ∈ ps := by
    intro h hh
    rw [emit, ← List.map_filterMap] at hh
    obtain ⟨g, hg, rfl⟩ := List.mem_map.mp hh
    obtain ⟨p, hp, hpg⟩ := List.mem_filterMap.mp hg
    exact ⟨g, src_of_look hl hpg, rfl, hl p g hpg ▸ hp⟩
  simp only [hsim, paths_emit hl hsome]
  refine ⟨hnd, fun h hh => (hemit h hh).imp fun g hg => ⟨hg.1, hg.2.1⟩, fun q => ?_, ?_⟩
  · rw [← hvo q, hre q]
    simp only [conn_iff_reach, paths, List.mem_map]
    constructor
    · rintro ⟨_, ⟨f, hf, rfl⟩, hr⟩; exact ⟨f, hf, hr⟩
    · rintro ⟨f, hf, hr⟩; exact ⟨_, ⟨f, hf, rfl⟩, hr⟩
  · -- the visited set is closed under `succOf`
    intro h hh d hd hsd
    obtain ⟨g, hg, rfl, hgp⟩ := hemit h hh
    obtain ⟨cs, hs, hc⟩ := hcl g.path ((hvo _).mpr hgp)
    obtain ⟨g', hg', rfl⟩ := succOf_eq_some.mp hs
    cases hg.symm.trans hg'
    exact (hvo d).mp (hc d (List.mem_filter.mpr ⟨hd, hsd⟩))

theorem mark_congr {t t' : List Str} (h : ∀ p, p ∈ t ↔ p ∈ t') (g : File) : mark t g = mark t' g := by
  unfold mark
  have : t.contains g.path = t'.contains g.path := by
    cases h1 : t.contains g.path <;> cases h2 : t'.contains g.path <;> simp_all
  rw [this]

/-- The closure walk depends on the lookup function only through a closed set it is restricted to, on the
    roots and on the targets only as sets — up to the order of the output.  `look` is `look2` restricted to a
    set closed under resolvable dependencies, its files re-flagged by some `t0`. -/
theorem walk_perm {look2 : Str → Option File} {t0 t2 : List Str} (hl : LookOK look) (hl2 : LookOK look2)
    (dom dom2 : List Str) (hdom : ∀ p f, look p = some f → p ∈ dom) (hdom2 : ∀ p f, look2 p = some f → p ∈ dom2)
    (fuel fuel2 : Nat) (hfuel : dom.length < fuel) (hfuel2 : dom2.length < fuel2)
    (fs fs2 : List File) (hfs : ∀ f ∈ fs, Src look f) (hfs2 : ∀ f ∈ fs2, Src look2 f)
    (hroots : ∀ p, p ∈ paths fs ↔ p ∈ paths fs2) (ht : ∀ p, p ∈ t ↔ p ∈ t2)
    (hsub : ∀ p h, look p = some h → ∃ g, look2 p = some g ∧ h = mark t0 g ∧
      ∀ d ∈ g.deps, (look2 d).isSome → (look d).isSome) :
    (visitAll look t fuel fs ([], [])).2.Perm (visitAll look2 t2 fuel2 fs2 ([], [])).2 := by
  obtain ⟨v1, p1, r1, s1, e1⟩ := visitAll_run (t := t) hl dom hdom fuel hfuel fs hfs
  obtain ⟨v2, p2, r2, s2, _⟩ := visitAll_run (t := t2) hl2 dom2 hdom2 fuel2 hfuel2 fs2 hfs2
  obtain ⟨hv1, n1, _⟩ := dfsRoots_exact r1
  obtain ⟨hv2, n2, _⟩ := dfsRoots_exact r2
  -- the same graph where both are defined, so the same visited set
  have hagree : ∀ x a b, succOf look x = some a → succOf look2 x = some b → ∀ c, c ∈ a ↔ c ∈ b := by
    intro x a b ha hb c
    obtain ⟨h, hh, rfl⟩ := succOf_eq_some.mp ha
    obtain ⟨g, hg, rfl⟩ := succOf_eq_some.mp hb
    obtain ⟨g', hg', rfl, hc⟩ := hsub x h hh
    cases hg.symm.trans hg'
    rw [List.mem_filter, List.mem_filter]
    refine and_congr_right fun hcd => ⟨fun h1 => ?_, fun h2 => by simpa using hc c hcd (by simpa using h2)⟩
    obtain ⟨k, hk⟩ := Option.isSome_iff_exists.mp (by simpa using h1 : (look c).isSome)
    obtain ⟨k', hk', _⟩ := hsub c k hk
    simp [hk']
  have hset := dfs_sets_agree _ _ _ _ _ _ _ _ _ _ hroots hagree r1 r2
  have hp : p1.Perm p2 := (List.perm_ext_iff_of_nodup n1 n2).mpr fun q => by rw [← hv1, ← hv2, hset]
  -- and the same file for every visited path
  have he : emit look t p1 = emit look2 t2 p1 := by
    apply ListLemmas.filterMap_congr
    intro p hp1
    obtain ⟨h, hh⟩ := Option.isSome_iff_exists.mp (e1 p hp1)
    obtain ⟨g, hg, rfl, _⟩ := hsub p h hh
    rw [hh, hg]
    exact congrArg some (mark_congr ht g)
  rw [s1, s2, he]
  exact hp.filterMap _

end DFS

/-! ### path selection -/

/-- The selection both implementations are supposed to compute. -/
def selected (pths excl : List Str) (p : Str) : Bool :=
  (pths.isEmpty || mapHas pths p) && !mapHas excl p

theorem isTargetFile_eq (m : Module) (p : Str) :
    isTargetFile m p = (m.isTarget && selected m.targetPaths m.excludePaths p) := by
  unfold isTargetFile selected
  cases m.isTarget <;> cases m.targetPaths <;> cases m.excludePaths <;> simp [mapHas]

/-- A normalised, validated relative path: the rendering of a list of proper components. -/
def IsKey (p : Str) : Prop := ∃ k : Key, AllProper k ∧ p = renderKey k

theorem ecp_refl (p : Str) : equalsOrContainsPath p p = true := by
  unfold equalsOrContainsPath
  by_cases h : p = dot
  · rw [if_pos h]
  · rw [if_neg h]
    show ecpLoop p (p.length + 1 + 1) p = true
    unfold ecpLoop
    rw [if_neg h, if_pos rfl]

/-- The ancestors of a path form a chain. -/
theorem ecp_chain {a b c : Str} (ha : IsKey a) (hb : IsKey b) (hc : IsKey c)
    (h1 : equalsOrContainsPath a c = true) (h2 : equalsOrContainsPath b c = true) :
    equalsOrContainsPath a b = true ∨ equalsOrContainsPath b a = true := by
  obtain ⟨ka, pa, rfl⟩ := ha
  obtain ⟨kb, pb, rfl⟩ := hb
  obtain ⟨kc, pc, rfl⟩ := hc
  rw [ecp_keys pa pc] at h1
  rw [ecp_keys pb pc] at h2
  rw [ecp_keys pa pb, ecp_keys pb pa]
  exact List.prefix_or_prefix_of_prefix h1 h2

theorem mapHas_iff {m : List Str} {p : Str} :
    mapHas m p = true ↔ ∃ v ∈ m, equalsOrContainsPath v p = true := by
  unfold mapHas; simp

theorem mapHas_false_iff {m : List Str} {p : Str} :
    mapHas m p = false ↔ ∀ v ∈ m, equalsOrContainsPath v p = false := by
  unfold mapHas; simp

theorem mem_mapAll {m : List Str} {p v : Str} :
    v ∈ mapAll m p ↔ v ∈ m ∧ equalsOrContainsPath v p = true := by
  unfold mapAll; simp

theorem validUnique_keys (ps : List Str) (hk : ∀ p ∈ ps, IsKey p) (hn : ps.Nodup) :
    validUnique ps = true := by
  induction ps with
  | nil => rfl
  | cons p ps ih =>
    obtain ⟨k, hkp, rfl⟩ := hk p (by simp)
    have hn' := List.nodup_cons.mp hn
    unfold validUnique
    rw [ih (fun q hq => hk q (List.mem_cons_of_mem _ hq)) hn'.2]
    have h1 : renderKey k ≠ [] := renderKey_ne_nil hkp
    have h2 := validate_renderKey hkp
    simp [h1, h2, hn'.1]

theorem hasDup_false {l : List Str} (h : l.Nodup) : hasDup l = false := by
  induction l with
  | nil => rfl
  | cons x xs ih =>
    have := List.nodup_cons.mp h
    unfold hasDup
    simp [this.1, ih this.2]

theorem newImage_ok {out : List File} (hne : out ≠ []) (hn : (paths out).Nodup) :
    newImage out = .ok out := by
  unfold newImage
  cases out with
  | nil => exact absurd rfl hne
  | cons x xs => simp [hasDup_false hn]

theorem eq_of_newImage_ok {fs out : List File} (h : newImage fs = .ok out) : out = fs := by
  unfold newImage at h
  split at h
  · cases h
  · split at h
    · cases h
    · cases h; rfl

/-! ### the two loops of imageWithOnlyPaths, as list expressions -/

/-- `nonImportImageFiles` with its `nonImportPaths` guard: append each file whose path is not there yet. -/
def addNew : List File → List File → List File
  | acc, [] => acc
  | acc, f :: fs => addNew (if f.path ∈ paths acc then acc else acc ++ [f]) fs

theorem addNew_sub : ∀ (l acc : List File), ∀ g ∈ addNew acc l, g ∈ acc ∨ g ∈ l := by
  intro l
  induction l with
  | nil => intro acc g hg; exact Or.inl hg
  | cons f fs ih =>
    intro acc g hg
    rcases ih _ g hg with h | h
    · split at h
      · exact Or.inl h
      · rcases List.mem_append.mp h with h | h
        · exact Or.inl h
        · exact Or.inr (by simp [List.mem_singleton.mp h])
    · exact Or.inr (List.mem_cons_of_mem _ h)

/-- The guard only skips paths that are already there. -/
theorem paths_addNew (p : Str) : ∀ (l acc : List File), p ∈ paths (addNew acc l) ↔ p ∈ paths acc ∨ p ∈ paths l := by
  intro l
  induction l with
  | nil => intro acc; simp [addNew, paths]
  | cons f fs ih =>
    intro acc
    unfold addNew
    rw [ih]
    by_cases hin : f.path ∈ paths acc
    · rw [if_pos hin]
      simp only [paths, List.map_cons, List.mem_cons]
      exact ⟨fun h => h.imp_right Or.inr, fun h => h.elim Or.inl fun h => h.elim (fun e => Or.inl (e ▸ hin)) Or.inr⟩
    · rw [if_neg hin]
      simp [paths, or_assoc]

/-- A direct hit of the first loop: a `.proto` path that is a file of the image. -/
def hit (img : Image) (p : Str) : Option File := if ext p = protoExt then getFile img p else none

theorem hit_eq_some {img : Image} {p : Str} {f : File} :
    hit img p = some f ↔ ext p = protoExt ∧ getFile img p = some f := by
  unfold hit; split <;> simp [*]

theorem splitPaths_eq (img : Image) : ∀ (ps : List Str) (ni : List File) (pot : List Str),
    splitPaths img ps ni pot = if ps.contains dot then .error .dotPath
      else .ok (addNew ni (ps.filterMap (hit img)), pot ++ ps.filter fun p => (hit img p).isNone) := by
  intro ps
  induction ps with
  | nil => intro ni pot; simp [splitPaths, addNew]
  | cons p ps ih =>
    intro ni pot
    unfold splitPaths
    by_cases hp : p = dot
    · rw [if_pos hp, if_pos (by simp [hp])]
    · have hd : (p :: ps).contains dot = ps.contains dot := by simp [Ne.symm hp]
      rw [if_neg hp, hd]
      by_cases he : ext p = protoExt
      · rw [if_neg (fun h => h he)]
        cases hg : getFile img p with
        | none =>
          have hh : hit img p = none := by unfold hit; rw [if_pos he, hg]
          simp [ih, hh]
        | some f =>
          have hh : hit img p = some f := hit_eq_some.mpr ⟨he, hg⟩
          simp only [ih, hh, List.filterMap_cons, addNew, (getFile_some hg).2, List.filter_cons,
            Option.isNone_some, Bool.false_eq_true, if_false]
          split <;> rfl
      · have hh : hit img p = none := if_neg he
        rw [if_pos he]; simp [ih, hh]

theorem dirFold_eq (pot excl : List Str) : ∀ (l : List File) (st : DirState),
    l.foldl (dirStep pot excl) st =
      (addNew st.1 (l.filter fun f => !(remaining (mapAll pot f.path) (mapAll excl f.path)).isEmpty),
       st.2.1 ++ l.flatMap (fun f => remaining (mapAll pot f.path) (mapAll excl f.path)),
       st.2.2 ++ l.flatMap (fun f => mapAll excl f.path)) := by
  intro l
  induction l with
  | nil => intro st; simp [addNew]
  | cons f fs ih =>
    intro st
    rw [List.foldl_cons, ih]
    unfold dirStep
    cases hr : (remaining (mapAll pot f.path) (mapAll excl f.path)).isEmpty
    · simp [hr, addNew, List.append_assoc]
    · simp [List.append_assoc, List.isEmpty_iff.mp hr]

/-! ### image-level selection = the intended selection, under the side condition -/

structure Hyp (img : Image) (pths excl : List Str) : Prop where
  nodup : (paths img).Nodup
  fkeys : ∀ f ∈ img, IsKey f.path
  pkeys : ∀ p ∈ pths, IsKey p
  ekeys : ∀ e ∈ excl, IsKey e
  pnd : pths.Nodup
  end_ : excl.Nodup
  nodot : ∀ p ∈ pths, p ≠ dot
  /-- the property's side condition: no --path lies inside (or equals) an --exclude-path -/
  side : ∀ p ∈ pths, ∀ e ∈ excl, equalsOrContainsPath e p = false
  /-- no file path is a directory of another file -/
  pfree : ∀ f ∈ img, ∀ g ∈ img, equalsOrContainsPath f.path g.path = true → f.path = g.path
  /-- no --path selects a file that is only an import of the image -/
  imp : ∀ f ∈ img, f.isImport = true → mapHas pths f.path = false

theorem remaining_ne_nil {mp me : List Str} :
    remaining mp me ≠ [] ↔ ∃ p ∈ mp, ∀ e ∈ me, equalsOrContainsPath p e = false := by
  unfold remaining
  rw [Ne, List.filter_eq_nil_iff]
  simp

/-- The potential directory paths: the given paths that are not direct hits. -/
def potOf (img : Image) (pths : List Str) : List Str := pths.filter fun p => (hit img p).isNone

/-- Under `Hyp` the two ways a path becomes a root — a direct hit, or the path of a file under a potential directory
    path that no matching exclude path lies under — together are the intended selection among the files. -/
theorem sel_equiv {img : Image} {pths excl : List Str} (h : Hyp img pths excl) (p : Str) :
    (p ∈ paths (pths.filterMap (hit img)) ∨
      p ∈ paths (img.filter fun f => !(remaining (mapAll (potOf img pths) f.path) (mapAll excl f.path)).isEmpty)) ↔
      ∃ f ∈ img, f.path = p ∧ mapHas pths p = true ∧ mapHas excl p = false := by
  simp only [paths, List.mem_map, List.mem_filterMap, List.mem_filter, Bool.not_eq_eq_eq_not, Bool.not_true,
    List.isEmpty_eq_false_iff]
  constructor
  · rintro (⟨g, ⟨q, hq, hh⟩, rfl⟩ | ⟨f, ⟨hf, hrem⟩, rfl⟩)
    · obtain ⟨hgi, hgq⟩ := getFile_some (hit_eq_some.mp hh).2
      refine ⟨g, hgi, rfl, mapHas_iff.mpr ⟨q, hq, by rw [hgq]; exact ecp_refl q⟩, mapHas_false_iff.mpr ?_⟩
      intro e he
      rw [hgq]; exact h.side q hq e he
    · obtain ⟨q, hq, hall⟩ := remaining_ne_nil.mp hrem
      obtain ⟨hqpot, hqf⟩ := mem_mapAll.mp hq
      have hqq := (List.mem_filter.mp hqpot).1
      refine ⟨f, hf, rfl, mapHas_iff.mpr ⟨q, hqq, hqf⟩, mapHas_false_iff.mpr ?_⟩
      intro e he
      cases hef : equalsOrContainsPath e f.path with
      | false => rfl
      | true =>
        exfalso
        rcases ecp_chain (h.pkeys q hqq) (h.ekeys e he) (h.fkeys f hf) hqf hef with hc | hc
        · have := hall e (mem_mapAll.mpr ⟨he, hef⟩)
          rw [hc] at this; cases this
        · have := h.side q hqq e he
          rw [hc] at this; cases this
  · rintro ⟨f, hf, rfl, hp, he⟩
    obtain ⟨q, hqq, hqf⟩ := mapHas_iff.mp hp
    cases hh : hit img q with
    | none =>
      refine Or.inr ⟨f, ⟨hf, remaining_ne_nil.mpr ⟨q, mem_mapAll.mpr ⟨List.mem_filter.mpr ⟨hqq, by rw [hh]; rfl⟩, hqf⟩, ?_⟩⟩, rfl⟩
      intro e hee
      obtain ⟨he1, he2⟩ := mem_mapAll.mp hee
      have := mapHas_false_iff.mp he e he1
      rw [this] at he2; cases he2
    | some g =>
      -- the file hit has the path of `f`: no file path is a directory of another
      obtain ⟨hgi, hgp⟩ := getFile_some (hit_eq_some.mp hh).2
      exact Or.inl ⟨g, ⟨q, hqq, hh⟩, h.pfree g hgi f hf (by rw [hgp]; exact hqf)⟩

theorem mapAll_nil (p : Str) : mapAll [] p = [] := rfl
theorem remaining_nil (me : List Str) : remaining [] me = [] := rfl

/-- The files `imageWithOnlyPaths` hands to `getImageWithImports`. -/
def rootsOf (img : Image) (pths excl : List Str) : List File :=
  if pths.isEmpty && !excl.isEmpty then img.filter (fun f => !f.isImport && !mapHas excl f.path)
  else addNew (addNew [] (pths.filterMap (hit img)))
    (img.filter fun f => !(remaining (mapAll (potOf img pths) f.path) (mapAll excl f.path)).isEmpty)

/-- The check of `imageWithOnlyPaths` that fails first, if any.  (Without `--path`s the checks on them pass
    trivially, so the "exclude paths only" branch of the code needs no case of its own here.) -/
def iwopErr (img : Image) (pths excl : List Str) (allow : Bool) : Option Err :=
  if !validUnique pths || !validUnique excl then some .invalidPath
  else if pths.any (fun p => excl.contains p) then some .samePath
  else if pths.contains dot then some .dotPath
  else if !allow && !(if (potOf img pths).isEmpty then excludesExist img excl
      else (potOf img pths).all (fun p => (img.flatMap fun f =>
          remaining (mapAll (potOf img pths) f.path) (mapAll excl f.path)).contains p) &&
        excl.all (fun e => (img.flatMap fun f => mapAll excl f.path).contains e)) then some .noMatch
  else none

theorem iwop_eq (img : Image) (pths excl : List Str) (a : Bool) :
    imageWithOnlyPaths img pths excl a =
      match iwopErr img pths excl a with
      | some e => .error e
      | none => getImageWithImports img (rootsOf img pths excl) := by
  unfold imageWithOnlyPaths iwopErr rootsOf
  cases validUnique pths
  · rfl
  cases validUnique excl
  · rfl
  cases hc : (pths.isEmpty && !excl.isEmpty)
  · cases (pths.any fun p => excl.contains p)
    · rw [splitPaths_eq]
      cases pths.contains dot
      · simp only [Bool.false_eq_true, if_false, List.nil_append, dirFold_eq]
        rw [show (pths.filter fun p => (hit img p).isNone) = potOf img pths from rfl]
        cases hpot : potOf img pths with
        | nil =>
          simp only [mapAll_nil, remaining_nil, List.isEmpty_nil, Bool.not_true,
            List.filter_eq_nil_iff.mpr fun (_ : File) _ => Bool.false_ne_true, addNew]
          cases a <;> cases excludesExist img excl <;> rfl
        | cons p ps =>
          generalize (p :: ps).all _ = b1
          generalize excl.all _ = b2
          cases a <;> cases b1 <;> cases b2 <;> rfl
      · rfl
    · rfl
  · cases pths with
    | nil => cases a <;> cases excludesExist img excl <;> rfl
    | cons _ _ => cases hc

theorem hits_sub (img : Image) (pths : List Str) : ∀ g ∈ pths.filterMap (hit img), g ∈ img := fun _ hg =>
  (List.mem_filterMap.mp hg).elim fun _ hp => (getFile_some (hit_eq_some.mp hp.2).2).1

theorem rootsOf_sub (img : Image) (pths excl : List Str) : ∀ f ∈ rootsOf img pths excl, f ∈ img := by
  intro f hf
  unfold rootsOf at hf
  split at hf
  · exact (List.mem_filter.mp hf).1
  · rcases addNew_sub _ _ f hf with hf | hf
    · exact (addNew_sub _ _ f hf).elim (fun h => by cases h) (hits_sub img pths f)
    · exact (List.mem_filter.mp hf).1

theorem iwopErr_none_of_hyp {img : Image} {pths excl : List Str} (h : Hyp img pths excl) :
    iwopErr img pths excl true = none := by
  have hsame : (pths.any fun p => excl.contains p) = false := by
    rw [List.any_eq_false]
    intro p hpp hc
    have := h.side p hpp p (by simpa using hc)
    rw [ecp_refl] at this; cases this
  have hdot : pths.contains dot = false := by
    cases hc : pths.contains dot with
    | false => rfl
    | true => exact absurd rfl (h.nodot dot (by simpa using hc))
  unfold iwopErr
  rw [validUnique_keys pths h.pkeys h.pnd, validUnique_keys excl h.ekeys h.end_, hsame, hdot]
  rfl

theorem iwop_roots {img : Image} {pths excl : List Str} (h : Hyp img pths excl)
    (hne : pths ≠ [] ∨ excl ≠ []) :
    ∃ ni, imageWithOnlyPaths img pths excl true = getImageWithImports img ni ∧
      (∀ g ∈ ni, g ∈ img) ∧
      (∀ p, p ∈ paths ni ↔ ∃ f ∈ img, f.path = p ∧ f.isImport = false ∧ selected pths excl p = true) := by
  rw [iwop_eq, iwopErr_none_of_hyp h]
  refine ⟨rootsOf img pths excl, rfl, rootsOf_sub img pths excl, fun p => ?_⟩
  unfold rootsOf
  cases hp : pths with
  | nil =>
    have : excl.isEmpty = false := List.isEmpty_eq_false_iff.mpr (hne.resolve_left fun h' => h' hp)
    simp only [paths, List.isEmpty_nil, this, Bool.not_false, Bool.and_self, if_true, List.mem_map, List.mem_filter, selected]
    constructor
    · rintro ⟨f, ⟨hf, hc⟩, rfl⟩; exact ⟨f, hf, rfl, by simpa using hc⟩
    · rintro ⟨f, hf, rfl, hc⟩; exact ⟨f, ⟨hf, by simpa using hc⟩, rfl⟩
  | cons p0 ps =>
    rw [← hp]
    have hpe : pths.isEmpty = false := by rw [hp]; rfl
    simp only [hpe, Bool.false_and, Bool.false_eq_true, if_false, paths_addNew]
    rw [or_iff_right (show p ∉ paths [] from List.not_mem_nil), sel_equiv h p]
    refine exists_congr fun f => and_congr_right fun hfi => and_congr_right fun hfp => ?_
    subst hfp
    simp only [selected, hpe, Bool.false_or, Bool.and_eq_true, Bool.not_eq_eq_eq_not, Bool.not_true]
    refine ⟨fun hsel => ⟨?_, hsel⟩, fun hsel => hsel.2⟩
    cases hi : f.isImport with
    | false => rfl
    | true => have := h.imp f hfi hi; rw [hsel.1] at this; cases this

/-! ### module-level side -/

theorem sortStrs_eq : ∀ l, sortStrs l = isortBy strLt l :=
  eq_isortBy _ (eq_insBy (ins := insertSorted) _ (fun _ => rfl) (fun _ _ _ => rfl)) rfl (fun _ _ => rfl)

theorem mem_sortStrs {y : Str} {l : List Str} : y ∈ sortStrs l ↔ y ∈ l := by
  rw [sortStrs_eq, mem_isortBy]

theorem dedupStrs_sub {p : Str} : ∀ {l : List Str}, p ∈ dedupStrs l → p ∈ l
  | [], h => by cases h
  | x :: xs, h => by
    unfold dedupStrs at h
    split at h
    · exact List.mem_cons_of_mem _ (dedupStrs_sub h)
    · exact (List.mem_cons.mp h).elim (fun e => e ▸ List.mem_cons_self) fun h => List.mem_cons_of_mem _ (dedupStrs_sub h)

theorem look_ok_getFile (img : List File) : LookOK (getFile img) :=
  fun _ _ h => (getFile_some h).2

theorem look_ok_lookup (ws : Workspace) : LookOK (lookup ws) :=
  fun _ _ h => (getFile_some h).2

theorem allFiles_withTargeting (ws : Workspace) (pths excl : List Str) :
    allFiles (withTargeting ws pths excl) = allFiles ws := by
  unfold allFiles withTargeting
  induction ws with
  | nil => rfl
  | cons m ms ih =>
    simp only [List.map_cons, List.flatMap_cons, ih]
    congr 1
    split <;> rfl

theorem lookup_withTargeting (ws : Workspace) (pths excl : List Str) :
    lookup (withTargeting ws pths excl) = lookup ws := by
  funext p; unfold lookup; rw [allFiles_withTargeting]

theorem mem_targetFiles {ws : Workspace} {g : File} :
    g ∈ targetFiles ws ↔ ∃ m ∈ ws, g ∈ m.files ∧ isTargetFile m g.path = true := by
  unfold targetFiles
  simp [List.mem_flatMap, List.mem_filter]

theorem mem_targetFiles_withTargeting {ws : Workspace} {pths excl : List Str} {g : File} :
    g ∈ targetFiles (withTargeting ws pths excl) ↔
      ∃ m ∈ ws, g ∈ m.files ∧ m.isTarget = true ∧ selected pths excl g.path = true := by
  rw [mem_targetFiles]
  unfold withTargeting
  constructor
  · rintro ⟨m', hm', hg, ht⟩
    obtain ⟨m, hm, rfl⟩ := List.mem_map.mp hm'
    by_cases hmt : m.isTarget = true
    · rw [if_pos hmt] at hg ht
      rw [isTargetFile_eq] at ht
      simp only [hmt, Bool.true_and] at ht
      exact ⟨m, hm, hg, hmt, ht⟩
    · rw [if_neg hmt] at ht
      rw [isTargetFile_eq] at ht
      simp [hmt] at ht
  · rintro ⟨m, hm, hg, hmt, hsel⟩
    refine ⟨_, List.mem_map.mpr ⟨m, hm, rfl⟩, ?_, ?_⟩
    · rw [if_pos hmt]; exact hg
    · rw [if_pos hmt, isTargetFile_eq]
      simp [hmt, hsel]

/-- Every module without its own target paths / exclude paths. -/
def Plain (ws : Workspace) : Prop := ∀ m ∈ ws, m.targetPaths = [] ∧ m.excludePaths = []

theorem mem_targetFiles_plain {ws : Workspace} (hp : Plain ws) {g : File} :
    g ∈ targetFiles ws ↔ ∃ m ∈ ws, g ∈ m.files ∧ m.isTarget = true := by
  rw [mem_targetFiles]
  constructor
  · rintro ⟨m, hm, hg, ht⟩
    rw [isTargetFile_eq] at ht
    simp only [Bool.and_eq_true] at ht
    exact ⟨m, hm, hg, ht.1⟩
  · rintro ⟨m, hm, hg, ht⟩
    refine ⟨m, hm, hg, ?_⟩
    rw [isTargetFile_eq, (hp m hm).1, (hp m hm).2]
    simp [ht, selected, mapHas]

theorem withTargeting_nil_plain {ws : Workspace} (hp : Plain ws) : withTargeting ws [] [] = ws := by
  unfold withTargeting
  induction ws with
  | nil => rfl
  | cons m ms ih =>
    have h1 := hp m (by simp)
    simp only [List.map_cons]
    rw [ih (fun m' hm' => hp m' (List.mem_cons_of_mem _ hm'))]
    congr 1
    split
    · cases m; simp only at h1; simp [h1.1, h1.2]
    · rfl

theorem mem_allFiles {ws : Workspace} {g : File} : g ∈ allFiles ws ↔ ∃ m ∈ ws, g ∈ m.files := by
  unfold allFiles; simp [List.mem_flatMap]

theorem mem_targetPathsOf {ws : Workspace} {p : Str} :
    p ∈ targetPathsOf ws ↔ ∃ g ∈ targetFiles ws, g.path = p := by
  unfold targetPathsOf
  rw [mem_sortStrs]; simp [paths]

theorem lookup_of_target {ws : Workspace} {p : Str} (hp : p ∈ targetPathsOf ws) : (lookup ws p).isSome = true := by
  obtain ⟨g, hg, rfl⟩ := mem_targetPathsOf.mp hp
  obtain ⟨m, hm, hgm, _⟩ := mem_targetFiles.mp hg
  exact getFile_isSome_iff.mpr (mem_paths_of_mem (mem_allFiles.mpr ⟨m, hm, hgm⟩))

/-- The accumulator `build` computes. -/
def buildOut (ws : Workspace) : List File :=
  (visitAll (lookup ws) (targetPathsOf ws) ((allFiles ws).length + 1)
    ((targetPathsOf ws).filterMap (lookup ws)) ([], [])).2

theorem build_eq (ws : Workspace) :
    build ws = if (targetPathsOf ws).isEmpty then .error .noTargets
      else if depsResolvable ws (buildOut ws) then .ok (buildOut ws) else .error .compile := rfl

theorem buildOut_spec (ws : Workspace) :
    (paths (buildOut ws)).Nodup ∧
    (∀ h ∈ buildOut ws, ∃ g, lookup ws g.path = some g ∧ h = mark (targetPathsOf ws) g) ∧
    (∀ r ∈ targetPathsOf ws, r ∈ paths (buildOut ws)) ∧
    (∀ h ∈ buildOut ws, ∀ d ∈ h.deps, (lookup ws d).isSome → d ∈ paths (buildOut ws)) := by
  obtain ⟨h1, h2, h3, h4⟩ := dfs_spec (t := targetPathsOf ws) (look_ok_lookup ws) (paths (allFiles ws)) (getFile_dom _)
    ((allFiles ws).length + 1) (by simp [paths]) _ (src_filterMap (look_ok_lookup ws))
  refine ⟨h1, h2, fun r hr => ?_, h4⟩
  obtain ⟨f, hf⟩ := Option.isSome_iff_exists.mp (lookup_of_target hr)
  exact (h3 r).mpr ⟨f, List.mem_filterMap.mpr ⟨r, hr, hf⟩, look_ok_lookup ws r f hf ▸ Conn.refl _⟩

/-! ### assembling the two sides -/

/-- Hypotheses of `targeting_equivalence` on the workspace and the selection. -/
structure SideConditions (ws : Workspace) (pths excl : List Str) : Prop where
  plain : Plain ws
  /-- a file path occurs once in the module set (duplicates are rejected by the module set) -/
  uniq : (paths (allFiles ws)).Nodup
  fkeys : ∀ f ∈ allFiles ws, IsKey f.path
  pkeys : ∀ p ∈ pths, IsKey p
  ekeys : ∀ e ∈ excl, IsKey e
  pnd : pths.Nodup
  end_ : excl.Nodup
  nodot : ∀ p ∈ pths, p ≠ dot
  /-- THE side condition of the property: no --path lies inside (or equals) an --exclude-path -/
  side : ∀ p ∈ pths, ∀ e ∈ excl, equalsOrContainsPath e p = false
  /-- source trees are prefix-free -/
  pfree : ∀ f ∈ allFiles ws, ∀ g ∈ allFiles ws,
    equalsOrContainsPath f.path g.path = true → f.path = g.path
  /-- no --path selects a file of an untargeted module ("all modules targeted" implies this) -/
  imp : ∀ m ∈ ws, m.isTarget = false → ∀ f ∈ m.files, mapHas pths f.path = false

section Assemble
variable {ws : Workspace} {pths excl : List Str} {img : Image}

theorem build_ok (h : build ws = .ok img) : img = buildOut ws ∧ depsResolvable ws img = true := by
  rw [build_eq] at h
  split at h
  · cases h
  · split at h
    · rename_i hres
      cases h
      exact ⟨rfl, hres⟩
    · cases h

theorem mem_targetPathsOf_withTargeting (hp : Plain ws) {p : Str} :
    p ∈ targetPathsOf (withTargeting ws pths excl) ↔ p ∈ targetPathsOf ws ∧ selected pths excl p = true := by
  simp only [mem_targetPathsOf, mem_targetFiles_withTargeting, mem_targetFiles_plain hp]
  constructor
  · rintro ⟨g, ⟨m, hm, hg, ht, hs⟩, rfl⟩
    exact ⟨⟨g, ⟨m, hm, hg, ht⟩, rfl⟩, hs⟩
  · rintro ⟨⟨g, ⟨m, hm, hg, ht⟩, rfl⟩, hs⟩
    exact ⟨g, ⟨m, hm, hg, ht, hs⟩, rfl⟩

theorem buildOut_flag {h : File} (hh : h ∈ buildOut ws) : h.isImport = false ↔ h.path ∈ targetPathsOf ws := by
  obtain ⟨g, _, rfl⟩ := (buildOut_spec ws).2.1 h hh
  simp [mark_isImport]

theorem hyp_of_side (sc : SideConditions ws pths excl) : Hyp (buildOut ws) pths excl := by
  obtain ⟨hnd, hsrc, _, _⟩ := buildOut_spec ws
  have hfile : ∀ h ∈ buildOut ws, ∃ g ∈ allFiles ws, g.path = h.path := by
    intro h hh
    obtain ⟨g, hg, rfl⟩ := hsrc h hh
    exact ⟨g, (getFile_some hg).1, rfl⟩
  refine ⟨hnd, ?_, sc.pkeys, sc.ekeys, sc.pnd, sc.end_, sc.nodot, sc.side, ?_, ?_⟩
  · intro f hf
    obtain ⟨g, hg, hp⟩ := hfile f hf
    exact hp ▸ sc.fkeys g hg
  · intro f hf g hg hc
    obtain ⟨f', hf', hpf⟩ := hfile f hf
    obtain ⟨g', hg', hpg⟩ := hfile g hg
    rw [← hpf, ← hpg] at hc ⊢
    exact sc.pfree f' hf' g' hg' hc
  · intro f hf hi
    obtain ⟨g, hg, hp⟩ := hfile f hf
    obtain ⟨m, hm, hgm⟩ := mem_allFiles.mp hg
    cases hmt : m.isTarget with
    | false => exact hp ▸ sc.imp m hm hmt g hgm
    | true =>
      have : f.path ∈ targetPathsOf ws :=
        mem_targetPathsOf.mpr ⟨g, (mem_targetFiles_plain sc.plain).mpr ⟨m, hm, hgm, hmt⟩, hp⟩
      rw [(buildOut_flag hf).mpr this] at hi
      cases hi

theorem filterImagePaths_of_ne (hne : pths ≠ [] ∨ excl ≠ []) :
    filterImagePaths img pths excl = imageWithOnlyPaths img pths excl true := by
  unfold filterImagePaths
  rw [if_neg]
  intro h
  simp only [Bool.and_eq_true, List.isEmpty_iff] at h
  exact hne.elim (fun hp => hp h.1) (fun he => he h.2)

theorem targeting_main (sc : SideConditions ws pths excl) (hfull : build ws = .ok img) :
    (∃ I M, filterImagePaths img pths excl = .ok I ∧
        build (withTargeting ws pths excl) = .ok M ∧ I.Perm M) ∨
    (filterImagePaths img pths excl = .error .noFiles ∧
        build (withTargeting ws pths excl) = .error .noTargets) := by
  obtain ⟨rfl, hres⟩ := build_ok hfull
  by_cases hboth : pths = [] ∧ excl = []
  · obtain ⟨rfl, rfl⟩ := hboth
    exact Or.inl ⟨_, _, rfl, by rw [withTargeting_nil_plain sc.plain]; exact hfull, List.Perm.refl _⟩
  have hne : pths ≠ [] ∨ excl ≠ [] := Classical.or_iff_not_imp_left.mpr fun h h' => hboth ⟨Classical.not_not.mp h, h'⟩
  obtain ⟨hnd, hsrc, htgt, hclosed⟩ := buildOut_spec ws
  obtain ⟨ni, hiw, hnisub, hnimem⟩ := iwop_roots (hyp_of_side sc) hne
  rw [filterImagePaths_of_ne hne, hiw]
  let ws' := withTargeting ws pths excl
  have hlk : lookup ws' = lookup ws := lookup_withTargeting ws pths excl
  -- both root sets are the selected target paths
  have hroots : ∀ p, p ∈ paths ni ↔ p ∈ targetPathsOf ws' := by
    intro p
    rw [mem_targetPathsOf_withTargeting sc.plain, hnimem p]
    constructor
    · rintro ⟨f, hfi, rfl, himp, hsel⟩
      exact ⟨(buildOut_flag hfi).mp himp, hsel⟩
    · rintro ⟨hp, hsel⟩
      obtain ⟨f, hf, rfl⟩ := List.mem_map.mp (htgt p hp)
      exact ⟨f, hf, rfl, (buildOut_flag hf).mpr hp, hsel⟩
  -- the image is the sources restricted to a closed set, so the two walks emit the same files
  have hsrcI : ∀ f ∈ ni, Src (getFile (buildOut ws)) f := fun f hf => getFile_of_mem_nodup hnd (hnisub f hf)
  have hperm : (visitAll (getFile (buildOut ws)) (paths ni) ((buildOut ws).length + 1) ni ([], [])).2.Perm (buildOut ws') := by
    refine walk_perm (t0 := targetPathsOf ws) (look_ok_getFile _) (look_ok_lookup ws') (paths (buildOut ws)) _
      (getFile_dom _) (getFile_dom _) _ _ (by simp [paths]) (by simp [paths]) ni _ hsrcI
      (src_filterMap (look_ok_lookup ws'))
      (fun p => by rw [hroots p, paths_filterMap (look_ok_lookup ws') fun _ hp => lookup_of_target hp]) hroots ?_
    intro p h hh
    obtain ⟨hi, rfl⟩ := getFile_some hh
    obtain ⟨g, hg, rfl⟩ := hsrc h hi
    exact ⟨g, hlk ▸ hg, rfl, fun d hd hs => getFile_isSome_iff.mpr (hclosed _ hi d hd (hlk ▸ hs))⟩
  obtain ⟨nI, sI, rI, _⟩ := dfs_spec (t := paths ni) (look_ok_getFile (buildOut ws)) _ (getFile_dom _)
    ((buildOut ws).length + 1) (by simp [paths]) ni hsrcI
  cases hni : ni with
  | nil =>
    refine Or.inr ⟨rfl, ?_⟩
    have ht : targetPathsOf ws' = [] :=
      List.eq_nil_iff_forall_not_mem.mpr fun p hp => by simpa [hni, paths] using (hroots p).mpr hp
    rw [build_eq, ht]; rfl
  | cons f0 rest =>
    rw [← hni]
    have hf0 : f0 ∈ ni := hni ▸ List.mem_cons_self
    have htne : (targetPathsOf ws').isEmpty = false :=
      List.isEmpty_eq_false_iff.mpr (List.ne_nil_of_mem ((hroots f0.path).mp (mem_paths_of_mem hf0)))
    -- a file of the module-level result is a re-flagged file of the image: its imports resolve
    have hresM : depsResolvable ws' (buildOut ws') = true := by
      unfold depsResolvable at hres ⊢
      rw [List.all_eq_true] at hres ⊢
      intro h hh
      obtain ⟨g, hg, rfl⟩ := sI h (hperm.mem_iff.mpr hh)
      rw [hlk]
      exact hres g (getFile_some hg).1
    refine Or.inl ⟨_, buildOut ws', newImage_ok (fun h => ?_) nI, by rw [build_eq, htne, hresM]; rfl, hperm⟩
    have := (rI f0.path).mpr ⟨f0, hf0, Conn.refl _⟩
    rw [h] at this; cases this

end Assemble

end BufProofs.ImagePathsLemmas
