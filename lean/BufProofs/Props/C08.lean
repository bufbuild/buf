import BufProofs.Lemmas.DigestLemmas
import BufModel.DigestHistory
/-
  C08 — Module digests are a pure, sensitive function of content; manifests canonical.

  `H : Bytes → Digest` (SHAKE256) is a parameter everywhere.  Purity theorems hold for every H;
  the sensitivity theorem carries the explicit hypothesis that H does not collide on the byte
  strings that the two computations being compared actually hash (`NoCollision`).

  Line feeds: `bufcas.NewFileNode` rejects a path containing U+000A
  (handoff/C08-newline-fix.diff), so "no path contains a line feed" is not a hypothesis of the
  round-trip and sensitivity theorems: it follows from the nodes having been accepted by
  `newFileNode`, resp. from the digest computation having succeeded (`digest_ok_newline_free`).
  The closed-form variants (`…_module_files`) and the module-set theorems (through `SetOK`) state
  it for the buckets they start from.  The pre-fix behaviour (`newFileNodeOld`, `Old.moduleB5`)
  appears in the recorded `…newline…_counterexample` theorems and in the theorems that compare
  the fix with it.

  Further: module sets (a local module's digest recurses over its resolved dependencies, and a
  change in a transitive local dependency reaches the dependant); the b4 digest; the digest does
  not depend on the history of calls in the process; paths are taken literally, code point by
  code point, into manifest and digest.
-/
namespace BufProofs.C08
open BufModel.Path BufModel.Manifest BufModel.Digest

/-- What a `bufcas.Manifest` is by construction: unique paths, every node accepted by
    `NewFileNode`.  Nothing else — that no path contains U+000A FOLLOWS (`WF.no_newline`). -/
def WF (nodes : List FileNode) : Prop :=
  (nodes.map (·.path)).Nodup ∧ ∀ n ∈ nodes, newFileNode n.path n.digest = .ok n

theorem WF.valid {nodes : List FileNode} (h : WF nodes) : ∀ n ∈ nodes, validateNodePath n.path = .ok () :=
  fun n hn => (newFileNode_eq_ok (h.2 n hn)).1

theorem WF.no_newline {nodes : List FileNode} (h : WF nodes) : ∀ n ∈ nodes, '\n' ∉ n.path :=
  fun n hn => validateNodePath_no_newline (h.valid n hn)

/-- The regenerated constants are the ones the hand-written part of the model assumes
    (digest type name of bufcas, digest length, shape of getStorageMatcher and of the
    documentation-file lookup).  Fails to elaborate when /repo changes any of them. -/
theorem consts_match_model :
    BufGen.ConstsC08.casDigestName.toList = shake256Name ∧
    BufGen.ConstsC08.digestLength = 64 ∧
    BufGen.ConstsC08.storageMatcherShape =
      "MatchOr(MatchPathExt,MatchPathEqual(licenseFilePath),MatchPathEqual(getDocFilePathForStorageReadBucket))" ∧
    BufGen.ConstsC08.docLookupBody =
      "{ for _, docFilePath := range orderedDocFilePaths { if _, err := bucket.Stat(ctx, docFilePath); err == nil { return docFilePath } } return \"\" }" :=
  ⟨by decide, by decide, rfl, rfl⟩

/-- Canonical manifest text parses back to an equal manifest: for every set of file nodes with
    unique paths, each accepted by `NewFileNode` (double spaces, unicode, anything else allowed;
    no separate line-feed hypothesis), `NewManifest` succeeds and `ParseManifest(m.String())`
    returns exactly `m`. -/
theorem manifest_roundtrip (nodes : List FileNode) (h : WF nodes) :
    ∃ m, newManifest nodes = .ok m ∧ m.Perm nodes ∧ parseManifest (manifestString m) = .ok m := by
  refine ⟨sortBy pathLe nodes, newManifest_of_nodup nodes h.1, sortBy_perm pathLe nodes, ?_⟩
  have hp := sortBy_perm pathLe nodes
  exact parseManifest_manifestString _ (sortBy_canonical nodes h.1)
    (fun n hn => h.valid n (hp.subset hn))

/-- The canonical text determines the manifest: two well-formed node sets with the same
    manifest text are the same set of (path, digest) pairs. -/
theorem manifestString_injective (n₁ n₂ : List FileNode) (h1 : WF n₁) (h2 : WF n₂)
    (m₁ m₂ : Manifest) (e1 : newManifest n₁ = .ok m₁) (e2 : newManifest n₂ = .ok m₂)
    (h : manifestString m₁ = manifestString m₂) : m₁ = m₂ ∧ n₁.Perm n₂ := by
  cases (newManifest_eq_ok e1).2
  cases (newManifest_eq_ok e2).2
  exact perm_of_manifestString_eq h1.1 h2.1 h1.valid h2.valid h

/-- PURITY.  The b5 digest of a module is a function of the SET of its module files
    ((path, content) pairs matched by `.proto` | LICENSE | the chosen documentation file) and of
    its dependency digests: two buckets that agree on their module files — whatever the
    backend, whatever order their walk enumerates (a bucket here IS a walk order), whatever
    other files they hold — have the same digest (or fail identically).  Module name, commit,
    bucket ID and targeting are not inputs of `moduleB5` at all.  "Fail identically" includes
    the repaired line-feed case: when a module-file path contains U+000A both computations
    return `pathLineFeed` (non-module files with a line feed are irrelevant). -/
theorem digest_is_function_of_module_files (H : Bytes → Digest) (b₁ b₂ : Bucket) (deps : List MDigest)
    (h1 : BucketOK b₁) (h2 : BucketOK b₂)
    (hsame : ∀ e, e ∈ filterModule b₁ ↔ e ∈ filterModule b₂) :
    moduleB5 H b₁ deps = moduleB5 H b₂ deps := by
  have := entriesDigest_congr H [] h1.filter.2 h2.filter.2 h1.filter.1 h2.filter.1 hsame
  rw [List.append_nil, List.append_nil] at this
  rw [moduleB5_eq_entries, moduleB5_eq_entries, this]

/-- Enumeration order: ANY permutation of the walk gives the same digest. -/
theorem digest_walk_order (H : Bytes → Digest) (b₁ b₂ : Bucket) (deps : List MDigest)
    (h1 : BucketOK b₁) (hp : b₁.Perm b₂) : moduleB5 H b₁ deps = moduleB5 H b₂ deps := by
  have h2 : BucketOK b₂ :=
    ⟨((hp.map (·.1)).nodup_iff).mp h1.1, fun e he => h1.2 e (hp.symm.subset he)⟩
  exact digest_is_function_of_module_files H b₁ b₂ deps h1 h2 (filterModule_perm hp)

/-- Non-module files: dropping every file that is not a module file changes nothing
    (no well-formedness needed: the matcher is idempotent). -/
theorem digest_ignores_non_module_files (H : Bytes → Digest) (b : Bucket) (deps : List MDigest) :
    moduleB5 H (filterModule b) deps = moduleB5 H b deps := by
  unfold moduleB5
  rw [filterModule_idem]

/-- The order in which dependency digests are supplied is irrelevant. -/
theorem digest_perm_deps (H : Bytes → Digest) (b : Bucket) (d₁ d₂ : List MDigest) (hp : d₁.Perm d₂) :
    moduleB5 H b d₁ = moduleB5 H b d₂ := by
  rw [moduleB5_eq_entries, moduleB5_eq_entries, sortStr_eq_of_perm (hp.map _), hp.all_eq]

/-- "H is injective on the inputs compared": no two of the listed byte strings collide. -/
def NoCollision (H : Bytes → Digest) (S : List Bytes) : Prop :=
  ∀ x ∈ S, ∀ y ∈ S, H x = H y → x = y

theorem NoCollision.mono {H : Bytes → Digest} {S T : List Bytes} (h : NoCollision H T) (hs : ∀ x ∈ S, x ∈ T) :
    NoCollision H S := fun x hx y hy e => h x (hs x hx) y (hs y hy) e

/-- A SUCCESSFUL digest computation covers only line-feed-free module-file paths and b5
    dependency digests: `Module.Digest(b5)` builds one `NewFileNode` per module file, and the
    repaired `NewFileNode` rejects U+000A.  No hypothesis on the bucket at all. -/
theorem digest_ok_newline_free (H : Bytes → Digest) (b : Bucket) (deps : List MDigest) (g : MDigest)
    (h : moduleB5 H b deps = .ok g) :
    NoNewline (filterModule b) ∧ (∀ e ∈ filterModule b, newFileNode e.1 (H e.2) = .ok ⟨e.1, H e.2⟩) ∧
      deps.all (fun d => d.type = .b5) = true :=
  ⟨moduleB5_ok_noNewline h, fun e he => newFileNode_ok _ ((moduleB5_eq_ok h).1.2 e he), moduleB5_ok_deps_b5 h⟩

/-- THE REPAIRED BEHAVIOUR, digest level: on a real bucket, a module file whose path contains
    U+000A makes `Module.Digest(b5)` fail with the line-feed error, for every dependency list
    and every walk order — never a digest.  (A line feed in a NON-module file's path is
    harmless: `digest_ignores_non_module_files`.) -/
theorem digest_rejects_line_feed (H : Bytes → Digest) (b : Bucket) (deps : List MDigest) (h : BucketOK b)
    (e : Entry) (he : e ∈ filterModule b) (hnl : '\n' ∈ e.1) :
    moduleB5 H b deps = .error .pathLineFeed :=
  moduleB5_newline_err H b deps h (fun hn => hn e he hnl)

/-- …and node level: a path the pre-fix `NewFileNode` accepted is accepted by the repaired one iff it
    contains no line feed; with a line feed the result is the line-feed error. -/
theorem newFileNode_rejects_line_feed (p : Str) (d : Digest) (hold : newFileNodeOld p d = .ok ⟨p, d⟩) :
    newFileNode p d = if '\n' ∈ p then .error .pathLineFeed else .ok ⟨p, d⟩ := by
  have hv : validateNodePathOld p = .ok () := by
    unfold newFileNodeOld at hold
    cases h : validateNodePathOld p with
    | error e => rw [h] at hold; cases hold
    | ok u => rfl
  unfold newFileNode
  rw [validateNodePath_of_old hv]
  by_cases hn : '\n' ∈ p
  · simp [hn]
  · simp [hn]

/-- The fix changes nothing else: whenever no module-file path contains a line feed, the
    repaired computation returns exactly what the pre-fix computation returned (same digest or
    same error). -/
theorem fix_only_affects_line_feed_paths (H : Bytes → Digest) (b : Bucket) (deps : List MDigest)
    (hn : NoNewline (filterModule b)) : moduleB5 H b deps = Old.moduleB5 H b deps :=
  (oldModuleB5_eq H b deps hn).symm

/-- SENSITIVITY.  Two SUCCESSFUL b5 computations on real buckets with the same digest, H not
    colliding on the byte strings the two computations hash (module file contents, the two
    manifest texts, the two final preimages): then the module-file sets are equal and the
    dependency-digest multisets are permutations of each other.  Contrapositive
    (`digest_changes`): any change of a byte or of a path of a module file, any added or removed
    module file, any changed, added or removed dependency digest changes the digest.
    There is NO line-feed hypothesis and no "deps are b5" hypothesis: both follow from success
    (`digest_ok_newline_free`).  For the pre-fix `Old.moduleB5` the line-feed hypothesis is
    indispensable (`newline_collision_counterexample`). -/
theorem digest_sensitive (H : Bytes → Digest) (b₁ b₂ : Bucket) (d₁ d₂ : List MDigest)
    (h1 : BucketOK b₁) (h2 : BucketOK b₂)
    (hH : NoCollision H (b5Inputs H b₁ d₁ ++ b5Inputs H b₂ d₂))
    (g : MDigest) (e1 : moduleB5 H b₁ d₁ = .ok g) (e2 : moduleB5 H b₂ d₂ = .ok g) :
    (∀ e, e ∈ filterModule b₁ ↔ e ∈ filterModule b₂) ∧ d₁.Perm d₂ := by
  obtain ⟨v1, a1, rfl⟩ := moduleB5_eq_ok e1
  obtain ⟨v2, a2, hg⟩ := moduleB5_eq_ok e2
  rw [b5Inputs_of_valid H v1 a1, b5Inputs_of_valid H v2 a2] at hH
  -- the final preimages are equal, hence the files digests and the dependency digests
  obtain ⟨hfd, hperm⟩ := b5Preimage_inj
    (utf8_inj (hH _ (by simp) _ (by simp) (congrArg MDigest.digest hg)))
  -- the files digests are equal, hence the module files
  exact ⟨entriesDigest_sensitive H v1 v2
    (hH.mono fun x hx => by simp only [List.mem_append] at hx ⊢; rcases hx with h | h <;> simp [h]) hfd, hperm⟩

/-- `digest_sensitive` in the closed-form vocabulary: `NoNewline` on the module files and "all deps
    b5" are explicit hypotheses (they make the computation succeed) instead of being derived from
    success; this form is what the module-set theorems use (`SetOK` carries them). -/
theorem digest_sensitive_module_files (H : Bytes → Digest) (b₁ b₂ : Bucket) (d₁ d₂ : List MDigest)
    (h1 : BucketOK b₁) (h2 : BucketOK b₂) (n1 : NoNewline (filterModule b₁)) (n2 : NoNewline (filterModule b₂))
    (hd1 : d₁.all (fun d => d.type = .b5) = true) (hd2 : d₂.all (fun d => d.type = .b5) = true)
    (hH : NoCollision H (b5Inputs H b₁ d₁ ++ b5Inputs H b₂ d₂))
    (heq : moduleB5 H b₁ d₁ = moduleB5 H b₂ d₂) :
    (∀ e, e ∈ filterModule b₁ ↔ e ∈ filterModule b₂) ∧ d₁.Perm d₂ :=
  digest_sensitive H b₁ b₂ d₁ d₂ h1 h2 hH _ (moduleB5_of_valid H (h1.filter.valid n1) hd1)
    (heq ▸ moduleB5_of_valid H (h1.filter.valid n1) hd1)

/-- Same statement, contrapositive reading used in the property text: two successful
    computations over different module-file sets or different dependency-digest multisets give
    different digests. -/
theorem digest_changes (H : Bytes → Digest) (b₁ b₂ : Bucket) (d₁ d₂ : List MDigest)
    (h1 : BucketOK b₁) (h2 : BucketOK b₂)
    (hH : NoCollision H (b5Inputs H b₁ d₁ ++ b5Inputs H b₂ d₂))
    (g₁ g₂ : MDigest) (e1 : moduleB5 H b₁ d₁ = .ok g₁) (e2 : moduleB5 H b₂ d₂ = .ok g₂)
    (hdiff : (∃ e, ¬ (e ∈ filterModule b₁ ↔ e ∈ filterModule b₂)) ∨ ¬ d₁.Perm d₂) :
    g₁ ≠ g₂ := by
  intro hg
  subst hg
  have := digest_sensitive H b₁ b₂ d₁ d₂ h1 h2 hH g₁ e1 e2
  rcases hdiff with ⟨e, he⟩ | hp
  · exact he (this.1 e)
  · exact hp this.2

/-- The general form, failures included: on real buckets, if the two results are EQUAL and one of
    them is a digest, the conclusion of `digest_sensitive` holds; i.e. a digest is never equal to
    the result for a different module-file set / dependency multiset, whether that result is a
    digest or an error. -/
theorem digest_sensitive_of_eq (H : Bytes → Digest) (b₁ b₂ : Bucket) (d₁ d₂ : List MDigest)
    (h1 : BucketOK b₁) (h2 : BucketOK b₂)
    (hH : NoCollision H (b5Inputs H b₁ d₁ ++ b5Inputs H b₂ d₂))
    (g : MDigest) (e1 : moduleB5 H b₁ d₁ = .ok g) (heq : moduleB5 H b₁ d₁ = moduleB5 H b₂ d₂) :
    (∀ e, e ∈ filterModule b₁ ↔ e ∈ filterModule b₂) ∧ d₁.Perm d₂ :=
  digest_sensitive H b₁ b₂ d₁ d₂ h1 h2 hH g e1 (heq ▸ e1)

/-- `digest_changes` in the closed-form vocabulary. -/
theorem digest_changes_module_files (H : Bytes → Digest) (b₁ b₂ : Bucket) (d₁ d₂ : List MDigest)
    (h1 : BucketOK b₁) (h2 : BucketOK b₂) (n1 : NoNewline (filterModule b₁)) (n2 : NoNewline (filterModule b₂))
    (hd1 : d₁.all (fun d => d.type = .b5) = true) (hd2 : d₂.all (fun d => d.type = .b5) = true)
    (hH : NoCollision H (b5Inputs H b₁ d₁ ++ b5Inputs H b₂ d₂))
    (hdiff : (∃ e, ¬ (e ∈ filterModule b₁ ↔ e ∈ filterModule b₂)) ∨ ¬ d₁.Perm d₂) :
    moduleB5 H b₁ d₁ ≠ moduleB5 H b₂ d₂ := by
  intro heq
  have := digest_sensitive_module_files H b₁ b₂ d₁ d₂ h1 h2 n1 n2 hd1 hd2 hH heq
  rcases hdiff with ⟨e, he⟩ | hp
  · exact he (this.1 e)
  · exact hp this.2

/-! ### Module sets: local modules recurse over their resolved dependencies -/

/-- Fuel suffices: when the resolved dependencies of every local module have smaller indices
    (the module set is acyclic — `ModuleDeps` rejects cycles — and numbered topologically), the
    digest of module `i` is the same for every fuel > i. -/
theorem moduleDigest_fuel (H : Bytes → Digest) (ms : List Mod)
    (htopo : ∀ (i : Nat) (m : Mod), ms[i]? = some m → m.isLocal = true → ∀ j ∈ m.deps, j < i) :
    ∀ i fuel, i < fuel → moduleDigest H ms fuel i = moduleDigest H ms (i + 1) i :=
  moduleDigest_fuel_topo H ms htopo

/-- Fuel suffices for ANY numbering of an acyclic module set: acyclicity is witnessed by a rank
    function that decreases along the resolved dependencies of local modules (no relation
    between rank and index is assumed).  The digest of module `i` is the same for every
    fuel > rank i.  `moduleDigest_fuel` is the instance `rank = id`. -/
theorem moduleDigest_fuel_any_numbering (H : Bytes → Digest) (ms : List Mod) (rank : Nat → Nat)
    (hacyc : ∀ (i : Nat) (m : Mod), ms[i]? = some m → m.isLocal = true → ∀ j ∈ m.deps, rank j < rank i) :
    ∀ i fuel, rank i < fuel → moduleDigest H ms fuel i = moduleDigest H ms (rank i + 1) i :=
  moduleDigest_fuel_rank H ms rank hacyc

/-- … in particular `ms.length + 1` — the fuel the driver uses — is enough for every module of an
    acyclic set whose ranks stay below its size (the height of a node in an acyclic graph on n
    nodes is < n), however the modules are numbered. -/
theorem moduleDigest_fuel_length (H : Bytes → Digest) (ms : List Mod) (rank : Nat → Nat)
    (hacyc : ∀ (i : Nat) (m : Mod), ms[i]? = some m → m.isLocal = true → ∀ j ∈ m.deps, rank j < rank i)
    (hbound : ∀ i, rank i ≤ ms.length) :
    ∀ i fuel, ms.length < fuel → moduleDigest H ms fuel i = moduleDigest H ms (ms.length + 1) i := by
  intro i fuel hf
  rw [moduleDigest_fuel_any_numbering H ms rank hacyc i fuel (by have := hbound i; omega),
    moduleDigest_fuel_any_numbering H ms rank hacyc i (ms.length + 1) (by have := hbound i; omega)]

/-- Module digests in a set do not depend on anything but the buckets' module files, the
    resolved dependency structure and the pinned digests: replacing every bucket by one that
    agrees on its module files leaves every digest unchanged. -/
theorem moduleDigest_congr (H : Bytes → Digest) (ms₁ ms₂ : List Mod)
    (hlen : ms₁.length = ms₂.length)
    (hrel : ∀ (i : Nat) (m₁ m₂ : Mod), ms₁[i]? = some m₁ → ms₂[i]? = some m₂ →
      m₁.isLocal = m₂.isLocal ∧ m₁.deps = m₂.deps ∧ m₁.pinned = m₂.pinned ∧
      BucketOK m₁.bucket ∧ BucketOK m₂.bucket ∧
      ∀ e, e ∈ filterModule m₁.bucket ↔ e ∈ filterModule m₂.bucket) :
    ∀ fuel i, moduleDigest H ms₁ fuel i = moduleDigest H ms₂ fuel i := by
  intro fuel i
  refine moduleDigest_congr_on H (fun _ => True)
    (fun i _ h => by rw [List.getElem?_eq_none_iff] at h ⊢; omega) (fun i m₁ _ h1 => ?_) fuel i trivial
  have hi : i < ms₂.length := hlen ▸ (List.getElem?_eq_some_iff.mp h1).1
  obtain ⟨e1, e2, e3, o1, o2, hs⟩ := hrel i m₁ ms₂[i] h1 (List.getElem?_eq_getElem hi)
  exact ⟨_, List.getElem?_eq_getElem hi, e1, e2, e3,
    fun ds => digest_is_function_of_module_files H _ _ ds o1 o2 hs, fun _ _ _ => trivial⟩

/-! ### Module sets: a change in a (transitive) local dependency reaches the dependant -/

private theorem val_sensitive {H : Bytes → Digest} {ms₁ ms₂ : List Mod} (h₁ : SetOK ms₁) (h₂ : SetOK ms₂)
    {a b : Nat} {m₁ m₂ : Mod} (hm₁ : ms₁[a]? = some m₁) (hm₂ : ms₂[b]? = some m₂)
    (hH : NoCollision H (inputsAt H ms₁ a ++ inputsAt H ms₂ b)) (heq : val H ms₁ a = val H ms₂ b) :
    (∀ e, e ∈ filterModule m₁.bucket ↔ e ∈ filterModule m₂.bucket) ∧
      (depDigests H ms₁ m₁).Perm (depDigests H ms₂ m₂) := by
  obtain ⟨e1, a1⟩ := dg_eq_moduleB5 H ms₁ h₁ a m₁ hm₁
  obtain ⟨e2, a2⟩ := dg_eq_moduleB5 H ms₂ h₂ b m₂ hm₂
  rw [inputsAt_eq H hm₁, inputsAt_eq H hm₂] at hH
  refine digest_sensitive_module_files H _ _ _ _ (h₁.bucket a m₁ hm₁).1 (h₂.bucket b m₂ hm₂).1
    (h₁.bucket a m₁ hm₁).2 (h₂.bucket b m₂ hm₂).2 a1 a2 hH ?_
  rw [← e1, ← e2, (dg_eq_val H ms₁ h₁ a m₁ hm₁).1, (dg_eq_val H ms₂ h₂ b m₂ hm₂).1, heq]

/-- The changed module itself: replacing the bucket of local module `k` by one with a different
    module-file set changes the digest of `k`.  The replacement is ANY real bucket: when one of its
    module-file paths contains U+000A the result changes from a digest to the line-feed error. -/
theorem moduleSet_changed_module (H : Bytes → Digest) (ms : List Mod) (k : Nat) (mk : Mod) (b' : Bucket)
    (hk : ms[k]? = some mk) (hkl : mk.isLocal = true) (h1 : SetOK ms)
    (hb : BucketOK b')
    (hdiff : ∃ e, ¬ (e ∈ filterModule mk.bucket ↔ e ∈ filterModule b'))
    (hH : NoCollision H (inputsAt H ms k ++ inputsAt H (withBucket ms k mk b') k)) :
    dg H ms k ≠ dg H (withBucket ms k mk b') k := by
  by_cases hn : NoNewline (filterModule b')
  case neg =>
    obtain ⟨e, he⟩ := (dg_newline_err H (withBucket ms k mk b') (withBucket_topo k mk b' hk h1.topo) k _
      (withBucket_get_self ms k mk b' hk) hb hn).1
    rw [(dg_eq_val H ms h1 k mk hk).1, he]
    intro hc; cases hc
  have h2 := h1.withBucket k mk b' hk hb hn
  have hk' := withBucket_get_self ms k mk b' hk
  obtain ⟨e, he⟩ := hdiff
  rw [(dg_eq_val H ms h1 k mk hk).1, (dg_eq_val H _ h2 k _ hk').1]
  exact fun heq => he ((val_sensitive h1 h2 hk hk' hH (Except.ok.inj heq)).1 e)

/-- MODULE-SET SENSITIVITY.  In a module set as buf builds it (`SetOK`: acyclic, dependency
    lists transitively closed and duplicate-free, well-formed buckets), changing the module-file
    set of a local module `k` — to that of ANY real bucket; if a module-file path of the replacement
    contains U+000A the dependants lose their digest altogether (`dg_newline_err`) —
    changes the digest of EVERY local module `i` that depends on it —
    directly or transitively: `ModuleDeps()` lists transitive dependencies, so `k ∈ deps i` —
    provided H does not collide on the byte strings hashed along the way (the digest
    computations of `i` and of its dependencies, before and after the change).  The digests of
    the other dependencies of `i` may change as well (those that depend on `k`); a counting
    argument on the value `digest(k)` shows the dependency-digest multiset of `i` cannot stay the
    same. -/
theorem moduleSet_sensitive (H : Bytes → Digest) (ms : List Mod) (k : Nat) (mk : Mod) (b' : Bucket)
    (hk : ms[k]? = some mk) (hkl : mk.isLocal = true) (h1 : SetOK ms)
    (hb : BucketOK b')
    (hdiff : ∃ e, ¬ (e ∈ filterModule mk.bucket ↔ e ∈ filterModule b'))
    (i : Nat) (mi : Mod) (hi : ms[i]? = some mi) (hil : mi.isLocal = true) (hik : k ∈ mi.deps)
    (hH : NoCollision H ((i :: mi.deps).flatMap (inputsAt H ms) ++
      (i :: mi.deps).flatMap (inputsAt H (withBucket ms k mk b')))) :
    dg H ms i ≠ dg H (withBucket ms k mk b') i := by
  have hki : k < i := h1.topo i mi hi hil k hik
  have hilen : i < ms.length := (List.getElem?_eq_some_iff.mp hi).1
  have hi' : (withBucket ms k mk b')[i]? = some mi := by
    rw [withBucket_get_ne ms k mk b' (by omega)]; exact hi
  by_cases hn : NoNewline (filterModule b')
  case neg =>
    obtain ⟨e, he⟩ := (dg_newline_err H (withBucket ms k mk b') (withBucket_topo k mk b' hk h1.topo) k _
      (withBucket_get_self ms k mk b' hk) hb hn).2 i mi hi' hil hik
    rw [(dg_eq_val H ms h1 i mi hi).1, he]
    intro hc; cases hc
  have h2 := h1.withBucket k mk b' hk hb hn
  have hk' := withBucket_get_self ms k mk b' hk
  -- any two of the digest computations compared below hash strings of the no-collision list
  have hcol : ∀ a ∈ i :: mi.deps, ∀ c ∈ i :: mi.deps,
      NoCollision H (inputsAt H ms a ++ inputsAt H (withBucket ms k mk b') c) := fun a ha c hc =>
    hH.mono fun x hx => List.mem_append.mpr <| (List.mem_append.mp hx).imp
      (fun h => List.mem_flatMap.mpr ⟨a, ha, h⟩) (fun h => List.mem_flatMap.mpr ⟨c, hc, h⟩)
  have kmem : k ∈ i :: mi.deps := List.mem_cons_of_mem _ hik
  -- the changed module
  have hvalk : val H (withBucket ms k mk b') k ≠ val H ms k := fun e =>
    hdiff.elim fun e0 he0 => he0 ((val_sensitive h1 h2 hk hk' (hcol k kmem k kmem) e.symm).1 e0)
  rw [(dg_eq_val H ms h1 i mi hi).1, (dg_eq_val H _ h2 i mi hi').1]
  intro heq
  have hperm := (val_sensitive h1 h2 hi hi' (hcol i List.mem_cons_self i List.mem_cons_self) (Except.ok.inj heq)).2
  simp only [depDigests, hil, if_true] at hperm
  -- the value digest(k) is lost at `k` and appears nowhere new
  refine ListLemmas.not_perm_map_of_lost_value _ _ mi.deps hik hvalk (fun j hj hv => ?_) hperm
  have hji := h1.topo i mi hi hil j hj
  obtain ⟨mj, hmj⟩ : ∃ mj, ms[j]? = some mj := ⟨_, List.getElem?_eq_getElem (by omega)⟩
  by_cases hjk : j = k
  · exact absurd (hjk ▸ hv) hvalk
  have hmj' : (withBucket ms k mk b')[j]? = some mj := by
    rw [withBucket_get_ne ms k mk b' hjk]; exact hmj
  by_cases hdep : mj.isLocal = false ∨ k ∉ mj.deps
  · rw [← hv]; simp only [val, dg_unchanged H ms k mk b' h1 j mj hmj hjk hdep]
  -- j is local and depends on k: its dependency list is strictly longer than k's
  obtain ⟨hjl, hkj⟩ : mj.isLocal = true ∧ k ∈ mj.deps := by simpa using hdep
  exfalso
  have hlen := (val_sensitive h1 h2 hk hmj' (hcol k kmem j (List.mem_cons_of_mem _ hj)) hv.symm).2.length_eq
  simp only [depDigests, hjl, hkl, if_true, List.length_map] at hlen
  have hsub : (k :: mk.deps) ⊆ mj.deps := List.cons_subset.mpr ⟨hkj, h1.closed j mj hmj hjl k hkj mk hk hkl⟩
  have hnd : (k :: mk.deps).Nodup :=
    List.nodup_cons.mpr ⟨fun hkk => Nat.lt_irrefl _ (h1.topo k mk hk hkl k hkk), h1.nodup k mk hk⟩
  have := hnd.length_le_of_subset hsub
  simp only [List.length_cons] at this
  omega

/-! ### b4 -/

/-- b4 digests are likewise a function of the module-file set (and of the v1 buf.yaml /
    buf.lock object data they also cover). -/
theorem b4_is_function_of_module_files (H : Bytes → Digest) (b₁ b₂ : Bucket) (yaml lock : Option ObjectData)
    (h1 : BucketOK b₁) (h2 : BucketOK b₂)
    (hsame : ∀ e, e ∈ filterModule b₁ ↔ e ∈ filterModule b₂) :
    moduleB4 H b₁ yaml lock = moduleB4 H b₂ yaml lock := by
  rw [moduleB4_eq, moduleB4_eq, b4Entries, b4Entries,
    entriesDigest_congr H _ h1.filter.2 h2.filter.2 h1.filter.1 h2.filter.1 hsame]

/-- b4 SENSITIVITY, analogous to `digest_sensitive`: a b4 digest covers the module files and the
    v1 buf.yaml / buf.lock object data (`b4Entries`).  If H does not collide on what the two
    computations hash (`b4Inputs`: the file contents, the object data, the two manifest texts),
    two successful computations with the same digest cover the same set of (path, content) pairs
    (no line-feed hypothesis: success implies every covered path passed `NewFileNode`).  Contrapositive: any changed byte or path of a module
    file, any changed, added or removed buf.yaml / buf.lock changes the b4 digest. -/
theorem b4_sensitive (H : Bytes → Digest) (b₁ b₂ : Bucket) (y₁ l₁ y₂ l₂ : Option ObjectData)
    (h1 : BucketOK b₁) (h2 : BucketOK b₂)
    (hH : NoCollision H (b4Inputs H b₁ y₁ l₁ ++ b4Inputs H b₂ y₂ l₂))
    (d : MDigest) (e1 : moduleB4 H b₁ y₁ l₁ = .ok d) (e2 : moduleB4 H b₂ y₂ l₂ = .ok d) :
    ∀ e, e ∈ b4Entries b₁ y₁ l₁ ↔ e ∈ b4Entries b₂ y₂ l₂ := by
  obtain ⟨v1, rfl⟩ := moduleB4_eq_ok H e1
  obtain ⟨v2, hd⟩ := moduleB4_eq_ok H e2
  rw [b4Inputs_of_ok H v1, b4Inputs_of_ok H v2] at hH
  exact entriesDigest_sensitive H v1 v2 hH (congrArg MDigest.digest hd)

/-! ### Non-vacuity and recorded counterexamples -/

def zeroDigest : Digest := ⟨List.replicate 64 0, by simp⟩

/-- a toy hash for the examples: a polynomial checksum written out as 64 bytes -/
def toyH (x : Bytes) : Digest :=
  ⟨(List.range 64).map (fun i =>
      UInt8.ofNat ((x.foldl (fun acc b => (acc * 257 + b.toNat + 1) % 170141183460469231731687303715884105727) 0) / 256 ^ i % 256)),
    by simp⟩

def exNodes : List FileNode :=
  [⟨"dir  x/a  b.proto".toList, zeroDigest⟩, ⟨"LICENSE".toList, toyH [1]⟩, ⟨"日本/é x.proto".toList, zeroDigest⟩]

set_option maxRecDepth 100000 in
-- hypotheses of manifest_roundtrip are satisfiable by a manifest with double spaces and unicode
example : WF exNodes := ⟨by decide +kernel, by decide +kernel⟩

/-- The pre-fix parser (`strings.Split(s, "  ")` must give exactly 2 parts) rejects the canonical
    text of a valid manifest whose path has two consecutive spaces; the fixed parser accepts it
    (recorded finding, fixed by handoff/C08-parsefilenode.diff). -/
theorem roundtrip_old_counterexample :
    newManifest [⟨"a  b.proto".toList, zeroDigest⟩] = .ok [⟨"a  b.proto".toList, zeroDigest⟩] ∧
    parseManifestOld (manifestString [⟨"a  b.proto".toList, zeroDigest⟩]) = .error .nodeForm ∧
    parseManifest (manifestString [⟨"a  b.proto".toList, zeroDigest⟩]) = .ok [⟨"a  b.proto".toList, zeroDigest⟩] := by
  decide +kernel

/-- PRE-FIX behaviour (finding `manifest-roundtrip-newline-in-path`, fixed by
    handoff/C08-newline-fix.diff): the pre-fix `NewFileNode` (`newFileNodeOld`) accepted the path
    "x\ny.proto", and the canonical text of that manifest does not parse — the line format cannot
    represent a line feed.  The repaired `NewFileNode` rejects the path (last conjunct), which is
    why `manifest_roundtrip` needs no line-feed hypothesis. -/
theorem roundtrip_newline_counterexample :
    newFileNodeOld "x\ny.proto".toList zeroDigest = .ok ⟨"x\ny.proto".toList, zeroDigest⟩ ∧
    newManifest [⟨"x\ny.proto".toList, zeroDigest⟩] = .ok [⟨"x\ny.proto".toList, zeroDigest⟩] ∧
    parseManifest (manifestString [⟨"x\ny.proto".toList, zeroDigest⟩]) = .error .nodeForm ∧
    newFileNode "x\ny.proto".toList zeroDigest = .error .pathLineFeed := by
  decide +kernel

def exA : Bucket := [("a.proto".toList, [1]), ("x.txt".toList, [9]), ("README.md".toList, [])]
def exB : Bucket := [("README.md".toList, []), ("a.proto".toList, [2])]

/- The examples below evaluate digests of concrete buckets under `toyH`.  They first bring
   `moduleB5` / `b5Inputs` into closed form (`moduleB5_eq`, `b5Inputs_eq`, which need the two facts
   `BucketOK` and `NoNewline` of the bucket) and `utf8` into its list form (`utf8_eq_flatMap`), and
   only then evaluate; `NoCollision` is checked on the pairs of distinct positions
   (`noCollision_of_pairwise`). -/

private theorem exA_ok : BucketOK exA ∧ NoNewline (filterModule exA) := by
  unfold BucketOK NoNewline; decide +kernel
private theorem exB_ok : BucketOK exB ∧ NoNewline (filterModule exB) := by
  unfold BucketOK NoNewline; decide +kernel

private theorem filterModule_exA : filterModule exA = [("a.proto".toList, [1]), ("README.md".toList, [])] := by
  decide +kernel

set_option maxRecDepth 1000000 in
-- hypotheses of digest_sensitive / digest_changes are satisfiable (toy hash, two buckets that
-- differ in one byte of one module file, both computations succeed); purity hypotheses likewise
example : BucketOK exA ∧ BucketOK exB ∧
    NoCollision toyH (b5Inputs toyH exA [] ++ b5Inputs toyH exB []) ∧
    (moduleB5 toyH exA []).toBool = true ∧ (moduleB5 toyH exB []).toBool = true ∧
    (∃ e, ¬ (e ∈ filterModule exA ↔ e ∈ filterModule exB)) := by
  refine ⟨exA_ok.1, exB_ok.1, ?_, by rw [moduleB5_eq _ _ _ exA_ok.1 exA_ok.2 rfl]; rfl,
    by rw [moduleB5_eq _ _ _ exB_ok.1 exB_ok.2 rfl]; rfl, ⟨("a.proto".toList, [1]), by decide +kernel⟩⟩
  rw [b5Inputs_eq _ _ _ exA_ok.1 exA_ok.2 rfl, b5Inputs_eq _ _ _ exB_ok.1 exB_ok.2 rfl]
  simp only [utf8_eq_flatMap]
  exact noCollision_of_pairwise (by decide +kernel)

set_option maxRecDepth 1000000 in
-- the module files of exA: the .proto file and the chosen documentation file, not x.txt
example : (filterModule exA).map (·.1) = ["a.proto".toList, "README.md".toList] := by
  rw [filterModule_exA]; rfl

def exDep0 : MDigest := ⟨.b5, toyH [6]⟩
def nlTwo : Bucket := [("x.proto".toList, [1]), ("y.proto".toList, [2])]
def nlOne : Bucket :=
  [("x.proto".toList ++ '\n' :: digestString (toyH [2]) ++ "  y.proto".toList, [1])]

private theorem nlOne_ok : BucketOK nlOne := ⟨by decide +kernel, by decide +kernel⟩

/-- PRE-FIX behaviour (finding `digest-collision-newline-in-path`, fixed by
    handoff/C08-newline-fix.diff): with the pre-fix `NewFileNode` (`Old.moduleB5`) a (validated,
    `.proto`) path containing U+000A can spell out a second manifest line, so a ONE-file module
    and a TWO-file module got the same manifest text and the same b5 DIGEST (not a common error)
    although the hash does not collide on anything they hash.  So before the fix `digest_sensitive`
    was false without a line-feed hypothesis.  With the repaired `NewFileNode` the one-file module
    has no digest at all (last conjunct), and the two-file module's digest is unchanged. -/
theorem newline_collision_counterexample :
    BucketOK nlOne ∧ BucketOK nlTwo ∧ NoNewline nlTwo ∧
    NoCollision toyH (Old.b5Inputs toyH nlOne [] ++ Old.b5Inputs toyH nlTwo []) ∧
    (filterModule nlOne).length = 1 ∧ (filterModule nlTwo).length = 2 ∧
    Old.moduleB5 toyH nlOne [] = Old.moduleB5 toyH nlTwo [] ∧
    (Old.moduleB5 toyH nlTwo []).toBool = true ∧
    moduleB5 toyH nlTwo [] = Old.moduleB5 toyH nlTwo [] ∧
    moduleB5 toyH nlOne [] = .error .pathLineFeed := by
  have n2 : NoNewline nlTwo := by unfold NoNewline; decide +kernel
  have ok2 : BucketOK nlTwo := ⟨by decide +kernel, by decide +kernel⟩
  -- the finding itself: the two manifests have the same text
  have hman : entriesText toyH (filterModule nlOne) = entriesText toyH (filterModule nlTwo) := by
    decide +kernel
  have e1 := Old.moduleB5_eq toyH nlOne [] nlOne_ok rfl
  have e2 := Old.moduleB5_eq toyH nlTwo [] ok2 rfl
  refine ⟨nlOne_ok, ok2, n2, ?_, by decide +kernel, by decide +kernel, by rw [e1, e2, hman], by rw [e2]; rfl,
    fix_only_affects_line_feed_paths toyH nlTwo [] n2.filter,
    digest_rejects_line_feed toyH nlOne [] nlOne_ok nlOne.head! (by decide +kernel) (by decide +kernel)⟩
  rw [Old.b5Inputs_eq _ _ _ nlOne_ok rfl, Old.b5Inputs_eq _ _ _ ok2 rfl, hman]
  simp only [utf8_eq_flatMap]
  exact noCollision_of_pairwise (by decide +kernel)

set_option maxRecDepth 1000000 in
-- the hypotheses of `digest_rejects_line_feed` are satisfiable: a real bucket with a line feed in a
-- module file's path (and the theorem's conclusion, evaluated)
example : BucketOK nlOne ∧ (∃ e, e ∈ filterModule nlOne ∧ '\n' ∈ e.1) ∧
    moduleB5 toyH nlOne [exDep0] = .error .pathLineFeed := by
  refine ⟨nlOne_ok, ⟨nlOne.head!, by decide +kernel, by decide +kernel⟩, by decide +kernel⟩

set_option maxRecDepth 1000000 in
-- a line feed in a NON-module file's path is harmless: the digest is that of the module files
example : BucketOK (("notes\n.txt".toList, [5]) :: exA) ∧
    (moduleB5 toyH (("notes\n.txt".toList, [5]) :: exA) []).toBool = true ∧
    moduleB5 toyH (("notes\n.txt".toList, [5]) :: exA) [] = moduleB5 toyH exA [] := by
  have hf : filterModule (("notes\n.txt".toList, [5]) :: exA) = filterModule exA := by decide +kernel
  have heq : moduleB5 toyH (("notes\n.txt".toList, [5]) :: exA) [] = moduleB5 toyH exA [] := by
    rw [← digest_ignores_non_module_files, hf, digest_ignores_non_module_files]
  refine ⟨⟨by decide +kernel, by decide +kernel⟩, ?_, heq⟩
  rw [heq, moduleB5_eq _ _ _ exA_ok.1 exA_ok.2 rfl]; rfl


def exDep1 : MDigest := ⟨.b5, toyH [7]⟩
def exDep2 : MDigest := ⟨.b5, toyH [8]⟩

set_option maxRecDepth 1000000 in
-- `digest_changes` with NON-EMPTY dependency lists: same bucket, one dependency digest replaced
example : BucketOK exA ∧
    (moduleB5 toyH exA [exDep1, exDep2]).toBool = true ∧ (moduleB5 toyH exA [exDep1, exDep1]).toBool = true ∧
    NoCollision toyH (b5Inputs toyH exA [exDep1, exDep2] ++ b5Inputs toyH exA [exDep1, exDep1]) ∧
    ¬ [exDep1, exDep2].Perm [exDep1, exDep1] := by
  refine ⟨exA_ok.1, by rw [moduleB5_eq _ _ _ exA_ok.1 exA_ok.2 rfl]; rfl,
    by rw [moduleB5_eq _ _ _ exA_ok.1 exA_ok.2 rfl]; rfl, ?_, ?_⟩
  · rw [b5Inputs_eq _ _ _ exA_ok.1 exA_ok.2 rfl, b5Inputs_eq _ _ _ exA_ok.1 exA_ok.2 rfl]
    simp only [utf8_eq_flatMap]
    exact noCollision_of_pairwise (by decide +kernel)
  · intro hp
    have := hp.count_eq exDep2
    revert this; decide +kernel

def exC : Bucket := [("y.bin".toList, [7, 7]), ("README.md".toList, []), ("a.proto".toList, [1])]

private theorem exC_ok : BucketOK exC := ⟨by decide +kernel, by decide +kernel⟩

private theorem exA_exC_same (e : Entry) : e ∈ filterModule exA ↔ e ∈ filterModule exC := by
  rw [filterModule_exA,
    show filterModule exC = [("README.md".toList, []), ("a.proto".toList, [1])] by decide +kernel]
  simp only [List.mem_cons, List.not_mem_nil, or_false]
  exact Or.comm

set_option maxRecDepth 1000000 in
-- the hypotheses of `digest_is_function_of_module_files` hold for two DIFFERENT buckets (other
-- enumeration order, other non-module files) with the same module files
example : BucketOK exA ∧ BucketOK exC ∧ exA ≠ exC ∧ ¬ exA.Perm exC ∧
    (∀ e, e ∈ filterModule exA ↔ e ∈ filterModule exC) := by
  refine ⟨exA_ok.1, exC_ok, by decide, ?_, exA_exC_same⟩
  intro hp
  have := hp.subset (show ("x.txt".toList, [9]) ∈ exA by decide)
  revert this; decide


def exK : Mod := { bucket := [("k.proto".toList, [1])], isLocal := true, deps := [], pinned := [] }
def exJ : Mod := { bucket := [("j.proto".toList, [2])], isLocal := true, deps := [0], pinned := [] }
def exI : Mod := { bucket := [("i.proto".toList, [3])], isLocal := true, deps := [1, 0], pinned := [] }
def exMs : List Mod := [exK, exJ, exI]
def exK2 : Bucket := [("k.proto".toList, [9])]

private theorem getElem?_triple {α : Type} (a b c : α) (i : Nat) (m : α) (h : [a, b, c][i]? = some m) :
    (i = 0 ∧ m = a) ∨ (i = 1 ∧ m = b) ∨ (i = 2 ∧ m = c) :=
  match i, h with
  | 0, h => .inl ⟨rfl, (Option.some.inj h).symm⟩
  | 1, h => .inr (.inl ⟨rfl, (Option.some.inj h).symm⟩)
  | 2, h => .inr (.inr ⟨rfl, (Option.some.inj h).symm⟩)
  | _ + 3, h => nomatch h

private theorem exMs_get (i : Nat) (m : Mod) (h : exMs[i]? = some m) :
    (i = 0 ∧ m = exK) ∨ (i = 1 ∧ m = exJ) ∨ (i = 2 ∧ m = exI) :=
  getElem?_triple exK exJ exI i m h

private theorem exMs_ok : SetOK exMs := by
  constructor
  · intro i m hm hl j hj
    rcases exMs_get i m hm with ⟨rfl, rfl⟩ | ⟨rfl, rfl⟩ | ⟨rfl, rfl⟩ <;> revert j <;> decide
  · intro i m hm hl j hj mj hmj hlj l hl'
    rcases exMs_get i m hm with ⟨rfl, rfl⟩ | ⟨rfl, rfl⟩ | ⟨rfl, rfl⟩ <;>
      rcases exMs_get j mj hmj with ⟨rfl, rfl⟩ | ⟨rfl, rfl⟩ | ⟨rfl, rfl⟩ <;>
      first | exact absurd hj (by decide) | (revert l; decide)
  · intro i m hm
    rcases exMs_get i m hm with ⟨rfl, rfl⟩ | ⟨rfl, rfl⟩ | ⟨rfl, rfl⟩ <;> decide
  · intro i m hm
    rcases exMs_get i m hm with ⟨rfl, rfl⟩ | ⟨rfl, rfl⟩ | ⟨rfl, rfl⟩ <;>
      exact ⟨⟨by decide, by decide⟩, by unfold NoNewline; decide⟩
  · intro i m hm
    rcases exMs_get i m hm with ⟨rfl, rfl⟩ | ⟨rfl, rfl⟩ | ⟨rfl, rfl⟩ <;> decide

private theorem exDeps_eq (H : Bytes → Digest) (ms : List Mod) :
    depDigests H ms exK = [] ∧ depDigests H ms { exK with bucket := exK2 } = [] ∧
    depDigests H ms exJ = [val H ms 0] ∧ depDigests H ms exI = [val H ms 1, val H ms 0] :=
  ⟨rfl, rfl, rfl, rfl⟩

set_option maxRecDepth 1000000 in
set_option maxHeartbeats 4000000 in
example : exMs[0]? = some exK ∧ exK.isLocal = true ∧ SetOK exMs ∧ BucketOK exK2 ∧
    (∃ e, ¬ (e ∈ filterModule exK.bucket ↔ e ∈ filterModule exK2)) ∧
    exMs[2]? = some exI ∧ exI.isLocal = true ∧ 0 ∈ exI.deps ∧
    NoCollision toyH ((2 :: exI.deps).flatMap (inputsAt toyH exMs) ++
      (2 :: exI.deps).flatMap (inputsAt toyH (withBucket exMs 0 exK exK2))) := by
  obtain ⟨ok2, nl2⟩ : BucketOK exK2 ∧ NoNewline (filterModule exK2) := by
    unfold BucketOK NoNewline; decide +kernel
  have ok' := exMs_ok.withBucket 0 exK exK2 rfl ok2 nl2
  refine ⟨rfl, rfl, exMs_ok, ok2, ⟨("k.proto".toList, [1]), by decide +kernel⟩, rfl, rfl, by decide, ?_⟩
  have iI := inputsAt_closed toyH exMs_ok (a := 2) (m := exI) rfl
  have iJ := inputsAt_closed toyH exMs_ok (a := 1) (m := exJ) rfl
  have iK := inputsAt_closed toyH exMs_ok (a := 0) (m := exK) rfl
  have iI' := inputsAt_closed toyH ok' (a := 2) (m := exI) rfl
  have iJ' := inputsAt_closed toyH ok' (a := 1) (m := exJ) rfl
  have iK' := inputsAt_closed toyH ok' (a := 0) (m := { exK with bucket := exK2 }) rfl
  have vJ := val_eq toyH exMs_ok (i := 1) (m := exJ) rfl
  have vK := val_eq toyH exMs_ok (i := 0) (m := exK) rfl
  have vJ' := val_eq toyH ok' (i := 1) (m := exJ) rfl
  have vK' := val_eq toyH ok' (i := 0) (m := { exK with bucket := exK2 }) rfl
  show NoCollision toyH ([2, 1, 0].flatMap (inputsAt toyH exMs) ++
    [2, 1, 0].flatMap (inputsAt toyH (withBucket exMs 0 exK exK2)))
  simp only [List.flatMap_cons, List.flatMap_nil, List.append_nil, iI, iJ, iK, iI', iJ', iK',
    (exDeps_eq _ _).1, (exDeps_eq _ _).2.1, (exDeps_eq _ _).2.2.1, (exDeps_eq _ _).2.2.2,
    vJ, vK, vJ', vK', utf8_eq_flatMap]
  exact noCollision_of_pairwise (by decide +kernel)

def exYaml : Option ObjectData := some ⟨"buf.yaml".toList, [1, 2]⟩

set_option maxRecDepth 1000000 in
-- the hypotheses of `b4_sensitive` are satisfiable: two different buckets with the same module
-- files and the same v1 buf.yaml have the same (successful) b4 digest, no collision among what is hashed
example : BucketOK exA ∧ BucketOK exC ∧
    NoCollision toyH (b4Inputs toyH exA exYaml none ++ b4Inputs toyH exC exYaml none) ∧
    (∃ d, moduleB4 toyH exA exYaml none = .ok d ∧ moduleB4 toyH exC exYaml none = .ok d) := by
  have h : moduleB4 toyH exA exYaml none = moduleB4 toyH exC exYaml none :=
    b4_is_function_of_module_files toyH exA exC exYaml none exA_ok.1 exC_ok exA_exC_same
  have hex : ∃ d, moduleB4 toyH exA exYaml none = .ok d := by
    have hok : (moduleB4 toyH exA exYaml none).toBool = true := by decide +kernel
    cases hd : moduleB4 toyH exA exYaml none with
    | ok d => exact ⟨d, rfl⟩
    | error e => rw [hd] at hok; cases hok
  obtain ⟨d, hA⟩ := hex
  have hC := h ▸ hA
  refine ⟨exA_ok.1, exC_ok, ?_, d, hA, hC⟩
  rw [b4Inputs_of_ok toyH (moduleB4_eq_ok toyH hA).1, b4Inputs_of_ok toyH (moduleB4_eq_ok toyH hC).1]
  simp only [entriesInputs, utf8_eq_flatMap]
  exact noCollision_of_pairwise (by decide +kernel)

-- any numbering: an acyclic set numbered against the dependency direction (module 0 depends on 1,
-- 1 on 2) has the rank function `2 - i`
example : ∀ (i : Nat) (m : Mod), ([⟨[], true, [1], []⟩, ⟨[], true, [2], []⟩, ⟨[], true, [], []⟩] : List Mod)[i]? = some m →
    m.isLocal = true → ∀ j ∈ m.deps, (fun n => 2 - n) j < (fun n => 2 - n) i := by
  intro i m hm _ j hj
  match i, hm with
  | 0, hm => simp at hm; subst hm; simp at hj; subst hj; decide
  | 1, hm => simp at hm; subst hm; simp at hj; subst hj; decide
  | 2, hm => simp at hm; subst hm; simp at hj
  | n + 3, hm => simp at hm


/-! ### History independence (what Section H of the harness ties to the implementation)

"A digest is a function of (path, content) pairs and dependency digests ONLY" also excludes the
history of the process.  In the model that holds BY CONSTRUCTION: `H c`, `moduleB5 H b deps` are
plain functions, no hasher / pool / cache is threaded through them.  The theorems below state it
over histories (`BufModel.DigestHistory`): a process state `σ` of any type evolves under an
arbitrary `upd` along a list of operations — healthy digest computations and computations whose
read failed after a prefix was absorbed — and every answer equals the stateless `answer` of its
operation, whatever the prefix of the history and the initial state.

The tie to the IMPLEMENTATION is not a proof: it is Section H of `harness/cmd/c08`
(history.go), which drives `shake256.NewDigestForContent`, `bufcas.NewDigestForContent` /
`NewBlobForContent` / `NewFileSetForBucket`, `Module.Digest` (b5 remote / local / two-module
set, b4) through such histories — reads failing after k bytes around 0, 136 (sponge rate) and
32 KiB (io.Copy buffer), `(n>0, err)`, panicking readers, cancelled contexts; on one P with a
locked thread, unpinned, and concurrently — and compares every healthy answer with an
independent SHAKE256 recomputation and with a fresh process; small histories also reach the
driver as `hist` lines answered by `DigestHistory.answers`.  `Pooled` is the counter-model of
the regression that section exists for (seed C08-m6: pooled hasher, Reset on success only). -/
section History
open BufModel.DigestHistory

/-- Running a history from ANY process state under ANY state evolution gives exactly the
    stateless answers: the model's digests carry no state. -/
theorem digest_history_independent {σ : Type} (H : Bytes → Digest) (upd : σ → Op → σ) (s : σ) (ops : List Op) :
    run H upd s ops = answers H ops := by
  induction ops generalizing s with
  | nil => rfl
  | cons op rest ih => simp only [run, answers, List.map_cons, ih, answers]

/-- The answer of a step is the answer of that step alone, whatever came before it (`pre`: any
    mix of healthy and failed computations), after it, and whatever the process state was. -/
theorem healthy_step_after_any_history {σ : Type} (H : Bytes → Digest) (upd : σ → Op → σ) (s : σ)
    (pre post : List Op) (op : Op) :
    (run H upd s (pre ++ op :: post))[pre.length]? = some (answer H op) := by
  rw [digest_history_independent]
  simp [answers]

/-- Content level: after any history, the digest of content `c` is `H c`. -/
theorem content_digest_after_any_history {σ : Type} (H : Bytes → Digest) (upd : σ → Op → σ) (s : σ)
    (pre post : List Op) (c : Bytes) :
    (run H upd s (pre ++ Op.content c :: post))[pre.length]? = some (Ans.digest (H c)) :=
  healthy_step_after_any_history H upd s pre post (Op.content c)

/-- Module level: after any history (failed module digests included), `Module.Digest(b5)` of
    bucket `b` with dependency digests `deps` is `moduleB5 H b deps` — the function that
    `digest_is_function_of_module_files` / `digest_sensitive` speak about. -/
theorem moduleB5_after_any_history {σ : Type} (H : Bytes → Digest) (upd : σ → Op → σ) (s : σ)
    (pre post : List Op) (b : Bucket) (deps : List MDigest) :
    (run H upd s (pre ++ Op.b5 b deps :: post))[pre.length]? = some (Ans.mdigest (moduleB5 H b deps)) :=
  healthy_step_after_any_history H upd s pre post (Op.b5 b deps)

/-- Two processes with different pasts (different histories, states, state evolutions) answer
    the same operation identically — "the digest computed in a fresh process" of Section H is
    the instance `pre₂ = []`. -/
theorem same_answer_in_any_two_processes {σ τ : Type} (H : Bytes → Digest)
    (upd₁ : σ → Op → σ) (s₁ : σ) (upd₂ : τ → Op → τ) (s₂ : τ) (pre₁ pre₂ : List Op) (op : Op) :
    (run H upd₁ s₁ (pre₁ ++ [op]))[pre₁.length]? = (run H upd₂ s₂ (pre₂ ++ [op]))[pre₂.length]? := by
  rw [healthy_step_after_any_history, healthy_step_after_any_history]

/-- The shape HEAD has (a fresh / reset hasher at the START of every call) is history
    independent even when written as a state machine over the leftover of a reused hasher. -/
theorem pooled_reset_first_history_independent (H : Bytes → Digest) (s : Pooled.State) (ops : List Op) :
    Pooled.runResetFirst H s ops = answers H ops := by
  induction ops generalizing s with
  | nil => rfl
  | cons op rest ih =>
    cases op <;> simp only [Pooled.runResetFirst, Pooled.stepResetFirst, answers, List.map_cons, answer,
      List.nil_append, ih] <;> rfl

/-- Recorded counter-model (seed C08-m6): with a pooled hasher that is Reset on the success path
    only, a read that failed after absorbing `[1]` makes the NEXT digest `H [1, 2]` instead of
    `H [2]` — the answer depends on the history; a failure after 0 bytes leaves no trace (why the
    harness sweeps k).  Not the model of the code: the documented shape of the regression. -/
theorem pooled_history_dependent_counterexample :
    Pooled.run toyH [] [Op.contentFail [1], Op.content [2]] = [Ans.failed, Ans.digest (toyH [1, 2])] ∧
    answers toyH [Op.contentFail [1], Op.content [2]] = [Ans.failed, Ans.digest (toyH [2])] ∧
    toyH [1, 2] ≠ toyH [2] ∧
    Pooled.run toyH [] [Op.contentFail [], Op.content [2]] = [Ans.failed, Ans.digest (toyH [2])] :=
  ⟨rfl, rfl, by decide, rfl⟩

-- the hypotheses-free statements above are inhabited by a concrete mixed history
example : (run toyH (fun (n : Nat) _ => n + 1) 0
    [Op.b5Fail exA [] "a.proto".toList 1, Op.contentFail [7], Op.content [2], Op.b5 exA []])[2]? =
    some (Ans.digest (toyH [2])) :=
  healthy_step_after_any_history toyH _ 0 [Op.b5Fail exA [] "a.proto".toList 1, Op.contentFail [7]] [Op.b5 exA []] (Op.content [2])

end History

/-! ### Literalness: a path is a sequence of code points — on the wire a sequence of BYTES — and is
    stored, ordered, written into the manifest and hashed VERBATIM.

    Nothing in `BufModel.Manifest` / `BufModel.Digest` inspects a path beyond `'/'`, `'.'`, `'\n'` and
    equality with the few constant names, so no Unicode normalisation form is preferred, no case is
    folded: `U+00E9` and `e U+0301` are different paths, a module may hold both, renaming one into the
    other changes the digest, and the manifest order is the code point (= UTF-8 byte) order of the
    literal paths.  The sensitivity theorems above already quantify over arbitrary strings; the
    statements below make the literalness explicit.  (Invalid UTF-8 cannot be carried by `Str`; that
    the implementation treats such bytes just as literally is checked by the oracle of Section U of
    harness/cmd/c08 only.)  The tie to the implementation is Section U (unicode.go): independent
    SHAKE256 over the manifest built from the literal path bytes of the generator's own bookkeeping. -/
section Literal

theorem utf8_append (a b : Str) : utf8 (a ++ b) = utf8 a ++ utf8 b := by
  simp only [utf8_eq_flatMap, List.flatMap_append]

/-- `NewFileNode` stores exactly the path (and digest) it was given: `FileNode.Path()` is literal. -/
theorem newFileNode_path_literal {p : Str} {d : Digest} {n : FileNode} (h : newFileNode p d = .ok n) :
    n.path = p ∧ n.digest = d := by
  have := (newFileNode_eq_ok h).2
  subst this
  exact ⟨rfl, rfl⟩

/-- `ParseFileNode` returns exactly the characters after the first double space: for every path
    that `NewFileNode` accepts, parsing `digest[SP][SP]path` gives back that very path. -/
theorem parseFileNode_path_literal (p : Str) (d : Digest) (h : validateNodePath p = .ok ()) :
    parseFileNode (digestString d ++ ' ' :: ' ' :: p) = .ok ⟨p, d⟩ :=
  parseFileNode_fileNodeString ⟨p, d⟩ h

/-- two file nodes with different paths have different texts (whatever the relation between the
    two spellings) -/
theorem fileNodeString_path_injective (p₁ p₂ : Str) (d : Digest)
    (h : fileNodeString ⟨p₁, d⟩ = fileNodeString ⟨p₂, d⟩) : p₁ = p₂ := by
  unfold fileNodeString at h
  have := List.append_cancel_left h
  simpa using this

/-- The path of every node appears VERBATIM in the manifest text, between the two spaces after its
    digest and the line feed — as characters and, in what is hashed, as its own UTF-8 bytes. -/
theorem manifestString_path_literal (m : Manifest) (n : FileNode) (hn : n ∈ m) :
    ∃ pre post : Str,
      manifestString m = pre ++ (digestString n.digest ++ ' ' :: ' ' :: n.path) ++ '\n' :: post ∧
      utf8 (manifestString m) =
        utf8 pre ++ (utf8 (digestString n.digest) ++ [0x20, 0x20] ++ utf8 n.path) ++ 0x0a :: utf8 post := by
  -- the bytes are the bytes of the characters: only the text needs the induction
  suffices h : ∃ pre post : Str,
      manifestString m = pre ++ (digestString n.digest ++ ' ' :: ' ' :: n.path) ++ '\n' :: post by
    obtain ⟨pre, post, hs⟩ := h
    refine ⟨pre, post, hs, ?_⟩
    rw [hs]
    simp only [utf8_eq_flatMap, List.flatMap_append, List.flatMap_cons, List.append_assoc]
    rfl
  induction m with
  | nil => cases hn
  | cons k ks ih =>
    rcases List.mem_cons.mp hn with rfl | hk
    · exact ⟨[], manifestString ks, by simp [manifestString, fileNodeString]⟩
    · obtain ⟨pre, post, hs⟩ := ih hk
      refine ⟨fileNodeString k ++ '\n' :: pre, post, ?_⟩
      show fileNodeString k ++ '\n' :: manifestString ks = _
      rw [hs]; simp only [List.append_assoc, List.cons_append]

/-- The manifest order is the order of the LITERAL paths (`List Char` order = code point order =
    UTF-8 byte order): no folded / normalised key is involved. -/
theorem manifest_order_literal {nodes : List FileNode} {m : Manifest} (h : newManifest nodes = .ok m) :
    m.Pairwise (fun a b => a.path ≤ b.path) ∧ m.Perm nodes := by
  have hm := (newManifest_eq_ok h).2
  subst hm
  refine ⟨?_, sortBy_perm pathLe nodes⟩
  exact (sortBy_pairwise pathLe pathLe_total pathLe_trans nodes).imp
    (fun hab => of_decide_eq_true hab)

/-- DISTINCT SPELLINGS, DISTINCT MANIFESTS.  If some path of the first node set does not occur —
    as the same sequence of code points — among the paths of the second, the two manifest texts
    differ; canonically equivalent, compatibility equivalent or case-folded spellings are simply
    different paths. -/
theorem distinct_spellings_distinct_manifests (n₁ n₂ : List FileNode) (h1 : WF n₁) (h2 : WF n₂)
    (m₁ m₂ : Manifest) (e1 : newManifest n₁ = .ok m₁) (e2 : newManifest n₂ = .ok m₂)
    (n : FileNode) (hn : n ∈ n₁) (hp : ∀ k ∈ n₂, k.path ≠ n.path) :
    manifestString m₁ ≠ manifestString m₂ := by
  intro h
  have hperm := (manifestString_injective n₁ n₂ h1 h2 m₁ m₂ e1 e2 h).2
  exact hp n (hperm.subset hn) rfl

/-- ANOTHER SPELLING IS ANOTHER DIGEST (corollary of `digest_changes`).  `b₁` has a module file at
    path `p`; `b₂` has no file spelled `p` (it may have one spelled in any other normalisation form
    of the same text, with the same content): the two digests differ, H not colliding on the inputs
    compared. -/
theorem spelling_changes_digest (H : Bytes → Digest) (b₁ b₂ : Bucket) (d₁ d₂ : List MDigest)
    (h1 : BucketOK b₁) (h2 : BucketOK b₂)
    (hH : NoCollision H (b5Inputs H b₁ d₁ ++ b5Inputs H b₂ d₂))
    (g₁ g₂ : MDigest) (e1 : moduleB5 H b₁ d₁ = .ok g₁) (e2 : moduleB5 H b₂ d₂ = .ok g₂)
    (p : Str) (c : Bytes) (hin : (p, c) ∈ filterModule b₁) (hout : ∀ e ∈ b₂, e.1 ≠ p) :
    g₁ ≠ g₂ :=
  digest_changes H b₁ b₂ d₁ d₂ h1 h2 hH g₁ g₂ e1 e2
    (Or.inl ⟨(p, c), fun h => hout _ (List.mem_filter.mp (h.mp hin)).1 rfl⟩)

/-- U+00E9 (NFC) and e U+0301 (NFD): the same text for a reader, two paths for buf -/
def eNFC : Str := [Char.ofNat 0xe9]
def eNFD : Str := ['e', Char.ofNat 0x301]
def exNFC : Bucket := [(eNFC ++ ".proto".toList, [1]), ("b.proto".toList, [2])]
def exNFD : Bucket := [(eNFD ++ ".proto".toList, [1]), ("b.proto".toList, [2])]
def exBoth : Bucket := [(eNFC ++ ".proto".toList, [1]), (eNFD ++ ".proto".toList, [1])]

-- different code points, different bytes in what is hashed
example : eNFC ≠ eNFD ∧ utf8 eNFC = [0xc3, 0xa9] ∧ utf8 eNFD = [0x65, 0xcc, 0x81] := by decide

set_option maxRecDepth 1000000 in
-- the hypotheses of `spelling_changes_digest` hold for the module renamed from the NFC to the NFD
-- spelling (same content): the digest changes
example : BucketOK exNFC ∧ BucketOK exNFD ∧
    NoCollision toyH (b5Inputs toyH exNFC [] ++ b5Inputs toyH exNFD []) ∧
    (moduleB5 toyH exNFC []).toBool = true ∧ (moduleB5 toyH exNFD []).toBool = true ∧
    (eNFC ++ ".proto".toList, [1]) ∈ filterModule exNFC ∧ (∀ e ∈ exNFD, e.1 ≠ eNFC ++ ".proto".toList) ∧
    moduleB5 toyH exNFC [] ≠ moduleB5 toyH exNFD [] := by
  obtain ⟨o1, n1⟩ : BucketOK exNFC ∧ NoNewline (filterModule exNFC) := by
    unfold BucketOK NoNewline; decide +kernel
  obtain ⟨o2, n2⟩ : BucketOK exNFD ∧ NoNewline (filterModule exNFD) := by
    unfold BucketOK NoNewline; decide +kernel
  have e1 := moduleB5_eq toyH exNFC [] o1 n1 rfl
  have e2 := moduleB5_eq toyH exNFD [] o2 n2 rfl
  have hc : NoCollision toyH (b5Inputs toyH exNFC [] ++ b5Inputs toyH exNFD []) := by
    rw [b5Inputs_eq _ _ _ o1 n1 rfl, b5Inputs_eq _ _ _ o2 n2 rfl]
    simp only [utf8_eq_flatMap]
    exact noCollision_of_pairwise (by decide +kernel)
  have hin : (eNFC ++ ".proto".toList, [1]) ∈ filterModule exNFC := by decide +kernel
  have hout : ∀ e ∈ exNFD, e.1 ≠ eNFC ++ ".proto".toList := by decide +kernel
  refine ⟨o1, o2, hc, by rw [e1]; rfl, by rw [e2]; rfl, hin, hout, ?_⟩
  rw [e1, e2]
  exact fun h => spelling_changes_digest toyH exNFC exNFD [] [] o1 o2 hc _ _ e1 e2 _ _ hin hout (Except.ok.inj h)

set_option maxRecDepth 1000000 in
-- a module holding BOTH spellings is a valid module with two module files (no duplicate path), and its
-- manifest lists them in byte order: `e U+0301` (65 CC 81) before `U+00E9` (C3 A9)
example : BucketOK exBoth ∧ (moduleB5 toyH exBoth []).toBool = true ∧
    (filterModule exBoth).length = 2 ∧
    (sortBy pathLe [⟨eNFC ++ ".proto".toList, zeroDigest⟩, ⟨eNFD ++ ".proto".toList, zeroDigest⟩]).map (·.path)
      = [eNFD ++ ".proto".toList, eNFC ++ ".proto".toList] := by
  refine ⟨⟨by decide, by decide⟩, by decide, by decide, by decide⟩

set_option maxRecDepth 1000000 in
-- the order is that of the literal paths, NOT that of their NFC forms: `e U+0301 x` < `f` < `U+00E9`
-- (sorting by NFC-folded paths would give f, é, éx)
example : (sortBy pathLe [⟨[Char.ofNat 0xe9], zeroDigest⟩, ⟨['f'], zeroDigest⟩, ⟨eNFD ++ ['x'], zeroDigest⟩]).map (·.path)
    = [eNFD ++ ['x'], ['f'], [Char.ofNat 0xe9]] := by decide

end Literal

end BufProofs.C08
