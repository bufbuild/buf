import BufProofs.Lemmas.ImagePathsLemmas
/-
  C01's "closed" and "each path once" clauses for DERIVED images: whatever non-import files
  `ImageWithOnlyPaths` / `ImageByDir` select from an image, the image assembled around them by
  `getImageWithImports` / `addFileWithImports` (util.go; model: BufModel.ImagePaths, the walk
  `visit` follows EVERY entry of a file's dependency list) is closed again.

  A file record of that model is (path, isImport, deps); whether the compiler flagged a dependency
  as unused is deliberately NOT part of what the walk looks at.  The variant that does look at it
  (seed C17-m10: skip the dependencies listed in UnusedDependencyIndexes) is `visitSkip` below;
  `skip_unused_counterexample` shows it hands out an image that is not closed.

  The harness sends every path filter it applies to a built image through the model (`iwop`
  protocol line) and checks closedness / order / linking on the implementation's result
  (oracle classes derived-image-*).
-/
namespace BufProofs.C01
open BufModel.Path BufModel.ImagePaths BufProofs.ImagePathsLemmas

/-- every `dependency` entry of every file is a file of the image. -/
def ClosedImage (img : Image) : Prop := ∀ f ∈ img, ∀ d ∈ f.deps, d ∈ paths img

/-- **Derived images are closed.**  Let `img` list each path once and be closed, and let `ni` be
    any files of `img` (what a `--path` filter, `ImageByDir`, … selected).  If
    `getImageWithImports img ni` yields an image, that image lists each path once, is closed, and
    contains exactly the files reachable from `ni` through dependency lists — every dependency,
    used or not. -/
theorem derived_image_closed (img : Image) (ni : List File) (out : Image)
    (hn : (paths img).Nodup) (hc : ClosedImage img) (hni : ∀ f ∈ ni, f ∈ img)
    (h : getImageWithImports img ni = .ok out) :
    (paths out).Nodup ∧ ClosedImage out ∧
      (∀ q, q ∈ paths out ↔ ∃ f ∈ ni, Conn (getFile img) f.path q) := by
  obtain ⟨hnd, hmark, hreach, hcl⟩ := dfs_spec (t := paths ni) (look_ok_getFile img) (paths img) (getFile_dom img)
    (img.length + 1) (by simp [paths]) ni fun f hf => getFile_of_mem_nodup hn (hni f hf)
  unfold getImageWithImports at h
  cases eq_of_newImage_ok h
  refine ⟨hnd, fun f hf d hd => hcl f hf d hd ?_, hreach⟩
  -- a dependency of an emitted file is a file of `img`, which is closed
  obtain ⟨g, hg, rfl⟩ := hmark f hf
  exact getFile_isSome_iff.mpr (hc g (getFile_some hg).1 d hd)

/-! ### the seeded shape: skip the dependencies the compiler flagged as unused -/

/-- `visit` with the short cut of seed C17-m10: `unused f` are the indexes of `f.deps` the compiler
    flagged; those dependencies are not walked (the file's dependency list is untouched). -/
def visitSkip (look : Str → Option File) (unused : Str → List Nat) (targets : List Str) :
    Nat → File → DState → DState
  | 0, _, st => st
  | fuel + 1, f, st =>
    if f.path ∈ st.1 then st
    else
      let st1 := (f.deps.zipIdx.filter (fun x => !(unused f.path).contains x.2)).foldl
        (fun st x => match look x.1 with
          | some g => visitSkip look unused targets fuel g st
          | none => st)
        (f.path :: st.1, st.2)
      (st1.1, st1.2 ++ [mark targets f])

private def s (x : String) : Str := x.toList

/-- a/a.proto imports common/used.proto and — unused — common/unused.proto. -/
def exUnusedImg : Image :=
  [{ path := s "common/unused.proto", isImport := true, deps := [] },
   { path := s "common/used.proto", isImport := true, deps := [] },
   { path := s "a/a.proto", isImport := false, deps := [s "common/used.proto", s "common/unused.proto"] }]

def exUnusedTarget : File :=
  { path := s "a/a.proto", isImport := false, deps := [s "common/used.proto", s "common/unused.proto"] }

/-- On the example the derived image of a/ carries both imports, the unused one included. -/
theorem exUnused_derived :
    getImageWithImports exUnusedImg [exUnusedTarget] =
      .ok [{ path := s "common/used.proto", isImport := true, deps := [] },
           { path := s "common/unused.proto", isImport := true, deps := [] },
           exUnusedTarget] := by decide +kernel

/-- Skipping the flagged dependency hands out an image in which a/a.proto lists a dependency that
    is not a file of the image: not closed. -/
theorem skip_unused_counterexample :
    let out := (visitSkip (getFile exUnusedImg) (fun p => if p = s "a/a.proto" then [1] else []) [s "a/a.proto"]
      4 exUnusedTarget ([], [])).2
    paths out = [s "common/used.proto", s "a/a.proto"] ∧ ¬ ClosedImage out := by
  refine ⟨by decide, ?_⟩
  intro hc
  have := hc exUnusedTarget (by decide) (s "common/unused.proto") (by decide)
  revert this
  decide

end BufProofs.C01
