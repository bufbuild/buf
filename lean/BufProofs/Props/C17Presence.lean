import BufProofs.Lemmas.GeneratePresenceLemmas
import BufProofs.Props.C17
/-
  C17 — field PRESENCE in `CodeGeneratorResponse` / `CodeGeneratorResponse.File`.

  Every scalar field of the plugin protocol is a proto2 `optional`: on the wire it is absent,
  present with the default value (`insertion_point: ""`, `error: ""`, `name: ""`) or present with a
  value.  The model carries presence explicitly (`RFile.name/insertionPoint/content : Option Str`,
  `Resp.error : Option Str`, ...).  The code as written decides everything through the generated
  getters, which is what makes the exactly-once clause robust: a file is an insertion point iff
  `GetInsertionPoint() != ""` at BOTH sites that ask (the duplicate check and the writer), so a file
  cannot be exempt from the duplicate check and still be written as a plain file.

  `runGenerate par req fs cwd rs` is the whole pipeline for local plugins whose processes answered
  `rs` (binary handler, protoplugin's lenient normalisation, `generator.Generate`,
  `validateResponses`, `checkRequiredFeatures`, response writer with directory and archive outs);
  `runResponsesA` / `runResponses` are its last two stages, the subject of Props/C17.lean.
-/
namespace BufProofs.C17
open BufModel.Path BufModel.Bucket BufModel.Generate

/-- A file whose insertion_point is PRESENT BUT EMPTY is not an insertion: the writer puts it like
    the file without the field (it never reads a target, never looks for a marker), and the
    duplicate check counts its key like that of any plain file. -/
theorem present_empty_insertion_point_is_not_an_insertion (m : Mem) (n c : Option Str) :
    writeFile m ⟨n, some [], c⟩ = writeFile m ⟨n, none, c⟩ ∧
    writeFile m ⟨n, some [], c⟩ = liftP (memPut m (n.getD []) (String.ofList (c.getD []))) ∧
    (∀ (key : Str → Str → Str) (out : Str) (fs : List RFile) (seen : List Str),
      validateFiles key out (⟨n, some [], c⟩ :: fs) seen = validateFiles key out (⟨n, none, c⟩ :: fs) seen ∧
      (key out (n.getD []) ∈ seen → validateFiles key out (⟨n, some [], c⟩ :: fs) seen = .error .duplicate)) := by
  refine ⟨rfl, rfl, ?_⟩
  intro key out fs seen
  refine ⟨rfl, ?_⟩
  intro h
  simp [validateFiles, RFile.getIP, RFile.getName, h]

/-- Two plugins (any two spellings of one output location, any two spellings of one name)
    returning the same output path is an error also when the insertion_point of either file is
    present but empty. -/
theorem present_empty_insertion_point_duplicate_is_error (cwd out1 out2 n1 n2 : Str) (c1 c2 : Option Str)
    (ip1 ip2 : Option Str) (h1 : ip1 = none ∨ ip1 = some []) (h2 : ip2 = none ∨ ip2 = some [])
    (hk : dupKey cwd out1 n1 = dupKey cwd out2 n2) :
    runResponses cwd [⟨out1, [⟨some n1, ip1, c1⟩]⟩, ⟨out2, [⟨some n2, ip2, c2⟩]⟩] = .error .duplicate := by
  apply duplicate_output_is_error
  have hk1 : allKeys (dupKey cwd) [⟨out1, [⟨some n1, ip1, c1⟩]⟩, ⟨out2, [⟨some n2, ip2, c2⟩]⟩] =
      [dupKey cwd out1 n1, dupKey cwd out2 n2] := by
    rcases h1 with rfl | rfl <;> rcases h2 with rfl | rfl <;>
      simp [allKeys, keysOf, RFile.getIP, RFile.getName]
  rw [hk1, hk]
  simp

/-- ... and the same inside the response of ONE plugin that reaches the writer un-normalised. -/
theorem present_empty_insertion_point_duplicate_same_plugin (cwd out n : Str) (c1 c2 : Option Str) :
    runResponses cwd [⟨out, [⟨some n, some [], c1⟩, ⟨some n, none, c2⟩]⟩] = .error .duplicate := by
  apply duplicate_output_is_error
  simp [allKeys, keysOf, RFile.getIP, RFile.getName]

/-- The response writer and the duplicate check never look at presence: replacing every file by
    its `canon` form (all fields present, getter values) changes neither the error nor a byte of
    what is flushed - with directory outs and with archive outs. -/
theorem presence_invisible_to_writer (fs : FS) (cwd : Str) (ps : List PluginResp) :
    runResponses cwd (ps.map canonP) = runResponses cwd ps ∧
    runResponsesA fs cwd (ps.map canonP) = runResponsesA fs cwd ps := by
  constructor
  · unfold runResponses runResponsesWith
    rw [validatePluginResponses_canon, addResponses_canon]
  · unfold runResponsesA
    rw [validatePluginResponses_canon, addResponsesA_canon]

/-- An error field that is present but empty is no error. -/
theorem present_empty_error_is_no_error (r : Resp) :
    pluginGenerate { r with error := some [] } = pluginGenerate { r with error := none } := rfl

/-- A file without a name - absent or present-but-empty, the code does not distinguish - that
    follows a named file and has no (non-empty) insertion point CONTINUES that file: normalising
    `f :: g :: rest` is normalising `(f with g's content appended) :: rest`. -/
theorem nameless_file_continues_previous (f g : RFile) (rest : List RFile)
    (hf : f.getName ≠ []) (hg : g.getName = []) (hip : g.getIP = []) :
    normalizeFiles (f :: g :: rest) = normalizeFiles (appendContent f g :: rest) ∧
    (appendContent f g).getName = f.getName ∧ (appendContent f g).getIP = f.getIP ∧
    (appendContent f g).getContent = f.getContent ++ g.getContent := by
  refine ⟨?_, appendContent_getName f g, appendContent_getIP f g, appendContent_getContent f g⟩
  unfold normalizeFiles
  have hf2 : ¬ (appendContent f g).getName = [] := by rw [appendContent_getName]; exact hf
  rw [mergeNameless_cons_named hf, mergeNameless_cons_named hf2,
    mergeLoop_nameless (by simpa using hg) (by simpa using hip)]

/-- A nameless FIRST file, and a nameless file with a non-empty insertion point, make the plugin
    fail. -/
theorem malformed_response_fails (f : RFile) (rest : List RFile) :
    (f.getName = [] → normalizeFiles (f :: rest) = .error .firstNameless) ∧
    (∀ g, f.getName ≠ [] → g.getName = [] → g.getIP ≠ [] →
      normalizeFiles (f :: g :: rest) = .error .namelessInsertion) := by
  constructor
  · intro h
    unfold normalizeFiles
    rw [mergeNameless_cons_nameless h]
  · intro g hf hg hip
    unfold normalizeFiles
    rw [mergeNameless_cons_named hf, mergeLoop_nameless_ip (by simpa using hg) hip]

/-- What reaches buf of one plugin's files: every file has a name that is present, not empty,
    clean, relative and does not start with "../"; and no two PLAIN files of the response have the
    same name (the later one was dropped) - duplicates inside one response never reach
    `ValidatePluginResponses`, which therefore only ever reports two different plugins. -/
theorem normalized_files_named_and_distinct (fs l : List RFile) (h : normalizeFiles fs = .ok l) :
    (∀ f ∈ l, ∃ n, f.name = some n ∧ n ≠ [] ∧ isAbs n = false ∧ jumpPrefix.isPrefixOf n = false ∧
      ∃ n0, n = clean n0) ∧
    (plainNames l).Nodup := by
  unfold normalizeFiles at h
  cases hm : mergeNameless fs with
  | error e => rw [hm] at h; cases h
  | ok l0 =>
    rw [hm] at h
    obtain ⟨h1, h2, _⟩ := normLoop_spec l0 [] l h
    refine ⟨?_, h2⟩
    intro f hf
    obtain ⟨n0, n, hn, hname⟩ := h1 f hf
    refine ⟨n, hname, ?_⟩
    unfold normalizeName at hn
    split at hn
    · cases hn
    · simp only at hn
      split at hn
      · cases hn
      · split at hn
        · cases hn
        · rename_i hne habs hjump
          simp only [Except.ok.injEq] at hn
          subst hn
          exact ⟨clean_ne_nil n0, (Bool.not_eq_true _).mp habs, (Bool.not_eq_true _).mp hjump, n0, rfl⟩

/-! ### The whole pipeline -/

/-- NOTHING in the pipeline looks at presence: replacing every response by its `canon` form
    (every optional field of every file and of the response present, holding the value its getter
    returns) gives the same error or the same buckets, byte for byte - for both drivers, every
    image requirement, directory and archive outs.  In particular `insertion_point: ""` is "no
    insertion point", `name: ""` is "no name" (a continuation), `error: ""` is "no error",
    `supported_features: 0` / `minimum_edition: 0` are "unset", at every site at once. -/
theorem presence_invisible_to_generate (par : Bool) (req : Required) (fs : FS) (cwd : Str)
    (rs : List (Str × Resp)) :
    runGenerate par req fs cwd (rs.map canonR) = runGenerate par req fs cwd rs := by
  unfold runGenerate
  have hex : canonPE (if par then execPar (rs.map canonR) else execSeq (rs.map canonR)) =
      canonPE (if par then execPar rs else execSeq rs) := by
    cases par
    · exact execSeq_canon rs
    · exact execPar_canon rs
  have hfeat : (rs.map canonR).any (fun x => featureFails req x.2) = rs.any (fun x => featureFails req x.2) := by
    rw [List.any_map]; rfl
  rw [hfeat]
  revert hex
  cases (if par then execPar (rs.map canonR) else execSeq (rs.map canonR)) <;>
    cases (if par then execPar rs else execSeq rs) <;> intro hex
  · simp only [canonPE, Except.error.injEq] at hex; subst hex; rfl
  · simp [canonPE] at hex
  · simp [canonPE] at hex
  · rename_i ps ps'
    simp only [canonPE, Except.ok.injEq] at hex
    simp only
    rw [← validatePluginResponses_canon (dupKey cwd) ps, ← validatePluginResponses_canon (dupKey cwd) ps',
      ← addResponsesA_canon fs cwd ps, ← addResponsesA_canon fs cwd ps', hex]

/-- Exactly-once at the level of the whole pipeline: whenever the plugins ran and two plain files
    of what they returned (after normalisation) have the same output path - any spelling of the
    outs, of the names, any presence pattern - generation fails with the duplicate error, before
    the feature check and before anything is written. -/
theorem generate_duplicate_output_is_error (par : Bool) (req : Required) (fs : FS) (cwd : Str)
    (rs : List (Str × Resp)) (ps : List PluginResp)
    (hex : (if par then execPar rs else execSeq rs) = .ok ps)
    (hdup : ¬ (allKeys (dupKey cwd) ps).Nodup) :
    runGenerate par req fs cwd rs = .error (.run (.gen .duplicate)) := by
  unfold runGenerate
  rw [hex]
  simp only
  rw [validate_duplicate (dupKey cwd) ps hdup]

/-- A plugin that failed (malformed response, unknown feature bits, a non-empty error) fails the
    whole generation: nothing is written. -/
theorem failed_plugin_fails_generation (par : Bool) (req : Required) (fs : FS) (cwd : Str)
    (rs : List (Str × Resp)) (x : Str × Resp) (hx : x ∈ rs) (e : XErr) (he : pluginGenerate x.2 = .error e) :
    ∃ g, runGenerate par req fs cwd rs = .error g ∧ (g = .execMulti ∨ ∃ e', g = .exec e') := by
  have hmem : e ∈ execFailures rs := List.mem_filterMap.mpr ⟨x, hx, by rw [he]⟩
  unfold runGenerate
  cases hf : execFailures rs with
  | nil => rw [hf] at hmem; cases hmem
  | cons e1 es =>
    cases par
    · simp only [Bool.false_eq_true, if_false, execSeq_of_failures hf]
      exact ⟨_, rfl, Or.inr ⟨e1, rfl⟩⟩
    · simp only [if_true, execPar, hf]
      cases es with
      | nil => exact ⟨_, rfl, Or.inr ⟨e1, rfl⟩⟩
      | cons e2 es => exact ⟨_, rfl, Or.inl rfl⟩

/-! ### Non-vacuity -/

-- plugin 0 returns gen/a.txt with `insertion_point: ""`, plugin 1 returns it under another
-- spelling of the out directory: an error, not a silent overwrite
example : runGenerate true ⟨false, []⟩ [] "/w".toList
    [("gen".toList, ⟨[⟨some "a.txt".toList, some [], some "one".toList⟩], none, none, none, none⟩),
     ("./gen/".toList, ⟨[⟨some "a.txt".toList, none, some "two".toList⟩], none, none, none, none⟩)] =
    .error (.run (.gen .duplicate)) := by
  repeat rw [String.toList_ofList]
  decide +kernel
-- a nameless file (name present but empty) continues the previous one; `error: ""` is no error
example : runGenerate false ⟨false, []⟩ [] "/w".toList
    [("gen".toList, ⟨[⟨some "a.txt".toList, none, some "one".toList⟩, ⟨some [], some [], some "+two".toList⟩,
        ⟨none, none, some "+three".toList⟩], some [], some 0, some 0, none⟩)] =
    .ok [("/w/gen".toList, [("a.txt".toList, "one+two+three")])] := by
  repeat rw [String.toList_ofList]
  decide +kernel
-- a duplicate INSIDE one response is dropped by the normalisation (first occurrence wins) ...
example : runGenerate false ⟨false, []⟩ [] "/w".toList
    [("gen".toList, ⟨[⟨some "a.txt".toList, none, some "one".toList⟩, ⟨some "./a.txt".toList, some [], some "two".toList⟩],
        none, none, none, none⟩)] =
    .ok [("/w/gen".toList, [("a.txt".toList, "one")])] := by
  repeat rw [String.toList_ofList]
  decide +kernel
-- ... an insertion point with a marker is applied, one without its marker fails
example : runGenerate false ⟨false, []⟩ [] "/w".toList
    [("gen".toList, ⟨[⟨some "a.txt".toList, none, some "x\n// @@protoc_insertion_point(p)\n".toList⟩], none, none, none, none⟩),
     ("gen".toList, ⟨[⟨some "a.txt".toList, some "p".toList, some "new".toList⟩], none, none, none, none⟩)] =
    .ok [("/w/gen".toList, [("a.txt".toList, "x\nnew\n// @@protoc_insertion_point(p)")])] := by
  repeat rw [String.toList_ofList]
  decide +kernel
example : runGenerate false ⟨false, []⟩ [] "/w".toList
    [("gen".toList, ⟨[⟨some "a.txt".toList, none, some "x".toList⟩, ⟨some "a.txt".toList, some "p".toList, some "new".toList⟩],
        none, none, none, none⟩)] = .error (.run (.gen .noInsertionPoint)) := by
  repeat rw [String.toList_ofList]
  decide +kernel
-- response-level fields: a non-empty error, unknown feature bits, editions without a range
example : runGenerate true ⟨false, []⟩ [] "/w".toList
    [("gen".toList, ⟨[], some "boom".toList, none, none, none⟩)] = .error (.exec .pluginError) := by decide
example : runGenerate true ⟨false, []⟩ [] "/w".toList
    [("gen".toList, ⟨[], none, some 4, none, none⟩)] = .error (.exec .unknownFeatures) := by decide
example : runGenerate true ⟨false, []⟩ [] "/w".toList
    [("gen".toList, ⟨[], none, some 2, some 0, some 1000⟩)] = .error (.exec .noMinEdition) := by decide
-- the image needs edition 2023 (1000): a plugin without SUPPORTS_EDITIONS, or with a range that
-- excludes it, fails the feature check; one that covers it passes
example : runGenerate true ⟨false, [1000]⟩ [] "/w".toList
    [("gen".toList, ⟨[], none, some 1, none, none⟩)] = .error .feature := by decide
example : runGenerate true ⟨false, [1000]⟩ [] "/w".toList
    [("gen".toList, ⟨[], none, some 2, some 998, some 999⟩)] = .error .feature := by decide
example : runGenerate true ⟨true, [1000]⟩ [] "/w".toList
    [("gen".toList, ⟨[], none, some 2, some 1000, some 1000⟩)] = .ok [("/w/gen".toList, [])] := by
  repeat rw [String.toList_ofList]
  decide +kernel
-- the hypotheses of `nameless_file_continues_previous` / `generate_duplicate_output_is_error`
example : (⟨some "a".toList, none, none⟩ : RFile).getName ≠ [] ∧ (⟨some [], some [], none⟩ : RFile).getName = [] ∧
    (⟨some [], some [], none⟩ : RFile).getIP = [] := by decide
example : execSeq [("gen".toList, ⟨[⟨some "a".toList, some [], none⟩], none, none, none, none⟩),
      ("/w/gen".toList, ⟨[⟨some "./a".toList, none, none⟩], none, none, none, none⟩)] =
    .ok [⟨"gen".toList, [⟨some "a".toList, some [], none⟩]⟩, ⟨"/w/gen".toList, [⟨some "a".toList, none, none⟩]⟩] ∧
    ¬ (allKeys (dupKey "/w".toList) [⟨"gen".toList, [⟨some "a".toList, some [], none⟩]⟩,
      ⟨"/w/gen".toList, [⟨some "a".toList, none, none⟩]⟩]).Nodup := by
  repeat rw [String.toList_ofList]
  decide +kernel

end BufProofs.C17
