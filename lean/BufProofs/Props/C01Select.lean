import BufModel.WorkspaceTargeting
import BufModel.ImagePaths
import BufProofs.Lemmas.TargetCharLemmas
/-
  C01, the "every choice of target modules and paths" clause at WORKSPACE level: how one
  `buf build <input> --path … --exclude-path …` is distributed over the modules of a workspace
  (BufModel.WorkspaceTargeting = validateBucketTargeting + newModuleTargeting + the guard of
  AddLocalModule), and which files that selects.  The harness sends every workspace-level
  selection of sections E-disk / F through this model (`wst` protocol line).
  Two counter-models: exclude paths collected for every module of the
  input (seed C01-m10), and a `--path` value ending in `.proto` looked up as ONE file (seed C01-m9).
-/
namespace BufProofs.C01
open BufModel.Path BufModel.Graph BufModel.Targeting BufModel.WorkspaceTargeting

/-- per module: the result of `newModuleTargeting` passes the guard of AddLocalModule. -/
theorem module_targeting_guard (d : Str) (t : Bool) (ps es : List Str) (mt : MT)
    (h : moduleTargeting d t ps es = .ok mt) : addLocalOk mt = true := by
  unfold moduleTargeting at h
  dsimp only at h
  split at h
  · cases h; rfl
  · split at h
    · cases h
    · split at h
      · cases h; rfl
      · split at h
        · cases h
        · cases h; rfl

theorem allModules_guard (input : Str) (ps es : List Str) :
    ∀ (dirs : List Str) (mts : List MT), allModules input ps es dirs = .ok mts →
      mts.all addLocalOk = true := by
  intro dirs
  induction dirs with
  | nil => intro mts h; simp [allModules] at h; cases h; rfl
  | cons d ds ih =>
    intro mts h
    unfold allModules at h
    split at h
    · cases h
    · rename_i mt hmt
      split at h
      · cases h
      · rename_i rest hrest
        cases h
        simp only [List.all_cons, Bool.and_eq_true]
        exact ⟨module_targeting_guard _ _ _ _ _ hmt, ih rest hrest⟩

private theorem workspaceTargeting_ok {input : Str} {ps es dirs : List Str} {mts : List MT}
    (h : workspaceTargeting input ps es dirs = .ok mts) :
    allModules input ps es dirs = .ok mts ∧ mts.any (·.isTarget) = true := by
  unfold workspaceTargeting at h
  split at h
  · cases h
  · split at h
    · cases h
    · rename_i ms hms
      split at h
      · cases h
      · split at h
        · cases h
        · rename_i hany
          cases h
          exact ⟨hms, by simpa using hany⟩

/-- **No system error.**  For every input directory, every list of `--path` and
    `--exclude-path` values and every list of module directories: if the workspace layer
    accepts the selection, each AddLocalModule call passes the guard "cannot set TargetPaths for
    a non-target Module" — `addAll` succeeds.  (Seed C01-m10 broke exactly this.) -/
theorem selection_never_system_error (input : Str) (ps es dirs : List Str) (mts : List MT)
    (h : workspaceTargeting input ps es dirs = .ok mts) : addAll mts = .ok mts := by
  unfold addAll
  rw [allModules_guard input ps es dirs mts (workspaceTargeting_ok h).1]
  rfl

/-- **An `--exclude-path` into a module that is not targeted has no effect.**  If `--path`
    values were given and none of them lies strictly below the module root `d` (and none names
    the root itself), the module is not targeted and receives neither paths nor exclude paths —
    for EVERY list of exclude values, also those lying inside `d` or equal to `d`. -/
theorem untargeted_module_ignores_excludes (d : Str) (t : Bool) (ps es : List Str)
    (hps : ps ≠ []) (hroot : d ∉ ps) (hnone : ∀ p ∈ ps, containsPath d p = false) :
    moduleTargeting d t ps es = .ok {} := by
  unfold moduleTargeting
  dsimp only
  cases t
  · simp
  · have hf : ps.filter (containsPath d) = [] := by
      apply List.filter_eq_nil_iff.mpr
      intro p hp; simp [hnone p hp]
    have he : ps.isEmpty = false := by cases ps with | nil => exact absurd rfl hps | cons _ _ => rfl
    simp [hroot, hf, he]

theorem mem_allModules_target (input : Str) (ps es : List Str) :
    ∀ (dirs : List Str) (mts : List MT), allModules input ps es dirs = .ok mts →
      mts.length = dirs.length := by
  intro dirs
  induction dirs with
  | nil => intro mts h; simp [allModules] at h; cases h; rfl
  | cons d ds ih =>
    intro mts h
    unfold allModules at h
    split at h
    · cases h
    · split at h
      · cases h
      · rename_i rest hrest
        cases h
        simp [ih rest hrest]

/-- an accepted selection targets at least one module (and yields one entry per module). -/
theorem selection_targets_some_module (input : Str) (ps es dirs : List Str) (mts : List MT)
    (h : workspaceTargeting input ps es dirs = .ok mts) :
    mts.length = dirs.length ∧ ∃ mt ∈ mts, mt.isTarget = true := by
  obtain ⟨hms, hany⟩ := workspaceTargeting_ok h
  exact ⟨mem_allModules_target input ps es dirs mts hms, List.any_eq_true.mp hany⟩

theorem mem_below (d : Str) (vs : List Str) (q : Str) :
    q ∈ below d vs ↔ ∃ v ∈ vs, containsPath d v = true ∧ rel d v = some q := by
  unfold below
  simp only [List.mem_filterMap, List.mem_filter]
  constructor
  · rintro ⟨v, ⟨hv, hc⟩, hr⟩; exact ⟨v, hv, hc, hr⟩
  · rintro ⟨v, hv, hc, hr⟩; exact ⟨v, ⟨hv, hc⟩, hr⟩

/-- **Which files a selection targets, per module.**  Let `newModuleTargeting` accept the values
    for the module at `d` and target it, and let every `--path` value strictly below `d` have a
    path relative to `d` (always so for normalized relative paths).  Then a .proto file `f` of the
    module is a target file iff
      (no `--path` was given ∨ some `--path` value strictly below `d`, taken relative to `d`,
       equals or contains `f` component-wise)
      ∧ no `--exclude-path` value strictly below `d`, taken relative to `d`, equals or contains `f`.
    Values outside `d` — in another module, above several modules, missing — play no role. -/
theorem module_selection_exact (d : Str) (ps es : List Str) (mt : MT) (files : List PFile) (f : PFile)
    (h : moduleTargeting d true ps es = .ok mt) (ht : mt.isTarget = true)
    (hrel : ∀ p ∈ ps, containsPath d p = true → (rel d p).isSome = true) :
    isTargetFile true (toCfg mt) files f = true ↔
      (ps = [] ∨ ∃ p ∈ ps, containsPath d p = true ∧ ∃ q, rel d p = some q ∧ equalsOrContainsPath q f.path = true) ∧
      (∀ e ∈ es, containsPath d e = true → ∀ q, rel d e = some q → equalsOrContainsPath q f.path = false) := by
  unfold moduleTargeting at h
  dsimp only at h
  simp only [Bool.not_true, Bool.false_eq_true, ↓reduceIte] at h
  split at h
  · cases h
  split at h
  · cases h; cases ht
  rename_i hisT
  split at h
  · cases h
  cases h
  -- the module is targeted: no `--path`, or one below `d`, and `hrel` gives that one a relative path
  have hnil : below d ps = [] → ps = [] := fun hb => Decidable.byContradiction fun hps => by
    obtain ⟨p, hp, hc⟩ : ∃ p ∈ ps, containsPath d p = true := by simpa [hps] using hisT
    obtain ⟨q, hq⟩ := Option.isSome_iff_exists.mp (hrel p hp hc)
    have : q ∈ below d ps := (mem_below d ps q).mpr ⟨p, hp, hc, hq⟩
    rw [hb] at this
    cases this
  rw [isTargetFile_paths_iff true _ files f rfl]
  simp only [toCfg, true_and]
  refine and_congr (or_congr ⟨hnil, fun h => by rw [h]; rfl⟩ ⟨?_, ?_⟩) ⟨?_, ?_⟩
  · rintro ⟨q, hq, hc⟩
    obtain ⟨p, hp1, hp2, hp3⟩ := (mem_below d ps q).mp hq
    exact ⟨p, hp1, hp2, q, hp3, hc⟩
  · rintro ⟨p, hp1, hp2, q, hq, hc⟩
    exact ⟨q, (mem_below d ps q).mpr ⟨p, hp1, hp2, hq⟩, hc⟩
  · intro he e hem hce q hq
    exact he q ((mem_below d es q).mpr ⟨e, hem, hce, hq⟩)
  · intro he q hq
    obtain ⟨e, he1, he2, he3⟩ := (mem_below d es q).mp hq
    exact he e he1 he2 q he3

/-! ### non-vacuity and the two seeded shapes -/

private def s (x : String) : Str := x.toList

/-- `buf build --path proto/a/pa --exclude-path proto/b/pb2` over modules proto/a, proto/b:
    accepted, proto/b is not targeted and receives nothing. -/
example :
    workspaceTargeting (s ".") [s "proto/a/pa"] [s "proto/b/pb2"] [s "proto/a", s "proto/b"] =
      .ok [{ isTarget := true, paths := [s "pa"], excludes := [] }, {}] := by decide +kernel

example : workspaceTargeting (s ".") [s "proto/a/pa"] [s "proto/a"] [s "proto/a", s "proto/b"] = .error .user := by
  decide +kernel

example : workspaceTargeting (s ".") [s "proto"] [] [s "proto/a", s "proto/b"] = .error .noTargets := by decide +kernel

/-- the workspace loop with `moduleTargetingAlways` (seed C01-m10) in place of `moduleTargeting`. -/
def allModulesAlways (input : Str) (ps es : List Str) : List Str → Except WErr (List MT)
  | [] => .ok []
  | d :: ds =>
    match moduleTargetingAlways d (equalsOrContainsPath input d) ps es with
    | .error e => .error e
    | .ok mt => match allModulesAlways input ps es ds with
      | .error e => .error e
      | .ok mts => .ok (mt :: mts)

/-- Collecting the exclude paths for every module of the input (not only for the targeted ones)
    makes a valid selection end in the system error of AddLocalModule. -/
theorem collect_excludes_always_counterexample :
    ∃ mts, allModulesAlways (s ".") [s "proto/a/pa"] [s "proto/b/pb2"] [s "proto/a", s "proto/b"] = .ok mts ∧
      addAll mts = .error .sys := by
  refine ⟨[{ isTarget := true, paths := [s "pa"], excludes := [] }, { isTarget := false, paths := [], excludes := [s "pb2"] }], ?_, ?_⟩ <;> decide +kernel

/-- **A `--path` value is a path, not a file name.**  Whatever the value looks like — `a/v1.proto`
    may well be a directory — every file it equals or contains (component-wise) that no exclude
    path covers is a target file of a targeted module. -/
theorem path_extension_irrelevant (t : TWS) (m : Nat) (f : PFile) (q : Str)
    (hpf : (cfgOf t m).protoFile = []) (hm : modIsTarget t m = true) (hq : q ∈ (cfgOf t m).paths)
    (hc : equalsOrContainsPath q f.path = true)
    (he : ∀ e ∈ (cfgOf t m).excludes, equalsOrContainsPath e f.path = false) :
    isTargetIn t m f = true :=
  (isTargetFile_paths_iff _ _ _ f hpf).mpr ⟨hm, Or.inr ⟨q, hq, hc⟩, he⟩

/-- one module: a directory `a/v1.proto` with two files, and `b/b.proto`; `--path a/v1.proto`. -/
def exWsDotProto : TWS :=
  { ws := { mods := [{ files := [{ path := s "a/v1.proto/x.proto", imports := [] }, { path := s "a/v1.proto/y.proto", imports := [] },
                                  { path := s "b/b.proto", imports := [] }],
                       isTarget := true, isLocal := true, commit := 0, name := none }], wkt := [] },
    cfgs := [{ paths := [s "a/v1.proto"] }] }

theorem exWsDotProto_targets :
    targetList exWsDotProto = .ok [s "a/v1.proto/x.proto", s "a/v1.proto/y.proto"] := by decide +kernel

/-- the walk of seed C01-m9: a target path with extension `.proto` is looked up as one file. -/
def moduleTargetFilesStat (t : TWS) (m : Nat) : List PFile :=
  let cfg := cfgOf t m
  let files := modFiles t.ws m
  (cfg.paths.flatMap (fun tp =>
    if BufModel.ImagePaths.ext tp = BufModel.ImagePaths.protoExt then files.filter (fun f => f.path = tp)
    else files.filter (fun f => equalsOrContainsPath tp f.path))).filter (isTargetIn t m)

/-- … and it finds nothing below the directory `a/v1.proto`, although both files are target files. -/
theorem stat_fast_path_counterexample :
    moduleTargetFilesStat exWsDotProto 0 = [] ∧
    (moduleTargetFiles exWsDotProto 0).1.map (·.path) = [s "a/v1.proto/x.proto", s "a/v1.proto/y.proto"] := by
  constructor <;> decide +kernel

end BufProofs.C01
