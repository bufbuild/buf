import BufProofs.Lemmas.CaseLemmas
import BufProofs.Lemmas.LintLemmas
import BufProofs.Lemmas.LintOrder
import BufProofs.Lemmas.LintSpec2
import BufProofs.Lemmas.LintOps2
import BufProofs.Lemmas.LintWitness
import BufProofs.Lemmas.LintVersion
/-
  C05 — Lint reports exactly the style violations that are present.
  The property theorems: the grammar of the case conversions and of package versions, no false
  positives on a clean workspace, annotations = violations for any number of them, the frame, one
  exact planting theorem per operator, and each of these applied to the workspace `pw`; with them the
  twin-RPC fixture and a few local steps.  The lemmas are in BufProofs/Lemmas/ (CaseLemmas,
  VersionLemmas, Lint*).
-/
namespace BufProofs.C05
open BufModel.Case BufModel.Lint

/-! ## Grammar lemmas for the case conversions (all strings) -/

/-- Every `[A-Z][A-Za-z0-9]*` name is a fixpoint of ToPascalCase: MESSAGE/ENUM/SERVICE/RPC
    _PASCAL_CASE never flag it. -/
theorem pascal_accepts (s : Str) (h : isPascalIdent s = true) : toPascalCase s = s :=
  pascalIdent_fix s h

/-- A name containing an underscore (or any other delimiter: '.', '-', space, tab, CR, LF) is
    never a fixpoint of ToPascalCase. -/
theorem pascal_rejects_underscore (s : Str) (c : Char) (hc : c ∈ s) (hd : isDelimiter c = true) :
    toPascalCase s ≠ s := toPascalCase_ne_of_delim s c hc hd

/-- A name starting with a lower-case letter is never a fixpoint of ToPascalCase. -/
theorem pascal_rejects_lower_first (c : Char) (cs : Str) (hl : isLower c = true) :
    toPascalCase (c :: cs) ≠ c :: cs := toPascalCase_ne_of_lower_first c cs hl

/-- `[a-z0-9]+(_[a-z0-9]+)*` names are fixpoints of ToLowerSnakeCase (as the lint rules call it:
    without SnakeCaseWithNewWordOnDigits). -/
theorem lowerSnake_accepts (s : Str) (h : isLowerSnakeIdent s = true) : toLowerSnakeCase false s = s :=
  lowerSnakeIdent_fix s h

/-- A name containing an upper-case letter is never a fixpoint of ToLowerSnakeCase. -/
theorem lowerSnake_rejects_upper (b : Bool) (s : Str) (c : Char) (hc : c ∈ s) (hu : isUpper c = true) :
    toLowerSnakeCase b s ≠ s := toLowerSnakeCase_ne_of_upper b s c hc hu

/-- `[A-Z0-9]+(_[A-Z0-9]+)*` names are fixpoints of ToUpperSnakeCase. -/
theorem upperSnake_accepts (s : Str) (h : isUpperSnakeIdent s = true) : toUpperSnakeCase false s = s :=
  upperSnakeIdent_fix s h

/-- A name containing a lower-case letter is never a fixpoint of ToUpperSnakeCase. -/
theorem upperSnake_rejects_lower (b : Bool) (s : Str) (c : Char) (hc : c ∈ s) (hl : isLower c = true) :
    toUpperSnakeCase b s ≠ s := toUpperSnakeCase_ne_of_lower b s c hc hl

/-! ## Idempotence -/

/-- ToPascalCase is idempotent on every string whose space characters are all delimiters
    (i.e. no \v, \f, U+0085, U+00A0) — in particular on every identifier and file name part. -/
theorem pascal_idempotent (s : Str) (h : ∀ c ∈ s, isSpace c = true → isDelimiter c = true) :
    toPascalCase (toPascalCase s) = toPascalCase s := by
  have hsub : ∀ c ∈ trimSpace s, isSpace c = true → isDelimiter c = true :=
    fun c hc => h c (mem_trimBoth _ _ _ hc)
  have hns : ∀ x ∈ toPascalCase s, isSpace x = false := pascalGo_space true _ hsub
  apply pascal_fix
  · exact trimBoth_eq_self _ _ (headIs_false_of_all _ _ hns) (lastIs_false_of_forall _ _ hns)
  · exact pascalGo_no_delim true _
  · exact pascalGo_true_head _

/-- …and NOT idempotent in general, as coded: a vertical tab survives the first pass (it is not
    a delimiter) and is trimmed by the second.  Replayed on the real function by the harness. -/
theorem pascal_idempotent_counterexample :
    toPascalCase (toPascalCase ['_', Char.ofNat 11, 'a']) ≠ toPascalCase ['_', Char.ofNat 11, 'a'] := by
  decide

/-- ToUpperSnakeCase is not idempotent on arbitrary strings, as coded ("ab!" → "AB!" → "A_B!"):
    the first pass sees no upper-case letter, the second starts a new word before 'B' because
    '!' is neither upper-case, digit nor delimiter.  Replayed by the harness. -/
theorem upperSnake_idempotent_counterexample :
    toUpperSnakeCase false (toUpperSnakeCase false "ab!".toList) ≠ toUpperSnakeCase false "ab!".toList := by
  decide

-- non-vacuity of the grammar lemmas
example : isPascalIdent "FooBar2".toList = true := by decide
example : toPascalCase "foo_bar".toList = "FooBar".toList := by decide
example : isLowerSnakeIdent "foo_bar_2".toList = true := by decide
example : isLowerSnakeIdent "foo__bar".toList = false := by decide
example : toLowerSnakeCase false "fooBar".toList = "foo_bar".toList := by decide
example : isUpperSnakeIdent "FOO_BAR_UNSPECIFIED".toList = true := by decide
example : toUpperSnakeCase false "FooBar".toList = "FOO_BAR".toList := by decide
example : toLowerSnakeCase true "foo1".toList = "foo_1".toList := by decide


/-! ## Package-version grammar (protoversion) -/

/-- `v<digits>` with 1 ≤ value ≤ 2³¹-1 is a (stable) version component, which is what
    PACKAGE_VERSION_SUFFIX asks the last component of a package to be. -/
theorem version_accepts_stable (ds : Str) (hne : ds ≠ []) (hd : ds.all isDigit = true)
    (h1 : 1 ≤ digitsVal ds) (h2 : digitsVal ds ≤ 2147483647) :
    versionForComponent false ('v' :: ds) = some ⟨digitsVal ds, .stable, 0, 0, []⟩ :=
  versionForComponent_stable ds hne hd h1 h2

/-- a last component that does not start with 'v' is never a version -/
theorem version_rejects_no_v (b : Bool) (c : Char) (cs : Str) (h : c ≠ 'v') :
    versionForComponent b (c :: cs) = none :=
  versionForComponent_no_v b c cs h

/-- a package of a single component ("v1", "foo") has no version suffix -/
theorem version_rejects_single_component (b : Bool) (s : Str) (h : ∀ c ∈ s, c ≠ '.') :
    versionForPackage b s = none :=
  versionForPackage_single b s h

/-- the documented forms and near misses (finite table, `decide`): v1, v1beta1, v1alpha2,
    v1p1beta1, v1test…, and the quirk that strconv.ParseInt accepts a sign ("v+1"). -/
theorem version_table :
    (versionForPackage false "a.v1".toList).isSome = true ∧
    versionForPackage false "a.v1beta1".toList = some ⟨1, .beta, 1, 0, []⟩ ∧
    versionForPackage false "a.v1alpha2".toList = some ⟨1, .alpha, 2, 0, []⟩ ∧
    versionForPackage false "a.v1p1beta1".toList = some ⟨1, .beta, 1, 1, []⟩ ∧
    versionForPackage false "a.v1beta".toList = some ⟨1, .beta, 0, 0, []⟩ ∧
    versionForPackage false "a.v1testfoo".toList = some ⟨1, .test, 0, 0, "foo".toList⟩ ∧
    versionForPackage false "a.v+1".toList = some ⟨1, .stable, 0, 0, []⟩ ∧
    versionForPackage false "a.v0".toList = none ∧
    (versionForPackage true "a.v0".toList).isSome = true ∧
    versionForPackage false "a.v1p1".toList = none ∧
    versionForPackage false "a.v1gamma1".toList = none ∧
    versionForPackage false "a.vbeta1".toList = none ∧
    versionForPackage false "a.v1alphabeta1".toList = none ∧
    versionForPackage false "a.v2147483648".toList = none ∧
    versionForPackage false "v1".toList = none := by decide +kernel

/-- **Only the documented forms are versions** (ALL strings).  Whatever the parser accepts is `v`
    followed by one of `N`, `N test <anything>`, `N (alpha|beta) [M]`, `N p Q (alpha|beta) [M]`, with the
    stability of that form, where every number `N`, `Q`, `M` is what `strconv.ParseInt(s, 10, 32)`
    reads: an optional sign and a non-empty run of DECIMAL digits (`IsNum`).  Together with
    `version_accepts_stable` and `version_table` it pins the grammar from both sides.  Consequence:
    no digit separator, no base prefix, no exponent — `v1_0`, `v0x1`, `v0b1`, `v0o7`, `v1e3` are not versions
    (`version_near_miss_table`, `version_rejects_foreign_character`). -/
theorem version_only_documented_forms (b : Bool) (s : Str) (v : PackageVersion)
    (h : versionForComponent b s = some v) : ∃ rest, s = 'v' :: rest ∧ DocShape rest v.stability :=
  versionForComponent_shape b s v h

/-- a component containing a character that is neither a decimal digit nor one of
    `v + - p a l h b e t`, and not containing "test", is never a version (either `allowV0`) -/
theorem version_rejects_foreign_character (b : Bool) (s : Str) (x : Char) (hx : x ∈ s)
    (hd : isDigit x = false) (hf : x ∉ versionAlphabet) (ht : contains "test".toList s = false) :
    versionForComponent b s = none :=
  versionForComponent_foreign b s x hx hd hf ht

/-- near misses of the grammar (numbers in another notation, zero where ≥ 1 is demanded, a missing
    part, the wrong case) and less common spellings of documented versions, by evaluation -/
theorem version_near_miss_table :
    versionForComponent false "v1_0".toList = none ∧ versionForComponent false "v1_1".toList = none ∧
    versionForComponent false "v0x1".toList = none ∧ versionForComponent false "v0b1".toList = none ∧
    versionForComponent false "v0o7".toList = none ∧ versionForComponent false "v1e3".toList = none ∧
    versionForComponent false "v1alpha1_1".toList = none ∧ versionForComponent false "v1p1_0beta1".toList = none ∧
    versionForComponent true "v0x0".toList = none ∧ versionForComponent true "v0_0".toList = none ∧
    versionForComponent false "v00".toList = none ∧ versionForComponent false "v1alpha0".toList = none ∧
    versionForComponent false "v1p0beta1".toList = none ∧ versionForComponent false "v1pbeta1".toList = none ∧
    versionForComponent false "v1beta1alpha".toList = none ∧ versionForComponent false "V1".toList = none ∧
    versionForComponent false "v1Alpha1".toList = none ∧
    versionForComponent false "v01".toList = some ⟨1, .stable, 0, 0, []⟩ ∧
    versionForComponent false "v011".toList = some ⟨11, .stable, 0, 0, []⟩ ∧
    versionForComponent false "v1alpha".toList = some ⟨1, .alpha, 0, 0, []⟩ ∧
    versionForComponent false "v3p1beta".toList = some ⟨3, .beta, 0, 1, []⟩ ∧
    versionForComponent false "v001p01beta01".toList = some ⟨1, .beta, 1, 1, []⟩ ∧
    versionForComponent false "v1test_1".toList = some ⟨1, .test, 0, 0, "_1".toList⟩ ∧
    versionForComponent false "v7testalpha".toList = some ⟨7, .test, 0, 0, "alpha".toList⟩ := by decide +kernel

-- non-vacuity of `version_only_documented_forms`: each of the four forms is reached
example : ∃ v, versionForComponent false "v12".toList = some v ∧ v.stability = .stable :=
  ⟨⟨12, .stable, 0, 0, []⟩, by decide, rfl⟩
example : ∃ v, versionForComponent false "v1testfoo".toList = some v ∧ v.stability = .test :=
  ⟨⟨1, .test, 0, 0, "foo".toList⟩, by decide, rfl⟩
example : ∃ v, versionForComponent false "v1beta2".toList = some v ∧ v.stability = .beta :=
  ⟨⟨1, .beta, 2, 0, []⟩, by decide, rfl⟩
example : ∃ v, versionForComponent false "v1p2alpha3".toList = some v ∧ v.stability = .alpha :=
  ⟨⟨1, .alpha, 3, 2, []⟩, by decide, rfl⟩
-- and of `version_rejects_foreign_character`: the underscore of v1_0, the x of v0x1, the o of v0o7
example : versionForComponent false "v1_0".toList = none :=
  version_rejects_foreign_character false _ '_' (by decide) (by decide) (by decide) (by decide)
example : versionForComponent false "v0x1".toList = none :=
  version_rejects_foreign_character false _ 'x' (by decide) (by decide) (by decide) (by decide)
example : versionForComponent true "v0o7".toList = none :=
  version_rejects_foreign_character true _ 'o' (by decide) (by decide) (by decide) (by decide)

/-! ## Lint: no false positives, imports skipped, complete nested visiting, exact planting -/

/-- **Clean ⇒ no annotation.**  `cleanB` is the decidable conjunction of the rules' Clean
    conditions, which the Lean driver EVALUATES on every generated workspace; whenever it holds for
    the configured rules, the model reports nothing.  How much this says depends on the rule:

    * INDEPENDENT Clean condition (a grammar / a pairwise condition that does not call the coded
      predicate): the 9 naming rules ENUM_PASCAL_CASE, ENUM_VALUE_UPPER_SNAKE_CASE,
      FIELD_LOWER_SNAKE_CASE, FILE_LOWER_SNAKE_CASE, MESSAGE_PASCAL_CASE, ONEOF_LOWER_SNAKE_CASE,
      PACKAGE_LOWER_SNAKE_CASE, RPC_PASCAL_CASE, SERVICE_PASCAL_CASE (grammar ⇒ fixpoint of the
      conversion) and the 9 grouping rules DIRECTORY_SAME_PACKAGE, PACKAGE_SAME_DIRECTORY,
      PACKAGE_SAME_<option> ×7 (pairwise agreement; `clean_iff_silent_group` shows it is exact).
    * Clean condition = negation of the coded predicate, with a documentation-level reading PROVED
      equivalent below: COMMENT_* ×7 (`comment_rule_spec`), ENUM_ZERO_VALUE_SUFFIX and
      SERVICE_SUFFIX (`suffix_rule_spec`), ENUM_VALUE_PREFIX (`prefix_rule_spec`),
      RPC_REQUEST_STANDARD_NAME and RPC_RESPONSE_STANDARD_NAME (`rpc_standard_name_spec`);
      PACKAGE_VERSION_SUFFIX one direction only (`package_version_suffix_accepts`, `version_*`).
    * DEFINITIONAL (the rule IS a flag / a direct comparison, `good := !bad` says nothing more; the
      clause is carried by the correspondence): ENUM_FIRST_VALUE_ZERO, ENUM_NO_ALLOW_ALIAS,
      FIELD_NOT_REQUIRED, FIELD_NO_DESCRIPTOR, IMPORT_NO_PUBLIC, IMPORT_NO_WEAK (never reports),
      IMPORT_USED, PACKAGE_DEFINED, PACKAGE_DIRECTORY_MATCH, RPC_NO_CLIENT_STREAMING,
      RPC_NO_SERVER_STREAMING, SYNTAX_SPECIFIED; and PACKAGE_NO_IMPORT_CYCLE,
      STABLE_PACKAGE_NO_IMPORT_UNSTABLE, whose Clean condition is the rule's own emptiness, and
      RPC_REQUEST_RESPONSE_UNIQUE, whose Clean condition is the emptiness of the documented
      `rpcUnique` while the rule runs `rpcUniqueCoded` (`rpcUniqueCoded_sub` relates them).  The
      latter two have set-level specifications, `violations_exact_stable` and
      `violations_exact_rpc_unique`; the first is characterised in Props/C05Cycle.lean. -/
theorem clean_no_annotations (o : Options) (rules : List Rule) (w : Schema)
    (h : cleanB o rules w = true) : lint o rules w = [] :=
  clean_no_annotations_aux h

/-- **Imports are skipped.**  Whatever an import-only file contains, every annotation of every
    rule is attributed to a file of the request that is not an import. -/
theorem imports_skipped (o : Options) (rules : List Rule) (w : Schema) (a : Annotation)
    (h : a ∈ lint o rules w) : ∃ f ∈ w, f.isImport = false ∧ a.file = f.path := by
  unfold lint at h
  obtain ⟨r, _, ha⟩ := List.mem_flatMap.mp h
  obtain ⟨f, hf, e⟩ := runRule_files o w r a ha
  exact ⟨f, (mem_nonImport hf).1, (mem_nonImport hf).2, e⟩

/-- **Nested declarations are all visited.**  Every message nested at any depth below a
    top-level message of a file is enumerated by the message iterator (with some source path),
    and each of its nested enums by the enum iterator — so the per-element rules see it. -/
theorem nested_visit_complete (f : File) (top x : Message) (ht : top ∈ f.msgs) (hx : Nested x top) :
    (∃ p, (p, x) ∈ fileMsgs f) ∧ (∀ e ∈ x.enums, ∃ p, (p, e) ∈ fileEnums f) := by
  have hmsg : ∃ p, (p, x) ∈ fileMsgs f := by
    obtain ⟨j, hj⟩ := visitMsgs_mem [] 4 f.msgs 0 top ht
    obtain ⟨q, hq⟩ := visit_nested hx ([] ++ [4, j])
    exact ⟨q, hj _ hq⟩
  refine ⟨hmsg, ?_⟩
  intro e he
  obtain ⟨p, hp⟩ := hmsg
  obtain ⟨l₁, l₂, h⟩ := List.append_of_mem he
  exact ⟨_, fileEnums_nested_at f p x hp l₁ e l₂ h⟩

/-- GENERIC LIST ALGEBRA (audit S1): this is NOT a planting theorem.  Its
    hypotheses speak about the PLANTED workspace and are the conclusion in disguise ("every other
    rule is Clean", "every other element is good", "this element is bad"); it holds for any
    `ElemRule` whatsoever and buf enters only through `good_not_bad`.  The planting theorems proper
    are the `plant_*` theorems below: they start from `cleanB` of the ORIGINAL workspace, a Lean
    planting operator and an applicability condition on the original element, and derive all of
    this lemma's hypotheses from frame lemmas and the grammar theorems. -/
theorem plant_exact_elem_generic (o : Options) (rules : List Rule) (w : Schema) (r : Rule) (er : ElemRule)
    (he : elemRule r = some er) (pre post : List Rule) (hrules : rules = pre ++ r :: post)
    (hother : ∀ r' ∈ pre ++ post, cleanRule o w r' = true)
    (f : File) (fpre fpost : List File) (hw : nonImport w = fpre ++ f :: fpost)
    (hfiles : ∀ g ∈ fpre ++ fpost, (er.els g).all (er.good o) = true)
    (l1 l2 : List er.α) (e : er.α) (hels : er.els f = l1 ++ e :: l2)
    (hl : ∀ x ∈ l1 ++ l2, er.good o x = true) (hbad : er.bad o e = true) :
    lint o rules w = [ann r f (er.loc e)] := by
  have hflag : er.flagged o f = [er.loc e] := by
    unfold ElemRule.flagged
    rw [hels, List.filter_append, List.filter_cons]
    rw [filter_eq_nil_of_forall l1 _ (fun x hx => good_not_bad r er he o x (hl x (by simp [hx])))]
    rw [filter_eq_nil_of_forall l2 _ (fun x hx => good_not_bad r er he o x (hl x (by simp [hx])))]
    simp [hbad]
  unfold lint
  -- only `r` among the rules, only `f` among the files contribute
  rw [hrules, BufProofs.ListLemmas.flatMap_split_single r fun r' hr' => runRule_nil_of_clean o w r' (hother r' hr'),
    runRule_elem o w r er he, hw, BufProofs.ListLemmas.flatMap_split_single f fun g hg => by
      rw [flagged_nil_of_good er r he o g (hfiles g hg)]; rfl, hflag]
  rfl

/-- **Every kind of field is visited.**  The field iterator (NewLintFieldRuleHandler) enumerates
    (1) every FILE-LEVEL extension — at `[7, i]`, with NO parent message —, and for every message
    `x` nested at any depth below a top-level message (2) every declared field of `x` — plain
    fields, oneof members, map fields and group fields all live there — and (3) every extension
    declared inside `x`, both with parent `x`.  (The synthetic `key`/`value` fields of a map
    entry and the fields of a group body are case (2) for the synthetic / group message.) -/
theorem field_visit_complete (f : File) :
    (∀ fd ∈ f.exts, ∃ i, ([7, i], (none : Option Message), fd) ∈ fileFields f) ∧
    (∀ top ∈ f.msgs, ∀ x, Nested x top →
      (∀ fd ∈ x.fields, ∃ p, (p, some x, fd) ∈ fileFields f) ∧
      (∀ fd ∈ x.exts, ∃ p, (p, some x, fd) ∈ fileFields f)) := by
  refine ⟨fun fd h => ?_, ?_⟩
  · obtain ⟨l₁, l₂, e⟩ := List.append_of_mem h
    exact ⟨_, fileFields_fileExt_at f l₁ fd l₂ e⟩
  intro top ht x hx
  obtain ⟨p, hp⟩ := (nested_visit_complete f top x ht hx).1
  refine ⟨fun fd h => ?_, fun fd h => ?_⟩
  · obtain ⟨l₁, l₂, e⟩ := List.append_of_mem h
    exact ⟨_, fileFields_field_at f p x hp l₁ fd l₂ e⟩
  · obtain ⟨l₁, l₂, e⟩ := List.append_of_mem h
    exact ⟨_, fileFields_nestedExt_at f p x hp l₁ fd l₂ e⟩

/-- **No enumerated element is skipped.**  If a configured per-element rule enumerates an element
    in a non-import file and its coded predicate holds, lint reports it at the rule's location. -/
theorem elem_bad_reported (o : Options) (rules : List Rule) (w : Schema) (r : Rule) (er : ElemRule)
    (he : elemRule r = some er) (hr : r ∈ rules) (f : File) (hf : f ∈ w) (hni : f.isImport = false)
    (e : er.α) (hmem : e ∈ er.els f) (hbad : er.bad o e = true) :
    ann r f (er.loc e) ∈ lint o rules w := by
  unfold lint
  exact List.mem_flatMap.mpr ⟨r, hr, mem_runRule_of_bad o w r er he f hf hni e hmem hbad⟩

/-- **The four field rules report every visited field that is not a map-entry member** —
    whatever its parent is, `none` included: a missing comment (unless the field is a group, whose
    comment belongs to the nested message), a name that is not its own lower_snake_case form, a
    name that is `descriptor` up to case and surrounding underscores, a required label. -/
theorem field_rules_report (o : Options) (rules : List Rule) (w : Schema) (f : File) (hf : f ∈ w)
    (hni : f.isImport = false) (p : List Nat) (pm : Option Message) (fd : Field)
    (hmem : (p, pm, fd) ∈ fileFields f) (hpm : isMapEntryParent pm = false) :
    (.COMMENT_FIELD ∈ rules → fd.group = false →
        validLeadingComment o.commentExcludes fd.comment = false →
        (⟨.COMMENT_FIELD, f.path, p⟩ : Annotation) ∈ lint o rules w) ∧
    (.FIELD_LOWER_SNAKE_CASE ∈ rules → fd.name ≠ toLowerSnakeCase false fd.name →
        (⟨.FIELD_LOWER_SNAKE_CASE, f.path, p ++ [1]⟩ : Annotation) ∈ lint o rules w) ∧
    (.FIELD_NO_DESCRIPTOR ∈ rules → (trimUnderscores fd.name).map toLower = "descriptor".toList →
        (⟨.FIELD_NO_DESCRIPTOR, f.path, p ++ [1]⟩ : Annotation) ∈ lint o rules w) ∧
    (.FIELD_NOT_REQUIRED ∈ rules → fd.required = true →
        (⟨.FIELD_NOT_REQUIRED, f.path, p ++ [1]⟩ : Annotation) ∈ lint o rules w) := by
  refine ⟨fun hr hg hv => ?_, fun hr hn => ?_, fun hr hd => ?_, fun hr hq => ?_⟩
  · exact elem_bad_reported o rules w .COMMENT_FIELD _ rfl hr f hf hni (p, pm, fd) hmem
      (by simp [hpm, hg, hv])
  · exact elem_bad_reported o rules w .FIELD_LOWER_SNAKE_CASE _ rfl hr f hf hni (p, pm, fd) hmem
      (by simp [hpm, hn])
  · exact elem_bad_reported o rules w .FIELD_NO_DESCRIPTOR _ rfl hr f hf hni (p, pm, fd) hmem
      (by simp [hd])
  · exact elem_bad_reported o rules w .FIELD_NOT_REQUIRED _ rfl hr f hf hni (p, pm, fd) hmem
      (by simp [hq])

/-- **File-level extension fields are not skipped.**  `extend Foo { optional string x = 100; }`
    at the top level of a non-import file: the field has no parent message, and each of the four
    field rules reports it at `[7, i]` (comment) / `[7, i, 1]` (name) when its predicate holds. -/
theorem file_extension_reported (o : Options) (rules : List Rule) (w : Schema) (f : File) (hf : f ∈ w)
    (hni : f.isImport = false) (fd : Field) (hx : fd ∈ f.exts) : ∃ i,
    (.COMMENT_FIELD ∈ rules → fd.group = false →
        validLeadingComment o.commentExcludes fd.comment = false →
        (⟨.COMMENT_FIELD, f.path, [7, i]⟩ : Annotation) ∈ lint o rules w) ∧
    (.FIELD_LOWER_SNAKE_CASE ∈ rules → fd.name ≠ toLowerSnakeCase false fd.name →
        (⟨.FIELD_LOWER_SNAKE_CASE, f.path, [7, i, 1]⟩ : Annotation) ∈ lint o rules w) ∧
    (.FIELD_NO_DESCRIPTOR ∈ rules → (trimUnderscores fd.name).map toLower = "descriptor".toList →
        (⟨.FIELD_NO_DESCRIPTOR, f.path, [7, i, 1]⟩ : Annotation) ∈ lint o rules w) ∧
    (.FIELD_NOT_REQUIRED ∈ rules → fd.required = true →
        (⟨.FIELD_NOT_REQUIRED, f.path, [7, i, 1]⟩ : Annotation) ∈ lint o rules w) := by
  obtain ⟨i, hi⟩ := (field_visit_complete f).1 fd hx
  exact ⟨i, field_rules_report o rules w f hf hni [7, i] none fd hi rfl⟩

/-- **Map-entry members and group fields are exempt exactly as coded**: COMMENT_FIELD and
    FIELD_LOWER_SNAKE_CASE never flag a field whose parent is a synthetic map entry, and
    COMMENT_FIELD never flags a group field (its comment documents the nested message).
    (`(elemRule .X).get rfl` is the `ElemRule` of the per-element rule `X`: `elemRule .X` is `some _`
    by evaluation.) -/
theorem map_entry_and_group_exempt (o : Options) (p : List Nat) (m : Message) (pm : Option Message)
    (fd : Field) :
    (m.mapEntry = true →
      ((elemRule .COMMENT_FIELD).get rfl).bad o (p, some m, fd) = false ∧
      ((elemRule .FIELD_LOWER_SNAKE_CASE).get rfl).bad o (p, some m, fd) = false) ∧
    (fd.group = true → ((elemRule .COMMENT_FIELD).get rfl).bad o (p, pm, fd) = false) := by
  refine ⟨fun hm => ⟨?_, ?_⟩, fun hg => ?_⟩
  · show (if (isMapEntryParent (some m) || fd.group) = true then false
        else !validLeadingComment o.commentExcludes fd.comment) = false
    simp [isMapEntryParent, hm]
  · show (if isMapEntryParent (some m) = true then false
        else fd.name != toLowerSnakeCase false fd.name) = false
    simp [isMapEntryParent, hm]
  · show (if (isMapEntryParent pm || fd.group) = true then false
        else !validLeadingComment o.commentExcludes fd.comment) = false
    simp [hg]

-- non-vacuity: a workspace with a nested message/enum, a service and an import-only file full
-- of violations is Clean for every modelled rule; planting one violation yields exactly it.
example : cleanB {} Rule.all exWs = true := exWs_clean
example : lint {} Rule.all exWs = [] := clean_no_annotations _ _ _ exWs_clean
example : lint {} Rule.all (exPlantPublic) = [⟨.IMPORT_NO_PUBLIC, "acme/foo/v1/types.proto".toList, [3, 0]⟩] := by
  decide +kernel
example : lint {} Rule.all (exPlantEnumName) =
    [⟨.ENUM_PASCAL_CASE, "acme/foo/v1/types.proto".toList, [4, 0, 3, 0, 4, 0, 1]⟩] := by decide +kernel
example : Nested exInner exOuter := .step (by show exInner ∈ [exInner]; simp) (.refl _)
-- non-vacuity for the field kinds: a file with a plain field, oneof members, a map field (and its
-- synthetic entry message), a group field (and its nested message), an extension nested in a
-- message and two file-level extensions is Clean; planting at a FILE-LEVEL extension (parent
-- message `none`) yields exactly that annotation.
example : cleanB {} Rule.all exKinds = true := by decide +kernel
example : lint {} Rule.all exKindsPlantFileExtComment =
    [⟨.COMMENT_FIELD, "acme/foo/v1/kinds.proto".toList, [7, 1]⟩] := by decide +kernel
example : lint {} Rule.all exKindsPlantFileExtName =
    [⟨.FIELD_LOWER_SNAKE_CASE, "acme/foo/v1/kinds.proto".toList, [7, 0, 1]⟩] := by decide +kernel

/-- IMPORT_NO_WEAK is registered with a handler that does nothing (deprecated, in no category):
    a weak import is never reported — the property's "weak import" clause is not implemented by
    this tree.  Documented here; replayed by the harness (plant IMPORT_NO_WEAK). -/
theorem import_no_weak_counterexample :
    lint {} [.IMPORT_NO_WEAK] (exPlantWeak) = [] := by decide

/-! ## What `good` means in the words of the rule documentation (audit S2)

  For the rules whose Clean condition is the negation of the coded predicate, an INDEPENDENT
  reading is proved equivalent to it.  (The flag rules are definitional, see `clean_no_annotations`.) -/

/-- COMMENT_* (all seven; `ex` = the one exclude prefix bufcheck.Client passes, "buf:lint:ignore"):
    a leading comment is accepted iff it has a line with a non-space character that, trimmed, does
    not start with `ex`. -/
theorem comment_rule_spec (ex c : Str) :
    validLeadingComment [ex] c = true ↔
      ∃ line ∈ splitLines c, (∃ ch ∈ line, isSpace ch = false) ∧ ¬ ∃ rest, trimSpace line = ex ++ rest :=
  validLeadingComment_single_iff ex c

/-- ENUM_ZERO_VALUE_SUFFIX and SERVICE_SUFFIX: the Clean condition is "ends with the configured
    suffix" (the zero value / the service name is `<something><suffix>`). -/
theorem suffix_rule_spec (o : Options) (p : List Nat) (e : Enum) (v : EnumValue) (s : Service) :
    (((elemRule .ENUM_ZERO_VALUE_SUFFIX).get rfl).good o (p, e, v) = true ↔
      v.number ≠ 0 ∨ ∃ pre, v.name = pre ++ o.zeroSuffix) ∧
    (((elemRule .SERVICE_SUFFIX).get rfl).good o (p, s) = true ↔ ∃ pre, s.name = pre ++ o.svcSuffix) := by
  constructor
  · show (v.number != 0 || hasSuffix o.zeroSuffix v.name) = true ↔ _
    simp only [Bool.or_eq_true, bne_iff_ne, ne_eq, hasSuffix_iff]
  · exact hasSuffix_iff _ _

/-- ENUM_VALUE_PREFIX: the value name is `<UPPER_SNAKE_CASE of the enum name>_<something>`. -/
theorem prefix_rule_spec (o : Options) (p : List Nat) (e : Enum) (v : EnumValue) :
    ((elemRule .ENUM_VALUE_PREFIX).get rfl).good o (p, e, v) = true ↔
      ∃ rest, v.name = toUpperSnakeCase false e.name ++ ['_'] ++ rest :=
  hasPrefix_iff _ _

/-- RPC_REQUEST_STANDARD_NAME / RPC_RESPONSE_STANDARD_NAME, for PascalCase RPC and service names:
    the message is named `<Rpc>Request` or `<Service><Rpc>Request` (… `Response`), or it is
    google.protobuf.Empty and that side's allow option is set. -/
theorem rpc_standard_name_spec (o : Options) (isReq : Bool) (s : Service) (m : Rpc)
    (hm : isPascalIdent m.name = true) (hs : isPascalIdent s.name = true) :
    stdNameBad o isReq s m = false ↔
      ((if isReq then o.rpcAllowGoogleProtobufEmptyRequests else o.rpcAllowGoogleProtobufEmptyResponses) = true ∧
        (if isReq then m.inType else m.outType) = emptyType) ∨
      typeBase (if isReq then m.inType else m.outType) =
        m.name ++ (if isReq then "Request".toList else "Response".toList) ∨
      typeBase (if isReq then m.inType else m.outType) =
        s.name ++ (m.name ++ (if isReq then "Request".toList else "Response".toList)) :=
  stdNameBad_iff o isReq s m hm hs

/-- PACKAGE_VERSION_SUFFIX accepts every package `<anything>.v<N>`, 1 ≤ N ≤ 2³¹-1 (the grammar
    theorem `version_accepts_stable` composed with the rule; the alpha/beta/test forms are covered
    by `version_table` only). -/
theorem package_version_suffix_accepts (o : Options) (f : File) (pre ds : Str)
    (hpkg : f.pkg = pre ++ '.' :: 'v' :: ds) (hne : ds ≠ []) (hd : ds.all isDigit = true)
    (h1 : 1 ≤ digitsVal ds) (h2 : digitsVal ds ≤ 2147483647) :
    ((elemRule .PACKAGE_VERSION_SUFFIX).get rfl).bad o f = false := by
  show (!f.pkg.isEmpty && (versionForPackage false f.pkg).isNone) = false
  rw [hpkg, versionForPackage_stable pre ds hne hd h1 h2]
  simp

/-! ## Any number of violations: the annotations ARE the violations -/

/-- **Per-element rules (all 34), exactly.**  For a configured per-element rule `r`, the
    annotations carrying `r` are exactly: one per enumerated element of a target (non-import) file
    whose coded predicate holds, at that element's location — however many there are. -/
theorem violations_exact_elem (o : Options) (rules : List Rule) (w : Schema) (r : Rule) (er : ElemRule)
    (he : elemRule r = some er) (a : Annotation) :
    (a ∈ lint o rules w ∧ a.rule = r) ↔
      r ∈ rules ∧ ∃ f ∈ w, f.isImport = false ∧ ∃ e ∈ er.els f, er.bad o e = true ∧ a = ann r f (er.loc e) := by
  rw [mem_lint_rule_iff, mem_runRule_elem_iff o w r er he]

/-- soundness half, for every per-element rule: an annotation of the rule points at a bad element -/
theorem annotation_has_violation (o : Options) (rules : List Rule) (w : Schema) (a : Annotation)
    (h : a ∈ lint o rules w) (er : ElemRule) (he : elemRule a.rule = some er) :
    ∃ f ∈ w, f.isImport = false ∧ a.file = f.path ∧ ∃ e ∈ er.els f, er.bad o e = true ∧ a.path = er.loc e := by
  obtain ⟨_, f, hf, hni, e, hmem, hbad, ha⟩ := (violations_exact_elem o rules w a.rule er he a).mp ⟨h, rfl⟩
  exact ⟨f, hf, hni, by rw [ha]; rfl, e, hmem, hbad, by rw [ha]; rfl⟩

/-- **The nine grouping rules, exactly** (PACKAGE_SAME_<option> ×7 with key = package, value =
    option; PACKAGE_SAME_DIRECTORY key = package, value = directory; DIRECTORY_SAME_PACKAGE key =
    directory, value = package).  A target file is annotated iff some target file with the same key
    has a different value — so ALL files of a conflicting group are annotated. -/
theorem violations_exact_group (o : Options) (rules : List Rule) (w : Schema) (r : Rule)
    (key val : File → Str) (loc : File → List Nat) (hg : groupSpec r = some (key, val, loc)) (a : Annotation) :
    (a ∈ lint o rules w ∧ a.rule = r) ↔
      r ∈ rules ∧ ∃ g ∈ nonImport w, a = ann r g (loc g) ∧ ∃ g' ∈ nonImport w, key g' = key g ∧ val g' ≠ val g := by
  rw [mem_lint_rule_iff, runRule_group o w r key val loc hg, mem_groupRule_iff]

/-- "two files of one package with different option X ⇒ all of them annotated", as a corollary -/
theorem group_conflict_all_annotated (o : Options) (rules : List Rule) (w : Schema) (r : Rule)
    (key val : File → Str) (loc : File → List Nat) (hg : groupSpec r = some (key, val, loc)) (hr : r ∈ rules)
    (g1 g2 : File) (h1 : g1 ∈ nonImport w) (h2 : g2 ∈ nonImport w) (hk : key g1 = key g2) (hv : val g1 ≠ val g2) :
    ∀ g ∈ nonImport w, key g = key g1 → ann r g (loc g) ∈ lint o rules w := by
  intro g hgm hkg
  apply ((violations_exact_group o rules w r key val loc hg _).mpr ⟨hr, g, hgm, rfl, ?_⟩).1
  by_cases e : val g1 = val g
  · exact ⟨g2, h2, (hk.symm.trans hkg.symm), fun e2 => hv (e.trans e2.symm)⟩
  · exact ⟨g1, h1, hkg.symm, e⟩

/-- for a grouping rule, the pairwise Clean condition is EXACTLY "the rule reports nothing" -/
theorem clean_iff_silent_group (o : Options) (w : Schema) (r : Rule)
    (key val : File → Str) (loc : File → List Nat) (hg : groupSpec r = some (key, val, loc)) :
    cleanRule o w r = true ↔ runRule o w r = [] := by
  rw [cleanRule_groupSpec o w r key val loc hg, runRule_group o w r key val loc hg]
  exact (groupRule_nil_iff r _ key val loc).symm

/-- **The rule is keyed by the fully-qualified method name.**  The handler keeps the methods in Go
    maps keyed by `method.FullName()` (`rpcUniqueCoded`, `rpcUniqueBy RpcEntry.full`).  On every
    workspace whose methods have pairwise distinct full names — every linked image — those maps
    never merge two methods and the coded rule IS the documented one: every method a row of its
    own, counted over the whole module set, whatever the names of the services and RPCs
    (`rpcUnique`, `rpcUniqueT` on the method table). -/
theorem rpc_unique_keyed_by_full_name (o : Options) (w : Schema) (hfn : FullNamesDistinct w) :
    runRule o w .RPC_REQUEST_RESPONSE_UNIQUE = rpcUniqueT o (rpcTable w) := by
  rw [runRule_global o w _ rfl]
  exact rpcUniqueCoded_eq o w hfn

/-- the keyed rule never reports more than the documented one (two methods with one full name —
    no linked image has them — make `FullNameToMethod` fail: nothing is reported) -/
theorem rpc_unique_coded_sub_documented (o : Options) (w : Schema) (a : Annotation)
    (h : a ∈ runRule o w .RPC_REQUEST_RESPONSE_UNIQUE) : a ∈ rpcUniqueT o (rpcTable w) := by
  rw [runRule_global o w _ rfl] at h
  exact rpcUniqueCoded_sub o w a h

/-- The v1 / v2 witness: `acme.v1.ThingService.GetThing` and `acme.v2.ThingService.GetThing` both
    take `common.v1.GetThingRequest`. -/
def twinEntries : List RpcEntry :=
  [⟨"acme.v1.ThingService.GetThing".toList, "ThingService.GetThing".toList,
     ⟨"acme/v1/thing.proto".toList, [6, 0, 2, 0], "common.v1.GetThingRequest".toList, "acme.v1.GetThingResponse".toList⟩⟩,
   ⟨"acme.v2.ThingService.GetThing".toList, "ThingService.GetThing".toList,
     ⟨"acme/v2/thing.proto".toList, [6, 0, 2, 0], "common.v1.GetThingRequest".toList, "acme.v2.GetThingResponse".toList⟩⟩]

/-- **Why the key must be the FULL name.**  On the v1 / v2 witness the handler keyed by the full
    name reports both RPCs (as documented); the same handler keyed by `method.NestedName()`
    (`Service.Method`, no package) merges the two methods into one map entry and reports NOTHING. -/
theorem rpc_unique_nested_key_counterexample :
    rpcUniqueBy RpcEntry.full {} twinEntries =
        [⟨.RPC_REQUEST_RESPONSE_UNIQUE, "acme/v1/thing.proto".toList, [6, 0, 2, 0]⟩,
         ⟨.RPC_REQUEST_RESPONSE_UNIQUE, "acme/v2/thing.proto".toList, [6, 0, 2, 0]⟩] ∧
    rpcUniqueBy RpcEntry.full {} twinEntries = rpcUniqueT {} (twinEntries.map (·.row)) ∧
    rpcUniqueBy RpcEntry.nested {} twinEntries = [] := by
  decide +kernel

/-- the witness as a workspace: two packages, each with `service ThingService { rpc GetThing }` -/
def twinWs : Schema :=
  [{ path := "acme/v1/thing.proto".toList, pkg := "acme.v1".toList,
     svcs := [⟨"ThingService".toList, " Doc.\n".toList,
       [⟨"GetThing".toList, " Doc.\n".toList, "common.v1.GetThingRequest".toList, "acme.v1.GetThingResponse".toList, false, false⟩]⟩] },
   { path := "acme/v2/thing.proto".toList, pkg := "acme.v2".toList,
     svcs := [⟨"ThingService".toList, " Doc.\n".toList,
       [⟨"GetThing".toList, " Doc.\n".toList, "common.v1.GetThingRequest".toList, "acme.v2.GetThingResponse".toList, false, false⟩]⟩] }]

example : FullNamesDistinct twinWs := by decide

/-- `lint` on the v1 / v2 workspace reports both RPCs (the model keys as the code does) -/
example : lint {} [.RPC_REQUEST_RESPONSE_UNIQUE] twinWs =
    [⟨.RPC_REQUEST_RESPONSE_UNIQUE, "acme/v1/thing.proto".toList, [6, 0, 2, 0]⟩,
     ⟨.RPC_REQUEST_RESPONSE_UNIQUE, "acme/v2/thing.proto".toList, [6, 0, 2, 0]⟩] := by decide +kernel

example : (rpcEntries twinWs).map (·.full) = ["acme.v1.ThingService.GetThing".toList, "acme.v2.ThingService.GetThing".toList] ∧
    (rpcEntries twinWs).map (·.nested) = ["ThingService.GetThing".toList, "ThingService.GetThing".toList] := by decide +kernel

/-- **RPC_REQUEST_RESPONSE_UNIQUE, exactly**: the annotated RPCs are the rows of the method table
    that violate `RpcViolation` (same request and response type; a type used by two RPCs — of any
    service, file and package of the module set; with the allow_* exemptions each on its own side).
    `hfn`: the methods have pairwise distinct fully-qualified names (true of every linked image);
    the handler keys its maps by that name (`rpc_unique_keyed_by_full_name`). -/
theorem violations_exact_rpc_unique (o : Options) (rules : List Rule) (w : Schema) (hfn : FullNamesDistinct w)
    (a : Annotation) :
    (a ∈ lint o rules w ∧ a.rule = .RPC_REQUEST_RESPONSE_UNIQUE) ↔
      .RPC_REQUEST_RESPONSE_UNIQUE ∈ rules ∧ ∃ x ∈ rpcTable w, a = x.ann ∧ RpcViolation o (rpcTable w) x := by
  rw [mem_lint_rule_iff, rpc_unique_keyed_by_full_name o w hfn, mem_rpcUniqueT_iff]

/-- **STABLE_PACKAGE_NO_IMPORT_UNSTABLE, exactly**: import `i` of a target file with a stable
    package is annotated iff it resolves (among the target files) to a file with an unstable package. -/
theorem violations_exact_stable (o : Options) (rules : List Rule) (w : Schema) (a : Annotation) :
    (a ∈ lint o rules w ∧ a.rule = .STABLE_PACKAGE_NO_IMPORT_UNSTABLE) ↔
      .STABLE_PACKAGE_NO_IMPORT_UNSTABLE ∈ rules ∧ ∃ f ∈ nonImport w, isStable f.pkg = some true ∧
        ∃ i imp, (i, imp) ∈ indexed f.imports ∧ ∃ g, findFile (nonImport w) imp.path = some g ∧
          isStable g.pkg = some false ∧ a = ann .STABLE_PACKAGE_NO_IMPORT_UNSTABLE f [3, i] := by
  rw [mem_lint_rule_iff, runRule_global o w _ rfl]
  exact and_congr_right fun _ => mem_stableNoUnstable_iff w a

/-! ## Frame theorems -/

/-- **Frame (declarations).**  Rewriting the declarations of one file with a transformer that is
    the identity on every group of declarations the rule `r` reads (`dep r`: enums with their
    values / messages / fields and extensions / oneofs / services / RPCs) keeps `r` Clean — at any
    nesting depth, whatever else the transformer does, for per-element and multi-file rules alike. -/
theorem frame_declarations (o : Options) (w : Schema) (fp : Str) (T : Tr) (r : Rule)
    (hid : ∀ g ∈ dep r, T.isId g) (hc : cleanRule o w r = true) :
    cleanRule o (plantDecl fp T w) r = true :=
  frame_deep o w fp T r hid hc

/-- **Frame (file header).**  After rewriting the header of one target file of a Clean workspace
    (declarations, import flag kept) no declaration rule fires: every annotation belongs to a
    file / import rule or to a multi-file rule. -/
theorem frame_header (o : Options) (rules : List Rule) (w : Schema) (f : File) (hf : FileAt w f)
    (h : File → File) (hI : ∀ g, (h g).isImport = g.isImport) (kd : KeepsDecls h)
    (hclean : cleanB o rules w = true) (a : Annotation) (ha : a ∈ lint o rules (plantFile f.path h w)) :
    isFileRule a.rule = true ∨ elemRule a.rule = none :=
  ((lint_header_op o rules w f hf h hI kd hclean a).mp ha).2.1

/-! ## Exact planting: one theorem per planting operator

  Shape: `cleanB o rules w` (the ORIGINAL workspace is Clean for the configured rules), `FileAt w f`
  (f is a target file, the only one with its path), the element is enumerated in `f`, an
  applicability condition on the ORIGINAL element, "the new name / comment / flag is bad" — derived
  from the grammar theorems through `NotPascal` / `NotLowerSnake` / `NotUpperSnake` —, and explicit
  side conditions for the (few) other rules that read the same attribute.  Conclusion: `lint` of
  the planted workspace is EXACTLY the planted annotation (list equality; `rules.Nodup`), or, for
  the operators that reach a multi-file rule, an `↔` characterisation of membership that names
  every co-violation. -/

/-- **Renaming an enum** (top-level or nested at any depth) to a name the PascalCase grammar rejects
    (`NotPascal`: a delimiter such as '_', or a lower-case first letter): exactly ENUM_PASCAL_CASE at the
    enum's name.  `hprefix`: ENUM_VALUE_PREFIX reads the enum name too — the value prefix must not
    change (e.g. `Color` → `color`), otherwise every value is a co-violation. -/
theorem plant_enum_name (o : Options) (rules : List Rule) (w : Schema) (f : File)
    (hN : rules.Nodup) (hclean : cleanB o rules w = true) (hr : .ENUM_PASCAL_CASE ∈ rules)
    (hf : FileAt w f) (p0 : List Nat) (e0 : Enum) (he0 : (p0, e0) ∈ fileEnums f) (nn : Str)
    (hbadname : NotPascal nn)
    (hprefix : .ENUM_VALUE_PREFIX ∈ rules → toUpperSnakeCase false nn = toUpperSnakeCase false e0.name) :
    lint o rules (renameEnum f.path p0 nn w) = [⟨.ENUM_PASCAL_CASE, f.path, p0 ++ [1]⟩] := by
  refine enumKind.plant o rules w f hN hclean hf (opEnum_planting f p0 e0 he0 _) .ENUM_PASCAL_CASE _ _ _ rfl
    (fun _ => rfl) hr ?_ ?_
  · rw [tauEnum_opEnum]; exact notPascal_bad hbadname
  · simp only [enumKind, enumRows, List.forall_mem_cons]
    simp
    intro hp; rw [hprefix hp]; exact id

/-- **Deleting / spoiling the leading comment of an enum** (`c` has no accepted line: empty, blank,
    or only `buf:lint:ignore …` lines): exactly COMMENT_ENUM at the enum. -/
theorem plant_enum_comment (o : Options) (rules : List Rule) (w : Schema) (f : File)
    (hN : rules.Nodup) (hclean : cleanB o rules w = true) (hr : .COMMENT_ENUM ∈ rules)
    (hf : FileAt w f) (p0 : List Nat) (e0 : Enum) (he0 : (p0, e0) ∈ fileEnums f) (c : Str)
    (hbadc : validLeadingComment o.commentExcludes c = false) :
    lint o rules (setEnumComment f.path p0 c w) = [⟨.COMMENT_ENUM, f.path, p0⟩] := by
  refine enumKind.plant o rules w f hN hclean hf (opEnum_planting f p0 e0 he0 _) .COMMENT_ENUM _ _ _ rfl
    (fun _ => rfl) hr ?_ ?_
  · rw [tauEnum_opEnum]; show (!validLeadingComment o.commentExcludes c) = true; rw [hbadc]; rfl
  · simp only [enumKind, enumRows, List.forall_mem_cons]
    simp

/-- **Adding `option allow_alias = true;`** (with the alias values it needs, themselves conforming):
    exactly ENUM_NO_ALLOW_ALIAS at the option. -/
theorem plant_enum_allow_alias (o : Options) (rules : List Rule) (w : Schema) (f : File)
    (hN : rules.Nodup) (hclean : cleanB o rules w = true) (hr : .ENUM_NO_ALLOW_ALIAS ∈ rules)
    (hf : FileAt w f) (p0 : List Nat) (e0 : Enum) (he0 : (p0, e0) ∈ fileEnums f) (extra : List EnumValue)
    (hne : e0.values ≠ [])
    (hextra : ∀ v ∈ extra,
      (.COMMENT_ENUM_VALUE ∈ rules → goodComment o v.comment = true) ∧
      (.ENUM_VALUE_PREFIX ∈ rules → hasPrefix (toUpperSnakeCase false e0.name ++ ['_']) v.name = true) ∧
      (.ENUM_VALUE_UPPER_SNAKE_CASE ∈ rules → isUpperSnakeIdent v.name = true) ∧
      (.ENUM_ZERO_VALUE_SUFFIX ∈ rules → (v.number != 0 || hasSuffix o.zeroSuffix v.name) = true)) :
    lint o rules (addAllowAlias f.path p0 extra w) = [⟨.ENUM_NO_ALLOW_ALIAS, f.path, p0 ++ [3, 2]⟩] := by
  refine enumKind.plant o rules w f hN hclean hf (opEnum_planting f p0 e0 he0 _) .ENUM_NO_ALLOW_ALIAS _ _ _ rfl
    (fun _ => rfl) hr ?_ ?_
  · rw [tauEnum_opEnum]
  · simp only [enumKind, enumRows, List.forall_mem_cons]
    simp
    refine ⟨fun _ => ?_, fun hr h => ⟨h, fun v hv => (hextra v hv).1 hr⟩, fun hr h => ⟨h, fun v hv => (hextra v hv).2.1 hr⟩,
      fun hr h => ⟨h, fun v hv => (hextra v hv).2.2.1 hr⟩, fun hr h => ⟨h, fun v hv => by simpa using (hextra v hv).2.2.2 hr⟩⟩
    cases hv : e0.values with
    | nil => exact absurd hv hne
    | cons a t => simp

/-- **Making the first enum value non-zero** (exchange the first two values): exactly
    ENUM_FIRST_VALUE_ZERO at the first value's number. -/
theorem plant_enum_first_value_nonzero (o : Options) (rules : List Rule) (w : Schema) (f : File)
    (hN : rules.Nodup) (hclean : cleanB o rules w = true) (hr : .ENUM_FIRST_VALUE_ZERO ∈ rules)
    (hf : FileAt w f) (p0 : List Nat) (e0 : Enum) (he0 : (p0, e0) ∈ fileEnums f)
    (a b : EnumValue) (rest : List EnumValue) (hv : e0.values = a :: b :: rest) (hb : b.number ≠ 0) :
    lint o rules (swapFirstValues f.path p0 w) = [⟨.ENUM_FIRST_VALUE_ZERO, f.path, p0 ++ [2, 0, 2]⟩] := by
  refine enumKind.plant o rules w f hN hclean hf (opEnum_planting f p0 e0 he0 swapFirst) .ENUM_FIRST_VALUE_ZERO _ _ _ rfl
    (fun _ => rfl) hr ?_ ?_
  · rw [tauEnum_opEnum]; simp only [swapFirst, hv]; simpa using hb
  · simp only [enumKind, enumRows, List.forall_mem_cons]
    simp [swapFirst, hv]
    refine ⟨?_, ?_, ?_, ?_⟩ <;> exact fun _ ha hb hrest => ⟨hb, ha, hrest⟩

/-! ### enum values -/

/-- **Renaming an enum value** to a name the UPPER_SNAKE_CASE grammar rejects (contains a lower-case
    letter), keeping prefix and zero-suffix: exactly ENUM_VALUE_UPPER_SNAKE_CASE at the value's name. -/
theorem plant_enum_value_case (o : Options) (rules : List Rule) (w : Schema) (f : File)
    (hN : rules.Nodup) (hclean : cleanB o rules w = true) (hr : .ENUM_VALUE_UPPER_SNAKE_CASE ∈ rules)
    (hf : FileAt w f) (q0 : List Nat) (e0 : Enum) (v0 : EnumValue) (h0 : (q0, e0, v0) ∈ fileEnumValues f)
    (nn : Str) (hbadname : NotUpperSnake nn)
    (hprefix : .ENUM_VALUE_PREFIX ∈ rules → hasPrefix (toUpperSnakeCase false e0.name ++ ['_']) nn = true)
    (hsuffix : .ENUM_ZERO_VALUE_SUFFIX ∈ rules → v0.number = 0 → hasSuffix o.zeroSuffix nn = true) :
    lint o rules (renameValue f.path q0 nn w) = [⟨.ENUM_VALUE_UPPER_SNAKE_CASE, f.path, q0 ++ [1]⟩] := by
  refine valueKind.plant o rules w f hN hclean hf (opValue_planting f q0 e0 v0 h0 (fun v => {v with name := nn}) (fun _ => rfl))
    .ENUM_VALUE_UPPER_SNAKE_CASE _ _ _ rfl (fun _ => rfl) hr ?_ ?_
  · simp only [tauValue, opValue, if_pos]; exact notUpperSnake_bad hbadname
  · simp only [valueKind, valueRows, List.forall_mem_cons]
    simp
    refine ⟨fun hp _ => hprefix hp, fun hs _ => ?_⟩
    by_cases hz : v0.number = 0
    · exact Or.inr (hsuffix hs hz)
    · exact Or.inl hz

/-- **Renaming an enum value** to a name without the `<ENUM_NAME>_` prefix: exactly ENUM_VALUE_PREFIX. -/
theorem plant_enum_value_prefix (o : Options) (rules : List Rule) (w : Schema) (f : File)
    (hN : rules.Nodup) (hclean : cleanB o rules w = true) (hr : .ENUM_VALUE_PREFIX ∈ rules)
    (hf : FileAt w f) (q0 : List Nat) (e0 : Enum) (v0 : EnumValue) (h0 : (q0, e0, v0) ∈ fileEnumValues f)
    (nn : Str) (hbadname : hasPrefix (toUpperSnakeCase false e0.name ++ ['_']) nn = false)
    (hcase : .ENUM_VALUE_UPPER_SNAKE_CASE ∈ rules → isUpperSnakeIdent nn = true)
    (hsuffix : .ENUM_ZERO_VALUE_SUFFIX ∈ rules → v0.number = 0 → hasSuffix o.zeroSuffix nn = true) :
    lint o rules (renameValue f.path q0 nn w) = [⟨.ENUM_VALUE_PREFIX, f.path, q0 ++ [1]⟩] := by
  refine valueKind.plant o rules w f hN hclean hf (opValue_planting f q0 e0 v0 h0 (fun v => {v with name := nn}) (fun _ => rfl))
    .ENUM_VALUE_PREFIX _ _ _ rfl (fun _ => rfl) hr ?_ ?_
  · simp only [tauValue, opValue, if_pos]
    show (!hasPrefix (toUpperSnakeCase false e0.name ++ ['_']) nn) = true
    rw [hbadname]; rfl
  · simp only [valueKind, valueRows, List.forall_mem_cons]
    simp
    refine ⟨fun hc _ => hcase hc, fun hs _ => ?_⟩
    by_cases hz : v0.number = 0
    · exact Or.inr (hsuffix hs hz)
    · exact Or.inl hz

/-- **Renaming the zero value** to a name without the configured suffix (option
    `enum_zero_value_suffix`, default `_UNSPECIFIED`): exactly ENUM_ZERO_VALUE_SUFFIX. -/
theorem plant_enum_zero_value_suffix (o : Options) (rules : List Rule) (w : Schema) (f : File)
    (hN : rules.Nodup) (hclean : cleanB o rules w = true) (hr : .ENUM_ZERO_VALUE_SUFFIX ∈ rules)
    (hf : FileAt w f) (q0 : List Nat) (e0 : Enum) (v0 : EnumValue) (h0 : (q0, e0, v0) ∈ fileEnumValues f)
    (hzero : v0.number = 0)
    (nn : Str) (hbadname : hasSuffix o.zeroSuffix nn = false)
    (hcase : .ENUM_VALUE_UPPER_SNAKE_CASE ∈ rules → isUpperSnakeIdent nn = true)
    (hprefix : .ENUM_VALUE_PREFIX ∈ rules → hasPrefix (toUpperSnakeCase false e0.name ++ ['_']) nn = true) :
    lint o rules (renameValue f.path q0 nn w) = [⟨.ENUM_ZERO_VALUE_SUFFIX, f.path, q0 ++ [1]⟩] := by
  refine valueKind.plant o rules w f hN hclean hf (opValue_planting f q0 e0 v0 h0 (fun v => {v with name := nn}) (fun _ => rfl))
    .ENUM_ZERO_VALUE_SUFFIX _ _ _ rfl (fun _ => rfl) hr ?_ ?_
  · simp only [tauValue, opValue, if_pos]
    show (v0.number == 0 && !hasSuffix o.zeroSuffix nn) = true
    rw [hbadname, hzero]; rfl
  · simp only [valueKind, valueRows, List.forall_mem_cons]
    simp
    exact ⟨fun hp _ => hprefix hp, fun hc _ => hcase hc⟩

/-- **Deleting the comment of an enum value**: exactly COMMENT_ENUM_VALUE at the value. -/
theorem plant_enum_value_comment (o : Options) (rules : List Rule) (w : Schema) (f : File)
    (hN : rules.Nodup) (hclean : cleanB o rules w = true) (hr : .COMMENT_ENUM_VALUE ∈ rules)
    (hf : FileAt w f) (q0 : List Nat) (e0 : Enum) (v0 : EnumValue) (h0 : (q0, e0, v0) ∈ fileEnumValues f)
    (c : Str) (hbadc : validLeadingComment o.commentExcludes c = false) :
    lint o rules (setValueComment f.path q0 c w) = [⟨.COMMENT_ENUM_VALUE, f.path, q0⟩] := by
  refine valueKind.plant o rules w f hN hclean hf (opValue_planting f q0 e0 v0 h0 (fun v => {v with comment := c}) (fun _ => rfl))
    .COMMENT_ENUM_VALUE _ _ _ rfl (fun _ => rfl) hr ?_ ?_
  · simp only [tauValue, opValue, if_pos, hbadc]; rfl
  · simp only [valueKind, valueRows, List.forall_mem_cons]
    simp

/-! ### messages -/

/-- **Renaming a message** (top-level, nested at any depth, group body; not a synthetic map entry) to
    a non-PascalCase name: exactly MESSAGE_PASCAL_CASE at its name.  (RPC request/response types are
    strings in the schema: renaming a message that an RPC references is `setRequestType` /
    `setResponseType` on top, see `plant_rpc_request_type`.) -/
theorem plant_message_name (o : Options) (rules : List Rule) (w : Schema) (f : File)
    (hN : rules.Nodup) (hclean : cleanB o rules w = true) (hr : .MESSAGE_PASCAL_CASE ∈ rules)
    (hf : FileAt w f) (p0 : List Nat) (m0 : Message) (h0 : (p0, m0) ∈ fileMsgs f)
    (hme : m0.mapEntry = false) (nn : Str) (hbadname : NotPascal nn) :
    lint o rules (renameMessage f.path p0 nn w) = [⟨.MESSAGE_PASCAL_CASE, f.path, p0 ++ [1]⟩] := by
  refine msgKind.plant o rules w f hN hclean hf (opMsg_planting f p0 m0 h0 (fun _ => nn) id) .MESSAGE_PASCAL_CASE _ _ _ rfl
    (fun _ => rfl) hr ?_ ?_
  · simp only [tauMsg, mapMsg_name, mapMsg_mapEntry, opMsg, if_pos, hme]
    exact notPascal_bad hbadname
  · simp only [msgKind, msgRows, List.forall_mem_cons]
    simp

/-- **Deleting the comment of a message**: exactly COMMENT_MESSAGE at the message. -/
theorem plant_message_comment (o : Options) (rules : List Rule) (w : Schema) (f : File)
    (hN : rules.Nodup) (hclean : cleanB o rules w = true) (hr : .COMMENT_MESSAGE ∈ rules)
    (hf : FileAt w f) (p0 : List Nat) (m0 : Message) (h0 : (p0, m0) ∈ fileMsgs f)
    (hme : m0.mapEntry = false) (c : Str) (hbadc : validLeadingComment o.commentExcludes c = false) :
    lint o rules (setMessageComment f.path p0 c w) = [⟨.COMMENT_MESSAGE, f.path, p0⟩] := by
  refine msgKind.plant o rules w f hN hclean hf (opMsg_planting f p0 m0 h0 id (fun _ => c)) .COMMENT_MESSAGE _ _ _ rfl
    (fun _ => rfl) hr ?_ ?_
  · simp only [tauMsg, mapMsg_comment, mapMsg_mapEntry, opMsg, if_pos, hme, hbadc]; rfl
  · simp only [msgKind, msgRows, List.forall_mem_cons]
    simp

/-! ### fields and extensions (any kind: plain, oneof member, map, group, nested or file-level extension) -/

/-- **Renaming a field or extension of ANY kind** (plain, oneof member, proto3 optional, map, group,
    extension nested in a message, FILE-LEVEL extension with no parent message — anything the field
    iterator visits whose parent is not a synthetic map entry) to a name with an upper-case letter:
    exactly FIELD_LOWER_SNAKE_CASE at its name. -/
theorem plant_field_name (o : Options) (rules : List Rule) (w : Schema) (f : File)
    (hN : rules.Nodup) (hclean : cleanB o rules w = true) (hr : .FIELD_LOWER_SNAKE_CASE ∈ rules)
    (hf : FileAt w f) (q0 : List Nat) (pm0 : Option Message) (fd0 : Field) (h0 : (q0, pm0, fd0) ∈ fileFields f)
    (hpm : isMapEntryParent pm0 = false) (nn : Str) (hbadname : NotLowerSnake nn)
    (hdesc : .FIELD_NO_DESCRIPTOR ∈ rules → (trimUnderscores nn).map toLower ≠ "descriptor".toList) :
    lint o rules (renameField f.path q0 nn w) = [⟨.FIELD_LOWER_SNAKE_CASE, f.path, q0 ++ [1]⟩] := by
  refine fieldKind.plant o rules w f hN hclean hf (opField_planting f q0 pm0 fd0 h0 (fun _ => nn) id id) .FIELD_LOWER_SNAKE_CASE _ _ _ rfl
    (fun _ => rfl) hr ?_ ?_
  · show (if isMapEntryParent (tauField _ (q0, pm0, fd0)).2.1 = true then false
      else (tauField _ (q0, pm0, fd0)).2.2.name != toLowerSnakeCase false (tauField _ (q0, pm0, fd0)).2.2.name) = true
    rw [tauField_opField]
    simp only [tauField, isMapEntryParent_map, hpm, if_pos, fieldWith]
    exact notLowerSnake_bad hbadname
  · simp only [fieldKind, fieldRows, List.forall_mem_cons]
    simp [fieldWith]
    exact fun hd _ => hdesc hd

/-- **Naming a field `descriptor`** (up to case and surrounding underscores): exactly
    FIELD_NO_DESCRIPTOR (FIELD_LOWER_SNAKE_CASE is a co-violation unless the new name is lower_snake_case). -/
theorem plant_field_descriptor (o : Options) (rules : List Rule) (w : Schema) (f : File)
    (hN : rules.Nodup) (hclean : cleanB o rules w = true) (hr : .FIELD_NO_DESCRIPTOR ∈ rules)
    (hf : FileAt w f) (q0 : List Nat) (pm0 : Option Message) (fd0 : Field) (h0 : (q0, pm0, fd0) ∈ fileFields f)
    (nn : Str) (hbadname : (trimUnderscores nn).map toLower = "descriptor".toList)
    (hsnake : .FIELD_LOWER_SNAKE_CASE ∈ rules → isMapEntryParent pm0 = false → isLowerSnakeIdent nn = true) :
    lint o rules (renameField f.path q0 nn w) = [⟨.FIELD_NO_DESCRIPTOR, f.path, q0 ++ [1]⟩] := by
  refine fieldKind.plant o rules w f hN hclean hf (opField_planting f q0 pm0 fd0 h0 (fun _ => nn) id id) .FIELD_NO_DESCRIPTOR _ _ _ rfl
    (fun _ => rfl) hr ?_ ?_
  · show ((trimUnderscores (tauField _ (q0, pm0, fd0)).2.2.name).map toLower == "descriptor".toList) = true
    rw [tauField_opField]
    simp only [if_pos, fieldWith, hbadname, beq_self_eq_true]
  · simp only [fieldKind, fieldRows, List.forall_mem_cons]
    simp [fieldWith]
    intro hs _
    cases hp : isMapEntryParent pm0
    · exact Or.inr (hsnake hs hp)
    · exact Or.inl rfl

/-- **Deleting the comment of a field** (not a group, whose comment belongs to its message; parent
    not a map entry): exactly COMMENT_FIELD at the field. -/
theorem plant_field_comment (o : Options) (rules : List Rule) (w : Schema) (f : File)
    (hN : rules.Nodup) (hclean : cleanB o rules w = true) (hr : .COMMENT_FIELD ∈ rules)
    (hf : FileAt w f) (q0 : List Nat) (pm0 : Option Message) (fd0 : Field) (h0 : (q0, pm0, fd0) ∈ fileFields f)
    (hpm : isMapEntryParent pm0 = false) (hgrp : fd0.group = false)
    (c : Str) (hbadc : validLeadingComment o.commentExcludes c = false) :
    lint o rules (setFieldComment f.path q0 c w) = [⟨.COMMENT_FIELD, f.path, q0⟩] := by
  refine fieldKind.plant o rules w f hN hclean hf (opField_planting f q0 pm0 fd0 h0 id (fun _ => c) id) .COMMENT_FIELD _ _ _ rfl
    (fun _ => rfl) hr ?_ ?_
  · show (if (isMapEntryParent (tauField _ (q0, pm0, fd0)).2.1 || (tauField _ (q0, pm0, fd0)).2.2.group) = true
      then false else !validLeadingComment o.commentExcludes (tauField _ (q0, pm0, fd0)).2.2.comment) = true
    rw [tauField_opField]
    simp [tauField, isMapEntryParent_map, hpm, fieldWith, hgrp, hbadc]
  · simp only [fieldKind, fieldRows, List.forall_mem_cons]
    simp [fieldWith]

/-- **Setting the `required` label**: exactly FIELD_NOT_REQUIRED at the field's name. -/
theorem plant_field_required (o : Options) (rules : List Rule) (w : Schema) (f : File)
    (hN : rules.Nodup) (hclean : cleanB o rules w = true) (hr : .FIELD_NOT_REQUIRED ∈ rules)
    (hf : FileAt w f) (q0 : List Nat) (pm0 : Option Message) (fd0 : Field) (h0 : (q0, pm0, fd0) ∈ fileFields f) :
    lint o rules (setFieldRequired f.path q0 w) = [⟨.FIELD_NOT_REQUIRED, f.path, q0 ++ [1]⟩] := by
  refine fieldKind.plant o rules w f hN hclean hf (opField_planting f q0 pm0 fd0 h0 id id (fun _ => true)) .FIELD_NOT_REQUIRED _ _ _ rfl
    (fun _ => rfl) hr ?_ ?_
  · show (tauField _ (q0, pm0, fd0)).2.2.required = true
    rw [tauField_opField]
    simp only [if_pos, fieldWith]
  · simp only [fieldKind, fieldRows, List.forall_mem_cons]
    simp [fieldWith]

/-! ### oneofs -/

/-- **Renaming a oneof** (declared, not the synthetic oneof of a proto3 optional) to a name with an
    upper-case letter: exactly ONEOF_LOWER_SNAKE_CASE. -/
theorem plant_oneof_name (o : Options) (rules : List Rule) (w : Schema) (f : File)
    (hN : rules.Nodup) (hclean : cleanB o rules w = true) (hr : .ONEOF_LOWER_SNAKE_CASE ∈ rules)
    (hf : FileAt w f) (q0 : List Nat) (m0 : Message) (i0 : Nat) (oo0 : Oneof)
    (h0 : (q0, m0, i0, oo0) ∈ fileOneofs f) (hp3 : oneofIsP3Optional m0 i0 = false)
    (nn : Str) (hbadname : NotLowerSnake nn) :
    lint o rules (renameOneof f.path q0 nn w) = [⟨.ONEOF_LOWER_SNAKE_CASE, f.path, q0 ++ [1]⟩] := by
  refine oneofKind.plant o rules w f hN hclean hf (opOneof_planting f q0 m0 i0 oo0 h0 (fun x => {x with name := nn})) .ONEOF_LOWER_SNAKE_CASE _ _ _ rfl
    (fun _ => rfl) hr ?_ ?_
  · simp only [tauOneof, oneofIsP3Optional_map, opOneof, if_pos, hp3]
    simpa using notLowerSnake_bad hbadname
  · simp only [oneofKind, oneofRows, List.forall_mem_cons]
    simp

/-- **Deleting the comment of a oneof**: exactly COMMENT_ONEOF. -/
theorem plant_oneof_comment (o : Options) (rules : List Rule) (w : Schema) (f : File)
    (hN : rules.Nodup) (hclean : cleanB o rules w = true) (hr : .COMMENT_ONEOF ∈ rules)
    (hf : FileAt w f) (q0 : List Nat) (m0 : Message) (i0 : Nat) (oo0 : Oneof)
    (h0 : (q0, m0, i0, oo0) ∈ fileOneofs f) (hsyn : oo0.synthetic = false)
    (c : Str) (hbadc : validLeadingComment o.commentExcludes c = false) :
    lint o rules (setOneofComment f.path q0 c w) = [⟨.COMMENT_ONEOF, f.path, q0⟩] := by
  refine oneofKind.plant o rules w f hN hclean hf (opOneof_planting f q0 m0 i0 oo0 h0 (fun x => {x with comment := c})) .COMMENT_ONEOF _ _ _ rfl
    (fun _ => rfl) hr ?_ ?_
  · simp only [tauOneof, opOneof, if_pos, hsyn, hbadc]; rfl
  · simp only [oneofKind, oneofRows, List.forall_mem_cons]
    simp

/-! ### services -/

/-- **Renaming a service** to a non-PascalCase name that keeps the suffix and the PascalCase form
    (e.g. `FooService` → `fooService`): exactly SERVICE_PASCAL_CASE at its name. -/
theorem plant_service_name_case (o : Options) (rules : List Rule) (w : Schema) (f : File)
    (hN : rules.Nodup) (hclean : cleanB o rules w = true) (hr : .SERVICE_PASCAL_CASE ∈ rules)
    (hf : FileAt w f) (p0 : List Nat) (s0 : Service) (h0 : (p0, s0) ∈ fileSvcs f)
    (nn : Str) (hbadname : NotPascal nn)
    (hsuffix : .SERVICE_SUFFIX ∈ rules → hasSuffix o.svcSuffix nn = true)
    (hstd : (.RPC_REQUEST_STANDARD_NAME ∈ rules ∨ .RPC_RESPONSE_STANDARD_NAME ∈ rules) →
      toPascalCase nn = toPascalCase s0.name) :
    lint o rules (renameService f.path p0 nn w) = [⟨.SERVICE_PASCAL_CASE, f.path, p0 ++ [1]⟩] := by
  refine svcKind.plant o rules w f hN hclean hf (opSvc_planting f p0 s0 h0 (fun _ => nn) id) .SERVICE_PASCAL_CASE _ _ _ rfl
    (fun _ => rfl) hr ?_ ?_
  · rw [tauSvc_opSvc]; exact notPascal_bad hbadname
  · simp only [svcKind, svcRows, List.forall_mem_cons]
    simp [svcWith]
    refine ⟨fun hs _ => hsuffix hs, fun hq h m hm => ?_, fun hq h m hm => ?_⟩
    · rw [stdNameBad_congr_pascal o true ⟨s0.name, [], []⟩ ⟨nn, [], []⟩ m (hstd (Or.inl hq))]; exact h m hm
    · rw [stdNameBad_congr_pascal o false ⟨s0.name, [], []⟩ ⟨nn, [], []⟩ m (hstd (Or.inr hq))]; exact h m hm

/-- A service name without the configured suffix.  The RPC_*_STANDARD_NAME rules read the service
    name too (`<Service><Rpc>Request`): `hstd` asks that every RPC of the service still has a
    standard request / response name under the NEW service name — e.g. because it uses the short
    form `<Rpc>Request` (otherwise those annotations are co-violations). -/
theorem plant_service_suffix (o : Options) (rules : List Rule) (w : Schema) (f : File)
    (hN : rules.Nodup) (hclean : cleanB o rules w = true) (hr : .SERVICE_SUFFIX ∈ rules)
    (hf : FileAt w f) (p0 : List Nat) (s0 : Service) (h0 : (p0, s0) ∈ fileSvcs f)
    (nn : Str) (hbadname : hasSuffix o.svcSuffix nn = false)
    (hcase : .SERVICE_PASCAL_CASE ∈ rules → isPascalIdent nn = true)
    (hstd : ∀ m ∈ s0.rpcs,
      (.RPC_REQUEST_STANDARD_NAME ∈ rules → stdNameBad o true { s0 with name := nn } m = false) ∧
      (.RPC_RESPONSE_STANDARD_NAME ∈ rules → stdNameBad o false { s0 with name := nn } m = false)) :
    lint o rules (renameService f.path p0 nn w) = [⟨.SERVICE_SUFFIX, f.path, p0 ++ [1]⟩] := by
  refine svcKind.plant o rules w f hN hclean hf (opSvc_planting f p0 s0 h0 (fun _ => nn) id) .SERVICE_SUFFIX _ _ _ rfl
    (fun _ => rfl) hr ?_ ?_
  · rw [tauSvc_opSvc]; show (!hasSuffix o.svcSuffix nn) = true; rw [hbadname]; rfl
  · simp only [svcKind, svcRows, List.forall_mem_cons]
    simp [svcWith]
    refine ⟨fun hc _ => hcase hc, fun hq _ m hm => ?_, fun hq _ m hm => ?_⟩
    · rw [stdNameBad_congr o true { s0 with name := nn } ⟨nn, [], []⟩ m rfl]; exact (hstd m hm).1 hq
    · rw [stdNameBad_congr o false { s0 with name := nn } ⟨nn, [], []⟩ m rfl]; exact (hstd m hm).2 hq

/-- **Deleting the comment of a service**: exactly COMMENT_SERVICE. -/
theorem plant_service_comment (o : Options) (rules : List Rule) (w : Schema) (f : File)
    (hN : rules.Nodup) (hclean : cleanB o rules w = true) (hr : .COMMENT_SERVICE ∈ rules)
    (hf : FileAt w f) (p0 : List Nat) (s0 : Service) (h0 : (p0, s0) ∈ fileSvcs f)
    (c : Str) (hbadc : validLeadingComment o.commentExcludes c = false) :
    lint o rules (setServiceComment f.path p0 c w) = [⟨.COMMENT_SERVICE, f.path, p0⟩] := by
  refine svcKind.plant o rules w f hN hclean hf (opSvc_planting f p0 s0 h0 id (fun _ => c)) .COMMENT_SERVICE _ _ _ rfl
    (fun _ => rfl) hr ?_ ?_
  · rw [tauSvc_opSvc]; show (!validLeadingComment o.commentExcludes c) = true; rw [hbadc]; rfl
  · simp only [svcKind, svcRows, List.forall_mem_cons]
    simp [svcWith]

/-! ### RPCs -/

/-- **Renaming an RPC** to a non-PascalCase name with the same PascalCase form (`GetFoo` → `getFoo`, so
    the standard request/response names still fit): exactly RPC_PASCAL_CASE at its name. -/
theorem plant_rpc_name (o : Options) (rules : List Rule) (w : Schema) (f : File)
    (hN : rules.Nodup) (hclean : cleanB o rules w = true) (hr : .RPC_PASCAL_CASE ∈ rules)
    (hf : FileAt w f) (q0 : List Nat) (s0 : Service) (m0 : Rpc) (h0 : (q0, s0, m0) ∈ fileRpcs f)
    (nn : Str) (hbadname : NotPascal nn)
    (hstd : (.RPC_REQUEST_STANDARD_NAME ∈ rules ∨ .RPC_RESPONSE_STANDARD_NAME ∈ rules) →
      toPascalCase nn = toPascalCase m0.name) :
    lint o rules (renameRpc f.path q0 nn w) = [⟨.RPC_PASCAL_CASE, f.path, q0 ++ [1]⟩] := by
  refine rpcKind.plant o rules w f hN hclean hf (opRpc_planting f q0 s0 m0 h0 (fun m => {m with name := nn}) ⟨rfl, rfl⟩)
    .RPC_PASCAL_CASE _ _ _ rfl (fun _ => rfl) hr ?_ ?_
  · simp only [tauRpc, opRpc, if_pos]; exact notPascal_bad hbadname
  · simp only [rpcKind, rpcRows, List.forall_mem_cons]
    simp
    refine ⟨fun hq => ?_, fun hq => ?_⟩
    · rw [stdNameBad_congr_rpc o true _ m0 {m0 with name := nn} (hstd (Or.inl hq)) rfl rfl]; exact id
    · rw [stdNameBad_congr_rpc o false _ m0 {m0 with name := nn} (hstd (Or.inr hq)) rfl rfl]; exact id

/-- **Deleting the comment of an RPC**: exactly COMMENT_RPC. -/
theorem plant_rpc_comment (o : Options) (rules : List Rule) (w : Schema) (f : File)
    (hN : rules.Nodup) (hclean : cleanB o rules w = true) (hr : .COMMENT_RPC ∈ rules)
    (hf : FileAt w f) (q0 : List Nat) (s0 : Service) (m0 : Rpc) (h0 : (q0, s0, m0) ∈ fileRpcs f)
    (c : Str) (hbadc : validLeadingComment o.commentExcludes c = false) :
    lint o rules (setRpcComment f.path q0 c w) = [⟨.COMMENT_RPC, f.path, q0⟩] := by
  refine rpcKind.plant o rules w f hN hclean hf (opRpc_planting f q0 s0 m0 h0 (fun m => {m with comment := c}) ⟨rfl, rfl⟩)
    .COMMENT_RPC _ _ _ rfl (fun _ => rfl) hr ?_ ?_
  · simp only [tauRpc, opRpc, if_pos, hbadc]; rfl
  · simp only [rpcKind, rpcRows, List.forall_mem_cons]
    simp
    refine ⟨fun _ => ?_, fun _ => ?_⟩ <;> (rw [stdNameBad_congr_rpc o _ _ m0 {m0 with comment := c} rfl rfl rfl]; exact id)

/-- **Adding `stream` to the request**: exactly RPC_NO_CLIENT_STREAMING at the RPC. -/
theorem plant_rpc_client_streaming (o : Options) (rules : List Rule) (w : Schema) (f : File)
    (hN : rules.Nodup) (hclean : cleanB o rules w = true) (hr : .RPC_NO_CLIENT_STREAMING ∈ rules)
    (hf : FileAt w f) (q0 : List Nat) (s0 : Service) (m0 : Rpc) (h0 : (q0, s0, m0) ∈ fileRpcs f) :
    lint o rules (setClientStreaming f.path q0 w) = [⟨.RPC_NO_CLIENT_STREAMING, f.path, q0⟩] := by
  refine rpcKind.plant o rules w f hN hclean hf (opRpc_planting f q0 s0 m0 h0 (fun m => {m with clientStreaming := true}) ⟨rfl, rfl⟩)
    .RPC_NO_CLIENT_STREAMING _ _ _ rfl (fun _ => rfl) hr ?_ ?_
  · simp only [tauRpc, opRpc, if_pos]
  · simp only [rpcKind, rpcRows, List.forall_mem_cons]
    simp
    refine ⟨fun _ => ?_, fun _ => ?_⟩ <;> (rw [stdNameBad_congr_rpc o _ _ m0 {m0 with clientStreaming := true} rfl rfl rfl]; exact id)

/-- **Adding `stream` to the response**: exactly RPC_NO_SERVER_STREAMING at the RPC. -/
theorem plant_rpc_server_streaming (o : Options) (rules : List Rule) (w : Schema) (f : File)
    (hN : rules.Nodup) (hclean : cleanB o rules w = true) (hr : .RPC_NO_SERVER_STREAMING ∈ rules)
    (hf : FileAt w f) (q0 : List Nat) (s0 : Service) (m0 : Rpc) (h0 : (q0, s0, m0) ∈ fileRpcs f) :
    lint o rules (setServerStreaming f.path q0 w) = [⟨.RPC_NO_SERVER_STREAMING, f.path, q0⟩] := by
  refine rpcKind.plant o rules w f hN hclean hf (opRpc_planting f q0 s0 m0 h0 (fun m => {m with serverStreaming := true}) ⟨rfl, rfl⟩)
    .RPC_NO_SERVER_STREAMING _ _ _ rfl (fun _ => rfl) hr ?_ ?_
  · simp only [tauRpc, opRpc, if_pos]
  · simp only [rpcKind, rpcRows, List.forall_mem_cons]
    simp
    refine ⟨fun _ => ?_, fun _ => ?_⟩ <;> (rw [stdNameBad_congr_rpc o _ _ m0 {m0 with serverStreaming := true} rfl rfl rfl]; exact id)

/-! ### file level: imports, syntax, RPC types, package, language options, file path -/

/-- **Making an import `public`**: exactly IMPORT_NO_PUBLIC at the import statement. -/
theorem plant_import_public (o : Options) (rules : List Rule) (w : Schema) (f : File)
    (hN : rules.Nodup) (hclean : cleanB o rules w = true) (hr : .IMPORT_NO_PUBLIC ∈ rules)
    (hf : FileAt w f) (i0 : Nat) (imp0 : Import) (h0 : (i0, imp0) ∈ indexed f.imports) :
    lint o rules (setImportPublic f.path i0 w) = [⟨.IMPORT_NO_PUBLIC, f.path, [3, i0]⟩] := by
  refine importKind.plant o rules w f hN hclean hf
    (opImport_planting f i0 imp0 h0 (fun imp => {imp with isPublic := true}) (fun _ => rfl)) .IMPORT_NO_PUBLIC _ _ _ rfl (fun _ => rfl) hr ?_ ?_
  · simp only [if_pos]
  · simp only [importKind, importRows, List.forall_mem_cons]
    simp

/-- **An import nothing of which is used**: exactly IMPORT_USED at the import statement. -/
theorem plant_import_unused (o : Options) (rules : List Rule) (w : Schema) (f : File)
    (hN : rules.Nodup) (hclean : cleanB o rules w = true) (hr : .IMPORT_USED ∈ rules)
    (hf : FileAt w f) (i0 : Nat) (imp0 : Import) (h0 : (i0, imp0) ∈ indexed f.imports) :
    lint o rules (setImportUnused f.path i0 w) = [⟨.IMPORT_USED, f.path, [3, i0]⟩] := by
  refine importKind.plant o rules w f hN hclean hf
    (opImport_planting f i0 imp0 h0 (fun imp => {imp with isUnused := true}) (fun _ => rfl)) .IMPORT_USED _ _ _ rfl (fun _ => rfl) hr ?_ ?_
  · simp only [if_pos]
  · simp only [importKind, importRows, List.forall_mem_cons]
    simp

/-- **A weak import is never reported** (known finding, for every workspace): making any import
    of a Clean workspace weak leaves lint silent, IMPORT_NO_WEAK configured or not. -/
theorem plant_import_weak_silent (o : Options) (rules : List Rule) (w : Schema) (f : File)
    (hclean : cleanB o rules w = true)
    (hf : FileAt w f) (i0 : Nat) (imp0 : Import) (h0 : (i0, imp0) ∈ indexed f.imports) :
    lint o rules (setImportWeak f.path i0 w) = [] := by
  refine clean_no_annotations_aux (List.all_eq_true.mpr fun r hr => importKind.frame o w f hf
    (opImport_planting f i0 imp0 h0 (fun imp => {imp with isWeak := true}) (fun _ => rfl)) r
    (Demands.keep (P := fun _ => True) ?_ r trivial) (cleanB_rule hclean hr))
  simp only [importKind, importRows, List.forall_mem_cons]
  simp

/-- **Deleting the `syntax` line**: exactly SYNTAX_SPECIFIED (reported without a location). -/
theorem plant_syntax_unspecified (o : Options) (rules : List Rule) (w : Schema) (f : File)
    (hN : rules.Nodup) (hclean : cleanB o rules w = true) (hr : .SYNTAX_SPECIFIED ∈ rules)
    (hf : FileAt w f) :
    lint o rules (unsetSyntax f.path w) = [⟨.SYNTAX_SPECIFIED, f.path, []⟩] := by
  have h := plant_via_map o rules w .SYNTAX_SPECIFIED _ _ _ _ rfl hN hr hclean f hf
    noSyntax (fun _ => rfl) noSyntax rfl
    (fun _ => []) (by simp) f (by simp)
    (by intro x _ hne; exact absurd rfl hne)
    rfl
    (by
      intro r hr hner
      exact frame_unsetSyntax o w f hf r hner (cleanB_rule hclean hr))
  simpa [unsetSyntax, ann, noSyntax] using h

/-- **Changing the request type of an RPC** (to a message with a non-standard name, or to the
    request type of another RPC).  Exactly: RPC_REQUEST_STANDARD_NAME at that RPC's request type,
    plus — when RPC_REQUEST_RESPONSE_UNIQUE is configured — the annotation of every RPC that
    violates uniqueness (`RpcViolation`) in the method table in which that one row got the new
    request type.  Nothing else, for no other rule. -/
theorem plant_rpc_request_type (o : Options) (rules : List Rule) (w : Schema) (f : File)
    (hclean : cleanB o rules w = true) (hr : .RPC_REQUEST_STANDARD_NAME ∈ rules) (hfn : FullNamesDistinct w)
    (hf : FileAt w f) (q0 : List Nat) (s0 : Service) (m0 : Rpc) (h0 : (q0, s0, m0) ∈ fileRpcs f)
    (t : Str) (hbad : stdNameBad o true s0 { m0 with inType := t } = true) (a : Annotation) :
    a ∈ lint o rules (setRequestType f.path q0 t w) ↔
      a = ⟨.RPC_REQUEST_STANDARD_NAME, f.path, q0 ++ [2]⟩ ∨
      (.RPC_REQUEST_RESPONSE_UNIQUE ∈ rules ∧
        ∃ x ∈ (rpcTable w).map (fun x => if x.file = f.path ∧ x.path = q0 then { x with inType := t } else x),
          a = x.ann ∧ RpcViolation o
            ((rpcTable w).map (fun x => if x.file = f.path ∧ x.path = q0 then { x with inType := t } else x)) x) :=
  plant_rpc_type true o rules w f hclean hr hfn hf q0 s0 m0 h0 t hbad a

/-- **Changing the response type of an RPC**: RPC_RESPONSE_STANDARD_NAME at that RPC's response
    type, plus the uniqueness violations of the new method table. -/
theorem plant_rpc_response_type (o : Options) (rules : List Rule) (w : Schema) (f : File)
    (hclean : cleanB o rules w = true) (hr : .RPC_RESPONSE_STANDARD_NAME ∈ rules) (hfn : FullNamesDistinct w)
    (hf : FileAt w f) (q0 : List Nat) (s0 : Service) (m0 : Rpc) (h0 : (q0, s0, m0) ∈ fileRpcs f)
    (t : Str) (hbad : stdNameBad o false s0 { m0 with outType := t } = true) (a : Annotation) :
    a ∈ lint o rules (setResponseType f.path q0 t w) ↔
      a = ⟨.RPC_RESPONSE_STANDARD_NAME, f.path, q0 ++ [3]⟩ ∨
      (.RPC_REQUEST_RESPONSE_UNIQUE ∈ rules ∧
        ∃ x ∈ (rpcTable w).map (fun x => if x.file = f.path ∧ x.path = q0 then { x with outType := t } else x),
          a = x.ann ∧ RpcViolation o
            ((rpcTable w).map (fun x => if x.file = f.path ∧ x.path = q0 then { x with outType := t } else x)) x) :=
  plant_rpc_type false o rules w f hclean hr hfn hf q0 s0 m0 h0 t hbad a

/-- **The same message for two RPCs.**  Giving the RPC at `q0` the request type `t` that another
    RPC `y` already uses (as request or response; `t` not exempted by an allow_google_protobuf_empty_*
    option) makes RPC_REQUEST_RESPONSE_UNIQUE report BOTH RPCs. -/
theorem plant_rpc_reuse_detected (o : Options) (rules : List Rule) (w : Schema) (f : File)
    (hclean : cleanB o rules w = true) (hr : .RPC_REQUEST_STANDARD_NAME ∈ rules)
    (hu : .RPC_REQUEST_RESPONSE_UNIQUE ∈ rules) (hfn : FullNamesDistinct w)
    (hf : FileAt w f) (q0 : List Nat) (s0 : Service) (m0 : Rpc) (h0 : (q0, s0, m0) ∈ fileRpcs f)
    (t : Str) (hbad : stdNameBad o true s0 { m0 with inType := t } = true)
    (y : RpcRow) (hy : y ∈ rpcTable w) (hother : ¬(y.file = f.path ∧ y.path = q0)) (hyt : usesType t y = true)
    (hne : ¬(t = emptyType ∧ (o.rpcAllowGoogleProtobufEmptyRequests = true ∨
      o.rpcAllowGoogleProtobufEmptyResponses = true))) :
    (⟨.RPC_REQUEST_RESPONSE_UNIQUE, f.path, q0⟩ : Annotation) ∈ lint o rules (setRequestType f.path q0 t w) ∧
    y.ann ∈ lint o rules (setRequestType f.path q0 t w) := by
  have hx0 := rpcRow_mem w f hf q0 s0 m0 h0
  let φ : RpcRow → RpcRow := fun x => if x.file = f.path ∧ x.path = q0 then { x with inType := t } else x
  have hx0' : (⟨f.path, q0, t, m0.outType⟩ : RpcRow) ∈ (rpcTable w).map φ :=
    List.mem_map.mpr ⟨_, hx0, by simp [φ]⟩
  have hy' : y ∈ (rpcTable w).map φ := List.mem_map.mpr ⟨y, hy, by simp only [φ, if_neg hother]⟩
  have hcnt : 2 ≤ (((rpcTable w).map φ).filter (usesType t)).length := by
    apply two_le_length_of_mem _ (⟨f.path, q0, t, m0.outType⟩ : RpcRow) y
    · exact List.mem_filter.mpr ⟨hx0', by simp [usesType]⟩
    · exact List.mem_filter.mpr ⟨hy', hyt⟩
    · intro e
      apply hother
      rw [← e]; exact ⟨rfl, rfl⟩
  have hmem := fun a => (plant_rpc_request_type o rules w f hclean hr hfn hf q0 s0 m0 h0 t hbad a).mpr
  exact ⟨hmem _ (Or.inr ⟨hu, _, hx0', rfl, Or.inr ⟨t, by simp [usesType], hcnt, Or.inl hne⟩⟩),
    hmem _ (Or.inr ⟨hu, y, hy', rfl, Or.inr ⟨t, hyt, hcnt, Or.inl hne⟩⟩)⟩

/-- **The same message as request and response of one RPC** (response type := its own request
    type; `rpc_allow_same_request_response` off, not the doubly-allowed google.protobuf.Empty):
    RPC_REQUEST_RESPONSE_UNIQUE reports that RPC. -/
theorem plant_rpc_same_type_detected (o : Options) (rules : List Rule) (w : Schema) (f : File)
    (hclean : cleanB o rules w = true) (hr : .RPC_RESPONSE_STANDARD_NAME ∈ rules)
    (hu : .RPC_REQUEST_RESPONSE_UNIQUE ∈ rules) (hfn : FullNamesDistinct w)
    (hf : FileAt w f) (q0 : List Nat) (s0 : Service) (m0 : Rpc) (h0 : (q0, s0, m0) ∈ fileRpcs f)
    (hbad : stdNameBad o false s0 { m0 with outType := m0.inType } = true)
    (hsame : o.rpcAllowSameRequestResponse = false)
    (hne : ¬(m0.inType = emptyType ∧ o.rpcAllowGoogleProtobufEmptyRequests = true ∧
      o.rpcAllowGoogleProtobufEmptyResponses = true)) :
    (⟨.RPC_REQUEST_RESPONSE_UNIQUE, f.path, q0⟩ : Annotation) ∈
      lint o rules (setResponseType f.path q0 m0.inType w) := by
  have hx0 := rpcRow_mem w f hf q0 s0 m0 h0
  apply (plant_rpc_response_type o rules w f hclean hr hfn hf q0 s0 m0 h0 m0.inType hbad _).mpr
  refine Or.inr ⟨hu, ⟨f.path, q0, m0.inType, m0.inType⟩, List.mem_map.mpr ⟨_, hx0, by simp⟩, rfl,
    Or.inl ⟨hsame, rfl, hne⟩⟩

/-- **Changing the package statement of one file** to `np` (a package no other target file has).
    The annotations are exactly: PACKAGE_DEFINED if `np` is empty; otherwise PACKAGE_DIRECTORY_MATCH
    if the directory is not `np` with dots as slashes, PACKAGE_LOWER_SNAKE_CASE if `np` is not its
    lower_snake_case form, PACKAGE_VERSION_SUFFIX if `np` has no version suffix — each at the
    package statement of that file —, and DIRECTORY_SAME_PACKAGE at every target file of that
    directory when the directory holds another target file.  Nothing else.
    PACKAGE_NO_IMPORT_CYCLE is NOT framed: splitting a package can close a package cycle (the
    harness computes that side effect as `pkgCycles`), so its annotations on the new workspace
    appear in the statement as they are coded (`importCycle`; Props/C05Cycle.lean says which import
    statements those are). -/
theorem plant_package (o : Options) (rules : List Rule) (w : Schema) (f : File)
    (hclean : cleanB o rules w = true) (hf : FileAt w f) (np : Str)
    (hfresh : ∀ g ∈ nonImport w, g.path ≠ f.path → g.pkg ≠ np)
    (hstable : .STABLE_PACKAGE_NO_IMPORT_UNSTABLE ∈ rules → isStable np = none ∨ isStable np = isStable f.pkg)
    (a : Annotation) :
    a ∈ lint o rules (setPackage f.path np w) ↔
      (.PACKAGE_DEFINED ∈ rules ∧ np = [] ∧ a = ⟨.PACKAGE_DEFINED, f.path, []⟩) ∨
      (.PACKAGE_DIRECTORY_MATCH ∈ rules ∧ np ≠ [] ∧ fileDir f ≠ replaceDots np ∧
        a = ⟨.PACKAGE_DIRECTORY_MATCH, f.path, [2]⟩) ∨
      (.PACKAGE_LOWER_SNAKE_CASE ∈ rules ∧ np ≠ [] ∧ np ≠ pkgLowerSnake np ∧
        a = ⟨.PACKAGE_LOWER_SNAKE_CASE, f.path, [2]⟩) ∨
      (.PACKAGE_VERSION_SUFFIX ∈ rules ∧ np ≠ [] ∧ versionForPackage false np = none ∧
        a = ⟨.PACKAGE_VERSION_SUFFIX, f.path, [2]⟩) ∨
      (.DIRECTORY_SAME_PACKAGE ∈ rules ∧ (∃ g0 ∈ nonImport w, g0.path ≠ f.path ∧ fileDir g0 = fileDir f) ∧
        ∃ g ∈ nonImport (setPackage f.path np w), fileDir g = fileDir f ∧
          a = ann .DIRECTORY_SAME_PACKAGE g (pkgLoc g)) ∨
      (.PACKAGE_NO_IMPORT_CYCLE ∈ rules ∧ a ∈ importCycle (setPackage f.path np w)) := by
  have hfile := fun r hr bad loc good he =>
    mem_runRule_file_rule o rules w f hf (setPkg np) (fun _ => rfl) hclean r hr bad loc good he a
  -- a guarded file rule `!pkg.isEmpty && b` fires iff the package is there and `b` holds
  have hguard : ∀ {b : Bool} {P Q : Prop}, (b = true ↔ P) → (((!np.isEmpty && b) = true ∧ Q) ↔ np ≠ [] ∧ P ∧ Q) :=
    fun hb => (and_congr_left' (not_isEmpty_and.trans (and_congr_right' hb))).trans and_assoc
  rw [mem_lint_of_dirty o rules _ pkgDirty (clean_after_setPackage o rules w f hclean hf np hfresh hstable)]
  unfold pkgDirty setPackage
  simp only [mem_dirty_cons, mem_dirty_nil, or_false]
  -- clause by clause: what the rule reports on the rewritten workspace
  refine or_congr (and_congr_right fun hr => ?_) (or_congr (and_congr_right fun hr => ?_) (or_congr
    (and_congr_right fun hr => ?_) (or_congr (and_congr_right fun hr => ?_) (or_congr
    (and_congr_right fun hr => ?_) (and_congr_right fun hr => ?_)))))
  · exact (hfile _ hr _ _ _ rfl).trans (and_congr_left' List.isEmpty_iff)
  · exact (hfile _ hr _ _ _ rfl).trans (hguard bne_iff_ne)
  · exact (hfile _ hr _ _ _ rfl).trans (hguard bne_iff_ne)
  · exact (hfile _ hr _ _ _ rfl).trans (hguard Option.isNone_iff_eq_none)
  · have hc := cleanB_rule hclean hr
    rw [cleanRule_groupSpec o _ _ _ _ _ rfl] at hc
    rw [runRule_global o _ _ rfl]
    refine (mem_groupRule_plant _ w f hf (setPkg np) (fun _ => rfl) _ _ _ hc a).trans (and_congr_left' ?_)
    exact ⟨fun ⟨g0, h0, p0, k0, _⟩ => ⟨g0, h0, p0, k0⟩, fun ⟨g0, h0, p0, k0⟩ => ⟨g0, h0, p0, k0, hfresh g0 h0 p0⟩⟩
  · rw [runRule_global o _ _ rfl]
    rfl

/-- the version grammar composed with lint: a package whose last component does not start with
    'v' (`….foo`, `….beta1`) gets PACKAGE_VERSION_SUFFIX at its package statement -/
theorem plant_package_no_version (o : Options) (rules : List Rule) (w : Schema) (f : File)
    (hclean : cleanB o rules w = true) (hf : FileAt w f) (pre : Str) (c : Char) (cs : Str)
    (hc : c ≠ 'v') (hnodot : ∀ x ∈ c :: cs, x ≠ '.')
    (hfresh : ∀ g ∈ nonImport w, g.path ≠ f.path → g.pkg ≠ pre ++ '.' :: c :: cs)
    (hstable : .STABLE_PACKAGE_NO_IMPORT_UNSTABLE ∈ rules →
      isStable (pre ++ '.' :: c :: cs) = none ∨ isStable (pre ++ '.' :: c :: cs) = isStable f.pkg)
    (hr : .PACKAGE_VERSION_SUFFIX ∈ rules) :
    (⟨.PACKAGE_VERSION_SUFFIX, f.path, [2]⟩ : Annotation) ∈
      lint o rules (setPackage f.path (pre ++ '.' :: c :: cs) w) :=
  (plant_package o rules w f hclean hf _ hfresh hstable _).mpr
    (Or.inr (Or.inr (Or.inr (Or.inl ⟨hr, by simp, versionForPackage_no_v false pre c cs hc hnodot, rfl⟩))))

/-- the version grammar composed with lint, near misses: a package whose last component contains a
    character that no documented version form can contain outside a `test` suffix — the `_` of
    `acme.weather.v1_0`, the `x` of `….v0x1`, the `o` of `….v0o7` — gets PACKAGE_VERSION_SUFFIX at
    its package statement -/
theorem plant_package_version_near_miss (o : Options) (rules : List Rule) (w : Schema) (f : File)
    (hclean : cleanB o rules w = true) (hf : FileAt w f) (pre : Str) (c : Char) (cs : Str) (x : Char)
    (hx : x ∈ c :: cs) (hd : isDigit x = false) (hforeign : x ∉ versionAlphabet)
    (htest : contains "test".toList (c :: cs) = false) (hnodot : ∀ y ∈ c :: cs, y ≠ '.')
    (hfresh : ∀ g ∈ nonImport w, g.path ≠ f.path → g.pkg ≠ pre ++ '.' :: c :: cs)
    (hstable : .STABLE_PACKAGE_NO_IMPORT_UNSTABLE ∈ rules →
      isStable (pre ++ '.' :: c :: cs) = none ∨ isStable (pre ++ '.' :: c :: cs) = isStable f.pkg)
    (hr : .PACKAGE_VERSION_SUFFIX ∈ rules) :
    (⟨.PACKAGE_VERSION_SUFFIX, f.path, [2]⟩ : Annotation) ∈
      lint o rules (setPackage f.path (pre ++ '.' :: c :: cs) w) :=
  (plant_package o rules w f hclean hf _ hfresh hstable _).mpr
    (Or.inr (Or.inr (Or.inr (Or.inl ⟨hr, by simp, by
      rw [versionForPackage_last_component false pre c cs hnodot]
      exact versionForComponent_foreign false _ x hx hd hforeign htest, rfl⟩))))

/-- the lower_snake_case grammar composed with lint: a package containing an upper-case letter
    gets PACKAGE_LOWER_SNAKE_CASE at its package statement -/
theorem plant_package_upper_case (o : Options) (rules : List Rule) (w : Schema) (f : File)
    (hclean : cleanB o rules w = true) (hf : FileAt w f) (np : Str) (c : Char) (hc : c ∈ np) (hu : isUpper c = true)
    (hfresh : ∀ g ∈ nonImport w, g.path ≠ f.path → g.pkg ≠ np)
    (hstable : .STABLE_PACKAGE_NO_IMPORT_UNSTABLE ∈ rules → isStable np = none ∨ isStable np = isStable f.pkg)
    (hr : .PACKAGE_LOWER_SNAKE_CASE ∈ rules) :
    (⟨.PACKAGE_LOWER_SNAKE_CASE, f.path, [2]⟩ : Annotation) ∈ lint o rules (setPackage f.path np w) :=
  (plant_package o rules w f hclean hf np hfresh hstable _).mpr
    (Or.inr (Or.inr (Or.inl ⟨hr, fun e => by rw [e] at hc; simp at hc,
      pkgLowerSnake_ne_of_upper np c hc hu, rfl⟩)))

/-- **Files of one package with differing language options.**  Writing the option statement `v`
    (`none` = removing it, `some x` = `option <name> = x;`) for option number `k` of one file, such
    that the VALUE the rule extracts (`v.getD ""`: an unset option and an explicit empty string are
    one value; an explicit `java_multiple_files = false` is the value "false", different from unset)
    differs from the value the file had — which, the workspace being Clean, every file of its
    package shares —, while another target file has the same package: the PACKAGE_SAME_<option>
    rule annotates EVERY target file of that package at its option statement (or without location
    where the file has no such statement — decided by presence, not by value), and lint reports
    nothing else. -/
theorem plant_lang_option (o : Options) (rules : List Rule) (w : Schema) (f : File)
    (hclean : cleanB o rules w = true) (hf : FileAt w f)
    (r0 : Rule) (k : Nat) (hk : optIndex r0 = some k) (hr : r0 ∈ rules)
    (v : Option Str) (hlen : k < f.langOpts.length) (hv : v.getD [] ≠ optVal f k)
    (hother : ∃ g0 ∈ nonImport w, g0.path ≠ f.path ∧ g0.pkg = f.pkg) (a : Annotation) :
    a ∈ lint o rules (setLangOpt f.path k v w) ↔
      ∃ g ∈ nonImport (setLangOpt f.path k v w), g.pkg = f.pkg ∧ a = ann r0 g (optLoc g k) := by
  have hc := cleanB_rule hclean hr
  rw [cleanRule_optRule o w r0 k hk] at hc
  have hrun := mem_groupRule_plant r0 w f hf (setOpt k v) (fun _ => rfl) _ _ (optLoc · k) hc a
  rw [← runRule_optRule o _ r0 k hk] at hrun
  rw [mem_lint_of_dirty o rules _ [r0] fun r hrr hnd => clean_after_setLangOpt o w f hf k v r
    (fun hi => hnd (List.mem_singleton.mpr (optIndex_inj hi hk))) (cleanB_rule hclean hrr)]
  unfold setLangOpt
  rw [mem_dirty_cons, mem_dirty_nil, or_false, hrun]
  obtain ⟨g0, hg0, p0, k0⟩ := hother
  refine ⟨fun h => h.2.2, fun hx => ⟨hr, ⟨g0, hg0, p0, k0, ?_⟩, hx⟩⟩
  rw [optVal_setOpt_eq k v f hlen, (groupClean_iff _ _ _).mp hc g0 hg0 f hf.nonImport k0]
  exact fun e => hv e.symm

/-- **Same value, other spelling: silent.**  Rewriting the option statement number `k` of one
    file so that the VALUE the rule extracts stays what it was — `option go_package = "";` where the
    option was unset, or removing an explicit empty string — keeps a Clean workspace Clean for every
    rule: lint reports nothing.  (For java_multiple_files there is no such respelling: "true" and
    "false" are values of their own, `none` is the only statement with the value "" —
    `java_multiple_files_false_is_a_value`.) -/
theorem plant_lang_option_same_value_silent (o : Options) (rules : List Rule) (w : Schema) (f : File)
    (hclean : cleanB o rules w = true) (hf : FileAt w f) (k : Nat) (v : Option Str)
    (hlen : k < f.langOpts.length) (hv : v.getD [] = optVal f k) :
    lint o rules (setLangOpt f.path k v w) = [] := by
  apply clean_no_annotations
  unfold cleanB
  rw [List.all_eq_true]
  intro r hr
  have hc := cleanB_rule hclean hr
  by_cases hk : optIndex r = some k
  · rw [cleanRule_optRule o _ r k hk] at hc ⊢
    apply groupClean_plant w f hf (setOpt k v) (fun _ => rfl) _ _ hc
    intro g hg _ e
    rw [optVal_setOpt_eq k v f hlen, hv]
    rw [groupClean_iff] at hc
    exact hc g hg f hf.nonImport e
  · exact clean_after_setLangOpt o w f hf k v r hk hc

/-- An explicit `option java_multiple_files = false;` is a VALUE for PACKAGE_SAME_JAVA_MULTIPLE_FILES,
    different from "no value" (as coded: "" is returned only when the descriptor field is nil):
    the extractor separates the three spellings, while for a string option the unset option and the
    explicit empty string are one value — told apart only by where the annotation is put. -/
theorem java_multiple_files_false_is_a_value (f g h : File)
    (hf : optRaw f 2 = none) (hg : optRaw g 2 = some "false".toList) (hh : optRaw h 2 = some "true".toList) :
    optVal f 2 ≠ optVal g 2 ∧ optVal g 2 ≠ optVal h 2 ∧ optVal f 2 ≠ optVal h 2 ∧
      optLoc f 2 = [] ∧ optLoc g 2 = [8, 10] ∧ optLoc h 2 = [8, 10] := by
  unfold optVal optLoc
  rw [hf, hg, hh]
  decide

theorem string_option_empty_is_unset (f g : File) (k : Nat) (hf : optRaw f k = none) (hg : optRaw g k = some []) :
    optVal f k = optVal g k ∧ optLoc f k = [] ∧ optLoc g k = [8, optFieldNumber k] := by
  unfold optVal optLoc
  rw [hf, hg]
  exact ⟨rfl, rfl, rfl⟩

/-- **Moving / renaming one file** (a file that no other file imports) to the path `np`.
    The annotations are exactly: FILE_LOWER_SNAKE_CASE if the new base name is not lower_snake_case;
    PACKAGE_DIRECTORY_MATCH if the new directory is not the package with dots as slashes — both at
    the moved file —; and PACKAGE_SAME_DIRECTORY at EVERY target file of the package when another
    target file of the package lies in a different directory.  Nothing else.
    (`hnoimp`: nobody imports the old or the new path — otherwise the importers would have to be
    rewritten too; `hdir`: the files already in the new directory have the same package.) -/
theorem plant_file_move (o : Options) (rules : List Rule) (w : Schema) (f : File)
    (hclean : cleanB o rules w = true) (hf : FileAt w f) (np : Str)
    (hnoimp : ∀ g ∈ w, ∀ imp ∈ g.imports, imp.path ≠ f.path ∧ imp.path ≠ np)
    (hdir : .DIRECTORY_SAME_PACKAGE ∈ rules → ∀ g ∈ nonImport w, g.path ≠ f.path →
      fileDir g = fileDir (setPath np f) → g.pkg = f.pkg)
    (a : Annotation) :
    a ∈ lint o rules (moveFile f.path np w) ↔
      (.FILE_LOWER_SNAKE_CASE ∈ rules ∧
        fileBaseNoExt (setPath np f) ≠ toLowerSnakeCase false (fileBaseNoExt (setPath np f)) ∧
        a = ⟨.FILE_LOWER_SNAKE_CASE, np, []⟩) ∨
      (.PACKAGE_DIRECTORY_MATCH ∈ rules ∧ f.pkg ≠ [] ∧ fileDir (setPath np f) ≠ replaceDots f.pkg ∧
        a = ⟨.PACKAGE_DIRECTORY_MATCH, np, [2]⟩) ∨
      (.PACKAGE_SAME_DIRECTORY ∈ rules ∧
        (∃ g0 ∈ nonImport w, g0.path ≠ f.path ∧ g0.pkg = f.pkg ∧ fileDir g0 ≠ fileDir (setPath np f)) ∧
        ∃ g ∈ nonImport (moveFile f.path np w), g.pkg = f.pkg ∧ a = ann .PACKAGE_SAME_DIRECTORY g (pkgLoc g)) := by
  have hfile := fun r hr bad loc good he =>
    mem_runRule_file_rule o rules w f hf (setPath np) (fun _ => rfl) hclean r hr bad loc good he a
  rw [mem_lint_of_dirty o rules _ moveDirty (clean_after_moveFile o rules w f hclean hf np hnoimp hdir)]
  unfold moveDirty moveFile
  simp only [mem_dirty_cons, mem_dirty_nil, or_false]
  refine or_congr (and_congr_right fun hr => ?_) (or_congr (and_congr_right fun hr => ?_) (and_congr_right fun hr => ?_))
  · exact (hfile _ hr _ _ _ rfl).trans (and_congr_left' bne_iff_ne)
  · exact (hfile _ hr _ _ _ rfl).trans
      ((and_congr_left' (not_isEmpty_and.trans (and_congr_right' bne_iff_ne))).trans and_assoc)
  · have hc := cleanB_rule hclean hr
    rw [cleanRule_groupSpec o _ _ _ _ _ rfl] at hc
    rw [runRule_global o _ _ rfl]
    exact mem_groupRule_plant _ w f hf (setPath np) (fun _ => rfl) _ _ _ hc a

/-! ## Non-vacuity: every planting theorem APPLIED to the multi-file workspace `pw`

  `pw` = two target files of package acme.foo.v1 (`a.proto`: top-level enum, message with nested
  message + nested enum + oneof, four request/response messages, a service with two RPCs, an
  import, a file-level extension; `b.proto`) and an import-only file full of violations.  All
  hypotheses are instantiated (by `decide` / explicit witnesses) and the theorem is applied. -/

example : cleanB {} Rule.all pw = true := pw_clean
example : Rule.all.Nodup := all_nodup

example : lint {} Rule.all (renameEnum pA.path pathColor "color".toList pw) =
    [⟨.ENUM_PASCAL_CASE, pA.path, pathColor ++ [1]⟩] :=
  plant_enum_name {} Rule.all pw pA all_nodup pw_clean (by decide) pA_at pathColor pColor pColor_mem
    "color".toList (Or.inr ⟨'c', "olor".toList, rfl, by decide⟩) (fun _ => by decide)

example : lint {} Rule.all (renameEnum pA.path pathColor "Color_".toList pw) =
    [⟨.ENUM_PASCAL_CASE, pA.path, pathColor ++ [1]⟩] :=
  plant_enum_name {} Rule.all pw pA all_nodup pw_clean (by decide) pA_at pathColor pColor pColor_mem
    "Color_".toList (Or.inl ⟨'_', by decide, by decide⟩) (fun _ => by decide)

example : lint {} Rule.all (setEnumComment pA.path pathColor [] pw) = [⟨.COMMENT_ENUM, pA.path, pathColor⟩] :=
  plant_enum_comment {} Rule.all pw pA all_nodup pw_clean (by decide) pA_at pathColor pColor pColor_mem
    [] (validLeadingComment_nil _)

example : lint {} Rule.all (setEnumComment pA.path pathColor " buf:lint:ignore COMMENT_ENUM\n".toList pw) =
    [⟨.COMMENT_ENUM, pA.path, pathColor⟩] :=
  plant_enum_comment {} Rule.all pw pA all_nodup pw_clean (by decide +kernel) pA_at pathColor pColor pColor_mem
    _ (by decide +kernel)

example : lint {} Rule.all
    (addAllowAlias pA.path pathColor [⟨"COLOR_CRIMSON".toList, " An alias.\n".toList, 1⟩] pw) =
    [⟨.ENUM_NO_ALLOW_ALIAS, pA.path, pathColor ++ [3, 2]⟩] :=
  plant_enum_allow_alias {} Rule.all pw pA all_nodup pw_clean (by decide +kernel) pA_at pathColor pColor pColor_mem
    _ (by decide +kernel) (by decide +kernel)

example : lint {} Rule.all (swapFirstValues pA.path pathColor pw) =
    [⟨.ENUM_FIRST_VALUE_ZERO, pA.path, pathColor ++ [2, 0, 2]⟩] :=
  plant_enum_first_value_nonzero {} Rule.all pw pA all_nodup pw_clean (by decide) pA_at pathColor pColor
    pColor_mem _ _ [] rfl (by decide)

example : lint {} Rule.all (renameValue pA.path pathRed "COLOR_rED".toList pw) =
    [⟨.ENUM_VALUE_UPPER_SNAKE_CASE, pA.path, pathRed ++ [1]⟩] :=
  plant_enum_value_case {} Rule.all pw pA all_nodup pw_clean (by decide) pA_at pathRed pColor _ pRed_mem
    _ ⟨'r', by decide, by decide⟩ (fun _ => by decide) (fun _ h => absurd h (by decide))

example : lint {} Rule.all (renameValue pA.path pathRed "ZZ_RED".toList pw) =
    [⟨.ENUM_VALUE_PREFIX, pA.path, pathRed ++ [1]⟩] :=
  plant_enum_value_prefix {} Rule.all pw pA all_nodup pw_clean (by decide) pA_at pathRed pColor _ pRed_mem
    _ (by decide) (fun _ => by decide) (fun _ h => absurd h (by decide))

example : lint {} Rule.all (renameValue pA.path pathZero "COLOR_UNKNOWN".toList pw) =
    [⟨.ENUM_ZERO_VALUE_SUFFIX, pA.path, pathZero ++ [1]⟩] :=
  plant_enum_zero_value_suffix {} Rule.all pw pA all_nodup pw_clean (by decide) pA_at pathZero pColor _
    pZero_mem rfl _ (by decide) (fun _ => by decide) (fun _ => by decide)

example : lint {} Rule.all (setValueComment pA.path pathRed [] pw) = [⟨.COMMENT_ENUM_VALUE, pA.path, pathRed⟩] :=
  plant_enum_value_comment {} Rule.all pw pA all_nodup pw_clean (by decide) pA_at pathRed pColor _ pRed_mem
    [] (validLeadingComment_nil _)

example : lint {} Rule.all (renameMessage pA.path pathInner "inner_msg".toList pw) =
    [⟨.MESSAGE_PASCAL_CASE, pA.path, pathInner ++ [1]⟩] :=
  plant_message_name {} Rule.all pw pA all_nodup pw_clean (by decide) pA_at pathInner pInner pInner_mem
    rfl _ (Or.inl ⟨'_', by decide, by decide⟩)

example : lint {} Rule.all (setMessageComment pA.path pathInner [] pw) = [⟨.COMMENT_MESSAGE, pA.path, pathInner⟩] :=
  plant_message_comment {} Rule.all pw pA all_nodup pw_clean (by decide) pA_at pathInner pInner pInner_mem
    rfl [] (validLeadingComment_nil _)

example : lint {} Rule.all (renameField pA.path pathFooBar "fooBar".toList pw) =
    [⟨.FIELD_LOWER_SNAKE_CASE, pA.path, pathFooBar ++ [1]⟩] :=
  plant_field_name {} Rule.all pw pA all_nodup pw_clean (by decide) pA_at pathFooBar (some pOuter) pFooBar
    pFooBar_mem rfl _ ⟨'B', by decide, by decide⟩ (fun _ => by decide)

example : lint {} Rule.all (renameField pA.path pathFooBar "descriptor".toList pw) =
    [⟨.FIELD_NO_DESCRIPTOR, pA.path, pathFooBar ++ [1]⟩] :=
  plant_field_descriptor {} Rule.all pw pA all_nodup pw_clean (by decide) pA_at pathFooBar (some pOuter)
    pFooBar pFooBar_mem _ (by decide) (fun _ _ => by decide)

example : lint {} Rule.all (setFieldComment pA.path pathFooBar [] pw) = [⟨.COMMENT_FIELD, pA.path, pathFooBar⟩] :=
  plant_field_comment {} Rule.all pw pA all_nodup pw_clean (by decide) pA_at pathFooBar (some pOuter) pFooBar
    pFooBar_mem rfl rfl [] (validLeadingComment_nil _)

example : lint {} Rule.all (setFieldRequired pA.path pathFooBar pw) =
    [⟨.FIELD_NOT_REQUIRED, pA.path, pathFooBar ++ [1]⟩] :=
  plant_field_required {} Rule.all pw pA all_nodup pw_clean (by decide) pA_at pathFooBar (some pOuter)
    pFooBar pFooBar_mem

example : lint {} Rule.all (renameOneof pA.path pathChoice "myChoice".toList pw) =
    [⟨.ONEOF_LOWER_SNAKE_CASE, pA.path, pathChoice ++ [1]⟩] :=
  plant_oneof_name {} Rule.all pw pA all_nodup pw_clean (by decide) pA_at pathChoice pOuter 0 pChoice
    pChoice_mem (by decide) _ ⟨'C', by decide, by decide⟩

example : lint {} Rule.all (setOneofComment pA.path pathChoice [] pw) = [⟨.COMMENT_ONEOF, pA.path, pathChoice⟩] :=
  plant_oneof_comment {} Rule.all pw pA all_nodup pw_clean (by decide) pA_at pathChoice pOuter 0 pChoice
    pChoice_mem rfl [] (validLeadingComment_nil _)

example : lint {} Rule.all (renameService pA.path pathSvc "fooService".toList pw) =
    [⟨.SERVICE_PASCAL_CASE, pA.path, pathSvc ++ [1]⟩] :=
  plant_service_name_case {} Rule.all pw pA all_nodup pw_clean (by decide) pA_at pathSvc pSvc pSvc_mem
    _ (Or.inr ⟨'f', "ooService".toList, rfl, by decide⟩) (fun _ => by decide) (fun _ => by decide)

example : lint {} Rule.all (renameService pA.path pathSvc "FooSvc".toList pw) =
    [⟨.SERVICE_SUFFIX, pA.path, pathSvc ++ [1]⟩] :=
  plant_service_suffix {} Rule.all pw pA all_nodup pw_clean (by decide +kernel) pA_at pathSvc pSvc pSvc_mem
    _ (by decide +kernel) (fun _ => by decide +kernel) (by decide +kernel)

example : lint {} Rule.all (setServiceComment pA.path pathSvc [] pw) = [⟨.COMMENT_SERVICE, pA.path, pathSvc⟩] :=
  plant_service_comment {} Rule.all pw pA all_nodup pw_clean (by decide) pA_at pathSvc pSvc pSvc_mem
    [] (validLeadingComment_nil _)

example : lint {} Rule.all (renameRpc pA.path pathList "listFoo".toList pw) =
    [⟨.RPC_PASCAL_CASE, pA.path, pathList ++ [1]⟩] :=
  plant_rpc_name {} Rule.all pw pA all_nodup pw_clean (by decide) pA_at pathList pSvc pList pList_mem
    _ (Or.inr ⟨'l', "istFoo".toList, rfl, by decide⟩) (fun _ => by decide)

example : lint {} Rule.all (setRpcComment pA.path pathList [] pw) = [⟨.COMMENT_RPC, pA.path, pathList⟩] :=
  plant_rpc_comment {} Rule.all pw pA all_nodup pw_clean (by decide) pA_at pathList pSvc pList pList_mem
    [] (validLeadingComment_nil _)

example : lint {} Rule.all (setClientStreaming pA.path pathList pw) =
    [⟨.RPC_NO_CLIENT_STREAMING, pA.path, pathList⟩] :=
  plant_rpc_client_streaming {} Rule.all pw pA all_nodup pw_clean (by decide) pA_at pathList pSvc pList pList_mem

example : lint {} Rule.all (setServerStreaming pA.path pathList pw) =
    [⟨.RPC_NO_SERVER_STREAMING, pA.path, pathList⟩] :=
  plant_rpc_server_streaming {} Rule.all pw pA all_nodup pw_clean (by decide) pA_at pathList pSvc pList pList_mem

example : lint {} Rule.all (setImportPublic pA.path 0 pw) = [⟨.IMPORT_NO_PUBLIC, pA.path, [3, 0]⟩] :=
  plant_import_public {} Rule.all pw pA all_nodup pw_clean (by decide) pA_at 0 pImp pImp_mem

example : lint {} Rule.all (setImportUnused pA.path 0 pw) = [⟨.IMPORT_USED, pA.path, [3, 0]⟩] :=
  plant_import_unused {} Rule.all pw pA all_nodup pw_clean (by decide) pA_at 0 pImp pImp_mem

example : lint {} Rule.all (setImportWeak pA.path 0 pw) = [] :=
  plant_import_weak_silent {} Rule.all pw pA pw_clean pA_at 0 pImp pImp_mem

example : lint {} Rule.all (unsetSyntax pA.path pw) = [⟨.SYNTAX_SPECIFIED, pA.path, []⟩] :=
  plant_syntax_unspecified {} Rule.all pw pA all_nodup pw_clean (by decide) pA_at

-- a non-standard request type that no other RPC uses: exactly one annotation
example : (⟨.RPC_REQUEST_STANDARD_NAME, pA.path, pathList ++ [2]⟩ : Annotation) ∈
    lint {} Rule.all (setRequestType pA.path pathList "acme.foo.v1.ListFooReq".toList pw) :=
  (plant_rpc_request_type {} Rule.all pw pA pw_clean (by decide +kernel) pw_full_names pA_at pathList pSvc pList pList_mem
    _ (by decide +kernel) _).mpr (Or.inl rfl)

example : lint {} Rule.all (setRequestType pA.path pathList "acme.foo.v1.ListFooReq".toList pw) =
    [⟨.RPC_REQUEST_STANDARD_NAME, pA.path, pathList ++ [2]⟩] :=
  (lint_of_dirty {} Rule.all _ _ fun r hr hnd =>
    clean_after_setType true {} pw pA pA_at pathList pSvc pList pList_mem _ r hnd (cleanB_rule pw_clean hr)).trans
    (by decide +kernel)

example : (⟨.RPC_RESPONSE_STANDARD_NAME, pA.path, pathList ++ [3]⟩ : Annotation) ∈
    lint {} Rule.all (setResponseType pA.path pathList "acme.foo.v1.ListFooReply".toList pw) :=
  (plant_rpc_response_type {} Rule.all pw pA pw_clean (by decide +kernel) pw_full_names pA_at pathList pSvc pList pList_mem
    _ (by decide +kernel) _).mpr (Or.inl rfl)

-- the same request message for two RPCs: both are reported
example :
    (⟨.RPC_REQUEST_RESPONSE_UNIQUE, pA.path, pathList⟩ : Annotation) ∈
      lint {} Rule.all (setRequestType pA.path pathList "acme.foo.v1.GetFooRequest".toList pw) ∧
    (⟨.RPC_REQUEST_RESPONSE_UNIQUE, pA.path, [6, 0, 2, 0]⟩ : Annotation) ∈
      lint {} Rule.all (setRequestType pA.path pathList "acme.foo.v1.GetFooRequest".toList pw) :=
  plant_rpc_reuse_detected {} Rule.all pw pA pw_clean (by decide) (by decide) pw_full_names pA_at pathList pSvc pList pList_mem
    _ (by decide) ⟨pA.path, [6, 0, 2, 0], pGet.inType, pGet.outType⟩ (by decide) (by decide) (by decide) (by decide)

example : lint {} Rule.all (setRequestType pA.path pathList "acme.foo.v1.GetFooRequest".toList pw) =
    [⟨.RPC_REQUEST_RESPONSE_UNIQUE, pA.path, [6, 0, 2, 0]⟩, ⟨.RPC_REQUEST_RESPONSE_UNIQUE, pA.path, pathList⟩,
     ⟨.RPC_REQUEST_STANDARD_NAME, pA.path, pathList ++ [2]⟩] :=
  (lint_of_dirty {} Rule.all _ _ fun r hr hnd =>
    clean_after_setType true {} pw pA pA_at pathList pSvc pList pList_mem _ r hnd (cleanB_rule pw_clean hr)).trans
    (by decide +kernel)

-- the same message as request and response of one RPC
example : (⟨.RPC_REQUEST_RESPONSE_UNIQUE, pA.path, pathList⟩ : Annotation) ∈
    lint {} Rule.all (setResponseType pA.path pathList pList.inType pw) :=
  plant_rpc_same_type_detected {} Rule.all pw pA pw_clean (by decide +kernel) (by decide +kernel) pw_full_names pA_at pathList pSvc pList pList_mem
    (by decide +kernel) rfl (by decide +kernel)

-- a package without version suffix (and not matching the directory): two of the four annotations, then all four
example : (⟨.PACKAGE_VERSION_SUFFIX, pA.path, [2]⟩ : Annotation) ∈
    lint {} Rule.all (setPackage pA.path "acme.foo_nv".toList pw) :=
  (plant_package {} Rule.all pw pA pw_clean pA_at "acme.foo_nv".toList (by decide +kernel) (fun _ => Or.inl (by decide +kernel))
    _).mpr (Or.inr (Or.inr (Or.inr (Or.inl ⟨by decide +kernel, by decide +kernel, by decide +kernel, rfl⟩))))

example : (⟨.DIRECTORY_SAME_PACKAGE, pB.path, [2]⟩ : Annotation) ∈
    lint {} Rule.all (setPackage pA.path "acme.foo_nv".toList pw) :=
  (plant_package {} Rule.all pw pA pw_clean pA_at "acme.foo_nv".toList (by decide) (fun _ => Or.inl (by decide))
    _).mpr (Or.inr (Or.inr (Or.inr (Or.inr (Or.inl
      ⟨by decide, ⟨pB, pB_mem, by decide, by decide⟩, pB, .tail _ (.head _), by decide, rfl⟩)))))

example : lint {} Rule.all (setPackage pA.path "acme.foo_nv".toList pw) =
    [⟨.DIRECTORY_SAME_PACKAGE, pA.path, [2]⟩, ⟨.DIRECTORY_SAME_PACKAGE, pB.path, [2]⟩,
     ⟨.PACKAGE_DIRECTORY_MATCH, pA.path, [2]⟩, ⟨.PACKAGE_VERSION_SUFFIX, pA.path, [2]⟩] := by
  rw [lint_of_dirty {} Rule.all _ pkgDirty
    (clean_after_setPackage {} Rule.all pw pA pw_clean pA_at _ (by decide +kernel) fun _ => Or.inl (by decide +kernel))]
  decide +kernel

example : (⟨.PACKAGE_VERSION_SUFFIX, pA.path, [2]⟩ : Annotation) ∈
    lint {} Rule.all (setPackage pA.path ("acme".toList ++ '.' :: 'f' :: "oo_nv".toList) pw) :=
  plant_package_no_version {} Rule.all pw pA pw_clean pA_at "acme".toList 'f' "oo_nv".toList (by decide +kernel) (by decide +kernel)
    (by decide +kernel) (fun _ => Or.inl (by decide +kernel)) (by decide +kernel)

-- acme.foo.v1_0: the underscore makes the last component a near miss, not a version
example : (⟨.PACKAGE_VERSION_SUFFIX, pA.path, [2]⟩ : Annotation) ∈
    lint {} Rule.all (setPackage pA.path ("acme.foo".toList ++ '.' :: 'v' :: "1_0".toList) pw) :=
  plant_package_version_near_miss {} Rule.all pw pA pw_clean pA_at "acme.foo".toList 'v' "1_0".toList '_'
    (by decide +kernel) (by decide +kernel) (by decide +kernel) (by decide +kernel) (by decide +kernel) (by decide +kernel) (fun _ => Or.inl (by decide +kernel)) (by decide +kernel)

example : (⟨.PACKAGE_LOWER_SNAKE_CASE, pA.path, [2]⟩ : Annotation) ∈
    lint {} Rule.all (setPackage pA.path "Acme.foo.v1".toList pw) :=
  plant_package_upper_case {} Rule.all pw pA pw_clean pA_at "Acme.foo.v1".toList 'A' (by decide +kernel) (by decide +kernel)
    (by decide +kernel) (fun _ => Or.inr (by decide +kernel)) (by decide +kernel)

-- files of one package with differing go_package: every file of the package is annotated
example : (⟨.PACKAGE_SAME_GO_PACKAGE, pB.path, [8, 11]⟩ : Annotation) ∈
    lint {} Rule.all (setLangOpt pA.path 1 (some "example.com/other".toList) pw) :=
  (plant_lang_option {} Rule.all pw pA pw_clean pA_at .PACKAGE_SAME_GO_PACKAGE 1 rfl (by decide)
    _ (by decide) (by decide) ⟨pB, pB_mem, by decide, by decide⟩ _).mpr ⟨pB, .tail _ (.head _), by decide, rfl⟩

example : lint {} Rule.all (setLangOpt pA.path 1 (some "example.com/other".toList) pw) =
    [⟨.PACKAGE_SAME_GO_PACKAGE, pA.path, [8, 11]⟩, ⟨.PACKAGE_SAME_GO_PACKAGE, pB.path, [8, 11]⟩] := by
  rw [lint_of_dirty {} Rule.all _ [.PACKAGE_SAME_GO_PACKAGE] fun r hr hnd =>
    clean_after_setLangOpt {} pw pA pA_at _ _ r (fun hi => hnd (List.mem_singleton.mpr (optIndex_inj hi rfl)))
      (cleanB_rule pw_clean hr)]
  decide +kernel

-- …and the other direction of the ↔: NOTHING but that rule is reported
example (a : Annotation) (h : a ∈ lint {} Rule.all (setLangOpt pA.path 1 (some "example.com/other".toList) pw)) :
    a.rule = .PACKAGE_SAME_GO_PACKAGE := by
  obtain ⟨g, _, _, rfl⟩ := (plant_lang_option {} Rule.all pw pA pw_clean pA_at .PACKAGE_SAME_GO_PACKAGE 1 rfl (by decide +kernel)
    _ (by decide +kernel) (by decide +kernel) ⟨pB, pB_mem, by decide +kernel, by decide +kernel⟩ a).mp h
  rfl

-- the VALUE SPACE of a grouping rule on the two-file package of `pw` (go_package is set to the
-- same non-default value in both files, every other option is unset in both):
-- unset vs EXPLICIT FALSE of java_multiple_files: a conflict, both files annotated — the file with the
-- statement at the statement, the other one without location
example : lint {} Rule.all (setLangOpt pA.path 2 (some "false".toList) pw) =
    [⟨.PACKAGE_SAME_JAVA_MULTIPLE_FILES, pA.path, [8, 10]⟩, ⟨.PACKAGE_SAME_JAVA_MULTIPLE_FILES, pB.path, []⟩] := by
  rw [lint_of_dirty {} Rule.all _ [.PACKAGE_SAME_JAVA_MULTIPLE_FILES] fun r hr hnd =>
    clean_after_setLangOpt {} pw pA pA_at _ _ r (fun hi => hnd (List.mem_singleton.mpr (optIndex_inj hi rfl)))
      (cleanB_rule pw_clean hr)]
  decide +kernel

example : (⟨.PACKAGE_SAME_JAVA_MULTIPLE_FILES, pB.path, []⟩ : Annotation) ∈
    lint {} Rule.all (setLangOpt pA.path 2 (some "false".toList) pw) :=
  (plant_lang_option {} Rule.all pw pA pw_clean pA_at .PACKAGE_SAME_JAVA_MULTIPLE_FILES 2 rfl (by decide)
    _ (by decide) (by decide) ⟨pB, pB_mem, by decide, by decide⟩ _).mpr ⟨pB, .tail _ (.head _), by decide, rfl⟩

-- explicit false vs explicit true
example : lint {} Rule.all (setLangOpt pB.path 2 (some "true".toList) (setLangOpt pA.path 2 (some "false".toList) pw)) =
    [⟨.PACKAGE_SAME_JAVA_MULTIPLE_FILES, pA.path, [8, 10]⟩, ⟨.PACKAGE_SAME_JAVA_MULTIPLE_FILES, pB.path, [8, 10]⟩] := by
  rw [lint_of_dirty {} Rule.all _ [.PACKAGE_SAME_JAVA_MULTIPLE_FILES] fun r hr hnd =>
    have hk := fun hi => hnd (List.mem_singleton.mpr (optIndex_inj hi rfl))
    clean_after_setLangOpt {} (setLangOpt pA.path 2 (some "false".toList) pw) pB
      ⟨.tail _ (.head _), rfl, by decide +kernel⟩ _ _ r hk
      (clean_after_setLangOpt {} pw pA pA_at _ _ r hk (cleanB_rule pw_clean hr))]
  decide +kernel

-- all equal explicit (false in both files): silent
example : lint {} Rule.all (setLangOpt pB.path 2 (some "false".toList) (setLangOpt pA.path 2 (some "false".toList) pw)) = [] := by
  rw [lint_of_dirty {} Rule.all _ [.PACKAGE_SAME_JAVA_MULTIPLE_FILES] fun r hr hnd =>
    have hk := fun hi => hnd (List.mem_singleton.mpr (optIndex_inj hi rfl))
    clean_after_setLangOpt {} (setLangOpt pA.path 2 (some "false".toList) pw) pB
      ⟨.tail _ (.head _), rfl, by decide +kernel⟩ _ _ r hk
      (clean_after_setLangOpt {} pw pA pA_at _ _ r hk (cleanB_rule pw_clean hr))]
  decide +kernel

-- unset vs explicit EMPTY STRING of a string option: one value, silent (theorem and evaluation)
example : lint {} Rule.all (setLangOpt pA.path 0 (some []) pw) = [] :=
  plant_lang_option_same_value_silent {} Rule.all pw pA pw_clean pA_at 0 (some []) (by decide) (by decide)

example : lint {} Rule.all (setLangOpt pA.path 0 (some []) pw) = [] := by decide +kernel

-- explicit empty string vs a non-default value: a conflict; the file with `option go_package = "";`
-- is annotated AT that statement (presence decides the location, not the value)
example : lint {} Rule.all (setLangOpt pA.path 1 (some []) pw) =
    [⟨.PACKAGE_SAME_GO_PACKAGE, pA.path, [8, 11]⟩, ⟨.PACKAGE_SAME_GO_PACKAGE, pB.path, [8, 11]⟩] := by
  rw [lint_of_dirty {} Rule.all _ [.PACKAGE_SAME_GO_PACKAGE] fun r hr hnd =>
    clean_after_setLangOpt {} pw pA pA_at _ _ r (fun hi => hnd (List.mem_singleton.mpr (optIndex_inj hi rfl)))
      (cleanB_rule pw_clean hr)]
  decide +kernel

-- non-default vs unset (the statement removed from one file)
example : lint {} Rule.all (setLangOpt pA.path 1 none pw) =
    [⟨.PACKAGE_SAME_GO_PACKAGE, pA.path, []⟩, ⟨.PACKAGE_SAME_GO_PACKAGE, pB.path, [8, 11]⟩] := by
  rw [lint_of_dirty {} Rule.all _ [.PACKAGE_SAME_GO_PACKAGE] fun r hr hnd =>
    clean_after_setLangOpt {} pw pA pA_at _ _ r (fun hi => hnd (List.mem_singleton.mpr (optIndex_inj hi rfl)))
      (cleanB_rule pw_clean hr)]
  decide +kernel

-- go_package differing in case only: a conflict (values are compared as strings)
example : lint {} Rule.all (setLangOpt pA.path 1 (some "example.com/Foo/v1;foov1".toList) pw) =
    [⟨.PACKAGE_SAME_GO_PACKAGE, pA.path, [8, 11]⟩, ⟨.PACKAGE_SAME_GO_PACKAGE, pB.path, [8, 11]⟩] := by
  rw [lint_of_dirty {} Rule.all _ [.PACKAGE_SAME_GO_PACKAGE] fun r hr hnd =>
    clean_after_setLangOpt {} pw pA pA_at _ _ r (fun hi => hnd (List.mem_singleton.mpr (optIndex_inj hi rfl)))
      (cleanB_rule pw_clean hr)]
  decide +kernel

example : ∃ f g h : File, optRaw f 2 = none ∧ optRaw g 2 = some "false".toList ∧ optRaw h 2 = some "true".toList :=
  ⟨pA, (setOpt 2 (some "false".toList) pA), (setOpt 2 (some "true".toList) pA), by decide, by decide, by decide⟩

example : ∃ f g : File, optRaw f 0 = none ∧ optRaw g 0 = some [] := ⟨pA, setOpt 0 (some []) pA, by decide, by decide⟩

-- moving a.proto to a directory that does not match its package: the package now lives in two
-- directories, both files are annotated
example : (⟨.PACKAGE_DIRECTORY_MATCH, "misc/elsewhere/a.proto".toList, [2]⟩ : Annotation) ∈
    lint {} Rule.all (moveFile pA.path "misc/elsewhere/a.proto".toList pw) :=
  (plant_file_move {} Rule.all pw pA pw_clean pA_at _ (by decide) (fun _ => by decide)
    _).mpr (Or.inr (Or.inl ⟨by decide, by decide, by decide, rfl⟩))

example : (⟨.PACKAGE_SAME_DIRECTORY, pB.path, [2]⟩ : Annotation) ∈
    lint {} Rule.all (moveFile pA.path "misc/elsewhere/a.proto".toList pw) :=
  (plant_file_move {} Rule.all pw pA pw_clean pA_at _ (by decide) (fun _ => by decide)
    _).mpr (Or.inr (Or.inr ⟨by decide, ⟨pB, pB_mem, by decide, by decide, by decide⟩,
      pB, .tail _ (.head _), by decide, rfl⟩))

example : lint {} Rule.all (moveFile pA.path "misc/elsewhere/a.proto".toList pw) =
    [⟨.PACKAGE_DIRECTORY_MATCH, "misc/elsewhere/a.proto".toList, [2]⟩,
     ⟨.PACKAGE_SAME_DIRECTORY, "misc/elsewhere/a.proto".toList, [2]⟩, ⟨.PACKAGE_SAME_DIRECTORY, pB.path, [2]⟩] := by
  rw [lint_of_dirty {} Rule.all _ moveDirty
    (clean_after_moveFile {} Rule.all pw pA pw_clean pA_at _ (by decide +kernel) fun _ => by decide +kernel)]
  decide +kernel

-- a file name that is not lower_snake_case, same directory
example : (⟨.FILE_LOWER_SNAKE_CASE, "acme/foo/v1/aX.proto".toList, []⟩ : Annotation) ∈
    lint {} Rule.all (moveFile pA.path "acme/foo/v1/aX.proto".toList pw) :=
  (plant_file_move {} Rule.all pw pA pw_clean pA_at _ (by decide +kernel) (fun _ => by decide +kernel)
    _).mpr (Or.inl ⟨by decide +kernel, by decide +kernel, rfl⟩)

-- TWO violations of one rule at once (a nested and a top-level enum renamed), by evaluation
example : (⟨.ENUM_PASCAL_CASE, pA.path, pathColor ++ [1]⟩ : Annotation) ∈
    lint {} Rule.all (renameEnum pA.path pathColor "color".toList (renameEnum pA.path [5, 0] "kind".toList pw)) ∧
    (⟨.ENUM_PASCAL_CASE, pA.path, [5, 0, 1]⟩ : Annotation) ∈
    lint {} Rule.all (renameEnum pA.path pathColor "color".toList (renameEnum pA.path [5, 0] "kind".toList pw)) := by
  decide +kernel

end BufProofs.C05
