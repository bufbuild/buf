import BufProofs.Lemmas.MigrateRulesSpec
/-
  C16 migration theorems, part "witnesses for ignore_only" (see Props/C16MigrateWitness.lean, also
  for why facts are evaluated together and then stated one by one).
-/
namespace BufProofs.C16
open BufModel.Path BufModel.Rules BufModel.MigrateRules BufGen.RuleTables

/-! ### ignore_only: both exceptions are necessary, the hypotheses are satisfiable -/

/-- The facts of the two counterexamples below, and of the collision witness under the repaired
    `undeprecateMap` (the `example`s at the end): all about breaking rules, so evaluated together.
    (`decide _ = true` per part: the `Decidable` instance of the plain conjunction is larger than
    instance synthesis builds in one piece.) -/
private theorem breaking_witnesses :
    decide (
      migrateCheck (rulesOf .v1beta1) (rulesOf .v2) false (chkCfg ["FILE"] [] [("WIRE_JSON", ["f".toList])]) =
        .ok (chkCfg ["FILE"] ["EXTENSION_NO_DELETE", "FIELD_SAME_DEFAULT"] [("WIRE_JSON", ["f".toList])]) ∧
      sharedRule .v1beta1 false "FILE_SAME_PACKAGE" = true ∧
      (newRulesConfig (rulesOf .v1beta1) false (chkCfg ["FILE"] [] [("WIRE_JSON", ["f".toList])])).map
        (fun rc => rc.ignoreOnly.contains ("FILE_SAME_PACKAGE", "f".toList)) = .ok false ∧
      (newRulesConfig (rulesOf .v2) false
          (chkCfg ["FILE"] ["EXTENSION_NO_DELETE", "FIELD_SAME_DEFAULT"] [("WIRE_JSON", ["f".toList])])).map
        (fun rc => rc.ignoreOnly.contains ("FILE_SAME_PACKAGE", "f".toList)) = .ok true) = true ∧
    decide (
      (migrateCheck (rulesOf .v1) (rulesOf .v2) false
          (chkCfg ["FILE"] [] [("FIELD_SAME_LABEL", ["a".toList]), ("FIELD_SAME_CARDINALITY", ["b".toList])])).map
        (fun c => sortIgnoreOnly c.ignoreOnly) =
        .ok [("FIELD_SAME_CARDINALITY", ["b".toList]), ("FIELD_WIRE_COMPATIBLE_CARDINALITY", ["a".toList]),
             ("FIELD_WIRE_JSON_COMPATIBLE_CARDINALITY", ["a".toList])] ∧
      (migrateCheck (rulesOf .v1) (rulesOf .v2) false
          (chkCfg ["FILE"] [] [("FIELD_SAME_CARDINALITY", ["b".toList]), ("FIELD_SAME_LABEL", ["a".toList])])).map
        (fun c => sortIgnoreOnly c.ignoreOnly) =
        .ok [("FIELD_SAME_CARDINALITY", ["a".toList]), ("FIELD_WIRE_COMPATIBLE_CARDINALITY", ["a".toList]),
             ("FIELD_WIRE_JSON_COMPATIBLE_CARDINALITY", ["a".toList])] ∧
      (newRulesConfig (rulesOf .v1) false
          (chkCfg ["FILE"] [] [("FIELD_SAME_LABEL", ["a".toList]), ("FIELD_SAME_CARDINALITY", ["b".toList])])).map
        (fun rc => (rc.ignoreOnly.filter (·.1 = "FIELD_SAME_CARDINALITY")).map (·.2)) = .ok ["a".toList, "b".toList]) = true ∧
    decide (
      ((migrateCheckFixed true (rulesOf .v1) (rulesOf .v2) false
          (chkCfg ["FILE"] [] [("FIELD_SAME_LABEL", ["a".toList]), ("FIELD_SAME_CARDINALITY", ["b".toList, "a/x".toList])])).map
          (fun c => sortIgnoreOnly c.ignoreOnly) =
        .ok [("FIELD_SAME_CARDINALITY", ["a".toList, "b".toList]), ("FIELD_WIRE_COMPATIBLE_CARDINALITY", ["a".toList]),
             ("FIELD_WIRE_JSON_COMPATIBLE_CARDINALITY", ["a".toList])]) ∧
      (migrateCheckFixed true (rulesOf .v1) (rulesOf .v2) false
          (chkCfg ["FILE"] [] [("FIELD_SAME_CARDINALITY", ["b".toList, "a/x".toList]), ("FIELD_SAME_LABEL", ["a".toList])])).map
          (fun c => sortIgnoreOnly c.ignoreOnly) =
        .ok [("FIELD_SAME_CARDINALITY", ["a".toList, "b".toList]), ("FIELD_WIRE_COMPATIBLE_CARDINALITY", ["a".toList]),
             ("FIELD_WIRE_JSON_COMPATIBLE_CARDINALITY", ["a".toList])]) = true := by decide +kernel

/-- Exception `driftingCategories` is necessary (the recorded finding
    migrate-breaking-changed-ignore-only-category-key): v1beta1 `use: [FILE]`,
    `ignore_only: {WIRE_JSON: [f]}` — FILE_SAME_PACKAGE is not a member of WIRE_JSON in v1beta1,
    so nothing is ignored for it; the key is copied verbatim, in v2 it IS a member, so after the
    migration FILE_SAME_PACKAGE is ignored under `f`. -/
theorem migrate_ignore_only_category_counterexample :
    migrateCheck (rulesOf .v1beta1) (rulesOf .v2) false (chkCfg ["FILE"] [] [("WIRE_JSON", ["f".toList])]) =
      .ok (chkCfg ["FILE"] ["EXTENSION_NO_DELETE", "FIELD_SAME_DEFAULT"] [("WIRE_JSON", ["f".toList])]) ∧
    sharedRule .v1beta1 false "FILE_SAME_PACKAGE" = true ∧
    (newRulesConfig (rulesOf .v1beta1) false (chkCfg ["FILE"] [] [("WIRE_JSON", ["f".toList])])).map
      (fun rc => rc.ignoreOnly.contains ("FILE_SAME_PACKAGE", "f".toList)) = .ok false ∧
    (newRulesConfig (rulesOf .v2) false
        (chkCfg ["FILE"] ["EXTENSION_NO_DELETE", "FIELD_SAME_DEFAULT"] [("WIRE_JSON", ["f".toList])])).map
      (fun rc => rc.ignoreOnly.contains ("FILE_SAME_PACKAGE", "f".toList)) = .ok true :=
  of_decide_eq_true breaking_witnesses.1

/-- Exception `CollisionFree` is necessary, and in `migrateCheck` it is a defect of the migrator
    (repaired by 2afb6fd of /repo; replayed on the implementation, oracle class
    migrate-ignore-only-key-collision): the deprecated
    FIELD_SAME_LABEL is replaced by FIELD_SAME_CARDINALITY (and two more); when FIELD_SAME_CARDINALITY
    is a key as well, `undeprecateMap` keeps the paths of whichever key Go's map iteration visits
    last — the two iteration orders give different files, and each loses a path
    (`a` resp. `b` is no longer ignored for FIELD_SAME_CARDINALITY). -/
theorem migrate_ignore_only_collision_counterexample :
    (migrateCheck (rulesOf .v1) (rulesOf .v2) false
        (chkCfg ["FILE"] [] [("FIELD_SAME_LABEL", ["a".toList]), ("FIELD_SAME_CARDINALITY", ["b".toList])])).map
      (fun c => sortIgnoreOnly c.ignoreOnly) =
      .ok [("FIELD_SAME_CARDINALITY", ["b".toList]), ("FIELD_WIRE_COMPATIBLE_CARDINALITY", ["a".toList]),
           ("FIELD_WIRE_JSON_COMPATIBLE_CARDINALITY", ["a".toList])] ∧
    (migrateCheck (rulesOf .v1) (rulesOf .v2) false
        (chkCfg ["FILE"] [] [("FIELD_SAME_CARDINALITY", ["b".toList]), ("FIELD_SAME_LABEL", ["a".toList])])).map
      (fun c => sortIgnoreOnly c.ignoreOnly) =
      .ok [("FIELD_SAME_CARDINALITY", ["a".toList]), ("FIELD_WIRE_COMPATIBLE_CARDINALITY", ["a".toList]),
           ("FIELD_WIRE_JSON_COMPATIBLE_CARDINALITY", ["a".toList])] ∧
    (newRulesConfig (rulesOf .v1) false
        (chkCfg ["FILE"] [] [("FIELD_SAME_LABEL", ["a".toList]), ("FIELD_SAME_CARDINALITY", ["b".toList])])).map
      (fun rc => (rc.ignoreOnly.filter (·.1 = "FIELD_SAME_CARDINALITY")).map (·.2)) = .ok ["a".toList, "b".toList] :=
  of_decide_eq_true breaking_witnesses.2.1

-- the hypotheses of `migrate_preserves_ignore_only` are satisfiable with keys of every kind: a
-- deprecated rule, a v1beta1-only category, a rule v2 does not have, a plain rule
example : CollisionFree (translateId (oldRules .v1beta1 true) (v2Rules true))
    [("FILE_LAYOUT", ["a".toList]), ("FIELD_NO_DESCRIPTOR", ["b".toList]), ("ENUM_PASCAL_CASE", ["c".toList])] := by
  decide +kernel
example : migrateCheck (rulesOf .v1beta1) (rulesOf .v2) true
    (chkCfg ["STYLE_BASIC"] [] [("FILE_LAYOUT", ["a".toList]), ("FIELD_NO_DESCRIPTOR", ["b".toList]), ("ENUM_PASCAL_CASE", ["c".toList])]) =
    .ok (chkCfg ["ENUM_PASCAL_CASE", "ENUM_VALUE_UPPER_SNAKE_CASE", "FIELD_LOWER_SNAKE_CASE", "MESSAGE_PASCAL_CASE",
                "ONEOF_LOWER_SNAKE_CASE", "PACKAGE_LOWER_SNAKE_CASE", "RPC_PASCAL_CASE", "SERVICE_PASCAL_CASE"] []
          [("DIRECTORY_SAME_PACKAGE", ["a".toList]), ("PACKAGE_DIRECTORY_MATCH", ["a".toList]),
           ("PACKAGE_SAME_DIRECTORY", ["a".toList]), ("ENUM_PASCAL_CASE", ["c".toList])]) := by decide +kernel
example : ¬ CollisionFree (translateId (oldRules .v1 false) (v2Rules false))
    [("FIELD_SAME_LABEL", ["a".toList]), ("FIELD_SAME_CARDINALITY", ["b".toList])] := by decide +kernel

/-! ### the repair on the collision witness -/

-- the witness of `migrate_ignore_only_collision_counterexample` under the repaired `undeprecateMap`:
-- both iteration orders give the same map, no path is lost (`a/x` is dropped because `a` contains it)
example : (migrateCheckFixed true (rulesOf .v1) (rulesOf .v2) false
      (chkCfg ["FILE"] [] [("FIELD_SAME_LABEL", ["a".toList]), ("FIELD_SAME_CARDINALITY", ["b".toList, "a/x".toList])])).map
      (fun c => sortIgnoreOnly c.ignoreOnly) =
    .ok [("FIELD_SAME_CARDINALITY", ["a".toList, "b".toList]), ("FIELD_WIRE_COMPATIBLE_CARDINALITY", ["a".toList]),
         ("FIELD_WIRE_JSON_COMPATIBLE_CARDINALITY", ["a".toList])] := (of_decide_eq_true breaking_witnesses.2.2).1
example : (migrateCheckFixed true (rulesOf .v1) (rulesOf .v2) false
      (chkCfg ["FILE"] [] [("FIELD_SAME_CARDINALITY", ["b".toList, "a/x".toList]), ("FIELD_SAME_LABEL", ["a".toList])])).map
      (fun c => sortIgnoreOnly c.ignoreOnly) =
    .ok [("FIELD_SAME_CARDINALITY", ["a".toList, "b".toList]), ("FIELD_WIRE_COMPATIBLE_CARDINALITY", ["a".toList]),
         ("FIELD_WIRE_JSON_COMPATIBLE_CARDINALITY", ["a".toList])] := (of_decide_eq_true breaking_witnesses.2.2).2


end BufProofs.C16
