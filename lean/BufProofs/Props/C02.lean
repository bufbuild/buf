import BufProofs.Lemmas.ParallelLemmas
import BufProofs.Props.C15
import BufProofs.Props.C01
import BufProofs.Props.C08
import BufProofs.Props.C20
import BufProofs.Lemmas.OrderClauseLemmas
/-
  C02 — Outputs are deterministic and independent of scheduling and enumeration order.

  The logic part of the property is a family of permutation-invariance theorems: wherever the
  code fans work out or enumerates a map/bucket, the observable result is a function of the
  *set* of inputs, not of the order the runtime produced them in.  This file states the
  scheduler-level theorems and gathers the order-independence theorems proved with the other
  properties' models.  Real goroutine schedules are explored, not proved (DESIGN.md §8).
-/
namespace BufProofs.C02
open BufModel.Parallel

/-- parallelize_schedule_irrelevant (verdict): whether thread.Parallelize returns an error
    depends only on whether some job fails — not on completion order, not on when a
    cancellation becomes visible to the dispatch loop, with or without cancel-on-failure. -/
theorem parallelize_verdict_schedule_irrelevant (cancel : Bool) (jobs : List JobSlot) :
    verdict cancel jobs = jobs.any (·.fails) :=
  verdictGo_false cancel jobs

theorem any_fails_zip (fails : List Bool) : ∀ (sees : List Bool), sees.length = fails.length →
    (((fails.zip sees).map fun p => (⟨p.1, p.2⟩ : JobSlot)).any (·.fails)) = fails.any id := by
  induction fails with
  | nil => intro sees _; simp
  | cons f rest ih =>
    intro sees h
    cases sees with
    | nil => simp at h
    | cons s srest =>
      simp only [List.zip_cons_cons, List.map_cons, List.any_cons, id]
      rw [ih srest (by simpa using h)]

theorem parallelize_verdict_same_for_all_schedules (c₁ c₂ : Bool) (fails : List Bool) (sees₁ sees₂ : List Bool)
    (h₁ : sees₁.length = fails.length) (h₂ : sees₂.length = fails.length) :
    verdict c₁ ((fails.zip sees₁).map fun p => ⟨p.1, p.2⟩) =
      verdict c₂ ((fails.zip sees₂).map fun p => ⟨p.1, p.2⟩) := by
  rw [parallelize_verdict_schedule_irrelevant, parallelize_verdict_schedule_irrelevant]
  rw [any_fails_zip fails sees₁ h₁, any_fails_zip fails sees₂ h₂]

/-- parallelize_schedule_irrelevant (which errors, in which order): the combined error lists
    the failing jobs in JOB order; it depends on the schedule only through the SET of jobs that
    ran and the point where dispatch stopped — never on the order in which jobs completed. -/
theorem parallelize_errors_completion_order_irrelevant (fails : List Bool) (c₁ c₂ : List Nat) (stopAt : Option Nat)
    (hsame : ∀ i, i ∈ c₁ ↔ i ∈ c₂) : joinedErrors fails c₁ stopAt = joinedErrors fails c₂ stopAt := by
  unfold joinedErrors
  have : ∀ i, c₁.contains i = c₂.contains i := by
    intro i
    apply Bool.eq_iff_iff.mpr
    simp only [List.contains_iff_mem]
    exact hsame i
  simp only [this]

/-- Without cancel-on-failure every job runs, so the combined error is exactly the failing jobs
    in job order, whatever the schedule. -/
theorem parallelize_errors_without_cancel (fails : List Bool) (completed : List Nat)
    (hall : ∀ i, i < fails.length → i ∈ completed) :
    joinedErrors fails completed none =
      ((List.range fails.length).filter fun i => fails.getD i false).map .job := by
  unfold joinedErrors
  rw [← List.filterMap_eq_map, List.filterMap_filter]
  apply ListLemmas.filterMap_congr
  intro i hi
  have hlt : i < fails.length := List.mem_range.mp hi
  have hm : i ∈ completed := hall i hlt
  cases fails.getD i false <;> simp [hm]

/-- The recorded finding (fixed in /repo 6d16415): the old code listed the errors in
    completion order, so two schedules of the same two failing jobs gave different outputs. -/
theorem parallelize_error_order_counterexample :
    joinedErrorsOld [true, true] [0, 1] ≠ joinedErrorsOld [true, true] [1, 0] := by decide

example : joinedErrors [true, false, true] [2, 0, 1] none = [.job 0, .job 2] := by decide
example : joinedErrors [true, false, true] [0] (some 1) = [.job 0, .ctx] := by decide

/-- "collect concurrently, then sort" is canonical: any two completion orders of the same
    results give the same sorted list, provided the comparison is a total order on them
    (checkAndSortFiles orders by position among the input paths; annotation sets, module lists, directory lists and rule
    lists sort by their unique keys). -/
theorem collect_then_sort_schedule_irrelevant {α : Type} (le : α → α → Bool)
    (trans : ∀ a b c : α, le a b → le b c → le a c)
    (total : ∀ a b : α, le a b || le b a)
    (antisymm : ∀ a b : α, le a b → le b a → a = b)
    (arrived₁ arrived₂ : List α) (h : arrived₁.Perm arrived₂) :
    collectSorted le arrived₁ = collectSorted le arrived₂ :=
  sort_canonical le trans total antisymm arrived₁ arrived₂ h

/-- storage.Copy: the verdict does not depend on the order in which the copy jobs ran. -/
theorem copy_verdict_schedule_irrelevant (fx : BufModel.Faults.Facts) (s : BufModel.Faults.Sched)
    (d₁ d₂ : BufModel.Faults.Dest) (jobs₁ jobs₂ : List (BufModel.Path.Str × List BufModel.Bucket.Content))
    (hperm : jobs₁.Perm jobs₂) :
    (BufModel.Faults.copyAll fx s d₁ jobs₁).1 = (BufModel.Faults.copyAll fx s d₂ jobs₂).1 :=
  BufProofs.C15.copyAll_verdict_schedule_independent fx s d₁ d₂ jobs₁ jobs₂ hperm

/-- Buckets: two memory buckets holding the same map (whatever the insertion / enumeration
    order of the underlying storage) answer every walk with the same set of objects. -/
theorem walk_is_a_function_of_the_map (m₁ m₂ : BufModel.Bucket.Mem)
    (hv₁ : BufModel.Bucket.KeysValid m₁) (hn₁ : BufModel.Bucket.NodupKeys m₁)
    (hv₂ : BufModel.Bucket.KeysValid m₂) (hn₂ : BufModel.Bucket.NodupKeys m₂)
    (hsame : ∀ k : BufModel.Path.Key, BufModel.Path.AllProper k →
      m₁.find (BufModel.Path.renderKey k) = m₂.find (BufModel.Path.renderKey k))
    (pfx : BufModel.Path.Str) (o₁ o₂ : List (BufModel.Path.Str × BufModel.Bucket.Content))
    (h₁ : BufModel.Bucket.memWalk m₁ pfx = .ok o₁) (h₂ : BufModel.Bucket.memWalk m₂ pfx = .ok o₂) :
    ∀ (k : BufModel.Path.Key) (c : BufModel.Bucket.Content), BufModel.Path.AllProper k →
      ((BufModel.Path.renderKey k, c) ∈ o₁ ↔ (BufModel.Path.renderKey k, c) ∈ o₂) := by
  obtain ⟨kq₁, hk₁, hnv₁, _, _, hall₁⟩ := BufModel.Bucket.memWalk_exact m₁ hv₁ hn₁ pfx o₁ h₁
  obtain ⟨kq₂, hk₂, hnv₂, _, _, hall₂⟩ := BufModel.Bucket.memWalk_exact m₂ hv₂ hn₂ pfx o₂ h₂
  obtain rfl := BufModel.Bucket.renderKey_inj_of_validate hk₁ hk₂ hnv₁ hnv₂
  intro k c hk
  rw [hall₁ k c hk, hall₂ k c hk, hsame k hk]

/-- Image build: the image is the same whatever order the (concurrent) compiler returned the
    compiled files in — every permutation. -/
theorem image_independent_of_compile_order (t : BufModel.Targeting.TWS) (c : BufModel.Targeting.Compiler)
    (perm : List BufModel.Path.Str → List BufModel.Path.Str) (h : ∀ l, (perm l).Perm l) :
    BufModel.Targeting.buildImage t c perm = BufModel.Targeting.buildImage t c id :=
  BufProofs.C01.sort_canonical t c perm h

/-- Module digests: any enumeration order of the storage walk gives the same digest … -/
theorem digest_independent_of_walk_order (H : BufModel.Manifest.Bytes → BufModel.Manifest.Digest)
    (b₁ b₂ : BufModel.Digest.Bucket) (deps : List BufModel.Digest.MDigest)
    (hok : BufModel.Digest.BucketOK b₁) (hperm : List.Perm b₁ b₂) :
    BufModel.Digest.moduleB5 H b₁ deps = BufModel.Digest.moduleB5 H b₂ deps :=
  BufProofs.C08.digest_walk_order H b₁ b₂ deps hok hperm

/-- … and any order in which the dependencies were listed. -/
theorem digest_independent_of_dep_order (H : BufModel.Manifest.Bytes → BufModel.Manifest.Digest)
    (b : BufModel.Digest.Bucket) (d₁ d₂ : List BufModel.Digest.MDigest) (h : d₁.Perm d₂) :
    BufModel.Digest.moduleB5 H b d₁ = BufModel.Digest.moduleB5 H b d₂ :=
  BufProofs.C08.digest_perm_deps H b d₁ d₂ h

/-- Diagnostics: the printed annotation list does not depend on the order in which rules,
    plugins or goroutines produced the annotations. -/
theorem annotations_independent_of_arrival_order (l1 l2 : List BufModel.Annot.Annot)
    (h : l1.Perm l2) (hk : BufModel.Annot.KeyDet l1) :
    BufModel.Annot.dedupSort l1 = BufModel.Annot.dedupSort l2 :=
  BufProofs.C20.dedupSort_perm l1 l2 h hk

/-- Many diagnostics, no cap (the code that exists): the printed list is a function of the SET
    of problems found — any two schedules (arrival orders) of the same problems print the same
    list … -/
theorem report_uncapped_schedule_irrelevant {α : Type} (le : α → α → Bool)
    (trans : ∀ a b c : α, le a b → le b c → le a c)
    (total : ∀ a b : α, le a b || le b a)
    (antisymm : ∀ a b : α, le a b → le b a → a = b)
    (arrived₁ arrived₂ : List α) (h : arrived₁.Perm arrived₂) :
    reportSorted le none arrived₁ = reportSorted le none arrived₂ :=
  sort_canonical le trans total antisymm arrived₁ arrived₂ h

/-- … and it is COMPLETE: every problem found is printed exactly once (the harness compares the
    number of reported diagnostics with its own bookkeeping of what it planted). -/
theorem report_uncapped_complete {α : Type} (le : α → α → Bool) (arrived : List α) :
    (reportSorted le none arrived).Perm arrived ∧ (reportSorted le none arrived).length = arrived.length :=
  ⟨List.mergeSort_perm arrived le, (List.mergeSort_perm arrived le).length_eq⟩

/-- A cap on the shared collector is invisible while the input has at most `n` problems (why no
    small workspace notices one) … -/
theorem report_capped_small_input_schedule_irrelevant {α : Type} (le : α → α → Bool)
    (trans : ∀ a b c : α, le a b → le b c → le a c)
    (total : ∀ a b : α, le a b || le b a)
    (antisymm : ∀ a b : α, le a b → le b a → a = b)
    (n : Nat) (arrived₁ arrived₂ : List α) (h : arrived₁.Perm arrived₂) (hsmall : arrived₁.length ≤ n) :
    reportSorted le (some n) arrived₁ = reportSorted le (some n) arrived₂ := by
  unfold reportSorted collectCapped
  simp only
  rw [List.take_of_length_le hsmall, List.take_of_length_le (h.length_eq ▸ hsmall)]
  exact sort_canonical le trans total antisymm arrived₁ arrived₂ h

/-- … with more than `n` problems it prints exactly `n` of them — fewer than were planted,
    whatever the schedule (the count oracle) … -/
theorem report_capped_truncates {α : Type} (le : α → α → Bool) (n : Nat) (arrived : List α)
    (hmany : n < arrived.length) :
    (reportSorted le (some n) arrived).length = n ∧ (reportSorted le (some n) arrived).length < arrived.length := by
  have hl : (reportSorted le (some n) arrived).length = n := by
    unfold reportSorted collectCapped collectSorted
    simp only
    rw [(List.mergeSort_perm _ le).length_eq, List.length_take]
    omega
  exact ⟨hl, by omega⟩

/-- … and WHICH ones depends on the schedule: two arrival orders of the same two problems. -/
theorem report_capped_counterexample :
    reportSorted (fun a b : Nat => decide (a ≤ b)) (some 1) [1, 2] ≠
      reportSorted (fun a b : Nat => decide (a ≤ b)) (some 1) [2, 1] := by
  simp [reportSorted, collectCapped, collectSorted]

/-! ### The join: the call returns only after every dispatched job has finished -/

/-- What holds in every state of the machine `prun` (any event list whatsoever). -/
structure PInv (par : Nat) (s : PSt) : Prop where
  retIdle : s.returned = true → s.running = []
  cover : ∀ i ∈ s.started, i ∈ s.running ∨ i ∈ s.finished
  bound : s.running.length ≤ par

theorem pinv_init (par : Nat) : PInv par PSt.init :=
  ⟨fun _ => rfl, fun _ h => (nomatch h), Nat.zero_le _⟩

theorem pstep_inv (par : Nat) (s : PSt) (inv : PInv par s) (e : PEv) : PInv par (pstep par s e) := by
  cases e with
  | start i =>
    simp only [pstep, pstepWith]
    split
    · exact inv
    · rename_i hc
      simp only [Bool.or_eq_true, decide_eq_true_eq, not_or, Bool.not_eq_true] at hc
      obtain ⟨⟨hret, hlen⟩, _⟩ := hc
      refine ⟨?_, ?_, ?_⟩
      · intro h; simp only at h; rw [hret] at h; cases h
      · exact List.forall_mem_cons.mpr
          ⟨Or.inl List.mem_cons_self, fun j hj => (inv.cover j hj).imp_left (List.mem_cons_of_mem _)⟩
      · simp only [List.length_cons]; omega
  | finish i =>
    simp only [pstep, pstepWith]
    split
    · rename_i hc
      refine ⟨?_, ?_, ?_⟩
      · intro h; simp only at h
        have := inv.retIdle h
        rw [this] at hc; simp at hc
      · intro j hj
        by_cases e : j = i
        · exact Or.inr (e ▸ List.mem_cons_self)
        · exact (inv.cover j hj).imp (List.mem_erase_of_ne e).mpr (List.mem_cons_of_mem _)
      · exact Nat.le_trans (List.erase_sublist).length_le inv.bound
    · exact inv
  | ret =>
    simp only [pstep, pstepWith]
    split
    · exact inv
    · split
      · rename_i hr
        exact ⟨fun _ => by simpa using hr, inv.cover, inv.bound⟩
      · exact inv

theorem prun_inv (par : Nat) (evs : List PEv) (s : PSt) (inv : PInv par s) : PInv par (prun par s evs) := by
  induction evs generalizing s with
  | nil => exact inv
  | cons e rest ih => exact ih _ (pstep_inv par s inv e)

/-- Whatever the schedule (ANY list of start / finish /
    return events — disabled ones are no-ops), once `thread.Parallelize` has returned no job of it is
    running, and every job that ever started has finished.  With or without cancel-on-failure, with
    or without a failing job: the code path to the return is `wg.Wait()`. -/
theorem parallelize_waits_for_all_dispatched (par : Nat) (evs : List PEv)
    (h : (prun par PSt.init evs).returned = true) :
    (prun par PSt.init evs).running = [] ∧
      ∀ i ∈ (prun par PSt.init evs).started, i ∈ (prun par PSt.init evs).finished := by
  have inv := prun_inv par evs PSt.init (pinv_init par)
  have hr := inv.retIdle h
  refine ⟨hr, fun i hi => ?_⟩
  rcases inv.cover i hi with h' | h'
  · rw [hr] at h'; cases h'
  · exact h'

/-- … and after the return nothing happens any more: no job starts, none is left to finish. -/
theorem parallelize_inert_after_return (par : Nat) (s : PSt) (hret : s.returned = true) (hrun : s.running = [])
    (e : PEv) : pstep par s e = s := by
  cases e with
  | start i => simp [pstep, pstepWith, hret]
  | finish i => simp [pstep, pstepWith, hrun]
  | ret => simp [pstep, pstepWith, hret]

theorem parallelize_nothing_after_return (par : Nat) (evs later : List PEv)
    (h : (prun par PSt.init evs).returned = true) :
    prun par PSt.init (evs ++ later) = prun par PSt.init evs := by
  have hrun := (parallelize_waits_for_all_dispatched par evs h).1
  unfold prun at *
  rw [List.foldl_append]
  generalize List.foldl (pstep par) PSt.init evs = s at h hrun
  induction later with
  | nil => rfl
  | cons e rest ih =>
    simp only [List.foldl_cons]
    rw [parallelize_inert_after_return par s h hrun e]
    exact ih

/-- "A max of Parallelism jobs will be run at once." -/
theorem parallelize_at_most_par_running (par : Nat) (evs : List PEv) :
    (prun par PSt.init evs).running.length ≤ par :=
  (prun_inv par evs PSt.init (pinv_init par)).bound

/-- The stored regression (seed C09-m8, "fail fast"): if the call may return as soon as a finished
    job has failed, it returns while job 0 is still running — and job 0's later writes happen
    after the caller (the module cache's store) has released its lock. -/
theorem parallelize_failfast_counterexample :
    let s := prunWith (some [false, true]) 2 PSt.init [.start 0, .start 1, .finish 1, .ret]
    s.returned = true ∧ s.running = [0] ∧
      (prunWith (some [false, true]) 2 s [.finish 0]).finished = [0, 1] := by decide

-- the return is reachable (the theorems above are not vacuous), and the same events under the code that exists
example : (prun 2 PSt.init [.start 0, .start 1, .finish 1, .finish 0, .ret]).returned = true := by decide
example : (prun 2 PSt.init [.start 0, .start 1, .finish 1, .ret]).returned = false := by decide
example : (prun 1 PSt.init [.start 0, .start 1]).running = [0] := by decide

/-! ## Order clauses on FILTERED images (bufimageutil `--type` / FilterImage)

  `closure.imports[file]` is a Go map: its iteration order is part of the schedule.  The harness
  family "filter" (harness/cmd/c02/filterfam.go) checks the statements below on the real code. -/
section Filtered
open BufModel.Filter BufModel.OrderClauses BufProofs.OrderClause BufProofs.FilterRewrite

/-- The rewritten dependency list of a filtered file does not depend on the order in which the
    map iteration hands over the required imports (any permutation of the closure's import edges). -/
theorem filter_dependency_list_map_order_irrelevant (st₁ st₂ : St) (f : File)
    (h : st₁.edges.Perm st₂.edges) :
    (remapDeps st₁ f).1.map (·.file) = (remapDeps st₂ f).1.map (·.file) := by
  rw [oc_remapDeps_eq, oc_remapDeps_eq,
    oc_keptDeps_perm (oc_requiredOf_perm h f) f, oc_gainedDeps_perm (oc_requiredOf_perm h f) f]

/-- … and it has the shape the harness oracle checks ("as coded"): the kept imports in their old
    relative order, followed by the imports gained through `import public` in strictly ascending
    order; the gained ones were not in the old list, and everything listed is required. -/
theorem filter_dependency_list_shape (st : St) (f : File) :
    ∃ kept gained : List Id,
      (remapDeps st f).1.map (·.file) = kept ++ gained ∧
      kept.Sublist (f.deps.map (·.file)) ∧
      gained.Pairwise (· < ·) ∧
      (∀ x ∈ gained, x ∉ f.deps.map (·.file)) ∧
      (∀ x ∈ kept ++ gained, (f.id, x) ∈ st.edges) := by
  have hg : ∀ x, x ∈ gainedDeps (requiredOf st f) f ↔ x ∈ requiredOf st f ∧ x ∉ f.deps.map (·.file) := by
    intro x
    unfold gainedDeps
    rw [mem_sortNat, List.mem_eraseDups, List.mem_filter]
    simp
  refine ⟨keptDeps (requiredOf st f) f, gainedDeps (requiredOf st f) f, oc_remapDeps_eq st f,
    List.filter_sublist, oc_sortNat_strict (oc_nodup_eraseDups _ _ (Nat.le_refl _)), fun x hx => ((hg x).mp hx).2, ?_⟩
  intro x hx
  have hreq : x ∈ requiredOf st f := by
    rcases List.mem_append.mp hx with hk | hg'
    · simpa using (List.mem_filter.mp hk).2
    · exact ((hg x).mp hg').1
  obtain ⟨e, he, rfl⟩ := List.mem_map.mp hreq
  obtain ⟨he, hid⟩ := List.mem_filter.mp he
  exact (by simpa using hid : e.1 = f.id) ▸ he

/-- A filter run that keeps nothing fails (`keepsInputWhenEmpty = false`), so a result is the
    remapped candidate files, in image order. -/
private theorem rewrite_ok (cfg : Cfg) (hcfg : cfg.keepsInputWhenEmpty = false) (st : St) (noInc : Bool)
    (img : Image) (out : List OFile) (h : rewrite cfg st noInc img = .ok out) :
    ∃ c : RCtx, c.st = st ∧ out = (img.files.filter fun f =>
        st.seen.contains f.id || st.edges.any (fun e => e.1 = f.id)).filterMap (remapFile c) := by
  unfold rewrite at h
  simp only [] at h
  split at h
  · cases h
  · split at h
    · rw [hcfg] at h
      simp only [Bool.false_eq_true, if_false] at h
      cases h
    · exact ⟨_, rfl, (Except.ok.inj h).symm⟩

/-- The filter never reorders files: the surviving files are a SUBLIST of the source image … -/
theorem filter_keeps_file_order (cfg : Cfg) (hcfg : cfg.keepsInputWhenEmpty = false) (st : St) (noInc : Bool)
    (img : Image) (out : List OFile) (h : rewrite cfg st noInc img = .ok out) :
    (out.map (·.id)).Sublist (img.files.map (·.id)) := by
  obtain ⟨c, _, rfl⟩ := rewrite_ok cfg hcfg st noInc img out h
  exact (oc_filterMap_ids_sublist _ _).trans (List.filter_sublist.map _)

/-- … hence the filtered image is in dependency order whenever the closure's import edges point
    backwards in the source image (they do: the source image is topologically ordered and lists
    every transitively imported file before its importer): NO file of the result lists a LATER
    file of the result as a dependency. -/
theorem filter_order_topological (cfg : Cfg) (hcfg : cfg.keepsInputWhenEmpty = false) (st : St) (noInc : Bool)
    (img : Image) (out : List OFile) (h : rewrite cfg st noInc img = .ok out)
    (hsrc : img.files.Pairwise (fun a b => (a.id, b.id) ∉ st.edges)) :
    out.Pairwise (fun a b => b.id ∉ a.deps) := by
  obtain ⟨c, hc, rfl⟩ := rewrite_ok cfg hcfg st noInc img out h
  subst hc
  refine List.Pairwise.filterMap _ ?_ (hsrc.sublist List.filter_sublist)
  intro a a' hR b hb b' hb'
  obtain ⟨hid, hdeps⟩ := remapFile_deps _ a b hb
  obtain ⟨hid', _⟩ := remapFile_deps _ a' b' hb'
  intro hm
  rw [hdeps] at hm
  obtain ⟨k, g, hkg, _, _, _, hall⟩ := filter_dependency_list_shape c.st a
  rw [hkg] at hm
  have := hall _ hm
  rw [hid'] at this
  exact hR this

/-- The regression of seed C02-m7 (the gained imports appended in map iteration order): two
    iteration orders of the same two import edges give different dependency lists. -/
theorem filter_dependency_arrival_order_counterexample :
    remapDepsArrival { edges := [(0, 2), (0, 1)] } ⟨0, 0, false, [⟨3, false⟩], [], [], [], [], [], [], []⟩ ≠
      remapDepsArrival { edges := [(0, 1), (0, 2)] } ⟨0, 0, false, [⟨3, false⟩], [], [], [], [], [], [], []⟩ := by
  decide

example : (remapDeps { edges := [(0, 2), (0, 1), (0, 3)] } ⟨0, 0, false, [⟨3, true⟩, ⟨4, false⟩], [], [], [], [], [], [], []⟩).1.map (·.file)
    = [3, 1, 2] := by decide
example : (remapDeps { edges := [(0, 1), (0, 3), (0, 2)] } ⟨0, 0, false, [⟨3, true⟩, ⟨4, false⟩], [], [], [], [], [], [], []⟩).1.map (·.file)
    = [3, 1, 2] :=
  (filter_dependency_list_map_order_irrelevant _ { edges := [(0, 2), (0, 1), (0, 3)] } _ (by decide)).trans (by decide)

end Filtered

/-! ## Overlapping `--path` / `--exclude-path` arguments

  `moduleReadBucket.WalkFileInfos` walks the target paths one after the other with a per-file
  seen-set (`BufModel.Targeting.moduleTargetFiles`).  The harness family "overlap"
  (harness/cmd/c02/overlap.go) checks the statements below on the real code. -/
section Overlap
open BufModel.Path BufModel.Graph BufModel.Targeting BufModel.OrderClauses BufProofs.OrderClause

/-- No file twice, however the target paths overlap and in whatever order they were listed. -/
theorem target_walk_no_file_twice (t : TWS) (m : Nat) (hnd : ((modFiles t.ws m).map (·.path)).Nodup) :
    ((moduleTargetFiles t m).1.map (·.path)).Nodup :=
  moduleTargetFiles_nodup hnd

/-- The target files of a module are a function of the SETS of `--path` and `--exclude-path`
    values: permuting either list permutes the walk at most, and the sorted target list (what
    ls-files prints and the compiler is given) is the same. -/
theorem target_walk_path_order_irrelevant (ws : WS) (cfgs₁ cfgs₂ : List TCfg) (m : Nat)
    (hnd : ((modFiles ws m).map (·.path)).Nodup)
    (hpf₁ : (cfgOf ⟨ws, cfgs₁⟩ m).protoFile = []) (hpf₂ : (cfgOf ⟨ws, cfgs₂⟩ m).protoFile = [])
    (hp : (cfgOf ⟨ws, cfgs₁⟩ m).paths.Perm (cfgOf ⟨ws, cfgs₂⟩ m).paths)
    (he : (cfgOf ⟨ws, cfgs₁⟩ m).excludes.Perm (cfgOf ⟨ws, cfgs₂⟩ m).excludes) :
    (moduleTargetFiles ⟨ws, cfgs₁⟩ m).1.Perm (moduleTargetFiles ⟨ws, cfgs₂⟩ m).1 ∧
      sortPaths ((moduleTargetFiles ⟨ws, cfgs₁⟩ m).1.map (·.path)) =
        sortPaths ((moduleTargetFiles ⟨ws, cfgs₂⟩ m).1.map (·.path)) := by
  have hmem : ∀ f, f ∈ (moduleTargetFiles ⟨ws, cfgs₁⟩ m).1 ↔ f ∈ (moduleTargetFiles ⟨ws, cfgs₂⟩ m).1 := by
    intro f
    rw [mem_moduleTargetFiles_paths hpf₁, mem_moduleTargetFiles_paths hpf₂]
    -- `modFiles` and `modIsTarget` read the workspace only; the two path lists enter as sets
    refine and_congr_right fun _ => and_congr Iff.rfl (and_congr (or_congr ?_ ?_) ?_)
    · exact ⟨fun h => List.Perm.eq_nil (h ▸ hp.symm), fun h => List.Perm.eq_nil (h ▸ hp)⟩
    · exact ⟨fun ⟨q, hq, h⟩ => ⟨q, hp.mem_iff.mp hq, h⟩, fun ⟨q, hq, h⟩ => ⟨q, hp.mem_iff.mpr hq, h⟩⟩
    · exact ⟨fun h q hq => h q (he.mem_iff.mpr hq), fun h q hq => h q (he.mem_iff.mp hq)⟩
  have n₁ := moduleTargetFiles_nodup (t := ⟨ws, cfgs₁⟩) (m := m) hnd
  have n₂ := moduleTargetFiles_nodup (t := ⟨ws, cfgs₂⟩) (m := m) hnd
  refine ⟨(List.perm_ext_iff_of_nodup (BufProofs.ListLemmas.nodup_of_nodup_map _ n₁) (BufProofs.ListLemmas.nodup_of_nodup_map _ n₂)).mpr hmem, ?_⟩
  apply sortPaths_eq_of_mem_iff n₁ n₂
  intro p
  simp only [List.mem_map]
  exact ⟨fun ⟨f, hf, e⟩ => ⟨f, (hmem f).mp hf, e⟩, fun ⟨f, hf, e⟩ => ⟨f, (hmem f).mpr hf, e⟩⟩

/-- An overlapping list equals its covering paths alone: a `--path p` that lies inside another
    listed `--path q` adds nothing (paths and file paths normalised and validated, as the CLI
    and the buckets guarantee). -/
theorem target_walk_overlap_equals_cover (ws : WS) (cfgs₁ cfgs₂ : List TCfg) (m : Nat) (p q : Str)
    (hpf₁ : (cfgOf ⟨ws, cfgs₁⟩ m).protoFile = []) (hpf₂ : (cfgOf ⟨ws, cfgs₂⟩ m).protoFile = [])
    (hp : (cfgOf ⟨ws, cfgs₁⟩ m).paths = p :: (cfgOf ⟨ws, cfgs₂⟩ m).paths)
    (hq : q ∈ (cfgOf ⟨ws, cfgs₂⟩ m).paths) (hqp : equalsOrContainsPath q p = true)
    (he : (cfgOf ⟨ws, cfgs₁⟩ m).excludes = (cfgOf ⟨ws, cfgs₂⟩ m).excludes)
    (kp : OcKey p) (kq : OcKey q) (kf : ∀ f ∈ modFiles ws m, OcKey f.path) (f : PFile) :
    f ∈ (moduleTargetFiles ⟨ws, cfgs₁⟩ m).1 ↔ f ∈ (moduleTargetFiles ⟨ws, cfgs₂⟩ m).1 := by
  rw [mem_moduleTargetFiles_paths hpf₁, mem_moduleTargetFiles_paths hpf₂, hp, he]
  refine and_congr_right fun hf => and_congr Iff.rfl (and_congr ?_ Iff.rfl)
  constructor
  · rintro (h | ⟨r, hr, hrf⟩)
    · cases h
    · right
      rcases List.mem_cons.mp hr with rfl | hr
      · exact ⟨q, hq, oc_ecp_trans kq kp (kf f hf) hqp hrf⟩
      · exact ⟨r, hr, hrf⟩
  · rintro (h | ⟨r, hr, hrf⟩)
    · exact absurd h (List.ne_nil_of_mem hq)
    · exact Or.inr ⟨r, List.mem_cons_of_mem _ hr, hrf⟩

/-- The regression of seed C02-m8 ("skip a target path covered by an already walked one" without
    the per-file seen-set): with the sub-path listed FIRST the parent is walked in full and the
    files of the sub-path are reported twice; parent first is fine. -/
theorem target_walk_skip_covered_counterexample :
    let files : List PFile := [⟨"a/b/y.proto".toList, [], []⟩, ⟨"a/x.proto".toList, [], []⟩]
    (walkSkipCovered files ["a".toList, "a/b".toList] []).map (·.path) = ["a/b/y.proto".toList, "a/x.proto".toList] ∧
    (walkSkipCovered files ["a/b".toList, "a".toList] []).map (·.path) =
      ["a/b/y.proto".toList, "a/b/y.proto".toList, "a/x.proto".toList] := by
  decide +kernel

example : ((moduleTargetFiles ⟨⟨[⟨[⟨"a/b/y.proto".toList, [], []⟩, ⟨"a/x.proto".toList, [], []⟩], true, true, none, 0⟩], []⟩,
    [⟨["a/b".toList, "a".toList], [], [], false⟩]⟩ 0).1.map (·.path)) = ["a/b/y.proto".toList, "a/x.proto".toList] := by decide

end Overlap

example : verdict true [⟨false, false⟩, ⟨true, false⟩, ⟨false, true⟩] = true := by decide
example (l₁ l₂ : List Nat) (h : l₁.Perm l₂) :
    collectSorted (fun a b => decide (a ≤ b)) l₁ = collectSorted (fun a b => decide (a ≤ b)) l₂ :=
  collect_then_sort_schedule_irrelevant _ (by intro a b c; simp; omega) (by intro a b; simp; omega)
    (by intro a b; simp; omega) l₁ l₂ h
example (l₁ l₂ : List Nat) (h : l₁.Perm l₂) :
    reportSorted (fun a b => decide (a ≤ b)) none l₁ = reportSorted (fun a b => decide (a ≤ b)) none l₂ :=
  report_uncapped_schedule_irrelevant _ (by intro a b c; simp; omega) (by intro a b; simp; omega)
    (by intro a b; simp; omega) l₁ l₂ h
example : (reportSorted (fun a b : Nat => decide (a ≤ b)) (some 2) [3, 1, 2]).length = 2 :=
  (report_capped_truncates _ 2 [3, 1, 2] (by decide)).1

end BufProofs.C02
