import BufProofs.Lemmas.DepsLemmas
import BufProofs.Lemmas.LockLemmas
import BufProofs.Lemmas.BuildImageLemmas
/-
  C10 — Workspace dependency resolution is exact and ambiguity is an error.
  Property theorems over BufModel.Graph: the selection clauses (target over non-target, local over
  remote; for `selectAdded` and for `uniqueAdded`, which is what the driver runs), the ambiguity
  clauses, the exactness of `moduleDeps` = getModuleDeps/getModuleDepsRec as coded (a module that
  merely reaches a cycle does not report it) and the same for ModuleSetToDAG, the ls-files closure
  and its agreement with `Targeting.buildImage`, which buf.lock pins are added, and the recorded
  pre-fix commit-tie counterexample.
  The invariant behind the exactness theorems is `DInv` / `deps_run` in Lemmas/DepsLemmas.lean.
-/
namespace BufProofs.C10
open BufModel.Path BufModel.Graph BufModel.Targeting

/-! ### selection among the modules added for one OpaqueID -/

theorem selectIgnoreTargeting_local (as : List Added) (a : Added)
    (h : selectIgnoreTargeting as = some a) (hl : ∃ x ∈ as, x.isLocal = true) : a.isLocal = true := by
  obtain ⟨x, hx, hxl⟩ := hl
  exact (mem_prefer hx hxl).2 a (selectIgnoreTargeting_mem_prefer h)

theorem selectIgnoreTargeting_mem (ts : List Added) : ∀ b, selectIgnoreTargeting ts = some b → b ∈ ts :=
  fun _ hb => prefer_sub (selectIgnoreTargeting_mem_prefer hb)

/-- a targeted added module wins over non-targeted ones of the same OpaqueID. -/
theorem target_over_nontarget (as : List Added) (a : Added)
    (h : selectAdded as = some a) (ht : ∃ x ∈ as, x.isTarget = true) : a.isTarget = true := by
  rw [selectAdded_eq] at h
  obtain ⟨x, hx, hxt⟩ := ht
  exact (mem_prefer hx hxt).2 a (prefer_sub (selectIgnoreTargeting_mem_prefer h))

/-- a module present locally takes precedence over a same-named pinned (remote) one — whenever
    targeting does not already decide against it: no added module of the OpaqueID is targeted, or
    a local one is among the targeted ones (this includes the commonest case: ONE targeted local
    module shadowing an untargeted pin).  What is excluded, as coded ("target > local"): the only
    targeted added modules are remote while a local one is untargeted — see
    `target_remote_beats_local_counterexample`. -/
theorem local_over_remote (as : List Added) (a : Added) (h : selectAdded as = some a)
    (hl : ((∀ x ∈ as, x.isTarget = false) ∧ ∃ x ∈ as, x.isLocal = true) ∨
          (∃ x ∈ as, x.isTarget = true ∧ x.isLocal = true)) :
    a.isLocal = true := by
  rw [selectAdded_eq] at h
  -- some candidate left after the targeting level is local
  obtain ⟨x, hx, hxl⟩ : ∃ x ∈ prefer (·.isTarget) as, x.isLocal = true := by
    rcases hl with ⟨hnt, x, hx, hxl⟩ | ⟨x, hx, hxt, hxl⟩
    · exact ⟨x, by rw [prefer_eq_self hnt]; exact hx, hxl⟩
    · exact ⟨x, (mem_prefer hx hxt).1, hxl⟩
  exact (mem_prefer hx hxl).2 a (selectIgnoreTargeting_mem_prefer h)

/-- "target > local", as coded: when the only targeted added module of an OpaqueID is remote, it is
    selected although a local module of that OpaqueID was added (untargeted). -/
theorem target_remote_beats_local_counterexample :
    selectAdded [{ oid := 0, isLocal := true, isTarget := false, commit := 0, ctime := 0, files := [] },
                 { oid := 0, isLocal := false, isTarget := true, commit := 1, ctime := 1, files := [] }] =
      some { oid := 0, isLocal := false, isTarget := true, commit := 1, ctime := 1, files := [] } := by decide

/-! ### ambiguity is an error -/

/-- If the import scan of a module succeeds, none of its imports is provided by two modules and
    every import nobody provides is a well-known type. -/
theorem scan_ok_imports (ws : WS) (self : Nat) (isDirect : Bool) :
    ∀ (imps : List Str) (d : DepMap) (nw : List Nat) (r : DepMap × List Nat),
      scanImports ws self isDirect imps d nw = .ok r →
      ∀ p ∈ imps, owner ws p ≠ .dup ∧ (owner ws p = .none → isWkt ws p = true) := by
  intro imps d nw r h p hp
  rcases importFault_eq_none.mp ((scan_ok h).1 p hp) with ⟨k, hk⟩ | ⟨hn, hw⟩
  · rw [hk]; exact ⟨by simp, fun hh => by cases hh⟩
  · rw [hn]; exact ⟨by simp, fun _ => hw⟩

/-- inversion of a successful `ModuleDeps()` call: the module's own import scan succeeded. -/
theorem moduleDeps_ok_scan (ws : WS) (r : Nat) (ds : DepMap) (h : moduleDeps ws r = .ok ds) :
    ∃ res, scanImports ws r true (allImports ws r) [] [] = .ok res ∧ (modFiles ws r).isEmpty = false :=
  have hg := moduleDeps_ok_good h
  ⟨_, scanImports_ok_of fun p hp => importFault_eq_none.mpr (hg.imports r (Reach.refl r) p hp),
    hg.nonempty r (Reach.refl r)⟩

/-- a path provided by two modules, imported by the module, is reported as an error. -/
theorem dup_path_error (ws : WS) (r : Nat) (p : Str) (hp : p ∈ allImports ws r) (hd : owner ws p = .dup) :
    ∃ e, moduleDeps ws r = .error e :=
  moduleDeps_fails_of fun h => h.1.no_localErr (Reach.refl r) (LocalErr.dup p hp hd)

/-- an import no module provides is reported as an error — unless it is a well-known type. -/
theorem import_not_exist_error (ws : WS) (r : Nat) (p : Str) (hp : p ∈ allImports ws r)
    (hn : owner ws p = .none) (hw : isWkt ws p = false) : ∃ e, moduleDeps ws r = .error e :=
  moduleDeps_fails_of fun h => h.1.no_localErr (Reach.refl r) (LocalErr.noimp p hp hn hw)

/-- a module without .proto files is an error, not an empty dependency list. -/
theorem no_proto_files_error (ws : WS) (r : Nat) (he : (modFiles ws r).isEmpty = true) :
    ∃ e, moduleDeps ws r = .error e :=
  moduleDeps_fails_of fun h => h.1.no_localErr (Reach.refl r) (LocalErr.noproto he)

/-! ### exactness of `ModuleDeps()` (getModuleDeps / getModuleDepsRec as coded)

  The module graph is `msucc ws m` = the owners, other than `m`, of the imports of the files of
  `m`; `Reach` / `ReachPlus` are zero-or-more / one-or-more hops along it. `Good ws r` says that
  everything reachable from `r` resolves: every import has exactly one provider (or none and is a
  well-known type), every reachable module has a .proto file, no two reachable modules share a
  file path. -/

/-- Soundness of a successful `ModuleDeps()` call, for EVERY module set (no hypothesis):
    if `moduleDeps ws r = ok ds` then `r` lies on no cycle, the ids of `ds` are exactly the
    modules reachable from `r` in one or more import hops, listed in strictly increasing order,
    and an entry is flagged direct iff its module is a first-hop successor of `r`. -/
theorem deps_sound (ws : WS) (r : Nat) (ds : DepMap) (h : moduleDeps ws r = .ok ds) :
    ¬ ReachPlus (msuccO ws) r r ∧
    (∀ x, x ∈ DepMap.keys ds ↔ ReachPlus (msuccO ws) r x) ∧
    (DepMap.keys ds).Pairwise (· < ·) ∧
    (∀ x b, (x, b) ∈ ds → (b = true ↔ x ∈ msucc ws r)) := by
  obtain ⟨h1, h2, h3, h4, _⟩ := moduleDeps_ok h
  exact ⟨h1, h2, h3, fun x b hxb => h4 (x, b) hxb⟩

/-- Exactness: if everything reachable from `r` resolves (`Good`) and `r` itself lies on no cycle
    (cycles elsewhere — even reachable ones — are allowed: that is what the code does), then
    `ModuleDeps()` succeeds, its ids are the strictly increasing list of reach⁺(r) \ {r}, and a
    dep is flagged direct iff it is a first-hop successor of `r`. -/
theorem deps_exact (ws : WS) (r : Nat) (hg : Good ws r) (hn : ¬ ReachPlus (msuccO ws) r r) :
    ∃ ds, moduleDeps ws r = .ok ds ∧
      (DepMap.keys ds).Pairwise (· < ·) ∧
      (∀ x, x ∈ DepMap.keys ds ↔ (ReachPlus (msuccO ws) r x ∧ x ≠ r)) ∧
      (∀ x b, (x, b) ∈ ds → (b = true ↔ x ∈ msucc ws r)) := by
  obtain ⟨ds, hm⟩ := moduleDeps_ok_iff.mpr ⟨hg, hn⟩
  obtain ⟨_, h2, h3, h4⟩ := deps_sound ws r ds hm
  refine ⟨ds, hm, h3, fun x => ?_, h4⟩
  rw [h2]
  exact ⟨fun hx => ⟨hx, fun hh => hn (hh ▸ hx)⟩, fun hx => hx.1⟩

/-- "the ids are exactly THE sorted set": any strictly increasing list with the members
    reach⁺(r) \ {r} is the id list `ModuleDeps()` returns. -/
theorem deps_exact_unique (ws : WS) (r : Nat) (hg : Good ws r) (hn : ¬ ReachPlus (msuccO ws) r r)
    (spec : List Nat) (hs : spec.Pairwise (· < ·))
    (hm : ∀ x, x ∈ spec ↔ (ReachPlus (msuccO ws) r x ∧ x ≠ r)) :
    ∃ ds, moduleDeps ws r = .ok ds ∧ DepMap.keys ds = spec := by
  obtain ⟨ds, h1, h2, h3, _⟩ := deps_exact ws r hg hn
  exact ⟨ds, h1, sorted_set_unique h2 hs (fun x => by rw [h3, hm])⟩

/-- The fuel the model passes to `depsRec` (number of modules + 1) is never exhausted, for every
    module set and every module (every descent marks a module that exists and was unvisited). -/
theorem fuel_suffices (ws : WS) (r : Nat) : moduleDeps ws r ≠ .error .fuel :=
  moduleDeps_ne_fuel ws r

/-- Errors are never spurious, for EVERY module set: a `cycle` error means `r` itself lies on a
    cycle; any other error is either a local error of some module reachable from `r` (an import
    provided twice / provided by nobody and not a well-known type / no .proto file), or the final
    duplicate-path check naming two distinct reachable modules with a common path. -/
theorem deps_error_sound (ws : WS) (r : Nat) (e : DErr) (h : moduleDeps ws r = .error e) :
    (e = .cycle ∧ ReachPlus (msuccO ws) r r) ∨
    (∃ x, Reach (msuccO ws) r x ∧ LocalErr ws x e) ∨
    (e = .dupPath ∧ ∃ x y, Reach (msuccO ws) r x ∧ Reach (msuccO ws) r y ∧ x ≠ y ∧
      ∃ f ∈ modFiles ws x, hasPath ws y f.path = true) :=
  moduleDeps_error h

/-- a reported module cycle is real and goes through the module asked (no hypothesis). -/
theorem cycle_only_if (ws : WS) (r : Nat) (h : moduleDeps ws r = .error .cycle) :
    ReachPlus (msuccO ws) r r := by
  rcases moduleDeps_error h with ⟨_, h⟩ | ⟨x, _, h⟩ | ⟨h, _⟩
  · exact h
  · exact absurd rfl h.ne_cycle
  · cases h

/-- The cycle error, as coded: when everything reachable from `r` resolves, `ModuleDeps()` of `r`
    reports a module cycle iff `r` itself lies on a cycle (`r ∈ reach⁺ r`).  A module that merely
    REACHES a cycle does not report it (see the example below: A → B → D → B, A → C → D);
    `ModuleSetToDAG` does (`dag_reports_reachable_cycle`). -/
theorem cycle_iff (ws : WS) (r : Nat) (hg : Good ws r) :
    moduleDeps ws r = .error .cycle ↔ ReachPlus (msuccO ws) r r := by
  constructor
  · exact cycle_only_if ws r
  · intro hc
    cases hm : moduleDeps ws r with
    | error e => rw [(moduleDeps_error_good hg hm).1]
    | ok ds => exact absurd hc (moduleDeps_ok hm).1

/-- without any hypothesis: a module on a cycle never gets a dependency list. -/
theorem cycle_never_ok (ws : WS) (r : Nat) (hc : ReachPlus (msuccO ws) r r) :
    ∃ e, moduleDeps ws r = .error e :=
  moduleDeps_fails_of fun h => h.2 hc

/-! ### ModuleSetToDAG (moduleSetToDAGRec as coded: no visited set) -/

/-- The depth bound the model passes to `dagRec` (number of modules + 1) is never exhausted:
    a module occurring twice on a chain of direct deps lies on a cycle, and then its own
    `ModuleDeps()` already fails. -/
theorem dag_fuel_suffices (ws : WS) : toDAG ws ≠ .error .fuel := by
  intro h
  obtain ⟨_, _, x, _, hx⟩ := toDAG_error h
  exact fuel_suffices ws x hx

/-- For EVERY module set: `ModuleSetToDAG` fails iff `ModuleDeps()` fails for some module
    reachable from a target module, and the error it returns is the error of such a module. -/
theorem dag_error_iff (ws : WS) :
    ((∃ e, toDAG ws = .error e) ↔
      ∃ t ∈ targetMods ws, ∃ x, Reach (msuccO ws) t x ∧ ∃ e, moduleDeps ws x = .error e) ∧
    (∀ e, toDAG ws = .error e →
      ∃ t ∈ targetMods ws, ∃ x, Reach (msuccO ws) t x ∧ moduleDeps ws x = .error e) := by
  refine ⟨⟨?_, ?_⟩, fun e h => toDAG_error h⟩
  · rintro ⟨e, h⟩
    obtain ⟨t, ht, x, hx, hxe⟩ := toDAG_error h
    exact ⟨t, ht, x, hx, e, hxe⟩
  · rintro ⟨t, ht, x, hx, e, hxe⟩
    cases hd : toDAG ws with
    | error e' => exact ⟨e', rfl⟩
    | ok g =>
      obtain ⟨ds, hds⟩ := toDAG_ok hd t ht x hx
      rw [hds] at hxe; cases hxe

/-- When everything reachable from the target modules resolves, `ModuleSetToDAG` reports a module
    cycle iff some module reachable from a target module lies on a cycle — and that is the only
    error it can return. -/
theorem dag_reports_reachable_cycle (ws : WS) (hg : ∀ t ∈ targetMods ws, Good ws t) :
    (toDAG ws = .error .cycle ↔
      ∃ t ∈ targetMods ws, ∃ x, Reach (msuccO ws) t x ∧ ReachPlus (msuccO ws) x x) ∧
    (∀ e, toDAG ws = .error e → e = .cycle) := by
  have honly : ∀ e, toDAG ws = .error e → e = .cycle ∧
      ∃ t ∈ targetMods ws, ∃ x, Reach (msuccO ws) t x ∧ ReachPlus (msuccO ws) x x := by
    intro e h
    obtain ⟨t, ht, x, hx, hxe⟩ := toDAG_error h
    obtain ⟨he, hc⟩ := moduleDeps_error_good ((hg t ht).of_reach hx) hxe
    exact ⟨he, t, ht, x, hx, hc⟩
  refine ⟨⟨fun h => (honly _ h).2, ?_⟩, fun e h => (honly e h).1⟩
  rintro ⟨t, ht, x, hx, hc⟩
  cases hd : toDAG ws with
  | error e => rw [(honly e hd).1]
  | ok g =>
    obtain ⟨ds, hds⟩ := toDAG_ok hd t ht x hx
    exact absurd hc (moduleDeps_ok hds).1

/-! ### the ls-files closure -/

/-- GENERIC fact about the shared DFS (`dfsRoots_exact` restated; any successor function): the
    visited set contains the roots, is closed, holds only nodes reachable from a root, and equals
    the output as a set.  `lsfiles_closure_exact` below is the statement about `lsFiles`. -/
theorem dfs_closure_exact {α : Type} [DecidableEq α] (succ : α → Option (List α)) (fuel : Nat)
    (roots vis out : List α) (h : dfsRoots succ fuel roots = .ok (vis, out)) :
    (∀ r ∈ roots, r ∈ vis) ∧
    (∀ x ∈ vis, ∃ cs, succ x = some cs ∧ ∀ c ∈ cs, c ∈ vis) ∧
    (∀ x ∈ vis, ∃ r ∈ roots, Reach succ r x) ∧
    (∀ x, x ∈ vis ↔ x ∈ out) := by
  obtain ⟨hvo, _, hcl, hre⟩ := dfsRoots_exact h
  exact ⟨fun r hr => (hre r).mpr ⟨r, hr, Reach.refl r⟩, hcl, fun x hx => (hre x).mp hx, hvo⟩

/-- What `buf ls-files --include-imports` (`Graph.lsFiles`, as run by Driver/C10) lists, for any
    target decision `tf`: the paths are sorted and pairwise distinct; a path is listed iff it is
    reachable — through the scanned imports of workspace files and the stored imports of built-in
    well-known types (`lsLookup`) — from a target file; every listed path exists and all its
    imports are listed; and an entry is flagged non-import iff it is a target file. -/
theorem lsfiles_closure_exact (ws : WS) (tf : Nat → PFile → Bool) (l : List (Str × Bool))
    (h : lsFiles ws tf = .ok l) :
    (l.map (·.1)).Pairwise (fun a b => strLe a b = true) ∧ (l.map (·.1)).Nodup ∧
    (∀ p, p ∈ l.map (·.1) ↔
      ∃ m f, f ∈ modFiles ws m ∧ tf m f = true ∧ Reach (lsLookup (allFiles ws) ws.wkt) f.path p) ∧
    (∀ p ∈ l.map (·.1), ∃ cs, lsLookup (allFiles ws) ws.wkt p = some cs ∧ ∀ d ∈ cs, d ∈ l.map (·.1)) ∧
    (∀ x ∈ l, x.2 = false ↔ ∃ m f, f ∈ modFiles ws m ∧ tf m f = true ∧ f.path = x.1) := by
  obtain ⟨vis, out, _, _, _, hdfs, hle⟩ := lsFiles_ok h
  obtain ⟨_, _, hcl, hre⟩ := dfsRoots_exact hdfs
  have hnd := dfsRoots_vis_nodup hdfs
  have hpaths : l.map (·.1) = sortPaths vis := by
    rw [hle, List.map_map]
    have : ((fun x : Str × Bool => x.1) ∘ fun p => (p, !decide (p ∈ lsRoots (allFiles ws) tf))) = id := rfl
    rw [this, List.map_id]
  rw [hpaths]
  refine ⟨sortPaths_sorted vis, sortPaths_nodup hnd, ?_, ?_, ?_⟩
  · intro p
    rw [mem_sortPaths, hre p]
    constructor
    · rintro ⟨r, hr, hreach⟩
      obtain ⟨m, f, hf, ht, rfl⟩ := mem_lsRoots.mp hr
      exact ⟨m, f, hf, ht, hreach⟩
    · rintro ⟨m, f, hf, ht, hreach⟩
      exact ⟨f.path, mem_lsRoots.mpr ⟨m, f, hf, ht, rfl⟩, hreach⟩
  · intro p hp
    obtain ⟨cs, hs, hc⟩ := hcl p (mem_sortPaths.mp hp)
    exact ⟨cs, hs, fun d hd => mem_sortPaths.mpr (hc d hd)⟩
  · intro x hx
    rw [hle] at hx
    obtain ⟨p, _, rfl⟩ := List.mem_map.mp hx
    simp only [Bool.not_eq_false', decide_eq_true_eq, mem_lsRoots]

/-- the successor function of that closure, spelled out for a workspace file: its scanned imports,
    sorted and unique (`FileInfo.Imports()`); `lsLookup` falls back to the built-in WKT table only
    for paths no workspace file has. -/
theorem lsfiles_lookup_file (ws : WS) (tf : Nat → PFile → Bool) (l : List (Str × Bool))
    (h : lsFiles ws tf = .ok l) (m : Nat) (f : PFile) (hf : f ∈ modFiles ws m) :
    lsLookup (allFiles ws) ws.wkt f.path = some (infoImports f) := by
  obtain ⟨_, _, _, hnd, _⟩ := lsFiles_ok h
  exact lsLookup_file hnd hf

/-- the fuel `lsFiles` gives its closure is never exhausted. -/
theorem lsfiles_fuel_suffices (ws : WS) (tf : Nat → PFile → Bool) : lsFiles ws tf ≠ .error .fuel :=
  lsFiles_ne_fuel ws tf

/-- **ls-files lists exactly the files build would put in the image.**  `Graph.lsFiles` with the
    target decision `isTargetIn t` (what Driver/C10 runs) versus `Targeting.buildImage t c perm`
    (what Driver/C01 runs): when both succeed and the compiler's import lists agree AS SETS with
    the scanned imports of the workspace files / the stored imports of the unshadowed built-in
    WKTs (`ImportsAgree`; fastscan reports sorted unique imports, the compiler source order), the
    ls-files paths are exactly the sorted image paths, and entry by entry the import flags agree.
    The two pipelines differ in everything but the shared DFS: root lists (`walkAll` + filter vs
    `walkTargets`/`targetList`), successor functions (`lsLookup` vs `csucc`), fuel, and order.
    Hypothesis `WfCfgs`: no proto-file reference together with `--path` (rejected by the builder).
    NOT covered: that one side succeeds iff the other does (ls-files reports an unreachable
    duplicate path or an empty non-target module that build never looks at, and build reports
    import cycles that ls-files does not) — compared by the harness (`ls=` field vs image). -/
theorem lsfiles_eq_build (t : TWS) (c : Compiler) (perm : List Str → List Str)
    (hwf : WfCfgs t) (ha : ImportsAgree t.ws c) (l : List (Str × Bool)) (img : List ImgFile)
    (hl : lsFiles t.ws (isTargetIn t) = .ok l) (hb : buildImage t c perm = .ok img) :
    l.map (·.1) = sortPaths (img.map (·.path)) ∧
    (∀ f ∈ img, (f.path, f.isImport) ∈ l) ∧
    (∀ x ∈ l, ∃ f ∈ img, f.path = x.1 ∧ f.isImport = x.2) :=
  lsFiles_eq_buildImage t c perm hwf ha l img hl hb

/-- Files of non-target modules enter images only as imports (via C01): in a built image every
    file is marked non-import iff it is a target file, every file is reachable from a target
    file, and a file whose path a NON-targeted module provides is marked import. -/
theorem nontarget_files_are_imports (t : TWS) (c : Compiler) (perm : List Str → List Str)
    (img : List ImgFile) (hwf : WfCfgs t) (h : buildImage t c perm = .ok img) :
    ∀ f ∈ img,
      (f.isImport = false ↔ ∃ m g, g ∈ modFiles t.ws m ∧ isTargetIn t m g = true ∧ g.path = f.path) ∧
      (∃ m g, g ∈ modFiles t.ws m ∧ isTargetIn t m g = true ∧ Reach (csucc t.ws c) g.path f.path) ∧
      (∀ m, modIsTarget t m = false → (∃ g ∈ modFiles t.ws m, g.path = f.path) → f.isImport = true) :=
  nontarget_files_core t c perm img hwf h

/-- … and the same for ls-files: an entry whose path only non-targeted modules provide is flagged
    import (a non-targeted module has no target files). -/
theorem lsfiles_nontarget_is_import (t : TWS) (l : List (Str × Bool))
    (h : lsFiles t.ws (isTargetIn t) = .ok l) (x : Str × Bool) (hx : x ∈ l)
    (hnt : ∀ m f, f ∈ modFiles t.ws m → f.path = x.1 → modIsTarget t m = false) : x.2 = true := by
  cases hb : x.2 with
  | true => rfl
  | false =>
    obtain ⟨m, f, hf, ht, hp⟩ := ((lsfiles_closure_exact t.ws (isTargetIn t) l h).2.2.2.2 x hx).mp hb
    rw [isTargetIn_false_of_nontarget t m f (hnt m f hf hp)] at ht
    cases ht

/-! ### duplicate paths nobody imports -/

/-- A path two modules of the set provide makes `ls-files` fail — whether or not anybody imports
    it (`GetFileInfos` walks every module; the union bucket rejects the second occurrence). -/
theorem lsfiles_dup_path_error (ws : WS) (tf : Nat → PFile → Bool) (m m' : Nat) (f f' : PFile)
    (hne : m ≠ m') (hf : f ∈ modFiles ws m) (hf' : f' ∈ modFiles ws m') (hp : f.path = f'.path) :
    ∃ e, lsFiles ws tf = .error e := by
  cases h : lsFiles ws tf with
  | error e => exact ⟨e, rfl⟩
  | ok l =>
    obtain ⟨_, _, _, hnd, _⟩ := lsFiles_ok h
    have := BufProofs.ListLemmas.eq_of_nodup_map (fun x : Nat × PFile => x.2.path) hnd
      ((mem_allFiles (x := (m, f))).mpr hf) ((mem_allFiles (x := (m', f'))).mpr hf') hp
    exact absurd (congrArg Prod.fst this) hne

/-- Two distinct modules reachable from `r` (r itself included) that share a file path make
    `ModuleDeps()` of `r` fail although no import names that path: the final
    `protoFileTracker.validate()` (`dupAmong`) ranges over ALL visited = all reachable modules. -/
theorem deps_dup_among_error (ws : WS) (r x y : Nat) (hx : Reach (msuccO ws) r x)
    (hy : Reach (msuccO ws) r y) (hne : x ≠ y) (f : PFile) (hf : f ∈ modFiles ws x)
    (hp : hasPath ws y f.path = true) : ∃ e, moduleDeps ws r = .error e :=
  moduleDeps_fails_of fun h => by
    have := h.1.disjoint x y hx hy hne f hf; rw [hp] at this; cases this

/-! ### recorded finding: the pre-fix commit tie -/

def tieA : Added := { oid := 0, isLocal := false, isTarget := false, commit := 1, ctime := 7, files := [] }
def tieB : Added := { oid := 0, isLocal := false, isTarget := false, commit := 2, ctime := 7, files := [] }

/-- Before the fix the candidates were taken in Go map order: with equal create times two
    iteration orders select different commits (DESIGN §7 row 10; replayed by harness/cmd/c10). -/
theorem commit_tie_old_counterexample :
    selectRemoteOld id [tieA, tieB] ≠ selectRemoteOld List.reverse [tieA, tieB] := by decide

/-- after the fix the order in which the two were added no longer matters. -/
example : selectRemote [tieA, tieB] = selectRemote [tieB, tieA] := by decide

/-! non-vacuity -/
def exWs : WS :=
  { mods := [ { files := [{ path := "a/a.proto".toList, imports := ["b/b.proto".toList, "google/protobuf/any.proto".toList] }], isTarget := true, isLocal := true },
              { files := [{ path := "b/b.proto".toList, imports := ["c/c.proto".toList] }], isTarget := false, isLocal := true },
              { files := [{ path := "c/c.proto".toList, imports := ["b/b.proto".toList] }], isTarget := false, isLocal := false } ],
    wkt := [{ path := "google/protobuf/any.proto".toList, imports := [] }] }

-- A → B ⇄ C: A (outside the cycle) gets exact deps with direct flags, B and C report the cycle
example : moduleDeps exWs 0 = .ok [(1, true), (2, false)] := by decide +kernel
example : moduleDeps exWs 1 = .error .cycle := by decide +kernel
example : moduleDeps exWs 2 = .error .cycle := by decide +kernel
example : toDAG exWs = .error .cycle := by decide +kernel
example : selectAdded [tieA, { tieB with isLocal := true }] = some { tieB with isLocal := true } := by decide

/-! non-vacuity of the exactness theorems: A → B → D → B, A → C → D (0 = A, 1 = B, 2 = C, 3 = D) -/
def exWs2 : WS :=
  { mods := [ { files := [{ path := "a/a.proto".toList, imports := ["b/b.proto".toList, "c/c.proto".toList, "google/protobuf/any.proto".toList] }], isTarget := true, isLocal := true },
              { files := [{ path := "b/b.proto".toList, imports := ["d/d.proto".toList] }], isTarget := false, isLocal := true },
              { files := [{ path := "c/c.proto".toList, imports := ["d/d.proto".toList] }], isTarget := false, isLocal := true },
              { files := [{ path := "d/d.proto".toList, imports := ["b/b.proto".toList] }], isTarget := false, isLocal := false } ],
    wkt := [{ path := "google/protobuf/any.proto".toList, imports := [] }] }

theorem exWs2_good (r : Nat) (hr : r < 4) : Good exWs2 r := good_of_goodWs (by decide +kernel) hr

theorem exWs2_A_not_on_cycle : ¬ ReachPlus (msuccO exWs2) 0 0 := by
  intro h
  obtain ⟨m, hm, hc⟩ := reachPlus_pred h
  have hall : ∀ m, m < exWs2.mods.length → 0 ∉ msucc exWs2 m := by decide +kernel
  exact hall m hm hc

theorem exWs2_B_on_cycle : ReachPlus (msuccO exWs2) 1 1 :=
  ⟨3, msucc exWs2 3, Reach.step (Reach.refl 1) (rfl : msuccO exWs2 1 = some (msucc exWs2 1)) (by decide +kernel), rfl, by decide +kernel⟩

-- the hypotheses of `deps_exact` hold for A and C although both reach the cycle B ⇄ D …
example : Good exWs2 0 ∧ ¬ ReachPlus (msuccO exWs2) 0 0 := ⟨exWs2_good 0 (by decide), exWs2_A_not_on_cycle⟩
-- … and the result is what the theorem says (and what the real code returns)
example : moduleDeps exWs2 0 = .ok [(1, true), (2, true), (3, false)] := by decide +kernel
example : moduleDeps exWs2 2 = .ok [(1, false), (3, true)] := by decide +kernel
-- the hypotheses of `cycle_iff` hold for B, which is on the cycle
example : Good exWs2 1 ∧ ReachPlus (msuccO exWs2) 1 1 := ⟨exWs2_good 1 (by decide), exWs2_B_on_cycle⟩
example : moduleDeps exWs2 1 = .error .cycle := by decide +kernel
example : moduleDeps exWs2 3 = .error .cycle := by decide +kernel
-- `fuel_suffices` has no hypothesis; the bound is tight enough to be interesting: depth 3 of 4+1
example : moduleDeps exWs2 0 ≠ .error .fuel := fuel_suffices exWs2 0
-- the hypotheses of `dag_reports_reachable_cycle` hold; A (the target) reaches the cycle
example : (∀ t ∈ targetMods exWs2, Good exWs2 t) ∧
    ∃ t ∈ targetMods exWs2, ∃ x, Reach (msuccO exWs2) t x ∧ ReachPlus (msuccO exWs2) x x :=
  ⟨fun t ht => exWs2_good t (targetMods_lt ht),
   0, by decide +kernel, 1, Reach.step (Reach.refl 0) (rfl : msuccO exWs2 0 = some (msucc exWs2 0)) (by decide +kernel), exWs2_B_on_cycle⟩
example : toDAG exWs2 = .error .cycle := by decide +kernel
-- an acyclic diamond: ModuleSetToDAG succeeds
def exWs3 : WS :=
  { exWs2 with mods := exWs2.mods.set 3 { files := [{ path := "d/d.proto".toList, imports := [] }], isTarget := false, isLocal := false } }
example : toDAG exWs3 = .ok ([0, 1, 3, 2], [(0, 1), (1, 3), (0, 2), (2, 3)]) := by decide +kernel

/-- Why `cycle_iff` (right to left) and `deps_exact` need the resolution hypothesis: errors are
    reported in visiting order, so on A ⇄ B where A also imports a file nobody provides, A lies on
    a cycle but `ModuleDeps()` of A reports the missing import, not the cycle. -/
def exWs4 : WS :=
  { mods := [ { files := [{ path := "a/a.proto".toList, imports := ["x/missing.proto".toList, "b/b.proto".toList] }], isTarget := true, isLocal := true },
              { files := [{ path := "b/b.proto".toList, imports := ["a/a.proto".toList] }], isTarget := false, isLocal := true } ],
    wkt := [] }

theorem cycle_iff_unresolved_counterexample :
    ReachPlus (msuccO exWs4) 0 0 ∧ moduleDeps exWs4 0 = .error .importNotExist :=
  ⟨⟨1, msucc exWs4 1, Reach.step (Reach.refl 0) (rfl : msuccO exWs4 0 = some (msucc exWs4 0)) (by decide), rfl, by decide⟩,
   by decide⟩

/-! ### workspaces on disk: every buf.lock of the workspace is honoured

  `v1Adds` / `v2Adds` (BufModel.Graph §3b) are the AddRemoteModule / AddLocalModule sequences of
  bufworkspace.  What the property needs from them: a remote module pinned in the buf.lock of ANY
  module directory of a v1 workspace — targeted by the input or not — is a member of the module
  set (as that pin, as a newer pinned commit, or as the local module of that identity), so that a
  dependency reachable only through a non-targeted sibling resolves. -/

/-- `selectAdded` returns one of the modules it was given. -/
theorem selectAdded_mem (as : List Added) (a : Added) (h : selectAdded as = some a) : a ∈ as := by
  rw [selectAdded_eq] at h
  exact prefer_sub (prefer_sub (selectIgnoreTargeting_mem_prefer h))

/-- … and it always returns one when at least one module was added for the OpaqueID. -/
theorem selectAdded_isSome (as : List Added) (h : as ≠ []) : ∃ a, selectAdded as = some a := by
  rw [selectAdded_eq]
  exact selectIgnoreTargeting_isSome (prefer_ne_nil h)

/-- `getUniqueSortedAddedModulesByOpaqueID` drops no OpaqueID: every added module is represented
    in the module set by a module of its OpaqueID that was itself added. -/
theorem uniqueAdded_covers (as : List Added) (x : Added) (hx : x ∈ as) :
    ∃ a ∈ uniqueAdded as, a.oid = x.oid ∧ a ∈ as := by
  have hne : as.filter (fun a => a.oid == x.oid) ≠ [] := by
    intro h
    have : x ∈ as.filter (fun a => a.oid == x.oid) := List.mem_filter.mpr ⟨hx, by simp⟩
    rw [h] at this; simp at this
  obtain ⟨a, ha⟩ := selectAdded_isSome _ hne
  have hmem := List.mem_filter.mp (selectAdded_mem _ a ha)
  refine ⟨a, ?_, by simpa using hmem.2, hmem.1⟩
  unfold uniqueAdded
  refine List.mem_filterMap.mpr ⟨x.oid, ?_, ha⟩
  exact (mem_sortBy natLe).mpr (mem_dedup.mpr (List.mem_map.mpr ⟨x, hx, rfl⟩))

/-! ### the selection clauses for `uniqueAdded` = getUniqueSortedAddedModulesByOpaqueID (what
    `Driver.C10.buildFrom` runs), not only for the per-OpaqueID helper `selectAdded` -/

/-- `a` is in the module set iff it is THE module `selectAdded` picks among the added modules of
    its own OpaqueID (and that OpaqueID was added). -/
theorem unique_added_exact (as : List Added) (a : Added) :
    a ∈ uniqueAdded as ↔
      (∃ x ∈ as, x.oid = a.oid) ∧ selectAdded (as.filter (fun x => x.oid == a.oid)) = some a := by
  unfold uniqueAdded
  rw [List.mem_filterMap]
  constructor
  · rintro ⟨o, ho, hsel⟩
    have hmem := List.mem_filter.mp (selectAdded_mem _ a hsel)
    have hoid : a.oid = o := by simpa using hmem.2
    subst hoid
    obtain ⟨x, hx, hxo⟩ := List.mem_map.mp (mem_dedup.mp ((mem_sortBy natLe).mp ho))
    exact ⟨⟨x, hx, hxo⟩, hsel⟩
  · rintro ⟨⟨x, hx, hxo⟩, hsel⟩
    exact ⟨a.oid, (mem_sortBy natLe).mpr (mem_dedup.mpr (List.mem_map.mpr ⟨x, hx, hxo⟩)), hsel⟩

/-- one module per OpaqueID, sorted by OpaqueID (`ModuleSet.Modules()` order; the model's module
    index is the rank of the OpaqueID). -/
theorem unique_added_sorted (as : List Added) : ((uniqueAdded as).map (·.oid)).Pairwise (· < ·) := by
  unfold uniqueAdded
  -- each OpaqueID of the sorted list was added, so `selectAdded` picks a module of that OpaqueID
  rw [BufProofs.ListLemmas.map_filterMap_key _ (fun a : Added => a.oid) fun o ho => by
    obtain ⟨x, hx, hxo⟩ := List.mem_map.mp (mem_dedup.mp ((mem_sortBy natLe).mp ho))
    have hm : x ∈ as.filter (fun a => a.oid == o) := List.mem_filter.mpr ⟨hx, by simp [hxo]⟩
    obtain ⟨a, ha⟩ := selectAdded_isSome _ (List.ne_nil_of_mem hm)
    exact ⟨a, ha, by simpa using (List.mem_filter.mp (selectAdded_mem _ a ha)).2⟩]
  have hsorted := sortBy_pairwise natLe natLe_total natLe_trans (dedup (as.map (·.oid)))
  have hnd : (sortBy natLe (dedup (as.map (·.oid)))).Nodup :=
    (sortBy_perm natLe _).nodup_iff.mpr (dedup_nodup _)
  exact (hsorted.and (List.nodup_iff_pairwise_ne.mp hnd)).imp
    (fun hab => Nat.lt_of_le_of_ne (by simpa [natLe] using hab.1) hab.2)

/-- target over non-target, for the module set: if ANY added module of the OpaqueID of a member of
    the module set was targeted, that member is targeted. -/
theorem unique_added_target_over_nontarget (as : List Added) (a : Added) (ha : a ∈ uniqueAdded as)
    (ht : ∃ x ∈ as, x.oid = a.oid ∧ x.isTarget = true) : a.isTarget = true := by
  obtain ⟨_, hsel⟩ := (unique_added_exact as a).mp ha
  obtain ⟨x, hx, hxo, hxt⟩ := ht
  exact target_over_nontarget _ a hsel ⟨x, List.mem_filter.mpr ⟨hx, by simp [hxo]⟩, hxt⟩

/-- local over remote, for the module set: a member of the module set is local whenever some
    added module of its OpaqueID is local and either none of that OpaqueID is targeted or a local
    one is targeted. -/
theorem unique_added_local_over_remote (as : List Added) (a : Added) (ha : a ∈ uniqueAdded as)
    (hl : ((∀ x ∈ as, x.oid = a.oid → x.isTarget = false) ∧ ∃ x ∈ as, x.oid = a.oid ∧ x.isLocal = true) ∨
          (∃ x ∈ as, x.oid = a.oid ∧ x.isTarget = true ∧ x.isLocal = true)) :
    a.isLocal = true := by
  obtain ⟨_, hsel⟩ := (unique_added_exact as a).mp ha
  apply local_over_remote _ a hsel
  rcases hl with ⟨hnt, x, hx, hxo, hxl⟩ | ⟨x, hx, hxo, hxt, hxl⟩
  · left
    refine ⟨?_, x, List.mem_filter.mpr ⟨hx, by simp [hxo]⟩, hxl⟩
    intro y hy
    have := List.mem_filter.mp hy
    exact hnt y this.1 (by simpa using this.2)
  · right
    exact ⟨x, List.mem_filter.mpr ⟨hx, by simp [hxo]⟩, hxt, hxl⟩

/-- v1 (buf.work.yaml): the pins of the buf.lock of EVERY module directory are added, as
    non-target remote modules — whatever `m.loc.isTarget` is, i.e. whether or not the input
    targets that directory. -/
theorem v1_every_lock_honoured (ms : List LockedMod) (m : LockedMod) (hm : m ∈ ms) (p : Added)
    (hp : p ∈ m.pins) : p.asPin ∈ v1Adds ms := by
  unfold v1Adds
  exact List.mem_flatMap.mpr ⟨m, hm, List.mem_append_left _ (List.mem_map.mpr ⟨p, hp, rfl⟩)⟩

/-- v1: every module directory of the workspace is added, targeted or not. -/
theorem v1_every_module_added (ms : List LockedMod) (m : LockedMod) (hm : m ∈ ms) :
    m.loc ∈ v1Adds ms := by
  unfold v1Adds
  exact List.mem_flatMap.mpr ⟨m, hm, List.mem_append_right _ List.mem_cons_self⟩

/-- v1: nothing else is added (no pin is invented, none becomes a target or local). -/
theorem v1_adds_sound (ms : List LockedMod) (a : Added) (ha : a ∈ v1Adds ms) :
    ∃ m ∈ ms, a = m.loc ∨ ∃ p ∈ m.pins, a = p.asPin := by
  unfold v1Adds at ha
  obtain ⟨m, hm, h⟩ := List.mem_flatMap.mp ha
  refine ⟨m, hm, ?_⟩
  rcases List.mem_append.mp h with h | h
  · obtain ⟨p, hp, rfl⟩ := List.mem_map.mp h
    exact Or.inr ⟨p, hp, rfl⟩
  · exact Or.inl (by simpa using h)

/-- v1: a module pinned in the buf.lock of any module directory is in the module set under its
    OpaqueID — also when only a sibling directory is the input. -/
theorem v1_pinned_in_module_set (ms : List LockedMod) (m : LockedMod) (hm : m ∈ ms) (p : Added)
    (hp : p ∈ m.pins) : ∃ a ∈ uniqueAdded (v1Adds ms), a.oid = p.oid := by
  obtain ⟨a, ha, hoid, _⟩ := uniqueAdded_covers _ _ (v1_every_lock_honoured ms m hm p hp)
  exact ⟨a, ha, hoid⟩

/-- v1: when nothing competes for the OpaqueID (no local module of that identity, no other
    commit pinned in another buf.lock) the module set contains exactly that pin: remote and not a
    target. -/
theorem v1_sole_pin_selected (ms : List LockedMod) (m : LockedMod) (hm : m ∈ ms) (p : Added)
    (hp : p ∈ m.pins) (hu : ∀ x ∈ v1Adds ms, x.oid = p.oid → x = p.asPin) :
    p.asPin ∈ uniqueAdded (v1Adds ms) := by
  obtain ⟨a, ha, hoid, hmem⟩ := uniqueAdded_covers _ _ (v1_every_lock_honoured ms m hm p hp)
  have : a = p.asPin := hu a hmem hoid
  rw [← this]; exact ha

/-- v2: every pin of the top-level buf.lock is added, and the selection keeps an entry with its
    identity. -/
theorem v2_lock_honoured (lock locs : List Added) (p : Added) (hp : p ∈ lock) :
    p.asPin ∈ v2Adds lock locs ∧ ∃ a ∈ uniqueAdded (v2Adds lock locs), a.oid = p.oid := by
  have h : p.asPin ∈ v2Adds lock locs := by
    unfold v2Adds
    exact List.mem_append_left _ (List.mem_map.mpr ⟨p, hp, rfl⟩)
  obtain ⟨a, ha, hoid, _⟩ := uniqueAdded_covers _ _ h
  exact ⟨h, a, ha, hoid⟩

/-- the same pin in a targeted and in a non-targeted module's lock, a conflicting older commit in
    a third lock and a local module that shadows another pin: T = directory 0 is the only target;
    r (oid 3) is pinned by the non-targeted sibling only, at commits 1 (ctime 10) and 2 (ctime 20);
    oid 1 is pinned by T but is also the sibling's own identity. -/
def exLockT : LockedMod :=
  { pins := [{ oid := 1, isLocal := false, isTarget := false, commit := 7, ctime := 5, files := [] }],
    loc := { oid := 0, isLocal := true, isTarget := true, commit := 0, ctime := 0, files := [] } }
def exLockS : LockedMod :=
  { pins := [{ oid := 3, isLocal := false, isTarget := false, commit := 1, ctime := 10, files := [] }],
    loc := { oid := 1, isLocal := true, isTarget := false, commit := 0, ctime := 0, files := [] } }
def exLockU : LockedMod :=
  { pins := [{ oid := 3, isLocal := false, isTarget := false, commit := 2, ctime := 20, files := [] }],
    loc := { oid := 2, isLocal := true, isTarget := false, commit := 0, ctime := 0, files := [] } }

example : (uniqueAdded (v1Adds [exLockT, exLockS, exLockU])).map (fun a => (a.oid, a.commit, a.isLocal, a.isTarget)) =
    [(0, 0, true, true), (1, 0, true, false), (2, 0, true, false), (3, 2, false, false)] := by decide

/-- honouring only the buf.lock files of TARGETED modules (a plausible "optimisation") loses the
    remote module the target reaches through its sibling: the model of that variant differs. -/
theorem only_target_locks_counterexample :
    ¬ ∃ a ∈ uniqueAdded (v1Adds ([exLockT, exLockS, exLockU].map
        (fun m => if m.loc.isTarget then m else { m with pins := [] }))), a.oid = 3 := by decide +kernel

/-! ### non-vacuity of the ls-files and selection theorems -/

/-- the acyclic diamond `exWs3` (A → B → D, A → C → D, A imports a built-in WKT), A targeted, with
    a compiler whose dependency lists are the scanned imports in REVERSE order (so they agree with
    them as sets only). -/
def exT3 : TWS := { ws := exWs3, cfgs := [{}, {}, {}, {}] }

def exC3 : Compiler :=
  { imports := fun p => match lsLookup (allFiles exWs3) exWs3.wkt p with
      | some cs => cs.reverse
      | none => []
    unused := fun _ => []
    syntaxUnspecified := fun _ => false }

theorem exT3_wf : WfCfgs exT3 := wfCfgs_of_all (by decide)
theorem exT3_agree : ImportsAgree exT3.ws exC3 := importsAgree_of_check (by decide +kernel)

theorem exT3_ls : lsFiles exT3.ws (isTargetIn exT3) =
    .ok [("a/a.proto".toList, false), ("b/b.proto".toList, true), ("c/c.proto".toList, true),
         ("d/d.proto".toList, true), ("google/protobuf/any.proto".toList, true)] := by decide +kernel

theorem exT3_img : (buildImage exT3 exC3 id).map (fun l => l.map (fun f => (f.path, f.isImport))) =
    .ok [("google/protobuf/any.proto".toList, true), ("d/d.proto".toList, true), ("c/c.proto".toList, true),
         ("b/b.proto".toList, true), ("a/a.proto".toList, false)] := by decide +kernel

-- all hypotheses of `lsfiles_eq_build` hold for `exT3`/`exC3` (the image order differs from the
-- ls-files order, the compiler's import lists differ from the scanned ones as lists)
example : ∀ l img, lsFiles exT3.ws (isTargetIn exT3) = .ok l → buildImage exT3 exC3 id = .ok img →
    l.map (·.1) = sortPaths (img.map (·.path)) :=
  fun l img hl hb => (lsfiles_eq_build exT3 exC3 id exT3_wf exT3_agree l img hl hb).1

example : ∃ l img, lsFiles exT3.ws (isTargetIn exT3) = .ok l ∧ buildImage exT3 exC3 id = .ok img := by
  cases h : buildImage exT3 exC3 id with
  | error e => have := exT3_img; rw [h] at this; cases this
  | ok img => exact ⟨_, img, exT3_ls, rfl⟩

-- `nontarget_files_are_imports`: B (module 1) is not targeted and provides b/b.proto
example : ∀ img, buildImage exT3 exC3 id = .ok img → ∀ f ∈ img, f.path = "b/b.proto".toList → f.isImport = true := by
  intro img h f hf hp
  exact (nontarget_files_are_imports exT3 exC3 id img exT3_wf h f hf).2.2 1 (by decide +kernel)
    ⟨{ path := "b/b.proto".toList, imports := ["d/d.proto".toList] }, by decide +kernel, hp.symm⟩

/-- two modules provide x/dup.proto and nobody imports it; A imports B. -/
def exWsDup : WS :=
  { mods := [ { files := [{ path := "a/a.proto".toList, imports := ["b/b.proto".toList] }, { path := "x/dup.proto".toList, imports := [] }],
                isTarget := true, isLocal := true },
              { files := [{ path := "b/b.proto".toList, imports := [] }, { path := "x/dup.proto".toList, imports := [] }],
                isTarget := false, isLocal := true } ],
    wkt := [] }

-- hypotheses of `lsfiles_dup_path_error` / `deps_dup_among_error` hold; the model reports `dup`
example : ∃ e, lsFiles exWsDup (fun _ _ => true) = .error e :=
  lsfiles_dup_path_error exWsDup _ 0 1 { path := "x/dup.proto".toList, imports := [] }
    { path := "x/dup.proto".toList, imports := [] } (by decide +kernel) (by decide +kernel) (by decide +kernel) rfl
example : lsFiles exWsDup (fun _ _ => true) = .error .dupPath := by decide +kernel
example : ∃ e, moduleDeps exWsDup 0 = .error e :=
  deps_dup_among_error exWsDup 0 0 1 (Reach.refl 0)
    (Reach.step (Reach.refl 0) (rfl : msuccO exWsDup 0 = some (msucc exWsDup 0)) (by decide +kernel))
    (by decide +kernel) { path := "x/dup.proto".toList, imports := [] } (by decide +kernel) (by decide +kernel)
example : moduleDeps exWsDup 0 = .error .dupPath := by decide +kernel

/-- the commonest shadowing case: ONE targeted local module and an untargeted pin of the same
    OpaqueID (the weak second disjunct of `local_over_remote`). -/
def exShadow : List Added :=
  [ { oid := 0, isLocal := false, isTarget := false, commit := 7, ctime := 5, files := [] },
    { oid := 0, isLocal := true, isTarget := true, commit := 0, ctime := 0, files := [] },
    { oid := 1, isLocal := false, isTarget := false, commit := 3, ctime := 1, files := [] } ]

example : ∃ x ∈ exShadow.filter (fun a => a.oid == 0), x.isTarget = true ∧ x.isLocal = true := by decide
example : (uniqueAdded exShadow).map (fun a => (a.oid, a.isLocal, a.isTarget)) = [(0, true, true), (1, false, false)] := by decide
example : ∀ a ∈ uniqueAdded exShadow, a.oid = 0 → a.isLocal = true := by
  intro a ha h0
  exact unique_added_local_over_remote exShadow a ha
    (Or.inr ⟨{ oid := 0, isLocal := true, isTarget := true, commit := 0, ctime := 0, files := [] },
      by decide, by rw [h0], rfl, rfl⟩)

-- `unique_added_target_over_nontarget` on `exShadow`: an added module of OpaqueID 0 is targeted
example : ∀ a ∈ uniqueAdded exShadow, a.oid = 0 → a.isTarget = true := by
  intro a ha h0
  exact unique_added_target_over_nontarget exShadow a ha
    ⟨{ oid := 0, isLocal := true, isTarget := true, commit := 0, ctime := 0, files := [] }, by decide, by rw [h0], rfl⟩
example : ((uniqueAdded exShadow).map (·.oid)).Pairwise (· < ·) := unique_added_sorted exShadow

-- `lsfiles_nontarget_is_import` on `exT3`: only the non-targeted module B provides b/b.proto
example : (("b/b.proto".toList, true) : Str × Bool).2 = true :=
  lsfiles_nontarget_is_import exT3 _ exT3_ls ("b/b.proto".toList, true) (by decide +kernel) (by
    intro m f hf hp
    have hall : ∀ m, m < 4 → ∀ f ∈ modFiles exT3.ws m, f.path = "b/b.proto".toList → modIsTarget exT3 m = false := by decide +kernel
    exact hall m (modFiles_lt hf) f hf hp)

-- `lsfiles_closure_exact` / `lsfiles_lookup_file` on `exT3`
example : lsLookup (allFiles exT3.ws) exT3.ws.wkt "a/a.proto".toList =
    some ["b/b.proto".toList, "c/c.proto".toList, "google/protobuf/any.proto".toList] :=
  lsfiles_lookup_file exT3.ws _ _ exT3_ls 0
    { path := "a/a.proto".toList, imports := ["b/b.proto".toList, "c/c.proto".toList, "google/protobuf/any.proto".toList] } (by decide)

end BufProofs.C10
