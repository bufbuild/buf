import BufProofs.Lemmas.ImageExtLemmas
import BufProofs.Props.C11
/-
  Property C11, clause "an image stands in for its sources" — the EXTENSION BITS of every rebuilt
  image file (model: BufModel/ImagePaths.lean, `XBits` and section (i')).

  An image file carries, next to its path, import flag and dependency list: the descriptor
  (`payload`), `is_syntax_unspecified`, the `unused_dependency` indexes, the module name and the
  commit id.  Every filter that hands out a NEW image file object has to hand these on: the path
  filter (`ImageWithOnlyPaths[AllowNotExist]` → `addFileWithImports` → `ImageFileWithIsImport`),
  `ImageWithoutImports`, `ImageByDir`, the type filter's `filterImageFile`; one section
  compares image and sources with the compiler's bits (`buildX`).
-/
namespace BufProofs.C11
open BufModel.Path BufModel.ImagePaths BufProofs.ImagePathsLemmas BufProofs.ImageExtLemmas

/-! ## `ImageFileWithIsImport` -/

/-- `ImageFileWithIsImport` changes the import flag and nothing else: path, dependency list,
    descriptor, syntax bit, unused-dependency indexes, module name and commit are handed on. -/
theorem extbits_withIsImport_frame (f : File) (imp : Bool) :
    (withIsImport f imp).isImport = imp ∧ (withIsImport f imp).path = f.path ∧
    (withIsImport f imp).deps = f.deps ∧ (withIsImport f imp).ext = f.ext := by
  unfold withIsImport
  by_cases h : f.isImport = imp
  · rw [if_pos h]; exact ⟨h, rfl, rfl, rfl⟩
  · rw [if_neg h]; exact ⟨rfl, rfl, rfl, rfl⟩

/-- The flagging step of the closure walk (`mark`, used by `visit`) IS `ImageFileWithIsImport`
    with "import = not one of the non-import paths". -/
theorem extbits_mark_eq_withIsImport (t : List Str) (f : File) :
    mark t f = withIsImport f (!(t.contains f.path)) := by
  unfold withIsImport mark
  by_cases h : f.isImport = !(t.contains f.path)
  · rw [if_pos h]
    cases f with
    | mk p i d e => simp only at h; subst h; rfl
  · rw [if_neg h]

/-! ## the path filter -/

/-- **The path filter preserves the extension bits of every surviving file.**  For EVERY image
    (any dependency graph, duplicates, cycles), every `--path` / `--exclude-path` list and both
    `allowNotExist` modes: when `imageWithOnlyPaths` succeeds there is a set of target files `ni`
    of the image such that every file `h` of the result is a file `g` of the image with the same
    path, dependency list, descriptor, syntax bit, unused-dependency indexes, module name and
    commit — exactly `ImageFileWithIsImport g (path ∉ targets)`: `is_import` = "not a target". -/
theorem extbits_path_filter_preserves (img : Image) (pths excl : List Str) (allow : Bool) (out : Image)
    (h : imageWithOnlyPaths img pths excl allow = .ok out) :
    ∃ ni : List File, (∀ f ∈ ni, f ∈ img) ∧
      ∀ h ∈ out, ∃ g ∈ img, h = withIsImport g (!((paths ni).contains g.path)) ∧
        h.path = g.path ∧ h.deps = g.deps ∧ h.ext = g.ext ∧
        h.isImport = !((paths ni).contains h.path) := by
  obtain ⟨ni, hsub, hg⟩ := extbits_iwop_roots_sub h
  refine ⟨ni, hsub, ?_⟩
  intro h hh
  obtain ⟨g, hgi, he⟩ := extbits_getImageWithImports_from hsub hg h hh
  refine ⟨g, hgi, ?_, ?_, ?_, ?_, ?_⟩
  · rw [he]; exact extbits_mark_eq_withIsImport _ g
  · rw [he]; rfl
  · rw [he]; rfl
  · rw [he]; rfl
  · rw [he]; rfl

/-- The same for `bufctl.filterImage` (no path and no exclude path: the image itself). -/
theorem extbits_filterImagePaths_preserves (img : Image) (pths excl : List Str) (out : Image)
    (h : filterImagePaths img pths excl = .ok out) :
    ∀ h ∈ out, ∃ g ∈ img, h.path = g.path ∧ h.deps = g.deps ∧ h.ext = g.ext := by
  unfold filterImagePaths at h
  split at h
  · cases h; intro h hh; exact ⟨h, hh, rfl, rfl, rfl⟩
  · obtain ⟨_, _, hall⟩ := extbits_path_filter_preserves img pths excl true out h
    intro h hh
    obtain ⟨g, hg, _, a, b, c, _⟩ := hall h hh
    exact ⟨g, hg, a, b, c⟩

/-- **`is_import` is exactly "not a target after filtering"**, with the targets computed
    independently of the walk: under the conditions of `targeting_equivalence` on the image and the
    selection (`Hyp`: unique normalised paths, no `--path` inside an `--exclude-path`, no `--path`
    selecting an import), a file of the filtered image is a non-import iff the image holds a
    non-import of that path which the selection keeps; and its bits are those of that file. -/
theorem extbits_path_filter_is_import_exact (img : Image) (pths excl : List Str) (out : Image)
    (hyp : Hyp img pths excl) (hne : pths ≠ [] ∨ excl ≠ [])
    (h : imageWithOnlyPaths img pths excl true = .ok out) :
    ∀ h ∈ out, ∃ g ∈ img, h.path = g.path ∧ h.deps = g.deps ∧ h.ext = g.ext ∧
      (h.isImport = false ↔ (g.isImport = false ∧ selected pths excl g.path = true)) := by
  obtain ⟨ni, hiw, hnisub, hnimem⟩ := iwop_roots hyp hne
  rw [hiw] at h
  intro h' hh
  obtain ⟨g, hgi, he⟩ := extbits_getImageWithImports_from hnisub h h' hh
  refine ⟨g, hgi, by rw [he]; rfl, by rw [he]; rfl, by rw [he]; rfl, ?_⟩
  rw [he, mark_isImport, Bool.not_eq_eq_eq_not, Bool.not_false, List.contains_iff_mem, hnimem]
  constructor
  · rintro ⟨f, hfi, hfp, himp, hsel⟩
    cases ListLemmas.eq_of_nodup_map File.path hyp.nodup hfi hgi hfp
    exact ⟨himp, hsel⟩
  · rintro ⟨himp, hsel⟩
    exact ⟨g, hgi, rfl, himp, hsel⟩

/-- … in particular a selected target keeps ALL of its attributes (it is the same object). -/
theorem extbits_path_filter_keeps_selected_bits (img : Image) (pths excl : List Str) (out : Image)
    (hyp : Hyp img pths excl) (hne : pths ≠ [] ∨ excl ≠ [])
    (h : imageWithOnlyPaths img pths excl true = .ok out) (f : File) (hf : f ∈ out)
    (hni : f.isImport = false) : f ∈ img := by
  obtain ⟨g, hg, hp, hd, he, hiff⟩ := extbits_path_filter_is_import_exact img pths excl out hyp hne h f hf
  have hgi := (hiff.mp hni).1
  have : f = g := by
    cases f; cases g
    simp only at hp hd he hni hgi
    subst hp hd he hni hgi
    rfl
  exact this ▸ hg

/-! ## image vs sources, with the bits the compiler attaches -/

/-- **An image stands in for its sources, bit by bit, up to unused dependencies.**  With the bits
    as `BuildImage` attaches them (`buildX`: syntax bit, module, commit, descriptor for every file,
    unused dependencies for the roots only), under the conditions of `targeting_equivalence`:
    filtering the built image by `--path` / `--exclude-path` and building the sources with the
    same selection give the same files with the same import flags, descriptors, syntax bits,
    module names and commits — `Perm` after forgetting the unused-dependency indexes.  (The
    indexes themselves differ for a file that the selection turns from a target into an import:
    `extbits_targeting_unused_divergence_example`, the recorded finding
    C11-path-build-import-unused-dependency-differs.) -/
theorem extbits_targeting_equivalence_modulo_unused (ws : Workspace) (pths excl : List Str)
    (imgX : Image) (sc : SideConditions ws pths excl) (hfull : buildX ws = .ok imgX) :
    (∃ I M, filterImagePaths imgX pths excl = .ok I ∧
        buildX (withTargeting ws pths excl) = .ok M ∧
        (I.map eraseUnused).Perm (M.map eraseUnused)) ∨
    (filterImagePaths imgX pths excl = .error .noFiles ∧
        buildX (withTargeting ws pths excl) = .error .noTargets) := by
  unfold buildX at hfull
  obtain ⟨img0, hb, hx⟩ := extbits_except_map_ok hfull
  subst hx
  have hnat : (filterImagePaths (img0.map compilerBits) pths excl).map (List.map eraseUnused) =
      (filterImagePaths img0 pths excl).map (List.map eraseUnused) := by
    rw [← extbits_filterImagePaths_map extbits_eraseUnused_bitmap,
      ← extbits_filterImagePaths_map extbits_eraseUnused_bitmap, extbits_erase_compilerBits]
  rcases targeting_equivalence ws pths excl img0 sc hb with ⟨I0, M0, hI, hM, hp, _⟩ | ⟨hI, hM⟩
  · left
    rw [hI] at hnat
    obtain ⟨I, hIX, hIe⟩ := extbits_except_map_ok hnat
    refine ⟨I, M0.map compilerBits, hIX, ?_, ?_⟩
    · unfold buildX; rw [hM]; rfl
    · rw [hIe, extbits_erase_compilerBits]
      exact hp.map _
  · right
    rw [hI] at hnat
    refine ⟨extbits_except_map_error hnat, ?_⟩
    unfold buildX; rw [hM]; rfl

/-! ## ImageWithoutImports, ImageByDir -/

/-- `ImageWithoutImports` keeps exactly the non-imports, as they are and in order. -/
theorem extbits_without_imports_preserves (img : Image) :
    (imageWithoutImports img).Sublist img ∧
    (∀ h, h ∈ imageWithoutImports img ↔ (h ∈ img ∧ h.isImport = false)) := by
  unfold imageWithoutImports
  refine ⟨List.filter_sublist, ?_⟩
  intro h
  rw [List.mem_filter]
  simp

/-- Every image `ImageByDir` returns consists of files of the image, re-flagged: same path,
    dependency list, descriptor, syntax bit, unused-dependency indexes, module and commit. -/
theorem extbits_by_dir_preserves (img : Image) (imgs : List Image) (h : imageByDir img = .ok imgs) :
    ∀ i ∈ imgs, ∀ h ∈ i, ∃ g ∈ img, h = withIsImport g h.isImport ∧
      h.path = g.path ∧ h.deps = g.deps ∧ h.ext = g.ext := by
  unfold imageByDir at h
  intro i hi f hf
  obtain ⟨d, _, hd⟩ := ((ListLemmas.mapM_except_ok _ _ _ h).1 i).mp hi
  obtain ⟨ni, _, hall⟩ := extbits_path_filter_preserves img _ [] false i hd
  obtain ⟨g, hg, he, a, b, c, e⟩ := hall f hf
  refine ⟨g, hg, ?_, a, b, c⟩
  rw [e, a]; exact he

/-! ## the type filter on the image-file level -/

/-- The type filter hands on path, import flag, syntax bit, module name and commit — whether the
    file is rewritten or not. -/
theorem extbits_type_filter_frame (required : List Str) (bc hp : Bool) (pl : Nat) (f : File) :
    let r := typeFilterFile required bc hp pl f
    r.path = f.path ∧ r.isImport = f.isImport ∧
    r.ext.syntaxUnspecified = f.ext.syntaxUnspecified ∧ r.ext.modName = f.ext.modName ∧
    r.ext.commit = f.ext.commit := by
  unfold typeFilterFile
  split <;> exact ⟨rfl, rfl, rfl, rfl, rfl⟩

/-- **Remapped unused-dependency indexes name the same paths.**  When no unused dependency is
    `required` by what the closure kept of the file (the compiler reports a dependency as unused
    only when nothing in the file refers to it), the paths named by the new indexes are exactly the
    paths named by the old ones, restricted to the dependencies still present. -/
theorem extbits_type_filter_unused_paths (required : List Str) (bc hp : Bool) (pl : Nat) (f : File)
    (hreq : ∀ p ∈ unusedPaths f, p ∉ required) :
    unusedPaths (typeFilterFile required bc hp pl f) =
      (unusedPaths f).filter (fun p => (typeFilterFile required bc hp pl f).deps.contains p) := by
  unfold typeFilterFile
  split
  · symm
    rw [List.filter_eq_self]
    intro p hp
    simpa using extbits_unusedPaths_sub f p hp
  · have : unusedPaths ({ f with deps := remapDeps required f.deps, ext := { f.ext with payload := pl, unusedDeps := [] } } : File) = [] := rfl
    rw [this]
    symm
    rw [List.filter_eq_nil_iff]
    intro p hp hc
    have hnr := hreq p hp
    have hc' : p ∈ remapDeps required f.deps := by simpa using hc
    unfold remapDeps at hc'
    rcases List.mem_append.mp hc' with h1 | h1
    · have := (List.mem_filter.mp h1).2
      exact hnr (by simpa using this)
    · exact hnr (List.mem_filter.mp (dedupStrs_sub (mem_sortStrs.mp h1))).1

/-- The new indexes are always valid for the new dependency list. -/
theorem extbits_type_filter_unused_in_range (required : List Str) (bc hp : Bool) (pl : Nat) (f : File)
    (hwf : ∀ i ∈ f.ext.unusedDeps, i < f.deps.length) :
    ∀ i ∈ (typeFilterFile required bc hp pl f).ext.unusedDeps,
      i < (typeFilterFile required bc hp pl f).deps.length := by
  unfold typeFilterFile
  split
  · exact hwf
  · intro i hi; cases hi

/-! ## concrete images: non-vacuity, and the two counterexamples -/

def xk (s : String) : Str := s.toList

def exMod : ModName := ⟨xk "buf.build", xk "acme", xk "m0"⟩

/-- a/x.proto (proto3) imports b/y.proto and c/u.proto, the latter unused (index 1);
    b/y.proto has NO syntax statement and an unused import of its own (index 0). -/
def exXImg : Image :=
  [ { path := xk "c/u.proto", isImport := false, deps := [],
      ext := { payload := 3, modName := some exMod, commit := some (xk "00000000000000000000000000000abc") } },
    { path := xk "b/y.proto", isImport := false, deps := [xk "c/u.proto"],
      ext := { payload := 2, syntaxUnspecified := true, unusedDeps := [0], modName := some exMod,
               commit := some (xk "00000000000000000000000000000abc") } },
    { path := xk "a/x.proto", isImport := false, deps := [xk "b/y.proto", xk "c/u.proto"],
      ext := { payload := 1, unusedDeps := [1] } } ]

set_option maxRecDepth 100000 in
/-- Non-vacuity: `--path a` keeps a/x.proto as the target and turns the other two into imports;
    b/y.proto keeps "syntax unspecified", its unused index, module and commit. -/
example : imageWithOnlyPaths exXImg [xk "a"] [] true =
    .ok [ { exXImg[0] with isImport := true }, { exXImg[1] with isImport := true }, exXImg[2] ] := by
  decide +kernel

set_option maxRecDepth 100000 in
/-- … `--exclude-path b` (exclude only) gives a different order, the same bits. -/
example : imageWithOnlyPaths exXImg [] [xk "b"] true =
    .ok [ exXImg[0], { exXImg[1] with isImport := true }, exXImg[2] ] := by
  decide +kernel

set_option maxRecDepth 100000 in
/-- … `ImageByDir`: three images, every file with its own bits in each. -/
example : imageByDir exXImg =
    .ok [ [ { exXImg[0] with isImport := true }, { exXImg[1] with isImport := true }, exXImg[2] ],
          [ { exXImg[0] with isImport := true }, exXImg[1] ],
          [ exXImg[0] ] ] := by
  decide +kernel

/-- Sources of `exXImg`: one module, every file with its bits as a root. -/
def exXWs : Workspace :=
  [ { isTarget := true, targetPaths := [], excludePaths := [],
      files := exXImg.map fun f => { f with isImport := false } } ]

/-- The recorded finding, in the model: `--path a` on the built image of `exXWs` keeps the
    unused-dependency index of b/y.proto (now an import; it was compiled as a root), building the
    sources with `--path a` gives it none; every other bit — and every bit of every other file —
    agrees, in particular b/y.proto is "syntax unspecified" on both sides. -/
theorem extbits_targeting_unused_divergence_example :
    (buildX exXWs).toOption.bind (fun img => (filterImagePaths img [xk "a"] []).toOption) =
      some [ { exXImg[0] with isImport := true }, { exXImg[1] with isImport := true }, exXImg[2] ] ∧
    buildX (withTargeting exXWs [xk "a"] []) =
      .ok [ { exXImg[0] with isImport := true },
            { exXImg[1] with isImport := true, ext := { exXImg[1].ext with unusedDeps := [] } },
            exXImg[2] ] := by
  decide +kernel

/-- The walk with an arbitrary re-flagging function in place of `ImageFileWithIsImport`. -/
def visitW (mk : List Str → File → File) (look : Str → Option File) (targets : List Str) :
    Nat → File → DState → DState
  | 0, _, st => st
  | fuel + 1, f, st =>
    if f.path ∈ st.1 then st
    else
      let st1 := f.deps.foldl
        (fun st d => match look d with
          | some g => visitW mk look targets fuel g st
          | none => st)
        (f.path :: st.1, st.2)
      (st1.1, st1.2 ++ [mk targets f])

def visitAllW (mk : List Str → File → File) (look : Str → Option File) (targets : List Str) (fuel : Nat)
    (fs : List File) (st : DState) : DState :=
  fs.foldl (fun st f => visitW mk look targets fuel f st) st

/-- `visitW` with the model's `mark` is the model's walk. -/
theorem extbits_visitW_mark (look : Str → Option File) (t : List Str) (fuel : Nat) :
    ∀ f st, visitW mark look t fuel f st = visit look t fuel f st := by
  induction fuel with
  | zero => intro f st; rfl
  | succ n ih =>
    intro f st
    unfold visitW visit
    have : (fun (st : DState) d => match look d with
          | some g => visitW mark look t n g st
          | none => st) = (fun (st : DState) d => match look d with
          | some g => visit look t n g st
          | none => st) := by
      funext s d
      cases look d with
      | none => rfl
      | some g => exact ih g s
    simp only [this]
    rfl

/-- an `ImageFileWithIsImport` that passes `!isImport && IsSyntaxUnspecified()` -/
def markClearsSyntax (t : List Str) (f : File) : File :=
  let imp := !(t.contains f.path)
  if f.isImport = imp then f
  else { f with isImport := imp, ext := { f.ext with syntaxUnspecified := !imp && f.ext.syntaxUnspecified } }

/-- what the broken walk emits for b/y.proto -/
def exBadY : File :=
  { exXImg[1] with isImport := true, ext := { exXImg[1].ext with syntaxUnspecified := false } }

/-- With that re-flagging function the walk for `--path a` on `exXImg` emits a b/y.proto whose
    extension bits are NOT those of the image's b/y.proto (the syntax bit is gone) — the
    conclusion of `extbits_path_filter_preserves` fails, so the theorem is about the code. -/
theorem extbits_reflag_clears_syntax_counterexample :
    let out := (visitAllW markClearsSyntax (getFile exXImg) [xk "a/x.proto"] 4 [exXImg[2]] ([], [])).2
    out.map (·.path) = [xk "c/u.proto", xk "b/y.proto", xk "a/x.proto"] ∧
    (∃ h ∈ out, h.path = xk "b/y.proto" ∧ ¬ ∃ g ∈ exXImg, h.path = g.path ∧ h.ext = g.ext) ∧
    (visitAllW mark (getFile exXImg) [xk "a/x.proto"] 4 [exXImg[2]] ([], [])).2 =
      [ { exXImg[0] with isImport := true }, { exXImg[1] with isImport := true }, exXImg[2] ] := by
  decide +kernel

/-- A type filter that kept the OLD indexes instead of dropping them. -/
def typeFilterFileStale (required : List Str) (f : File) : File :=
  { f with deps := remapDeps required f.deps }

/-- Non-vacuity of `extbits_type_filter_unused_paths` and the sibling regression: a/x.proto of
    `exXImg` with a leading unused import added; the closure requires only b/y.proto.  As coded
    the rewritten file has one dependency and no unused index; with the stale indexes, index 0 now
    names b/y.proto — a dependency that IS used — and index 2 names nothing. -/
theorem extbits_type_filter_stale_indexes_counterexample :
    let f : File := { path := xk "a/x.proto", isImport := false,
                      deps := [xk "z/unused.proto", xk "b/y.proto", xk "c/u.proto"],
                      ext := { payload := 1, unusedDeps := [0, 2] } }
    (∀ p ∈ unusedPaths f, p ∉ [xk "b/y.proto"]) ∧
    (typeFilterFile [xk "b/y.proto"] false false 1 f).deps = [xk "b/y.proto"] ∧
    unusedPaths (typeFilterFile [xk "b/y.proto"] false false 1 f) = [] ∧
    unusedPaths (typeFilterFileStale [xk "b/y.proto"] f) = [xk "b/y.proto"] ∧
    ¬ (∀ i ∈ (typeFilterFileStale [xk "b/y.proto"] f).ext.unusedDeps,
        i < (typeFilterFileStale [xk "b/y.proto"] f).deps.length) := by
  decide +kernel

end BufProofs.C11
