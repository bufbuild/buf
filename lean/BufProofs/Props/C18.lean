import BufProofs.Lemmas.ManagedLemmas
import BufProofs.Lemmas.ManagedSweepLemmas
import BufProofs.Lemmas.ManagedYamlLemmas
/-
  C18 — managed mode rewrites only what it governs.

  `modifyWith true p cfg img` is the model of `bufimagemodify.Modify(image, config)` — with
  `ModifyPreserveExisting()` iff `p` — after the fix of the sweeper (see
  `sweep_old_counterexample`); `modify cfg img = modifyWith true false cfg img`.
  Every theorem below is stated for both values of `p` (the harness runs both).

  `Out p cfg img f f'` = "f' is the output file at the position of input file f".

  The image model carries every FileOptions / FieldOptions entry by field number (governed or
  not, known or unknown to managed mode) and opaque payloads for the rest of the descriptor, so
  "nothing else changes" is a statement about `getOpt n` for EVERY field number `n`.
-/
namespace BufProofs.C18
open BufModel.Managed BufProofs.ManagedLemmas

/-- `Modify` returns as many files as it was given. -/
theorem modify_length (p : Bool) (cfg : Config) (img : List File) :
    (modifyWith true p cfg img).files.length = img.length := by
  cases h : cfg.enabled
  · unfold modifyWith; simp [h]
  · exact (AllRel.length_eq (modifyWith_rel true p cfg img h)).symm

/-- With managed mode disabled the image is untouched (and no error is reported). -/
theorem disabled_mode_identity (p : Bool) (cfg : Config) (img : List File) (h : cfg.enabled = false) :
    (modifyWith true p cfg img).files = img ∧ (modifyWith true p cfg img).err = false := by
  unfold modifyWith; simp [h]

/-- The thirteen modifiers run one after the other, each on the file as the previous ones left
    it (`modifyFile`, as coded); the result is the same as deciding every option on the INPUT
    file: each modifier reads only path / package / module and its own option. -/
theorem modifiers_independent (p : Bool) (cfg : Config) (f : File) :
    modifyFile p cfg f = (applyOptions p cfg f, marks p cfg f) := modifyFile_eq p cfg f

/-- The options and fields of an output file are those computed by the thirteen modifiers on
    the input file alone (no dependence on other files, on the sweep or on its error). -/
theorem out_options {p : Bool} {cfg : Config} {img : List File} {f f' : File} (he : cfg.enabled = true)
    (h : Out p cfg img f f') :
    f'.opts = (modifyOptions p cfg f).opts ∧ f'.fields = (modifyOptions p cfg f).fields := by
  obtain ⟨hd, -⟩ | ⟨-, l, rfl, -⟩ := out_cases h
  · rw [he] at hd; cases hd
  · exact ⟨rfl, rfl⟩

/-- FRAME.  For every file of the image, whatever the configuration and whether or not the
    sweep reports an error:
    * the opaque payload (messages, enums, services, dependencies, … everything outside file
      options, field options and source info), path, package and module are unchanged;
    * for EVERY FileOptions field number `n` that managed mode does not govern for this file
      (`¬ Governs`: not one of the twelve governed options — custom / unknown options included —
      or managed mode disabled, or a well-known-type file, or exempted by a matching disable
      rule, or already set under `ModifyPreserveExisting`) the value is unchanged;
    * every field keeps name, path, type and opaque rest, and EVERY FieldOptions field number
      other than jstype — and jstype too unless `JsGoverns` (a matching override, no matching
      disable rule, a 64-bit integer type, not preserved) — is unchanged;
    * the source-info list only loses entries (survivors unchanged, in order). -/
theorem frame (p : Bool) (cfg : Config) (img : List File) {f f' : File} (h : Out p cfg img f f') :
    FileFrame p cfg f f' := by
  obtain ⟨-, rfl⟩ | ⟨he, l, rfl, hl⟩ := out_cases h
  · exact .refl p cfg _
  · obtain ⟨h1, h2, h3, h4, h5, h6, -⟩ := modifyOptions_frame p cfg f he
    exact ⟨h1, h2, h3, h4, h5, h6, hl.elim sweepLocs_sublist (·.2 ▸ .refl _)⟩

/-- Well-known-type files are returned exactly as they were (options, fields, source info). -/
theorem wkt_untouched (p : Bool) (cfg : Config) (img : List File) {f f' : File} (h : Out p cfg img f f')
    (hw : isWKT f.path = true) : f' = f := by
  obtain ⟨-, rfl⟩ | ⟨-, l, rfl, hl⟩ := out_cases h
  · rfl
  · have hm : modifyOptions p cfg f = f := by unfold modifyOptions; simp [hw]
    have hk : fileMarks p cfg f = [] := by unfold fileMarks; simp [hw]
    -- without marks the sweeper is not called
    obtain rfl : l = f.locs := hl.elim (fun hs => by simpa [hk, sweepLocs] using hs.symm) (·.2)
    rw [hm]

/-! ### disable rules -/

/-- A disable rule matching the file and a governed option (or all options) leaves that option
    exactly as it was — any of the twelve (`g`), whatever overrides exist. -/
theorem disabled_untouched_file_option {p : Bool} {cfg : Config} {img : List File} {f f' : File}
    (h : Out p cfg img f f') (g : Gov)
    (hd : isFileOptionDisabled cfg f g.fileOpt = true) : getOpt g.tag f'.opts = getOpt g.tag f.opts := by
  apply (frame p cfg img h).2.2.2.2.1
  rintro ⟨_, _, g', ht, hd', _⟩
  have : g' = g := Gov.tag_inj _ _ ht
  subst this
  rw [hd] at hd'; cases hd'

theorem disabled_untouched_str {p : Bool} {cfg : Config} {img : List File} {f f' : File}
    (h : Out p cfg img f f') (o : StrOpt)
    (hd : isFileOptionDisabled cfg f o.valueOpt = true) : f'.strOpts o = f.strOpts o := by
  have h1 : getOpt o.tag f'.opts = getOpt o.tag f.opts := disabled_untouched_file_option h (.str o) hd
  unfold File.strOpts; rw [h1]

theorem disabled_untouched_bool {p : Bool} {cfg : Config} {img : List File} {f f' : File}
    (h : Out p cfg img f f') (o : BoolOpt)
    (hd : isFileOptionDisabled cfg f o.fileOpt = true) : f'.boolOpts o = f.boolOpts o := by
  have h1 : getOpt o.tag f'.opts = getOpt o.tag f.opts := disabled_untouched_file_option h (.bool o) hd
  unfold File.boolOpts; rw [h1]

theorem disabled_untouched_optimize {p : Bool} {cfg : Config} {img : List File} {f f' : File}
    (h : Out p cfg img f f')
    (hd : isFileOptionDisabled cfg f .optimizeFor = true) : f'.optimizeFor = f.optimizeFor := by
  have h1 : getOpt optimizeForTag f'.opts = getOpt optimizeForTag f.opts := disabled_untouched_file_option h .optimize hd
  unfold File.optimizeFor; rw [h1]

/-- `isFileOptionDisabled` is exactly: some disable rule names this option or no option, names
    no field option, and matches the file by path containment and module. -/
theorem isFileOptionDisabled_iff (cfg : Config) (f : File) (o : FileOption) :
    isFileOptionDisabled cfg f o = true ↔
      ∃ r ∈ cfg.disables, (r.fileOption = .unspecified ∨ r.fileOption = o) ∧ r.jstype = false ∧
        fileMatch f r.path r.module = true := by
  unfold isFileOptionDisabled
  simp [List.any_eq_true, and_assoc]

/-- … and for jstype: some disable rule is for jstype or for everything, matches the file, and
    names this field or no field. -/
theorem jsDisabledFor_iff (cfg : Config) (f : File) (name : List Char) :
    jsDisabledFor cfg f name = true ↔
      ∃ d ∈ cfg.disables, (d.jstype = true ∨ d.fileOption = .unspecified) ∧
        fileMatch f d.path d.module = true ∧ (d.fieldName = [] ∨ d.fieldName = name) := by
  unfold jsDisabledFor
  simp [List.any_eq_true, and_assoc]

/-- A disable rule for jstype (or for all options) that matches the file and names this field
    (or no field) leaves every option of the field, jstype included, as it was. -/
theorem disabled_untouched_jstype {p : Bool} {cfg : Config} {img : List File} {f f' : File}
    (h : Out p cfg img f f') (d : Disable) (hd : d ∈ cfg.disables)
    (hopt : d.jstype = true ∨ d.fileOption = .unspecified)
    (hm : fileMatch f d.path d.module = true)
    (j : Nat) (fd fd' : Field) (hj : f.fields[j]? = some fd) (hj' : f'.fields[j]? = some fd')
    (hf : d.fieldName = [] ∨ d.fieldName = fd.fullName) :
    ∀ n, getOpt n fd'.opts = getOpt n fd.opts := by
  intro n
  have hff := AllRel.get (frame p cfg img h).2.2.2.2.2.1 j fd fd' hj hj'
  apply hff.2.2.2.2 n
  right
  rintro ⟨_, _, hdis, _⟩
  have : jsDisabledFor cfg f fd.fullName = true :=
    (jsDisabledFor_iff cfg f fd.fullName).mpr ⟨d, hd, hopt, hm, hf⟩
  rw [this] at hdis; cases hdis

/-! ### precedence: last matching override, else the managed default -/

/-- bool options: in a file that is not a WKT, not exempted and (under preserve-existing) not
    already set, the effective value after `Modify` is the value of the LAST matching
    override, else the managed default.  (Exempted / preserved: `frame` says unchanged.) -/
theorem precedence_bool {p : Bool} {cfg : Config} {img : List File} {f f' : File}
    (he : cfg.enabled = true) (h : Out p cfg img f f') (o : BoolOpt)
    (hw : isWKT f.path = false) (hd : isFileOptionDisabled cfg f o.fileOpt = false)
    (hp : (p && (f.boolOpts o).isSome) = false) :
    (f'.boolOpts o).getD o.protoDefault =
      (((cfg.overrides.filter fun r => fileMatch f r.path r.module && r.fileOption = o.fileOpt).getLast?).map
        (·.bval)).getD o.managedDefault := by
  rw [(out_typed he h hw).2.1 o, applyOptions_boolOpts, boolChange_eq, ← lastOverride_eq]
  unfold boolTarget
  simp only [hd, Bool.false_eq_true, ↓reduceIte]
  cases lastOverride cfg f o.fileOpt <;> exact change_getD hp

/-- optimize_for: same precedence, default SPEED. -/
theorem precedence_optimize {p : Bool} {cfg : Config} {img : List File} {f f' : File}
    (he : cfg.enabled = true) (h : Out p cfg img f f')
    (hw : isWKT f.path = false) (hd : isFileOptionDisabled cfg f .optimizeFor = false)
    (hp : (p && f.optimizeFor.isSome) = false) :
    f'.optimizeFor.getD optimizeSpeed =
      (((cfg.overrides.filter fun r => fileMatch f r.path r.module && r.fileOption = .optimizeFor).getLast?).map
        (·.nval)).getD optimizeSpeed := by
  rw [(out_typed he h hw).2.2.1, applyOptions_optimizeFor, optimizeChange_eq, ← lastOverride_eq]
  unfold optimizeTarget
  simp only [hd, Bool.false_eq_true, ↓reduceIte]
  cases lastOverride cfg f .optimizeFor <;> exact change_getD hp

/-- jstype, both directions: the jstype of EVERY field after `Modify` is `jsWant` — unchanged
    in a WKT file, when a disable rule covers the field, when no override for jstype matches
    file and field, when it is set and existing values are preserved, or when the field is not
    a 64-bit integer; otherwise the value of the LAST matching override (`jsSpec`).  So jstype
    changes exactly when `jsWant` differs from the old value, and only to that value. -/
theorem precedence_jstype {p : Bool} {cfg : Config} {img : List File} {f f' : File}
    (he : cfg.enabled = true) (h : Out p cfg img f f')
    (j : Nat) (fd : Field) (hj : f.fields[j]? = some fd) :
    ∃ fd', f'.fields[j]? = some fd' ∧ fd'.jstype = jsWant p cfg f fd := by
  obtain ⟨_, h2⟩ := out_options he h
  rw [modifyOptions_eq] at h2
  by_cases hw : isWKT f.path = true
  · simp only [hw, ↓reduceIte] at h2
    exact ⟨fd, by rw [h2]; exact hj, by unfold jsWant; simp [hw]⟩
  · simp only [hw, Bool.false_eq_true, ↓reduceIte] at h2
    refine ⟨applyField p cfg f fd, ?_, applyField_jstype_spec p cfg f fd⟩
    rw [h2]; show (f.fields.map (applyField p cfg f))[j]? = _
    simp [hj]

/-! ### string options -/

/-- String options, completely: in a file that is not a WKT, the value of governed string
    option `o` after `Modify` is
    * the old value, when it is set and existing values are preserved;
    * otherwise `strSpec cfg f o` when that is `some v` — see `strSpec` / `strSpecSOO` /
      `specSOO`: not exempted by a disable rule; among the override rules matching the file by
      path containment and module, the last value override wins over everything before it,
      later prefix / suffix overrides (of usable companions) blank the value and keep each
      other, the default formula is applied to the winning prefix / suffix, an all-blank
      result or an empty computed value means "leave alone";
    * otherwise the old value.
    This is an equation between the implementation model's output and a declarative
    description, hence both directions. -/
theorem precedence_str {p : Bool} {cfg : Config} {img : List File} {f f' : File}
    (he : cfg.enabled = true) (h : Out p cfg img f f') (o : StrOpt) (hw : isWKT f.path = false) :
    f'.strOpts o =
      if p && (f.strOpts o).isSome then f.strOpts o
      else match strSpec cfg f o with
        | some v => some v
        | none => f.strOpts o := by
  rw [(out_typed he h hw).1 o, applyOptions_strOpts, strChange_eq, strTarget_eq_spec,
    change_or (fun v hv h => strSpec_ne_nil hv (Option.some.inj h).symm)]
  cases strSpec cfg f o <;> rfl

/-- Override before default, last match wins: if the last override that concerns the option is
    a value override with a non-empty value, that value is what managed mode wants — whatever
    prefix, suffix or value overrides precede it and whatever the default formula gives. -/
theorem precedence_str_last_value {cfg : Config} {f : File} (o : StrOpt)
    (hd : isFileOptionDisabled cfg f o.valueOpt = false)
    (pre post : List Override) (r : Override) (hsplit : cfg.overrides = pre ++ r :: post)
    (hm : fileMatch f r.path r.module = true) (hv : r.fileOption = o.valueOpt)
    (hne : r.sval ≠ [])
    (hpost : ∀ r' ∈ post, relevant f o r' = false) :
    strSpec cfg f o = some r.sval := by
  rw [← strTarget_eq_spec]
  have hso : stringOverride cfg f (o.defaultSOO f) o.valueOpt o.prefixOpt o.suffixOpt = ⟨r.sval, [], []⟩ := by
    unfold stringOverride
    simp only [hd, Bool.false_eq_true, ↓reduceIte, hsplit, List.foldl_append, List.foldl_cons]
    rw [foldl_irrelevant cfg f o post hpost]
    unfold sooStep
    simp [hm, hv]
  unfold strTarget
  simp only [hso]
  have h1 : (⟨r.sval, [], []⟩ : SOO) ≠ SOO.empty := by
    intro hc; apply hne; exact congrArg SOO.value hc
  simp [h1, hne]

/-- Default: with no override concerning the option (and the option not disabled) the override
    options are the managed default alone — prefix / suffix blanked when their companion option
    does not exist or is disabled. -/
theorem precedence_str_default {cfg : Config} {f : File} (o : StrOpt)
    (hd : isFileOptionDisabled cfg f o.valueOpt = false)
    (hnone : ∀ r ∈ cfg.overrides, relevant f o r = false) :
    strSpecSOO cfg f o =
      ⟨(o.defaultSOO f).value,
       if usePfx cfg f o then (o.defaultSOO f).pfx else [],
       if useSfx cfg f o then (o.defaultSOO f).suffix else []⟩ := by
  rw [← stringOverride_eq_spec cfg f o hd]
  unfold stringOverride
  simp only [hd, Bool.false_eq_true, ↓reduceIte]
  rw [foldl_irrelevant cfg f o cfg.overrides hnone _]
  unfold usePfx useSfx
  congr 1
  · cases (decide (o.prefixOpt = FileOption.unspecified) || isFileOptionDisabled cfg f o.prefixOpt) <;> rfl
  · cases (decide (o.suffixOpt = FileOption.unspecified) || isFileOptionDisabled cfg f o.suffixOpt) <;> rfl

/-! ### marks = options whose value changed -/

/-- File options of every kind (string, bool, optimize_for): a modifier writes and marks
    exactly when the value of its option differs afterwards. -/
theorem marked_iff_changed_file_option (p : Bool) (cfg : Config) (f : File) (g : Gov) :
    (govChange p cfg f g).isSome = true ↔
      getOpt g.tag (applyOptions p cfg f).opts ≠ getOpt g.tag f.opts :=
  gov_marked_iff_changed p cfg f g

/-- jstype: same. -/
theorem marked_iff_changed_jstype (p : Bool) (cfg : Config) (f : File) (fd : Field) :
    (jsChange p cfg f fd).isSome = true ↔
      getOpt jstypeTag (applyField p cfg f fd).opts ≠ getOpt jstypeTag fd.opts :=
  js_marked_iff_changed p cfg f fd

/-- The paths handed to the sweeper for a file are exactly the SourceCodeInfo paths of the
    options whose VALUE differs between the input file and the modified file: `[8, n]` for
    FileOptions field `n`, `field path ++ [8, 6]` for a field's jstype (`Changed`). -/
theorem marks_exact (p : Bool) (cfg : Config) (f : File) (q : List Nat) :
    q ∈ fileMarks p cfg f ↔ Changed f (modifyOptions p cfg f) q :=
  fileMarks_iff_changed p cfg f q

/-! ### source-info sweep -/

/-- Only locations of marked paths are removed: every removed location is (a) a location
    whose path is a mark, or (b) the entry immediately before the location of a marked file
    option (the model's sweeper fails unless that entry has path `[8]`; the statement does not
    record its path), or (c) a FieldOptions location that is a proper prefix of a marked
    location. -/
theorem sweep_sound (mk : List (List Nat)) (locs : List Loc) (rm : List Nat)
    (h : sweepRemoved true mk locs = some rm) (k : Nat) (hk : k ∈ rm) :
    (∃ loc : Loc, locs[k]? = some loc ∧ loc.path ∈ mk) ∨
    (∃ loc : Loc, locs[k + 1]? = some loc ∧ loc.path ∈ mk ∧ isFileOptPath loc.path = true) ∨
    (∃ loc : Loc, locs[k]? = some loc ∧ pathType loc.path = .fieldOptionsRoot ∧
      ∃ (j : Nat) (loc' : Loc), locs[j]? = some loc' ∧ loc'.path ∈ mk ∧
        properPrefix loc.path loc'.path = true) := by
  obtain ⟨st, n, rfl, -, inv, -⟩ := sweepRemoved_inv h
  rcases List.mem_append.mp hk with h1 | h1
  · rcases inv.removedOk k h1 with h2 | h2
    · exact Or.inl h2
    · exact Or.inr (Or.inl h2)
  · obtain ⟨e, he1, -, hh, rfl⟩ := mem_emptiedRoots.mp h1
    obtain ⟨⟨loc, hloc, hp⟩, hroot, hhit⟩ := inv.trieOk e he1
    refine Or.inr (Or.inr ⟨loc, hloc, by rw [hp]; exact hroot, ?_⟩)
    obtain ⟨j, loc', a, b, c⟩ := hhit hh
    exact ⟨j, loc', a, b, by rw [hp]; exact c⟩

/-- … every location whose path is a mark is removed, and so is the location immediately
    before a marked file-option location (its `[8]` parent). -/
theorem sweep_complete (fixed : Bool) (mk : List (List Nat)) (locs : List Loc) (rm : List Nat)
    (h : sweepRemoved fixed mk locs = some rm) :
    (∀ (k : Nat) (loc : Loc), locs[k]? = some loc → loc.path ∈ mk → k ∈ rm) ∧
    (∀ (k : Nat) (loc : Loc), locs[k + 1]? = some loc → loc.path ∈ mk →
      isFileOptPath loc.path = true → k ∈ rm) := by
  obtain ⟨st, n, rfl, hlt, inv, -⟩ := sweepRemoved_inv h
  exact ⟨fun k loc hk hm => List.mem_append.mpr (Or.inl (inv.complete k (hlt k loc hk) loc hk hm)),
    fun k loc hk hm hf => List.mem_append.mpr (Or.inl (inv.parents k (hlt (k + 1) loc hk) loc hk hm hf))⟩

/-- SWEEP, composed to `Modify` itself (both preserve modes).  When `Modify` returns no error,
    the source-info list of every output file is the input list minus a set `rm` of indices
    (survivors unchanged, in order) such that, with `Changed f f' q` = "q is the path of an
    option whose value differs between input file f and output file f'":
    * sound: every removed location is at a `Changed` path, or is the entry immediately before
      a `Changed` file-option location (see `sweep_sound`), or is a FieldOptions location that
      is a proper prefix of a `Changed` (hence removed) location;
    * complete: every location at a `Changed` path is removed, and so is the entry immediately
      before a `Changed` file-option location.
    Hence a location of an option that was NOT rewritten (not governed, exempted, already
    equal to the target, or unknown to managed mode) stays unless it stands immediately
    before a `Changed` file-option location.
    PARTIAL in one respect: for a FieldOptions location (`[…, 8]`) only the upper bound is
    proved (it can go only if one of the locations under it went); the exact condition of the
    code ("and no location registered under it stays", with the trie's first-ancestor rule) is
    proved by `modify_sweep_exact` below for compiler-shaped source info (`RootsFirst`); for
    other shapes (a FieldOptions location repeated, or listed after the locations inside it)
    it is tied by correspondence. -/
theorem modify_sweep_exact_partial (p : Bool) (cfg : Config) (img : List File) {f f' : File}
    (herr : (modifyWith true p cfg img).err = false) (h : Out p cfg img f f') :
    ∃ rm : List Nat, f'.locs = removeIndices f.locs rm ∧
      (∀ k ∈ rm,
        (∃ loc : Loc, f.locs[k]? = some loc ∧ Changed f f' loc.path) ∨
        (∃ loc : Loc, f.locs[k + 1]? = some loc ∧ Changed f f' loc.path ∧ isFileOptPath loc.path = true) ∨
        (∃ loc : Loc, f.locs[k]? = some loc ∧ pathType loc.path = .fieldOptionsRoot ∧
          ∃ (j : Nat) (loc' : Loc), f.locs[j]? = some loc' ∧ Changed f f' loc'.path ∧
            properPrefix loc.path loc'.path = true)) ∧
      (∀ (k : Nat) (loc : Loc), f.locs[k]? = some loc → Changed f f' loc.path → k ∈ rm) ∧
      (∀ (k : Nat) (loc : Loc), f.locs[k + 1]? = some loc → Changed f f' loc.path →
        isFileOptPath loc.path = true → k ∈ rm) := by
  obtain ⟨mk, rm, hlocs, hch, hcase⟩ := out_sweep herr h
  refine ⟨rm, hlocs, ?_⟩
  -- in terms of the marks this is what `sweep_sound` and `sweep_complete` say
  simp only [← hch]
  rcases hcase with ⟨rfl, rfl⟩ | hs
  · exact ⟨nofun, nofun, nofun⟩
  · exact ⟨sweep_sound _ _ _ hs, sweep_complete true _ _ _ hs⟩

/-! ### locations deeper than one element below an options message -/

/-- `getPathType` on deep paths: whatever lies below a FieldOptions location `r` (`field path
    ++ [8]`) — one element below (`r ++ [6]`, jstype), two (`r ++ [50000, 1]`: a message-typed
    custom option set through a sub-field; `r ++ [50003, 0]`: an element of a repeated
    option), or more (`r ++ [50002, 3, 3, 0]`) — is classified as a field option, so a
    location that stays registers with its FieldOptions parent whatever its depth. -/
theorem path_below_field_options_is_field_option {r d : List Nat}
    (hr : pathType r = .fieldOptionsRoot) (hp : properPrefix r d = true) :
    pathType d = .fieldOption := pathType_below_root hr hp

/-- The parent rule, EXACT, on compiler-shaped source info (`RootsFirst`: a FieldOptions
    location occurs once and before the locations inside it): the sweeper removes a
    FieldOptions location iff at least one location inside it is removed AND every location
    inside it — at any depth — is removed.  In particular a FieldOptions location with a
    surviving option location inside it (a custom option's sub-field, a repeated option's
    element) survives. -/
theorem sweep_parent_exact {mk : List (List Nat)} {locs : List Loc} {rm : List Nat}
    (hrf : RootsFirst locs) (h : sweepRemoved true mk locs = some rm)
    (r : Nat) (lr : Loc) (hr : locs[r]? = some lr) (hroot : pathType lr.path = .fieldOptionsRoot) :
    r ∈ rm ↔
      (∃ (j : Nat) (lj : Loc), locs[j]? = some lj ∧ properPrefix lr.path lj.path = true ∧ lj.path ∈ mk) ∧
      (∀ (j : Nat) (lj : Loc), locs[j]? = some lj → properPrefix lr.path lj.path = true → lj.path ∈ mk) :=
  sweepRemoved_root_iff hrf h r lr hr hroot

/-- SWEEP, composed to `Modify`, EXACT on compiler-shaped source info (both preserve modes):
    when `Modify` returns no error and the input file's location list is `RootsFirst`, the
    output list is the input list minus a set `rm` of indices, and a location is in `rm` IF AND
    ONLY IF
    * its path is the path of an option whose value changed (`Changed`), or
    * it is the entry immediately before a `Changed` file-option location, or
    * it is a FieldOptions location, some location inside it is `Changed`, and EVERY location
      inside it (at any depth) is `Changed`.
    Every other location survives: options that were not rewritten and custom options at any
    depth (unless they stand immediately before a `Changed` file-option location), and the
    FieldOptions parents that still hold one of them. -/
theorem modify_sweep_exact (p : Bool) (cfg : Config) (img : List File) {f f' : File}
    (herr : (modifyWith true p cfg img).err = false) (h : Out p cfg img f f')
    (hrf : RootsFirst f.locs) :
    ∃ rm : List Nat, f'.locs = removeIndices f.locs rm ∧
      ∀ (k : Nat) (loc : Loc), f.locs[k]? = some loc →
        (k ∈ rm ↔
          Changed f f' loc.path ∨
          (∃ loc' : Loc, f.locs[k + 1]? = some loc' ∧ Changed f f' loc'.path ∧ isFileOptPath loc'.path = true) ∨
          (pathType loc.path = .fieldOptionsRoot ∧
            (∃ (j : Nat) (lj : Loc), f.locs[j]? = some lj ∧ properPrefix loc.path lj.path = true ∧
              Changed f f' lj.path) ∧
            (∀ (j : Nat) (lj : Loc), f.locs[j]? = some lj → properPrefix loc.path lj.path = true →
              Changed f f' lj.path))) := by
  obtain ⟨mk, rm, hlocs, hch, hcase⟩ := out_sweep herr h
  refine ⟨rm, hlocs, ?_⟩
  simp only [← hch]
  rcases hcase with ⟨rfl, rfl⟩ | hs
  · simp
  · exact fun k loc hk => sweepRemoved_mem_iff hrf hs hk

/-- Before the fix the sweeper also removed FieldOptions locations that never had a child
    (`[default = 5]`, `[json_name = "x"]`) of fields nobody touched, as soon as any option of
    the file was rewritten: here java_package `[8,1]` is rewritten and location 2 goes too.
    Replayed on the unchanged tree by the harness (oracle class
    `sweep-removed-childless-field-options-location`). -/
theorem sweep_old_counterexample :
    sweepRemoved false [[8, 1]] [⟨[8], 0⟩, ⟨[8, 1], 1⟩, ⟨[4, 0, 2, 0, 8], 2⟩] = some [1, 0, 2] ∧
    sweepRemoved true [[8, 1]] [⟨[8], 0⟩, ⟨[8, 1], 1⟩, ⟨[4, 0, 2, 0, 8], 2⟩] = some [1, 0] := by
  decide


/-! ### the configuration keys of buf.gen.yaml v1 (config-key family)

  `configOfV1 env x` = the rules `bufconfig` makes from the `managed:` section `x` of a v1
  document (`BufModel.ConfigGen.readManagedV1`, tied to the real reader by the `cfgv1` protocol
  lines and by C16) in the rule records of this model.  `V1Section.documented` is the
  SPECIFICATION: the governed option the documentation of the key names.  The theorems say that
  the translated rules govern exactly that option — the statement the seeded regression
  (`csharp_namespace.except` → rules for csharp_namespace_prefix) falsifies. -/

open BufModel.ManagedYaml BufProofs.ManagedYamlLemmas

/-- (finite table, by cases) for each of the six `{default, except, override}` keys: the option
    its `except` rules name is the one whose disabling exempts the DOCUMENTED option, and the
    option its `default` / `override` rules name acts on the documented option (is it, or its
    prefix companion). -/
theorem v1_key_table_governs_documented (s : V1Section) :
    foOf s.exceptOption = s.documented.fileOpt ∧ concerns (foOf s.overrideOption) s.documented = true := by
  cases s <;> decide

/-- … and the three bool keys name the option they are documented to set. -/
theorem v1_bool_key_table (k : V1BoolKey) : foOf k.option = (Gov.bool k.documented).fileOpt := by
  cases k <;> rfl

/-- The disable rules of a v1 document are exactly: one per module listed under `except` of a
    section, unscoped by path and field, naming the documented option of that section.  Nothing
    else is ever exempted, and nothing listed is missing. -/
theorem v1_disable_rules_exact {env : BufModel.ConfigGen.Env} {x : BufModel.ConfigGen.ExtManagedV1} {cfg : Config}
    (h : configOfV1 env x = some cfg) (d : Disable) :
    d ∈ cfg.disables ↔
      ∃ s : V1Section, ∃ n ∈ (s.get x).except, d = ⟨[], n, [], s.documented.fileOpt, false⟩ := by
  obtain ⟨m, hm, rfl⟩ := configOfV1_some h
  have hall : ∀ s : V1Section, s ∈ V1Section.all := by intro s; cases s <;> simp [V1Section.all]
  have hrule : ∀ (s : V1Section) (n : List Char),
      disableOf (exceptRule s.exceptOption n) = ⟨[], n, [], s.documented.fileOpt, false⟩ := by
    intro s n
    have := (v1_key_table_governs_documented s).1
    simp only [disableOf, exceptRule, optFoOf, this, Option.isSome_none]
  simp only [toConfig, List.mem_map, readManagedV1_disables hm, List.mem_flatMap]
  constructor
  · rintro ⟨d0, ⟨s, _, n, hn, rfl⟩, rfl⟩
    exact ⟨s, n, hn, hrule s n⟩
  · rintro ⟨s, n, hn, rfl⟩
    exact ⟨exceptRule s.exceptOption n, ⟨s, hall s, n, hn, rfl⟩, hrule s n⟩

/-- A module listed under `<key>.except` is exempted for the option the key is documented to
    govern: every file carrying that module name has that option disabled … -/
theorem v1_except_exempts_documented_option {env : BufModel.ConfigGen.Env} {x : BufModel.ConfigGen.ExtManagedV1}
    {cfg : Config} (h : configOfV1 env x = some cfg) (s : V1Section) (n : List Char)
    (hn : n ∈ (s.get x).except) (f : File) (hf : f.module = some n) :
    isFileOptionDisabled cfg f s.documented.fileOpt = true := by
  rw [isFileOptionDisabled_iff]
  refine ⟨⟨[], n, [], s.documented.fileOpt, false⟩, (v1_disable_rules_exact h _).mpr ⟨s, n, hn, rfl⟩, Or.inr rfl, rfl, ?_⟩
  simp [fileMatch, hf]

/-- … hence `Modify` leaves that option of such a file exactly as it was (value and presence),
    whatever else the document says (defaults, overrides, per-file overrides), in both preserve
    modes. -/
theorem v1_excepted_module_untouched {env : BufModel.ConfigGen.Env} {x : BufModel.ConfigGen.ExtManagedV1}
    {cfg : Config} (h : configOfV1 env x = some cfg) (s : V1Section) (n : List Char)
    (hn : n ∈ (s.get x).except) {p : Bool} {img : List File} {f f' : File} (hf : f.module = some n)
    (hout : Out p cfg img f f') :
    getOpt s.documented.tag f'.opts = getOpt s.documented.tag f.opts :=
  disabled_untouched_file_option hout s.documented (v1_except_exempts_documented_option h s n hn f hf)

/-- Every entry `module ↦ value` of a section's `override` map yields an override rule scoped to
    exactly that module (no path, no field) that acts on the documented option. -/
theorem v1_module_override_rule {env : BufModel.ConfigGen.Env} {x : BufModel.ConfigGen.ExtManagedV1}
    {cfg : Config} (h : configOfV1 env x = some cfg) (s : V1Section) (kv : List Char × List Char)
    (hkv : kv ∈ (s.get x).override) :
    ∃ o ∈ cfg.overrides, o.path = [] ∧ o.module = kv.1 ∧ o.fieldName = [] ∧ o.jstype = false ∧
      o.fileOption = foOf s.overrideOption ∧ concerns o.fileOption s.documented = true := by
  obtain ⟨m, hm, rfl⟩ := configOfV1_some h
  obtain ⟨o, ho, hp, hmod, hfld, hfo, hfdo, _⟩ := readManagedV1_module_override hm s kv hkv
  obtain ⟨e1, e2, e3, e4, e5⟩ := overrideOf_fields o
  have hfo' : (overrideOf o).fileOption = foOf s.overrideOption := by rw [e4, hfo]; rfl
  exact ⟨overrideOf o, List.mem_map.mpr ⟨o, ho, rfl⟩, e1.trans hp, e2.trans hmod, e3.trans hfld,
    by rw [e5, hfdo]; rfl, hfo', by rw [hfo']; exact (v1_key_table_governs_documented s).2⟩

/-- Conversely, an override rule of a v1 document that names a module comes from an entry of
    the `override` map of one of the six sections, is scoped to that entry's module, and acts on
    that section's documented option: a per-module value never turns into a rule for all
    modules or for another option. -/
theorem v1_module_scoped_rule_origin {env : BufModel.ConfigGen.Env} {x : BufModel.ConfigGen.ExtManagedV1}
    {cfg : Config} (h : configOfV1 env x = some cfg) (o : Override) (ho : o ∈ cfg.overrides)
    (hmod : o.module ≠ []) :
    ∃ s : V1Section, ∃ kv ∈ (s.get x).override, o.module = kv.1 ∧ o.path = [] ∧
      concerns o.fileOption s.documented = true := by
  obtain ⟨m, hm, rfl⟩ := configOfV1_some h
  obtain ⟨o0, ho0, rfl⟩ := List.mem_map.mp ho
  obtain ⟨e1, e2, -, e4, -⟩ := overrideOf_fields o0
  obtain ⟨s, kv, hkv, hp, hm', _, hfo, _, _⟩ := readManagedV1_scoped_origin hm o0 ho0 (e2 ▸ hmod)
  exact ⟨s, kv, hkv, e2.trans hm', e1.trans hp,
    by rw [e4, hfo]; exact (v1_key_table_governs_documented s).2⟩

/-! ### the mark-sweeper's path key (number family)

  The model compares a location path with the marks as `List Nat` (`mk.contains loc.path` in
  `sweepLoop`): exact, whole-path, unbounded.  The Go code compares map keys
  (`getPathKey`: four little-endian bytes per int32 element); that is the same relation because
  the key is injective on paths whose elements fit 32 bits: -/

theorem path_key_injective (p q : List Nat) (hp : ∀ e ∈ p, e < 4294967296) (hq : ∀ e ∈ q, e < 4294967296)
    (h : pathKey p = pathKey q) : p = q :=
  pathKey_injective p q hp hq h

/-- The two-byte key of the seeded regression identifies a custom option 65536+N with the
    built-in option N (file option 65537 with java_package, field option 65542 with jstype);
    with exact comparison the sweeper removes the rewritten java_package location `[8,1]` and
    its parent only — the location of custom option `[8,65537]` (index 4) and its parent stay. -/
theorem path_key16_counterexample :
    pathKey16 [8, 65537] = pathKey16 [8, 1] ∧ pathKey16 [4, 0, 2, 0, 8, 65542] = pathKey16 [4, 0, 2, 0, 8, 6] ∧
    pathKey [8, 65537] ≠ pathKey [8, 1] ∧
    sweepRemoved true [[8, 1]] [⟨[], 0⟩, ⟨[8], 1⟩, ⟨[8, 1], 2⟩, ⟨[8], 3⟩, ⟨[8, 65537], 4⟩] = some [2, 1] := by
  decide

/-! ### idempotence -/

/-- Applying managed mode to its own output changes nothing and reports no error (also when
    the first application ended with a sweep error; both preserve modes). -/
theorem modify_idempotent (p : Bool) (cfg : Config) (img : List File) :
    (modifyWith true p cfg (modifyWith true p cfg img).files).files = (modifyWith true p cfg img).files ∧
    (modifyWith true p cfg (modifyWith true p cfg img).files).err = false := by
  rw [modifyWith_idempotent]
  exact ⟨rfl, rfl⟩

/-! ### non-vacuity: a concrete run (versioned package, pre-set java_package, a non-governed
    option `deprecated` (23) and a custom option (50001), a field with `deprecated` (3) and
    jstype; a disable rule by path, a value override followed by a suffix override, a prefix
    override, a bool override, a jstype override; a WKT file alongside) -/

example (p : Bool) : ∃ f', Out p exCfg [exWkt, exFile] exFile f' :=
  ⟨(modifyWith true p exCfg [exWkt, exFile]).files[1]'(by rw [modify_length]; decide), 1, rfl,
    List.getElem?_eq_getElem _⟩

example : isWKT exWkt.path = true ∧ isWKT exFile.path = false := ⟨exWkt_wkt, exFile_not_wkt⟩

set_option maxRecDepth 100000 in
example :
    let r := modifyWith true false exCfg [exWkt, exFile]
    let out := r.files.getD 1 exFile
    r.files.head? = some exWkt ∧                                   -- WKT file untouched
    out.strOpts .javaPackage = some "acme.weather.v1.gen".toList ∧ -- value override, then suffix: no "com"
    out.strOpts .goPackage = some "gen/go/acme/weather/v1;weatherv1".toList ∧
    out.strOpts .objcClassPrefix = some "AWX".toList ∧
    out.strOpts .csharpNamespace = none ∧                          -- disabled by path "acme"
    out.strOpts .rubyPackage = some "Acme::Weather::V1".toList ∧
    out.boolOpts .javaMultipleFiles = none ∧                       -- override false = protobuf default
    out.boolOpts .ccEnableArenas = none ∧
    getOpt 23 out.opts = some (.bool true) ∧ getOpt 50001 out.opts = some (.raw 77) ∧
    out.payload = 7 ∧
    out.fields.map (·.opts) = [[(3, .bool true), (6, .num 2)], []] ∧ -- int64 rewritten, int32 not permitted
    out.locs.map (·.payload) = [0, 3, 4, 5, 7, 8] ∧                -- [8],[8,1],[…,8,6] swept; [8],[8,23],[…,8],[…,8,3] kept
    r.err = false := by
  decide +kernel

set_option maxRecDepth 100000 in
/-- with `ModifyPreserveExisting` the pre-set java_package and jstype stay, and so do their
    source locations. -/
example :
    let r := modifyWith true true exCfg [exWkt, exFile]
    let out := r.files.getD 1 exFile
    out.strOpts .javaPackage = some "com.old".toList ∧
    out.strOpts .goPackage = some "gen/go/acme/weather/v1;weatherv1".toList ∧
    out.fields.map (·.opts) = exFile.fields.map (·.opts) ∧
    out.locs = exFile.locs ∧ r.err = false := by
  decide +kernel

example : isFileOptionDisabled exCfg exFile .csharpNamespace = true := by decide +kernel

-- hypotheses of `precedence_bool` / `precedence_optimize`
example : isFileOptionDisabled exCfg exFile BoolOpt.javaMultipleFiles.fileOpt = false ∧
    (true && (exFile.boolOpts .javaMultipleFiles).isSome) = false ∧
    isFileOptionDisabled exCfg exFile .optimizeFor = false ∧ (true && exFile.optimizeFor.isSome) = false := by
  decide

set_option maxRecDepth 100000 in
-- the declarative description on the example: value override then suffix override
example : strSpec exCfg exFile .javaPackage = some "acme.weather.v1.gen".toList ∧
    strSpec exCfg exFile .goPackage = some "gen/go/acme/weather/v1;weatherv1".toList ∧
    strSpec exCfg exFile .csharpNamespace = none := by decide +kernel

-- hypotheses of `precedence_str_last_value` (a prefix override, then the value override, then an
-- unrelated rule) and of `precedence_str_default`
example : ∃ (pre post : List Override) (r : Override),
    [⟨[], [], [], .javaPackagePrefix, false, "org".toList, false, 0⟩,
     ⟨"acme".toList, [], [], .javaPackage, false, "x.y".toList, false, 0⟩,
     ⟨[], [], [], .goPackagePrefix, false, "g".toList, false, 0⟩] = pre ++ r :: post ∧
    fileMatch exFile r.path r.module = true ∧ r.fileOption = StrOpt.javaPackage.valueOpt ∧ r.sval ≠ [] ∧
    ∀ r' ∈ post, relevant exFile .javaPackage r' = false :=
  ⟨[⟨[], [], [], .javaPackagePrefix, false, "org".toList, false, 0⟩],
   [⟨[], [], [], .goPackagePrefix, false, "g".toList, false, 0⟩],
   ⟨"acme".toList, [], [], .javaPackage, false, "x.y".toList, false, 0⟩, rfl, by decide +kernel, rfl,
   by decide +kernel, by decide +kernel⟩

example : isFileOptionDisabled exCfg exFile StrOpt.objcClassPrefix.valueOpt = false ∧
    ∀ r ∈ exCfg.overrides, relevant exFile .objcClassPrefix r = false := by decide

-- `jsWant` on the example: last matching override is JS_NUMBER (2); the int32 field is left alone
example : exFile.fields.map (jsWant false exCfg exFile) = [some 2, none] ∧
    exFile.fields.map (jsWant true exCfg exFile) = [some 1, none] := by
  unfold jsWant
  simp only [exFile_not_wkt]
  decide +kernel

-- hypotheses of `disabled_untouched_jstype`
example : ∃ d : Disable, d.jstype = true ∧ fileMatch exFile d.path d.module = true ∧
    d.fieldName = "acme.weather.v1.M.id".toList :=
  ⟨⟨"acme/weather".toList, [], "acme.weather.v1.M.id".toList, .unspecified, true⟩, rfl, by decide +kernel, rfl⟩

-- `Governs` / `JsGoverns` are satisfiable and refutable on the example
example : Governs false exCfg exFile 1 ∧ ¬ Governs false exCfg exFile 37 ∧ ¬ Governs true exCfg exFile 1 ∧
    ¬ Governs false exCfg exFile 23 := by
  refine ⟨⟨rfl, exFile_not_wkt, .str .javaPackage, rfl, by decide +kernel, rfl⟩, ?_, ?_, ?_⟩
  · rintro ⟨_, _, g, ht, hd, _⟩
    have : g = .str .csharpNamespace := Gov.tag_inj _ _ ht
    subst this; revert hd; decide +kernel
  · rintro ⟨_, _, g, ht, _, hp⟩
    have : g = .str .javaPackage := Gov.tag_inj _ _ ht
    subst this; revert hp; decide +kernel
  · rintro ⟨_, _, g, ht, _, _⟩
    cases g with
    | str o => cases o <;> exact absurd ht (by decide)
    | bool o => cases o <;> exact absurd ht (by decide)
    | optimize => exact absurd ht (by decide)

set_option maxRecDepth 100000 in
example : sweepRemoved true (fileMarks false exCfg exFile) exFile.locs = some [6, 2, 1] := by decide +kernel

-- (the hypothesis `err = false` of `modify_sweep_exact_partial` is the last conjunct of the
-- concrete run above)

-- `RootsFirst` (hypothesis of `sweep_parent_exact` / `modify_sweep_exact`) holds for the example
example : RootsFirst exFile.locs := rootsFirst_of_check (by decide)

-- deep paths: classification, and the regression family "jstype rewritten next to an option
-- whose location runs two or more elements below the FieldOptions location": the jstype
-- location goes, the FieldOptions parent and the deep locations stay; with jstype alone the
-- parent goes too
example : pathType [4, 0, 2, 0, 8] = .fieldOptionsRoot ∧ pathType [4, 0, 2, 0, 8, 6] = .fieldOption ∧
    pathType [4, 0, 2, 0, 8, 50000, 1] = .fieldOption ∧ pathType [4, 0, 2, 0, 8, 50003, 0] = .fieldOption ∧
    pathType [7, 1, 8, 50002, 3, 3, 0] = .fieldOption ∧ pathType [4, 0, 3, 1, 6, 0, 8, 19, 0] = .fieldOption ∧
    pathType [4, 0, 7, 50020, 1] = .notFieldOption ∧ pathType [8, 50001, 1] = .notFieldOption := by decide

example :
    sweepRemoved true [[4, 0, 2, 0, 8, 6]]
      [⟨[4, 0, 2, 0], 0⟩, ⟨[4, 0, 2, 0, 8], 1⟩, ⟨[4, 0, 2, 0, 8, 50000, 1], 2⟩, ⟨[4, 0, 2, 0, 8, 6], 3⟩] = some [3] ∧
    sweepRemoved true [[4, 0, 2, 0, 8, 6]]
      [⟨[4, 0, 2, 0], 0⟩, ⟨[4, 0, 2, 0, 8], 1⟩, ⟨[4, 0, 2, 0, 8, 6], 2⟩, ⟨[4, 0, 2, 0, 8, 50003, 0], 3⟩,
       ⟨[4, 0, 2, 0, 8, 50003, 1], 4⟩] = some [2] ∧
    sweepRemoved true [[4, 0, 2, 0, 8, 6]]
      [⟨[4, 0, 2, 0], 0⟩, ⟨[4, 0, 2, 0, 8], 1⟩, ⟨[4, 0, 2, 0, 8, 6], 2⟩, ⟨[4, 0, 2, 1, 8], 3⟩,
       ⟨[4, 0, 2, 1, 8, 50000, 1], 4⟩] = some [2, 1] := by decide

example : RootsFirst [⟨[4, 0, 2, 0], 0⟩, ⟨[4, 0, 2, 0, 8], 1⟩, ⟨[4, 0, 2, 0, 8, 50000, 1], 2⟩, ⟨[4, 0, 2, 0, 8, 6], 3⟩] :=
  rootsFirst_of_check (by decide)

/-! non-vacuity of the config-key theorems: a v1 document with `csharp_namespace.except`,
    `java_package_prefix {default, override}` and `cc_enable_arenas`; the excepted module's file
    has csharp_namespace (37) disabled and nothing else. -/

def exEnv : BufModel.ConfigGen.Env :=
  { remoteHost := fun _ => none, validFullName := fun _ => true, validPath := fun _ => true, lookPath := fun _ => false }

def exV1 : BufModel.ConfigGen.ExtManagedV1 :=
  { enabled := true, ccEnableArenas := some false, javaMultipleFiles := none, javaStringCheckUtf8 := none,
    javaPackagePrefix := ⟨"net".toList, [], [("buf.build/acme/pet".toList, "org".toList)]⟩,
    csharpNamespace := ⟨[], ["buf.build/acme/weather".toList], []⟩,
    optimizeFor := ⟨[], [], []⟩, goPackagePrefix := ⟨[], [], []⟩, objcClassPrefix := ⟨[], [], []⟩,
    rubyPackage := ⟨[], [], []⟩, override := [] }

example : configOfV1 exEnv exV1 = some
    { enabled := true,
      disables := [⟨[], "buf.build/acme/weather".toList, [], .csharpNamespace, false⟩],
      overrides := [⟨[], [], [], .ccEnableArenas, false, [], false, 0⟩,
                    ⟨[], [], [], .javaPackagePrefix, false, "net".toList, false, 0⟩,
                    ⟨[], "buf.build/acme/pet".toList, [], .javaPackagePrefix, false, "org".toList, false, 0⟩] } := by
  decide +kernel

example : "buf.build/acme/weather".toList ∈ (V1Section.csharpNamespace.get exV1).except ∧
    exFile.module = some "buf.build/acme/weather".toList ∧ V1Section.csharpNamespace.documented.tag = 37 := by
  decide +kernel

example : ∀ cfg, configOfV1 exEnv exV1 = some cfg →
    isFileOptionDisabled cfg exFile StrOpt.csharpNamespace.valueOpt = true ∧
    isFileOptionDisabled cfg exFile StrOpt.javaPackage.valueOpt = false := by
  intro cfg h
  refine ⟨v1_except_exempts_documented_option h .csharpNamespace "buf.build/acme/weather".toList (by decide) exFile (by decide), ?_⟩
  have hc : configOfV1 exEnv exV1 = some (toConfig ((BufModel.ConfigGen.readManagedV1 exEnv exV1).getD default)) := by decide
  rw [hc] at h; injection h with h; subst h; decide

example : ("buf.build/acme/pet".toList, "org".toList) ∈ (V1Section.javaPackagePrefix.get exV1).override := by
  decide +kernel

end BufProofs.C18
