import BufProofs.Lemmas.MigrateRulesTables
import BufProofs.Props.C16MigrateTables
/-
  C16, "migrating a v1 or v1beta1 workspace to v2 preserves … the lint and breaking results":
  the RULE SELECTION part, for the model of `equivalentCheckConfigInV2`
  (BufModel.MigrateRules.migrateCheck, tied to private/buf/bufmigrate/migrator.go by the `migchk`
  protocol lines) on the REGENERATED rule tables of the tree under test.

  Quantification: ALL check configurations — arbitrary `use` / `except` lists and `ignore_only`
  maps over rule ids, categories, deprecated ids, ids v2 does not have, blanks, duplicates, in any
  order.  The finite rule tables enter through decidable facts checked by kernel evaluation
  (`tablesOK_all`); the lists are handled by reasoning on membership.
-/
namespace BufProofs.C16
open BufModel.Path BufModel.Rules BufModel.MigrateRules BufGen.RuleTables

/-- **Rule selection through migration.**  For every v1beta1 / v1 check configuration `c` (lint
    or breaking) that the migrator accepts, with `S` the rules `c` selects in its own version and
    `S'` the rules the migrated configuration `c'` selects in v2:

      * if `exceptCoversSelected = false`: `S'` is exactly `S` minus the rules without a v2
        counterpart (`rules_without_v2_counterpart`: only FIELD_NO_DESCRIPTOR of v1beta1 lint);
      * if `exceptCoversSelected = true`: the selection is NOT preserved — a rule of `S` that
        exists in v2 is missing from `S'` (the side condition is exact).

    `S'` is quantified through `selectedIds … c' = .ok S'`: that v2 accepts the migrated
    configuration is exercised by the `migchk` lines (oracle class
    migrate-*-failed/rule-selection), not proved here. -/
theorem migrate_preserves_selected_rules (v : Version) (hv : v ≠ .v2) (lint : Bool) (c c' : CheckConfig)
    (hm : migrateCheck (rulesOf v) (rulesOf .v2) lint c = .ok c') :
    ∃ S, selectedIds (rulesOf v) lint c = .ok S ∧
      ∀ S', selectedIds (rulesOf .v2) lint c' = .ok S' →
        (exceptCoversSelected v lint c = false →
          ∀ x, x ∈ S' ↔ (x ∈ S ∧ hasV2Counterpart lint x = true)) ∧
        (exceptCoversSelected v lint c = true →
          ∃ x ∈ S, hasV2Counterpart lint x = true ∧ x ∉ S') := by
  rcases selectedIds_of_migrateCheckW _ _ _ lint c c' hm with ⟨S, hS⟩
  refine ⟨S, hS, fun S' hS' => ?_⟩
  have mS := selectedIds_mem hS (tables_nonempty v lint)
  have mS' := selectedIds_mem hS' (tables_nonempty .v2 lint)
  rw [migrateCheckW_flag hm] at mS'
  have hcov : exceptCoversSelected v lint c = true ↔
      ∃ x ∈ S, hasV2Counterpart lint x = true ∧
        Covers (v2Rules lint) (· ∈ translateIds (oldRules v lint) (v2Rules lint) c.except) x := by
    unfold exceptCoversSelected
    rw [hS]
    simp [List.any_eq_true, coveredB_iff]
  cases hdb : c.disableBuiltin with
  | true =>
    -- no builtin rules: nothing is selected before or after
    simp only [hdb, Bool.true_eq_false, false_and] at mS mS'
    exact ⟨fun _ x => by simp [mS, mS'], fun h => by rcases hcov.1 h with ⟨x, hx, _⟩; exact absurd hx (mS x).1⟩
  | false =>
    simp only [hdb, true_and] at mS mS'
    have M := migrateCheckW_selected _ (rulesOf v) (rulesOf .v2) lint c c' hdb (tables_nonempty v lint)
      (tables_nonempty .v2 lint) (tablesOK_all v hv lint) hm
    constructor
    · intro hno x
      rw [mS' x, mS x, M.2 (fun y hy hr hc => absurd (hcov.2 ⟨y, (mS y).2 hy, hr, hc⟩) (by simp [hno])) x]
      rfl
    · intro hyes
      rcases hcov.1 hyes with ⟨x, hxS, hr, hc⟩
      exact ⟨x, hxS, hr, fun hx' => M.1 x ((mS x).1 hxS) hr hc ((mS' x).1 hx')⟩

/-- For a v1 configuration (and for v1beta1 breaking) every selected rule has a v2 counterpart,
    so outside the `except` exception the selected SET is unchanged by the migration. -/
theorem migrate_preserves_selected_rules_exactly (v : Version) (hv : v ≠ .v2) (lint : Bool)
    (hvl : ¬ (v = .v1beta1 ∧ lint = true)) (c c' : CheckConfig)
    (hm : migrateCheck (rulesOf v) (rulesOf .v2) lint c = .ok c')
    (hno : exceptCoversSelected v lint c = false) :
    ∃ S, selectedIds (rulesOf v) lint c = .ok S ∧
      ∀ S', selectedIds (rulesOf .v2) lint c' = .ok S' → ∀ x, x ∈ S' ↔ x ∈ S := by
  rcases migrate_preserves_selected_rules v hv lint c c' hm with ⟨S, hS, h⟩
  refine ⟨S, hS, fun S' hS' x => ?_⟩
  rw [(h S' hS').1 hno x]
  constructor
  · exact fun h => h.1
  · intro hx
    refine ⟨hx, ?_⟩
    have hsel := ((selectedIds_mem hS (tables_nonempty v lint) x).1 hx).2
    have ok := tablesOK_all v hv lint
    have W := selected_wf _ ok.oldWF _ _ x hsel
    rcases (isRuleId_iff _ _).1 W.1 with ⟨r, hr', rfl⟩
    have hnd := not_deprecated_of_replacementsOf_none (tableFacts v hv lint).1.1 hr' W.2
    cases hc : hasV2Counterpart lint r.id with
    | true => rfl
    | false => exact absurd (rules_without_v2_counterpart v hv lint r hr' hnd hc) (fun h => hvl ⟨h.1, h.2.1⟩)

/-! ## ignore_only through migration -/

/-- **ignore_only through migration.**  For every v1beta1 / v1 check configuration the migrator
    accepts (builtin rules on), with `rc` / `rc'` what `newRulesConfig` resolves the original /
    the migrated configuration to: if
      * no `ignore_only` key is one of the `driftingCategories`, and
      * no two `ignore_only` keys translate to a common v2 id (`CollisionFree`),
    then for every rule of both versions the ignore_only paths that apply to it are the same
    before and after.  Both exceptions are necessary (`migrate_ignore_only_category_counterexample`,
    `migrate_ignore_only_collision_counterexample`). -/
theorem migrate_preserves_ignore_only (v : Version) (hv : v ≠ .v2) (lint : Bool) (c c' : CheckConfig)
    (rc rc' : RulesConfig)
    (hm : migrateCheck (rulesOf v) (rulesOf .v2) lint c = .ok c')
    (h1 : newRulesConfig (rulesOf v) lint c = .ok rc) (h2 : newRulesConfig (rulesOf .v2) lint c' = .ok rc')
    (hdrift : ∀ e ∈ c.ignoreOnly, e.1 ∉ driftingCategories v lint)
    (hcol : CollisionFree (translateId (oldRules v lint) (v2Rules lint)) c.ignoreOnly) :
    ∀ r p, sharedRule v lint r = true → ((r, p) ∈ rc'.ignoreOnly ↔ (r, p) ∈ rc.ignoreOnly) := by
  intro r p hshared
  have hold := tables_nonempty v lint
  have hnew := tables_nonempty .v2 lint
  have U := unfaithful_keys_are_drifting_categories v hv lint
  -- every key is known to the old version (or empty), hence faithful
  have hfaith : ∀ e ∈ c.ignoreOnly, keyFaithful v lint e.1 = true := by
    intro e he
    by_cases h0 : e.1 = ""
    · rw [h0]; exact U.1
    · cases hx : expandOne (oldRules v lint) e.1 with
      | none =>
        rcases newRulesConfig_unknown (rulesOf v) lint c hold (Or.inr (Or.inr ⟨e, he, hx⟩)) with ⟨err, herr⟩
        rw [herr] at h1; cases h1
      | some ex =>
        have hu := BufProofs.C06.mem_acceptedKeys_of_expandOne h0 hx
        exact Bool.of_not_eq_false fun hf => hdrift e he ((U.2 e.1 hu).1 hf)
  have faithful : ∀ e ∈ c.ignoreOnly,
      ((∃ k' ∈ translateId (oldRules v lint) (v2Rules lint) e.1, r ∈ denote (v2Rules lint) k') ↔
        r ∈ denote (oldRules v lint) e.1) :=
    fun e he => (keyFaithful_iff v lint e.1).1 (hfaith e he) r hshared
  have P1 := (newRulesConfig_supp (rulesOf v) lint c rc hold h1).2 r p
  have P2 := (newRulesConfig_supp (rulesOf .v2) lint c' rc' hnew h2).2 r p
  rw [P1, P2]
  have T := migrateCheck_ignoreOnly (rulesOf v) (rulesOf .v2) lint c c' hm
  have TI := translateIgnoreOnly_IoHas (oldRules v lint) (v2Rules lint) c.ignoreOnly hcol
  constructor
  · rintro ⟨k', q, hq, _, hd, hn⟩
    rcases (T k' q).1 hq with ⟨q0, hq0, hne, hn0⟩
    rcases (TI k' q0).1 hq0 with ⟨k, hk, hkt⟩
    rcases hk with ⟨ps, hps, hqps⟩
    have hnn := nav_idem hn0
    rw [hnn.1] at hn; cases hn
    exact ⟨k, q0, ⟨ps, hps, hqps⟩, hne, (faithful (k, ps) hps).1 ⟨k', hkt, hd⟩, hn0⟩
  · rintro ⟨k, q, ⟨ps, hps, hqps⟩, hne, hd, hn⟩
    rcases (faithful (k, ps) hps).2 hd with ⟨k', hkt, hd'⟩
    have hq0 : IoHas (translateIgnoreOnly (oldRules v lint) (v2Rules lint) c.ignoreOnly) k' q :=
      (TI k' q).2 ⟨k, ⟨ps, hps, hqps⟩, hkt⟩
    have hnn := nav_idem hn
    exact ⟨k', p, (T k' p).2 ⟨q, hq0, hne, hn⟩, hnn.2, hd', hnn.1⟩

/-- `undeprecateMap` ranges over a Go map: for a collision-free `ignore_only` map the result does
    not depend on the iteration order (any two orders — lists with the same entries — give maps
    with the same entries).  With a collision it does, see
    `migrate_ignore_only_collision_counterexample`. -/
theorem migrate_ignore_only_order_independent (old new : List RuleRow) (m1 m2 : List (Id × List Str))
    (hperm : ∀ e, e ∈ m1 ↔ e ∈ m2) (hc : CollisionFree (translateId old new) m1) (k' : Id) (v : List Str) :
    (k', v) ∈ translateIgnoreOnly old new m1 ↔ (k', v) ∈ translateIgnoreOnly old new m2 := by
  have hc2 : CollisionFree (translateId old new) m2 := fun e1 h1 e2 h2 ht =>
    hc e1 ((hperm e1).2 h1) e2 ((hperm e2).2 h2) ht
  rw [translateIgnoreOnly_mem old new m1 hc, translateIgnoreOnly_mem old new m2 hc2]
  constructor
  · rintro ⟨e, he, h⟩; exact ⟨e, (hperm e).1 he, h⟩
  · rintro ⟨e, he, h⟩; exact ⟨e, (hperm e).2 he, h⟩

/-! ## the variants the driver evaluates; the repair -/

/-- The `migchk` driver evaluates `migrateCheckV fixSel fixIo` with the flags the harness probed
    on the tree under test; with both flags off that IS `migrateCheck`, the function the theorems
    above are about: the migrator without the repairs fd016ed (rule selection) and 2afb6fd
    (`ignore_only`) of /repo. -/
theorem migrate_variant_as_coded (oldAll newAll : List RuleRow) (lint : Bool) (c : CheckConfig) :
    migrateCheckV false false oldAll newAll lint c = migrateCheck oldAll newAll lint c := rfl

/-- **The repaired rule selection** (handoff/prove6-C16-fix-migrate-rule-selection.diff, variant
    `fixSel`): the configuration built as before is checked against the expected rules and, when
    it does not select them, they are named explicitly.  Then for EVERY v1beta1 / v1 configuration
    the migrator accepts the selection after is exactly the selection before minus the rules
    without a v2 counterpart — no exception for `except`. -/
theorem migrate_fixed_preserves_selected_rules (fixIo : Bool) (v : Version) (hv : v ≠ .v2) (lint : Bool)
    (c c' : CheckConfig)
    (hm : migrateCheckFixed fixIo (rulesOf v) (rulesOf .v2) lint c = .ok c') :
    ∃ S, selectedIds (rulesOf v) lint c = .ok S ∧
      ∀ S', selectedIds (rulesOf .v2) lint c' = .ok S' →
        ∀ x, x ∈ S' ↔ (x ∈ S ∧ hasV2Counterpart lint x = true) := by
  rcases selectedIds_of_migrateCheckFixed fixIo _ _ lint c c' hm with ⟨S, hS⟩
  refine ⟨S, hS, fun S' hS' x => ?_⟩
  rw [selectedIds_mem hS' (tables_nonempty .v2 lint), selectedIds_mem hS (tables_nonempty v lint),
    migrateCheckFixed_flag hm]
  cases hdb : c.disableBuiltin with
  | true => simp
  | false =>
    rw [migrateCheckFixed_selected fixIo (rulesOf v) (rulesOf .v2) lint c c' hdb (tables_nonempty v lint)
      (tables_nonempty .v2 lint) (tablesOK_all v hv lint) hm x, and_assoc]
    rfl


end BufProofs.C16
