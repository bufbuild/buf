import BufModel.Faults
import BufGen.AstFacts
import BufProofs.Lemmas.BucketLemmas
import BufProofs.Lemmas.FaultLemmas
/-
  C15 — Write failures are always reported; atomic puts are all-or-nothing.

  One object and the loops over many (Copy, Untar / Unzip, the archive writers): under any fault
  schedule a `nil` result means every object is complete in the destination, and a fault that fires
  is reported.  Atomic put: at every instant, and after any failure, the destination holds the
  previous or the complete new content.  A write that fails inside a Walk callback is reported
  whatever the error value looks like (the as-coded exceptions are the counterexamples).  Then real
  close(2) / write(2) failures of the file behind a disk put, destinations that already hold
  content, and a reader that is open across an overwrite.
-/
namespace BufProofs.C15
open BufModel.Path BufModel.Bucket BufModel.Faults

/-- The regenerated source facts: in the current tree every deferred Close of the storage
    helpers is joined into the named return value.  (If someone changes one of them to join a
    stale variable, this `decide` fails and the proof leg breaks.) -/
theorem facts_hold : BufGen.AstFacts.facts = Facts.allTrue := by decide +kernel

/-- no_silent_failure, one object (PutPath, CopyReader, CopyReadObject, ForWriteObject — all
    have the shape Put; defer Close-join; write): for EVERY fault schedule, if the helper
    reports success then no fault fired and the destination holds the complete content. -/
theorem writeObj_ok (s : Sched) (d d' : Dest) (path : Str) (chunks : List Content)
    (h : writeObj true s d path chunks = (false, d')) :
    d'.fired = d.fired ∧ ∃ p, validatePath path = .ok p ∧
      d'.mem = (p, joinContent chunks) :: d.mem.erase p := by
  rw [← realPut_plain_eq_writeObj] at h
  rcases realPut_outcome true false s d path chunks with ⟨_, _, _, p, hp, e⟩ | ⟨_, he, _⟩
  · cases h.symm.trans e; exact ⟨rfl, p, hp, rfl⟩
  · rw [h] at he; cases he rfl

/-- Conversely every scheduled fault that is reached makes the helper fail. -/
theorem fault_implies_error_put (s : Sched) (d : Dest) (path : Str) (chunks : List Content)
    (h : s.has ⟨path, .put, 0⟩ = true) : (writeObj true s d path chunks).1 = true := by
  rw [← realPut_plain_eq_writeObj]
  rcases realPut_outcome true false s d path chunks with ⟨hp, _⟩ | ⟨_, he, _⟩
  · rw [hp] at h; cases h
  · exact he rfl

theorem fault_implies_error_close (s : Sched) (d : Dest) (path : Str) (chunks : List Content)
    (h : s.has ⟨path, .close, 0⟩ = true) : (writeObj true s d path chunks).1 = true := by
  rw [← realPut_plain_eq_writeObj]
  rcases realPut_outcome true false s d path chunks with ⟨_, _, hc, _⟩ | ⟨_, he, _⟩
  · rw [hc] at h; cases h
  · exact he rfl

theorem fault_implies_error_write (s : Sched) (d : Dest) (path : Str) (chunks : List Content) (k : Nat)
    (hk : k < chunks.length) (h : s.has ⟨path, .write, k⟩ = true) :
    (writeObj true s d path chunks).1 = true := by
  rw [← realPut_plain_eq_writeObj]
  rcases realPut_outcome true false s d path chunks with ⟨_, hw, _⟩ | ⟨_, he, _⟩
  · have := writeChunks_fault s path 0 chunks k hk (by simpa using h)
    rw [hw] at this; cases this
  · exact he rfl

/-- parallel_collects_all: storage.Copy fails iff some job failed (`copyAll_err_iff_any`),
    whatever order the scheduler ran the jobs in (every permutation). -/
theorem copyAll_verdict_schedule_independent (fx : Facts) (s : Sched) (d₁ d₂ : Dest)
    (jobs₁ jobs₂ : List (Str × List Content)) (hperm : jobs₁.Perm jobs₂) :
    (copyAll fx s d₁ jobs₁).1 = (copyAll fx s d₂ jobs₂).1 := by
  rw [copyAll_err_iff_any, copyAll_err_iff_any]
  exact hperm.any_eq

/-- no_silent_failure for storage.Copy: success ⇒ no fault fired, every job counted, and every
    object is in the destination in full (paths are the distinct validated paths of a walk). -/
theorem copyAll_ok (s : Sched) (jobs : List (Str × List Content)) (d d' : Dest) (n : Nat)
    (hvalid : ∀ j ∈ jobs, validatePath j.1 = .ok j.1)
    (hnodup : (jobs.map (·.1)).Nodup)
    (h : copyAll Facts.allTrue s d jobs = (false, d', n)) :
    d'.fired = d.fired ∧ n = jobs.length ∧
      (∀ j ∈ jobs, d'.mem.find j.1 = some (joinContent j.2)) ∧
      (∀ k, k ∉ jobs.map (·.1) → d'.mem.find k = d.mem.find k) := by
  obtain ⟨rfl, hn⟩ := copyAll_ok_eq s jobs d d' n hvalid h
  have hnd : ((jobs.map fun j => (j.1, joinContent j.2)).map (·.1)).Nodup := by
    rwa [List.map_map]
  obtain ⟨hall, hframe⟩ := find_putList_nodup hnd d.mem
  refine ⟨rfl, hn, fun j hj => hall _ (List.mem_map.mpr ⟨j, hj, rfl⟩), fun k hk => hframe k ?_⟩
  rwa [List.map_map]

/-- The targets an archive extraction must produce: validated destination path ↦ content. -/
def untarTargets : List (Str × List Content) → List (Str × Content)
  | [] => []
  | (name, cs) :: rest =>
    match unmapArchivePath name 0 (fun _ => true) with
    | .ok (some p) =>
      (match validatePath p with
        | .ok q => (q, joinContent cs) :: untarTargets rest
        | .error _ => untarTargets rest)
    | _ => untarTargets rest

private theorem untarAll_ok_eq (s : Sched) (entries : List (Str × List Content)) (d d' : Dest)
    (h : untarAll Facts.allTrue s d entries = (false, d')) :
    d' = { d with mem := putList d.mem (untarTargets entries) } := by
  induction entries generalizing d with
  | nil => cases h; rfl
  | cons e rest ih =>
    obtain ⟨name, cs⟩ := e
    simp only [untarAll, untarTargets] at h ⊢
    cases hu : unmapArchivePath name 0 (fun _ => true) with
    | error er => rw [hu] at h; cases h
    | ok o =>
      rw [hu] at h
      cases o with
      | none => exact ih d h
      | some p =>
        simp only [← realPut_plain_eq_writeObj, show Facts.allTrue.copyReader = true from rfl] at h
        rcases realPut_outcome true false s d p cs with ⟨_, _, _, q, hq, e⟩ | ⟨_, he, _⟩
        · rw [e] at h; rw [ih _ h]; simp only [hq]; rfl
        · simp [he rfl] at h

/-- no_silent_failure for Untar / Unzip: success ⇒ no fault fired. -/
theorem untarAll_ok (s : Sched) (entries : List (Str × List Content)) (d d' : Dest)
    (h : untarAll Facts.allTrue s d entries = (false, d')) : d'.fired = d.fired := by
  rw [untarAll_ok_eq s entries d d' h]

/-- The test that derives the facts is not vacuous: the stale-variable shape of the recorded
    copyPath defect, a Close that is not joined at all, and a helper that no longer exists are
    all rejected. -/
theorem joinsNamed_rejects :
    joinsNamed { found := true, named := "retErr", defers := [("retErr", "err", "r.Close()")] } = false ∧
    joinsNamed { found := true, named := "retErr", defers := [] } = false ∧
    joinsNamed { found := true, named := "", defers := [("err", "err", "r.Close()")] } = false ∧
    joinsNamed { found := false, named := "retErr", defers := [("retErr", "retErr", "r.Close()")] } = false := by
  decide

/-- Why the facts matter: a helper whose defer joins a stale variable OVERWRITES the write error
    with the (nil) Close error — the failed write is reported as success. -/
theorem stale_defer_drops_write_error :
    (writeObj false [⟨"a".toList, .write, 0⟩] ⟨[], []⟩ "a".toList ["x"]).1 = false := by decide

/-- no_silent_failure for Untar, completeness half: success ⇒ every entry that maps to a
    destination path is there in full (distinct destination paths), nothing else changed. -/
theorem untarAll_complete (s : Sched) (entries : List (Str × List Content)) (d d' : Dest)
    (hnodup : ((untarTargets entries).map (·.1)).Nodup)
    (h : untarAll Facts.allTrue s d entries = (false, d')) :
    (∀ t ∈ untarTargets entries, d'.mem.find t.1 = some t.2) ∧
    (∀ k, k ∉ (untarTargets entries).map (·.1) → d'.mem.find k = d.mem.find k) := by
  rw [untarAll_ok_eq s entries d d' h]
  exact find_putList_nodup hnodup d.mem

/-- Unzip goes through copyZipFile; with the current facts it behaves exactly like Untar, so
    `untarAll_ok` and `untarAll_complete` cover it. -/
theorem unzipAll_eq_untarAll (s : Sched) (entries : List (Str × List Content)) (d : Dest) :
    unzipAll Facts.allTrue s d entries = untarAll Facts.allTrue s d entries := by
  induction entries generalizing d with
  | nil => rfl
  | cons e rest ih =>
    obtain ⟨name, cs⟩ := e
    simp only [unzipAll, untarAll]
    cases unmapArchivePath name 0 (fun _ => true) with
    | error er => rfl
    | ok o =>
      cases o with
      | none => exact ih d
      | some p =>
        simp only [copyZipFile, Facts.allTrue, deferJoin_true, Bool.or_false]
        by_cases hc : (writeObj true s d p cs).1 = true
        · simp [hc]
        · simp only [hc]; exact ih _

/-- Tar / Zip into an io.Writer: a failure of the body OR of the archive writer's Close (which
    writes the trailer) is reported — and with a stale-variable defer the body error would be
    lost. -/
theorem archive_writer_reports (body close : Bool) :
    tarOut Facts.allTrue body close = (body || close) ∧ zipOut Facts.allTrue body close = (body || close) ∧
    archiveOut false true false = false := by
  simp [tarOut, zipOut, archiveOut, Facts.allTrue, deferJoin]

/-- The recorded finding (fixed in /repo a3d0d8c): with the pre-fix `copyPath` (its defer joined
    the stale Get error) a failed destination Put is reported as success. -/
theorem copyPath_counterexample :
    let fx : Facts := { Facts.allTrue with copyPath := false }
    let s : Sched := [⟨"a".toList, .put, 0⟩]
    (copyAll fx s ⟨[], []⟩ [("a".toList, ["x"])]).1 = false ∧
    (copyAll fx s ⟨[], []⟩ [("a".toList, ["x"])]).2.1.mem = [] := by decide

/-- The generated-file flush reports a failure of ANY output location (not only the last one),
    and reports success only if every output was flushed. -/
theorem flush_reports_any_failure (fails : List Bool) :
    (flushOuts fails).1 = fails.any id ∧ ((flushOuts fails).1 = false → (flushOuts fails).2 = fails.length) := by
  induction fails with
  | nil => simp [flushOuts]
  | cons f rest ih =>
    unfold flushOuts
    cases f with
    | true => simp
    | false =>
      simp only [Bool.false_eq_true, if_false, List.any_cons, id, Bool.false_or, List.length_cons]
      exact ⟨ih.1, fun h => by rw [ih.2 h]⟩

/-! ### Atomic put -/

/-- A fault-free atomic put ends with the complete new content and no temp file. -/
theorem atomic_success (old : Option Content) (chunks : List Content) :
    atomicRun old chunks none = (false, { final := some (joinContent chunks), temp := none }) := by
  rw [atomicRun_eq]; rfl

/-- atomic_all_or_nothing, failure half: whichever single step fails (createTemp, any write, the
    file close, the rename), the put reports an error, the object at the final path is exactly
    the previous one and no temp object remains. -/
theorem atomic_failed_leaves_old (old : Option Content) (chunks : List Content) (k : Nat)
    (hk : k ≤ chunks.length + 2) :
    atomicRun old chunks (some k) = (true, { final := old, temp := none }) := by
  rw [atomicRun_eq, Option.any_some, decide_eq_true hk]; rfl

/-- atomic_all_or_nothing, every-instant half: after ANY number of steps of an atomic put (the
    state a concurrent reader sees, and the state a crash leaves behind) the object at the final
    path is the previous content or the complete new content. -/
theorem atomic_prefix_old_or_new (old : Option Content) (chunks : List Content) (j : Nat) :
    (atomicPrefix old chunks j).final = old ∨
      (atomicPrefix old chunks j).final = some (joinContent chunks) := by
  by_cases hj : j ≤ chunks.length + 2
  · left
    unfold atomicPrefix atomicSteps
    have e : [AStep.createTemp] ++ chunks.map AStep.write ++ [AStep.closeFile, AStep.rename] =
        ([AStep.createTemp] ++ chunks.map AStep.write ++ [AStep.closeFile]) ++ [AStep.rename] := by simp
    rw [e, List.take_append_of_le_length (by simp; omega)]
    rw [foldl_no_rename_final]
    intro st hst
    have hm := List.mem_of_mem_take hst
    simp at hm
    rcases hm with h | ⟨c, _, h⟩ | h
    · rw [h]; simp
    · rw [← h]; simp
    · rw [h]; simp
  · right
    rw [atomicPrefix_full old chunks j (by omega)]

/-- atomic_all_or_nothing under CONCURRENT puts of one path: two atomic puts (each with its own
    temp file, as `os.CreateTemp` guarantees) interleaved in ANY way — after any number of steps
    of any schedule, what a reader finds at the final path is the previous content, or the
    complete content of the one put, or the complete content of the other; never a mixture,
    never a prefix. -/
theorem atomic_concurrent_old_or_new (old : Option Content) (ca cb : List Content) (sched : List Bool) (j : Nat) :
    (concurrentPrefix false old ca cb sched j).final = old ∨
    (concurrentPrefix false old ca cb sched j).final = some (joinContent ca) ∨
    (concurrentPrefix false old ca cb sched j).final = some (joinContent cb) := by
  unfold concurrentPrefix
  exact interleave_good old ca cb (merge2_interleave sched _ _) _ (winv_start ca) (winv_start cb) (Or.inl rfl) j

/-- Why the temp name must be fresh per put: with one fixed temp name the second put truncates
    the first one's data and the first then publishes a mixture. -/
theorem shared_temp_counterexample :
    (concurrentPrefix true (some "OLD") ["A1", "A2"] ["B1"] [true, true, false, false, true, true, true] 7).final
      = some "B1A2" := by
  simp [concurrentPrefix, atomicSteps, merge2, cStep]

example : (concurrentPrefix false (some "OLD") ["A1", "A2"] ["B1"] [true, true, false, false, true, true, true] 7).final
      = some "A1A2" := by
  simp [concurrentPrefix, atomicSteps, merge2, cStep]

/-- Recorded finding (`atomic-put-producer-failure-published`, not repaired: `WriteObjectCloser`
    has no way to abort): when the producer of the content fails between Put and Close — no
    Write fails — the deferred Close of the helpers publishes the truncated temp file.  The
    theorems above quantify over Put / Write / Close / Rename failures and crashes, as the
    property's quantifier does; this witness shows the all-or-nothing clause is false for
    producer failures. -/
theorem atomic_producer_failure_counterexample :
    atomicProducerFail (some "OLD") ["AB", "CD"] 1 = (true, { final := some "AB", temp := none }) := by decide

/-- By contrast a non-atomic put exposes truncated content (why the cache marker must be
    written atomically). -/
theorem nonatomic_may_truncate :
    plainPrefix (some "OLD") ["AB", "CD"] 2 = some "AB" := by decide

/-- The temp object of an atomic put exists only strictly between createTemp and rename; before
    the put and after its last step the directory holds no temp object.  (While the put is in
    progress a `Walk` of a disk bucket can see the temp file — a different object from the one
    being put; recorded in DESIGN.md.) -/
theorem atomic_temp_window (old : Option Content) (chunks : List Content) :
    (atomicPrefix old chunks 0).temp = none ∧
    (∀ j, chunks.length + 3 ≤ j → (atomicPrefix old chunks j).temp = none) := by
  exact ⟨rfl, fun j hj => by rw [atomicPrefix_full old chunks j hj]⟩

-- non-vacuity

example : writeObj true [] ⟨[], []⟩ "a//b".toList ["x", "y"] = (false, ⟨[("a/b".toList, "xy")], []⟩) := by decide +kernel

example : (writeObj true [⟨"a".toList, .write, 1⟩] ⟨[], []⟩ "a".toList ["x", "y"]).1 = true := by decide

example : atomicRun (some "OLD") ["AB", "CD"] (some 2) = (true, { final := some "OLD", temp := none }) := by decide

/-! ### Error values: a write failing inside a Walk callback is reported whatever it looks like -/

/-- With the repaired walk (an error of the callback is returned as it is) every helper shape,
    on a disk or memory source, reports a failing Put / Write / Close of the destination for
    EVERY error value — ENOENT in a *PathError, io.EOF, filepath.SkipDir, context.Canceled,
    wrapped or joined: nothing is mistaken for "the prefix does not exist" or "skip". -/
theorem walk_copy_reports_every_error_value (disk : Bool) (h : WalkHelper) (p : Prim) (e : ErrV) :
    (walkCopy .fixed disk h p e).isSome = true := by
  unfold walkCopy diskWalkReturn
  cases disk <;> rfl

/-- A memory source never looked at the value (under any rule of the disk walk). -/
theorem walk_copy_memory_reports (rule : WalkRule) (h : WalkHelper) (p : Prim) (e : ErrV) :
    (walkCopy rule false h p e).isSome = true := rfl

/-- AS CODED before the repair, the helpers of the tree (`WalkReadObjects`, export.go, `copyPath`)
    still report every error value out of a disk source — but only because each of them happens
    to wrap the callback's error in `errors.Join`, which `os.IsNotExist` and `==` cannot see
    through. -/
theorem as_coded_joining_helpers_report (h : WalkHelper) (hh : h ≠ .walkBare) (p : Prim) (e : ErrV) :
    (walkCopy .asCoded true h p e).isSome = true := by
  cases h <;> first | exact absurd rfl hh | (cases p <;> rfl)

/-- … and a loop that returns the write error as it is loses it: a Put failing with a bare
    `*fs.PathError{ENOENT}` (the destination path is a dangling symlink) makes the disk walk stop
    and return nil.  `Walk`'s contract ("if f returns error, Walk will stop short and return this
    error") is broken as coded; recorded finding `walk-callback-write-failure-not-reported`. -/
theorem as_coded_bare_loop_swallows_not_exist_counterexample :
    walkCopy .asCoded true .walkBare .put (.pathError .enoent) = none ∧
    walkCopy .asCoded true .walkBare .put (.sentinel .skipDir) = none ∧
    walkCopy .asCoded false .walkBare .put (.pathError .enoent) = some (.pathError .enoent) := by decide

/-- The as-coded rule swallows exactly the values `os.IsNotExist` accepts and a bare SkipDir. -/
theorem as_coded_swallows_iff (e : ErrV) :
    diskWalkReturn .asCoded e = none ↔ (e = .sentinel .skipDir ∨ osIsNotExist e = true) := by
  unfold diskWalkReturn
  by_cases h1 : e = .sentinel .skipDir
  · simp [h1]
  · by_cases h2 : osIsNotExist e = true
    · simp [h1, h2]
    · simp [h1, h2]

/-- Seed C15-m5 (`errors.Is(err, fs.ErrNotExist)` instead of `os.IsNotExist(err)`): now the
    joins no longer protect — `WalkReadObjects` + `CopyReadObject` out of a disk source with a
    Write failing with ENOENT returns nil. -/
theorem errors_is_rule_swallows_wrapped_counterexample :
    walkCopy .errorsIs true .wroCopyReadObject .write (.pathError .enoent) = none ∧
    walkCopy .asCoded true .wroCopyReadObject .write (.pathError .enoent) ≠ none := by decide

/-- Whatever `os.IsNotExist` accepts, `errors.Is(err, fs.ErrNotExist)` accepts too; it also sees
    through `%w` and `errors.Join`, where the two rules differ
    (`errors_is_rule_swallows_wrapped_counterexample`). -/
theorem osIsNotExist_implies_errorsIs (e : ErrV) (h : osIsNotExist e = true) : errorsIsNotExist e = true := by
  cases e <;> simp_all [osIsNotExist, errorsIsNotExist]

/-- A stale directory listing: the repaired walk visits every surviving entry … -/
theorem fixed_walk_visits_every_survivor (l : List Bool) :
    visitStale .fixed l = (l.filter (!·)).length := by
  induction l with
  | nil => rfl
  | cons g rest ih =>
    cases g
    · simp [visitStale, ih]; omega
    · simp [visitStale, ih]

/-- … as coded it stops at the first vanished entry and reports success (recorded finding
    `walk-truncated-by-vanished-entry`): here the temp file of a concurrent atomic Put is renamed
    away before it is visited and the two objects behind it are never seen. -/
theorem as_coded_walk_truncated_counterexample :
    visitStale .asCoded [false, false, false, true, false, false] = 3 ∧
    visitStale .fixed [false, false, false, true, false, false] = 5 := by decide

-- non-vacuity
example : walkCopy .fixed true .walkBare .put (.pathError .enoent) = some (.pathError .enoent) := by decide
example : walkCopy .asCoded true .wroPutPath .close (.sentinel .eof) = some (.join1 (.join1 (.sentinel .eof))) := by decide
example : errorsIsNotExist (.wrap (.join2 (.sentinel .eof) (.pathError .enoent))) = true ∧
    osIsNotExist (.wrap (.join2 (.sentinel .eof) (.pathError .enoent))) = false := by decide

/-! ### REAL failures of the file behind a disk put (close(2) / write(2); harness part X) -/

/-- The correspondence includes the real-close cases: for a PLAIN put on a disk bucket, a file
    whose `write(2)` / `close(2)` really fails behaves — error AND destination — exactly like the
    wrapper's write / close fault of part A (`writeObj`): what reached the file stays, the failure
    is joined into the helper's result.  For every schedule, helper plumbing and path. -/
theorem real_plain_put_is_wrapper_fault (joins : Bool) (s : Sched) (d : Dest) (path : Str)
    (chunks : List Content) :
    realPut .asCoded joins false s d path chunks = writeObj joins s d path chunks :=
  realPut_plain_eq_writeObj joins s d path chunks

/-- storageos' Close as coded returns the result of `file.Close()` — for a plain put as it is,
    for an atomic put joined with the recorded write error — and renames only when nothing
    failed. -/
theorem osClose_reports_every_failure (c : OsClose) :
    (osClose .asCoded c).1 = (c.fileCloseErr || (c.atomic && (c.writeErr || c.renameErr))) ∧
    ((osClose .asCoded c).2 = (!c.atomic || !(c.writeErr || c.fileCloseErr || c.renameErr))) := by
  obtain ⟨a, w, f, r⟩ := c
  cases a <;> cases w <;> cases f <;> cases r <;> decide

/-- no_silent_failure for real failures, one object, plain or atomic: for EVERY schedule, if the
    helper reports success then no `write(2)` and no `close(2)` failed and the destination holds
    the complete content. -/
theorem realPut_ok (atomic : Bool) (s : Sched) (d d' : Dest) (path : Str) (chunks : List Content)
    (h : realPut .asCoded true atomic s d path chunks = (false, d')) :
    d'.fired = d.fired ∧ s.has ⟨path, .close, 0⟩ = false ∧ (writeChunks s path 0 chunks).2 = none ∧
      ∃ p, validatePath path = .ok p ∧ d'.mem = (p, joinContent chunks) :: d.mem.erase p := by
  rcases realPut_outcome true atomic s d path chunks with ⟨_, hw, hc, p, hp, e⟩ | ⟨_, he, _⟩
  · cases h.symm.trans e; exact ⟨rfl, hc, hw, p, hp, rfl⟩
  · rw [h] at he; cases he rfl

/-- Conversely a failing `close(2)` is reported by every helper whose deferred Close joins the
    named return, plain or atomic … -/
theorem real_close_failure_reported (atomic : Bool) (s : Sched) (d : Dest) (path : Str)
    (chunks : List Content) (h : s.has ⟨path, .close, 0⟩ = true) :
    (realPut .asCoded true atomic s d path chunks).1 = true := by
  rcases realPut_outcome true atomic s d path chunks with ⟨_, _, hc, _⟩ | ⟨_, he, _⟩
  · rw [hc] at h; cases h
  · exact he rfl

/-- … and so is a failing `write(2)`. -/
theorem real_write_failure_reported (atomic : Bool) (s : Sched) (d : Dest) (path : Str)
    (chunks : List Content) (k : Nat) (hk : k < chunks.length) (h : s.has ⟨path, .write, k⟩ = true) :
    (realPut .asCoded true atomic s d path chunks).1 = true := by
  rcases realPut_outcome true atomic s d path chunks with ⟨_, hw, _⟩ | ⟨_, he, _⟩
  · have := writeChunks_fault s path 0 chunks k hk (by simpa using h)
    rw [hw] at this; cases this
  · exact he rfl

/-- atomic_all_or_nothing for real failures: an atomic put whose `write(2)` or `close(2)` failed
    leaves the destination exactly as it was (the previous object or none) — whatever the
    helper's plumbing — and a successful one holds the complete content. -/
theorem real_atomic_put_all_or_nothing (joins : Bool) (s : Sched) (d : Dest) (path : Str)
    (chunks : List Content) (hput : s.has ⟨path, .put, 0⟩ = false) :
    (realPut .asCoded joins true s d path chunks).2.mem = d.mem ∨
    ∃ p, validatePath path = .ok p ∧
      (realPut .asCoded joins true s d path chunks).2.mem = (p, joinContent chunks) :: d.mem.erase p := by
  rcases realPut_outcome joins true s d path chunks with ⟨_, _, _, p, hp, e⟩ | ⟨_, _, hm⟩
  · exact Or.inr ⟨p, hp, by rw [e]⟩
  · exact Or.inl (hm rfl)

/-- The decision of the atomic branch is the step machine's: when no write fails, error and final
    object of `realPut` agree with `atomicRun` failing at the file close (step n+1) or at no step.
    (A failing write: `real_atomic_put_all_or_nothing`, `atomic_failed_leaves_old`.) -/
theorem real_atomic_put_agrees_with_atomicRun (s : Sched) (d : Dest) (p : Str) (chunks : List Content)
    (hput : s.has ⟨p, .put, 0⟩ = false) (hv : validatePath p = .ok p)
    (hw : (writeChunks s p 0 chunks).2 = none) :
    let failAt := if s.has ⟨p, .close, 0⟩ then some (chunks.length + 1) else none
    let r := realPut .asCoded true true s d p chunks
    r.1 = (atomicRun (d.mem.find p) chunks failAt).1 ∧
      r.2.mem.find p = (atomicRun (d.mem.find p) chunks failAt).2.final := by
  rcases realPut_outcome true true s d p chunks with ⟨_, _, hc, q, hq, e⟩ | ⟨hwhy, he, hm⟩
  · cases hv.symm.trans hq
    simp only [hc, Bool.false_eq_true, if_false, atomic_success, e, find_cons_eq, and_self]
  · have hc : s.has ⟨p, .close, 0⟩ = true := by simpa [hput, hv, hw] using hwhy
    simp only [hc, if_true, atomic_failed_leaves_old _ _ _ (Nat.le_succ _), he rfl, hm rfl, and_self]

/-- no_silent_failure for the multi-object helpers under real failures (storage.Copy: `par`;
    Untar / Unzip / walk loops: sequential): success ⇒ no `write(2)` / `close(2)` of any object
    failed. -/
theorem realAll_ok (par atomic : Bool) (outer : Option Bool) (houter : outer = none ∨ outer = some true)
    (s : Sched) (jobs : List (Str × List Content)) (d d' : Dest) (n : Nat)
    (h : realAll .asCoded par true outer atomic s d jobs = (false, d', n)) :
    d'.fired = d.fired ∧
      ∀ j ∈ jobs, s.has ⟨j.1, .close, 0⟩ = false ∧ (writeChunks s j.1 0 j.2).2 = none := by
  induction jobs generalizing d n with
  | nil => simp [realAll] at h; obtain ⟨h1, _⟩ := h; subst h1; simp
  | cons j rest ih =>
    obtain ⟨p, cs⟩ := j
    -- in each of the four shapes of the loop (`outer`, `par`) success is a successful first put and a successful rest
    have hstep : ∃ n', (realPut .asCoded true atomic s d p cs).1 = false ∧
        realAll .asCoded par true outer atomic s (realPut .asCoded true atomic s d p cs).2 rest = (false, d', n') := by
      rcases houter with e | e <;> subst e <;> cases par <;>
        simp only [realAll, deferJoin_true, Bool.or_false, Bool.false_eq_true, if_false, if_true] at h
      all_goals
        cases hr : (realPut .asCoded true atomic s d p cs).1 with
        | true => simp [hr] at h
        | false =>
          simp only [hr, Bool.false_or, Bool.false_eq_true, if_false] at h
          have h1 := congrArg Prod.fst h
          have h2 := congrArg (fun x => x.2.1) h
          simp only at h1 h2
          exact ⟨_, rfl, Prod.ext h1 (Prod.ext h2 rfl)⟩
    obtain ⟨n', hr, hrest⟩ := hstep
    obtain ⟨hf, hc, hw, _⟩ := realPut_ok atomic s d _ p cs (Prod.ext hr rfl)
    obtain ⟨ihf, ihall⟩ := ih _ n' hrest
    refine ⟨by rw [ihf, hf], ?_⟩
    intro j hj
    rcases List.mem_cons.mp hj with e | hm
    · subst e; exact ⟨hc, hw⟩
    · exact ihall j hm

/-- Seed C15-m8 (`Close` ends with `return nil`): the result of `file.Close()` of a PLAIN put is
    dropped — PutPath over a file whose close fails reports success — while the atomic branch is
    unchanged; and the second Close no longer answers storage.ErrClosed. -/
theorem close_drops_plain_close_error_counterexample :
    (realPut .dropsPlainCloseError true false [⟨"a".toList, .close, 0⟩] ⟨[], []⟩ "a".toList ["x"]).1 = false ∧
    (realPut .asCoded true false [⟨"a".toList, .close, 0⟩] ⟨[], []⟩ "a".toList ["x"]).1 = true ∧
    (realPut .dropsPlainCloseError true true [⟨"a".toList, .close, 0⟩] ⟨[], []⟩ "a".toList ["x"]).1 = true ∧
    secondCloseIsErrClosed .dropsPlainCloseError false = false ∧
    (∀ a, secondCloseIsErrClosed .asCoded a = true) := by decide

/-- Seed C09-m7 (the atomic `Close` no longer consults the recorded write error): the helper
    still returns the write error, but the torn temp file is renamed over the previous object. -/
theorem close_ignores_write_error_counterexample :
    let s : Sched := [⟨"a".toList, .write, 1⟩]
    let d : Dest := ⟨[("a".toList, "OLD")], []⟩
    (realPut .ignoresWriteErr true true s d "a".toList ["x", "y"]) = (true, ⟨[("a".toList, "x")], [⟨"a".toList, .write, 1⟩]⟩) ∧
    (realPut .asCoded true true s d "a".toList ["x", "y"]).2.mem = [("a".toList, "OLD")] := by decide

-- non-vacuity
example : realAll .asCoded true true (some true) false [⟨"b".toList, .close, 0⟩] ⟨[], []⟩
    [("a".toList, ["x"]), ("b".toList, ["y", "z"])] =
    (true, ⟨[("b".toList, "yz"), ("a".toList, "x")], [⟨"b".toList, .close, 0⟩]⟩, 1) := by decide
example : realAll .asCoded false true none true [⟨"a".toList, .close, 0⟩] ⟨[("a".toList, "OLD")], []⟩
    [("a".toList, ["x"]), ("b".toList, ["y"])] = (true, ⟨[("a".toList, "OLD")], [⟨"a".toList, .close, 0⟩]⟩, 0) := by decide
example : realAll .asCoded true true (some true) true [] ⟨[("a".toList, "OLD")], []⟩
    [("a".toList, ["x"]), ("b".toList, ["y"])] = (false, ⟨[("b".toList, "y"), ("a".toList, "x")], []⟩, 2) := by decide

/-! ### Pre-existing destinations (harness part E) -/

/-- A plain put (wrapper faults or real `write(2)`/`close(2)` failures alike) REPLACES the object:
    for every schedule that lets the Put through, whatever the destination held at `p` before —
    longer, shorter, of equal length, nothing — afterwards it holds exactly what THIS put wrote
    (all chunks, or the chunks before the first failing write). -/
theorem plain_put_overwrite_exact (joins : Bool) (s : Sched) (d : Dest) (path p : Str)
    (chunks : List Content) (hput : s.has ⟨path, .put, 0⟩ = false) (hv : validatePath path = .ok p) :
    (writeObj joins s d path chunks).2.mem.find p = some (joinContent (writeChunks s path 0 chunks).1) := by
  unfold writeObj
  simp only [hput, Bool.false_eq_true, if_false, hv]
  exact find_cons_eq _ _ _

/-- … and no other object of the destination changes (the bystanders of part E). -/
theorem plain_put_overwrite_frame (joins : Bool) (s : Sched) (d : Dest) (path p q : Str)
    (chunks : List Content) (hv : validatePath path = .ok p) (hq : p ≠ q) :
    (writeObj joins s d path chunks).2.mem.find q = d.mem.find q := by
  unfold writeObj
  split
  · rfl
  · simp only [hv]
    rw [find_cons_ne _ _ _ _ hq, find_erase_ne _ _ _ hq]

/-- no_silent_failure over previous content, one object, plain or atomic, real failures: success ⇒
    the object is exactly the complete new content — nothing of the previous content survives. -/
theorem overwrite_success_exact (atomic : Bool) (s : Sched) (d d' : Dest) (path : Str)
    (chunks : List Content) (h : realPut .asCoded true atomic s d path chunks = (false, d')) :
    ∃ p, validatePath path = .ok p ∧ d'.mem.find p = some (joinContent chunks) ∧
      ∀ q, p ≠ q → d'.mem.find q = d.mem.find q := by
  obtain ⟨_, _, _, p, hp, hm⟩ := realPut_ok atomic s d d' path chunks h
  refine ⟨p, hp, ?_, ?_⟩
  · rw [hm]; exact find_cons_eq _ _ _
  · intro q hq; rw [hm, find_cons_ne _ _ _ _ hq, find_erase_ne _ _ _ hq]

/-- atomic_all_or_nothing over previous content, at full strength: an atomic put that returns an
    error (a `write(2)` or the `close(2)` failed) leaves the WHOLE destination exactly as it was —
    the previous object of any length included. -/
theorem failed_atomic_put_keeps_previous (s : Sched) (d d' : Dest) (path : Str) (chunks : List Content)
    (hput : s.has ⟨path, .put, 0⟩ = false)
    (h : realPut .asCoded true true s d path chunks = (true, d')) : d'.mem = d.mem := by
  rcases realPut_outcome true true s d path chunks with ⟨_, _, _, _, _, e⟩ | ⟨_, _, hm⟩
  · rw [h] at e; cases e
  · rw [← hm rfl, h]

/-- Opening with truncation: the file is what was written, whatever it held. -/
theorem overwrite_truncates (old : Option (List Char)) (w : List Char) :
    overwriteBytes .truncates old w = w := by
  cases old <;> rfl

/-- Seed C15-m9 is INVISIBLE from a fresh destination … -/
theorem keepsTail_invisible_without_previous (w : List Char) : overwriteBytes .keepsTail none w = w := rfl

/-- … and from any previous content that is not LONGER than the new one: without `O_TRUNC` the
    result is the new content exactly when `old.length ≤ written.length`.  (So a run that
    starts from an empty destination, or from a previous content no longer than what it writes,
    cannot see it.) -/
theorem keepsTail_correct_iff (o w : List Char) :
    overwriteBytes .keepsTail (some o) w = w ↔ o.length ≤ w.length := by
  unfold overwriteBytes
  simp only
  constructor
  · intro h
    have h2 : (w ++ List.drop w.length o).length = w.length := by rw [h]
    simp only [List.length_append, List.length_drop] at h2
    omega
  · intro h
    rw [List.drop_eq_nil_of_le h, List.append_nil]

/-- Longer previous content: the file is neither the new content nor (unless the new content
    happens to be a prefix of it) the previous content. -/
theorem keepsTail_neither_old_nor_new (o w : List Char) (hlen : w.length < o.length) :
    overwriteBytes .keepsTail (some o) w ≠ w ∧
    (w ≠ o.take w.length → overwriteBytes .keepsTail (some o) w ≠ o) := by
  refine ⟨fun h => by have := (keepsTail_correct_iff o w).mp h; omega, ?_⟩
  intro hne h
  apply hne
  unfold overwriteBytes at h
  simp only at h
  have := congrArg (List.take w.length) h
  simpa using this

/-- `plainPrefix` (the model's plain put observed step by step) is the truncating instance. -/
theorem plainPrefix_eq_truncates (old : Option Content) (chunks : List Content) (j : Nat) :
    plainPrefixWith .truncates old chunks j = plainPrefix old chunks j := by
  unfold plainPrefixWith plainPrefix overwrite
  split
  · rfl
  · rw [overwrite_truncates, String.ofList_toList]

/-- Seed C15-m9 in the model: PutPath of "new" over "0123456789" with every call returning nil
    leaves "new3456789" — neither the previous nor the complete new content — where the coded
    `os.Create` leaves "new"; equal-length and shorter previous contents do not show it. -/
theorem open_without_trunc_counterexample :
    overwrite .keepsTail (some "0123456789") "new" = "new3456789" ∧
    overwrite .truncates (some "0123456789") "new" = "new" ∧
    overwrite .keepsTail (some "abc") "new" = "new" ∧
    overwrite .keepsTail (some "ab") "new" = "new" ∧
    overwrite .keepsTail none "new" = "new" ∧
    plainPrefixWith .keepsTail (some "0123456789") ["ne", "w"] 1 = some "0123456789" ∧
    plainPrefix (some "0123456789") ["ne", "w"] 1 = some "" ∧
    (writeObj true [] ⟨[("a".toList, "0123456789")], []⟩ "a".toList ["ne", "w"]).2.mem = [("a".toList, "new")] := by
  decide +kernel

-- non-vacuity: an overwrite that succeeds, one whose close fails (plain: what was written stays;
-- atomic: the previous content stays)
example : realPut .asCoded true false [] ⟨[("a".toList, "LONGER-OLD"), ("k".toList, "KEEP")], []⟩ "a".toList ["x"] =
    (false, ⟨[("a".toList, "x"), ("k".toList, "KEEP")], []⟩) := by decide
example : realPut .asCoded true true [⟨"a".toList, .close, 0⟩] ⟨[("a".toList, "LONGER-OLD")], []⟩ "a".toList ["x"] =
    (true, ⟨[("a".toList, "LONGER-OLD")], [⟨"a".toList, .close, 0⟩]⟩) := by decide
example : realPut .asCoded true false [⟨"a".toList, .close, 0⟩] ⟨[("a".toList, "LONGER-OLD")], []⟩ "a".toList ["x"] =
    (true, ⟨[("a".toList, "x")], [⟨"a".toList, .close, 0⟩]⟩) := by decide

/-! ### A reader open across an overwrite (harness part E5) -/

/-- all-or-nothing as a READER sees it: a reader opened on the previous content and kept open
    across ANY sequence of completed puts of the same path, puts of other paths, in-flight writers
    (same path, other paths, other buckets) and their closes, interleaved with its own reads,
    delivers exactly the previous content — never a byte of a later put. -/
theorem reader_across_overwrite_reads_previous (old : List Char) (ops : List ROp) :
    (readerAcross .asCoded old ops).1 = old := by
  unfold readerAcross
  simp only
  rw [closeAll_got]
  obtain ⟨hs, hg⟩ := rfold_inv old ops _ (rinv_init old)
  show (List.foldl (rStep .asCoded) (RSt.init old) ops).got ++
      ((List.foldl (rStep .asCoded) (RSt.init old) ops).snap.drop (List.foldl (rStep .asCoded) (RSt.init old) ops).pos).take
        (List.foldl (rStep .asCoded) (RSt.init old) ops).snap.length = old
  rw [hs, hg, ← List.take_add]
  exact List.take_of_length_le (by omega)

/-- The object at the path afterwards is the content of the last completed put of that path
    (here: one overwrite, no writer of the same path in flight). -/
theorem reader_across_overwrite_object (old new : List Char) (k : Nat) :
    readerAcross .asCoded old [.read k, .put new] = (old, new) := by
  refine Prod.ext (reader_across_overwrite_reads_previous old _) ?_
  simp [readerAcross, rStep, RSt.init, donate, scribble]

/-- Seed C15-m10 in the model (the replaced object's array seeds the next writer's buffer): the
    reader opened on "OLDOLD" delivers "xyDOLD" after an unrelated, still unpublished writer wrote
    "xy"; as coded it delivers "OLDOLD". -/
theorem recycled_buffer_counterexample :
    readerAcross .recycles "OLDOLD".toList [.put "NEW".toList, .wOther "xy".toList] = ("xyDOLD".toList, "NEW".toList) ∧
    readerAcross .asCoded "OLDOLD".toList [.put "NEW".toList, .wOther "xy".toList] = ("OLDOLD".toList, "NEW".toList) ∧
    readerAcross .recycles "OLDOLD".toList [.read 3, .put "NEW".toList, .wOther "xyzw".toList] = ("OLDwLD".toList, "NEW".toList) := by
  decide +kernel

example : readerAcross .asCoded "abc".toList [.read 1, .wSame "S".toList, .put "N".toList, .read 1, .closeW] =
    ("abc".toList, "S".toList) := by decide

end BufProofs.C15
