import BufProofs.Lemmas.OutFileLemmas
/-
  Property C11, encodings half, OUTPUT-FILE HISTORIES: "a built image written in any supported
  encoding and compression and read back equals the original" - whatever the output path held
  before.  Model: BufModel/OutFile.lean (os.Create = O_CREATE|O_TRUNC through symbolic links).
  The `no_trunc` theorems say what the same open WITHOUT O_TRUNC leaves: the property fails
  exactly when the earlier file was longer.

  Correspondence: protocol line `ofh` (Driver/C11.lean) against real files written by the real
  controller (harness/cmd/c11/parto.go).
-/
namespace BufProofs.C11
open BufModel.OutFile

variable {α : Type}

/-- THE PROPERTY on the model: the file read back is the file written, whatever was there. -/
theorem outfile_put_then_read (fs fs' : FS α) (p : Name) (c : List α)
    (h : create fs p c = .ok fs') : readBack fs' p = .ok c := by
  obtain ⟨q, _, hrd⟩ := of_read_after_createWith writeTrunc fs fs' p c h
  simpa [writeTrunc] using hrd

/-- Writing to a fresh path always succeeds and reads back. -/
theorem outfile_fresh (p : Name) (c : List α) :
    ∃ fs', create ([] : FS α) p c = .ok fs' ∧ readBack fs' p = .ok c := by
  refine ⟨[(p, .file c)], ?_, ?_⟩
  · simp [create, createWith, resolve, lookup, setNode, writeTrunc]
  · simp [readBack, resolve, lookup]

/-- History independence: after ANY earlier steps (writes of longer or shorter outputs, foreign
    files, links, removals - failing ones included), a successful write reads back exactly like
    the same write to a fresh path. -/
theorem outfile_history_irrelevant (fs0 : FS α) (hist : List (Op α)) (p : Name) (c : List α)
    (fs' fresh' : FS α)
    (h : create (run fs0 hist).1 p c = .ok fs')
    (hf : create ([] : FS α) p c = .ok fresh') :
    readBack fs' p = readBack fresh' p := by
  rw [outfile_put_then_read _ _ _ _ h, outfile_put_then_read _ _ _ _ hf]

/-- A write through a symbolic link goes to the target: the link itself stays what it was. -/
theorem outfile_put_keeps_links (fs fs' : FS α) (p t : Name) (c : List α)
    (hl : lookup fs p = some (.link t)) (h : create fs p c = .ok fs') :
    lookup fs' p = some (.link t) := by
  obtain ⟨q, hr, _, hfs⟩ := of_createWith_ok writeTrunc fs fs' p c h
  have hterm := of_resolve_terminal fs _ p q hr
  have hpq : p ≠ q := by
    intro e; subst e; exact hterm t hl
  subst hfs
  rw [of_lookup_set_ne fs q p _ hpq, hl]

/-- Frame: a path whose walk ends at another name reads exactly as before the write. -/
theorem outfile_put_frame (fs fs' : FS α) (p r q q' : Name) (c : List α)
    (h : create fs p c = .ok fs')
    (hp : resolve fs (maxLinks + 1) p = .ok q) (hr : resolve fs (maxLinks + 1) r = .ok q')
    (hne : q' ≠ q) : readBack fs' r = readBack fs r := by
  obtain ⟨q0, hr0, _, hfs⟩ := of_createWith_ok writeTrunc fs fs' p c h
  rw [hp] at hr0
  cases hr0
  subst hfs
  have hterm := of_resolve_terminal fs _ p q hp
  unfold readBack
  rw [of_resolve_set fs q _ hterm (by intro t e; cases e), hr]
  simp only [of_lookup_set_ne fs q q' _ hne]

/-- A write fails exactly when the path is a link loop (or longer than the kernel follows) or
    ends at a directory. -/
theorem outfile_put_fails_iff (fs : FS α) (p : Name) (c : List α) :
    (∃ e, create fs p c = .error e) ↔
      (resolve fs (maxLinks + 1) p = .error .eloop ∨
       ∃ q, resolve fs (maxLinks + 1) p = .ok q ∧ lookup fs q = some .dir) := by
  unfold create createWith
  constructor
  · intro ⟨e, h⟩
    split at h
    · rename_i e' hr
      exact Or.inl (of_resolve_error fs _ _ _ hr ▸ hr)
    · rename_i q hr
      split at h
      · rename_i hd
        right; exact ⟨q, hr, hd⟩
      · cases h
  · intro h
    rcases h with h | ⟨q, hr, hd⟩
    · rw [h]; exact ⟨_, rfl⟩
    · rw [hr]; simp [hd]

/-- A failing step of a history changes nothing (so no path reads differently afterwards). -/
theorem outfile_failed_put_changes_nothing (wr : List α → List α → List α) (fs : FS α) (p : Name) (c : List α) (e : Err)
    (h : (stepWith wr fs (.put p c)).2 = some e) : (stepWith wr fs (.put p c)).1 = fs := by
  simp only [stepWith] at h ⊢
  cases hc : createWith wr fs p c with
  | ok fs' => rw [hc] at h; cases h
  | error e' => rfl

/-- The open without O_TRUNC, exactly: the new bytes followed by the old bytes beyond them. -/
theorem outfile_no_trunc_exact (fs fs' : FS α) (p : Name) (c : List α)
    (h : createNoTrunc fs p c = .ok fs') :
    ∃ q, resolve fs (maxLinks + 1) p = .ok q ∧ readBack fs' p = .ok (c ++ (oldBytes fs q).drop c.length) := by
  obtain ⟨q, hr, hrd⟩ := of_read_after_createWith writeNoTrunc fs fs' p c h
  exact ⟨q, hr, by simpa [writeNoTrunc] using hrd⟩

/-- ... and that is the written file iff the old file was not longer than the new one. -/
theorem outfile_no_trunc_ok_iff (old c : List α) :
    writeNoTrunc old c = writeTrunc old c ↔ old.length ≤ c.length := by
  unfold writeNoTrunc writeTrunc
  constructor
  · intro h
    have h2 : (c ++ List.drop c.length old).length = c.length := by rw [h]
    simp at h2
    omega
  · intro h
    have : List.drop c.length old = [] := List.drop_eq_nil_of_le h
    simp [this]

/-- non-vacuity: a long output, then a shorter one over it.  As coded the short
    output reads back; without O_TRUNC the tail of the long one is still there. -/
def exLong : List (Nat × Nat) := payload 1 5
def exShort : List (Nat × Nat) := payload 2 2

example : (run ([] : FS (Nat × Nat)) [.put 0 exLong, .put 0 exShort]).2 = [none, none]
    ∧ readBack (run ([] : FS (Nat × Nat)) [.put 0 exLong, .put 0 exShort]).1 0 = .ok exShort := by decide

/-- through a symbolic link (7 -> 0), over a longer foreign file: link kept, target = the output -/
example : readBack (run ([] : FS (Nat × Nat)) [.pre 0 exLong, .ln 7 0, .put 7 exShort]).1 0 = .ok exShort
    ∧ lookup (run ([] : FS (Nat × Nat)) [.pre 0 exLong, .ln 7 0, .put 7 exShort]).1 7 = some (.link 0) := by decide

/-- a link loop and a directory fail and change nothing -/
example : (run ([] : FS (Nat × Nat)) [.ln 1 2, .ln 2 1, .put 1 exShort, .mkdir 3, .put 3 exShort]).2
    = [none, none, some .eloop, none, some .eisdir] := by decide

theorem outfile_no_trunc_counterexample :
    readBack (runNoTrunc ([] : FS (Nat × Nat)) [.put 0 exLong, .put 0 exShort]).1 0
      = .ok [(2, 0), (2, 1), (1, 2), (1, 3), (1, 4)]
    ∧ readBack (runNoTrunc ([] : FS (Nat × Nat)) [.put 0 exLong, .put 0 exShort]).1 0 ≠ .ok exShort
    ∧ segments [(2, 0), (2, 1), (1, 2), (1, 3), (1, 4)] = [(2, 0, 2), (1, 2, 5)] := by decide

end BufProofs.C11
