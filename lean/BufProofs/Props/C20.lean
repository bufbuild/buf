import BufProofs.Lemmas.AnnotFormatLemmas
import BufProofs.Lemmas.AnnotExitLemmas
import BufProofs.Lemmas.ListLemmas
/-
  C20 — Exit status and every diagnostic format tell the same verdict.
  The model, BufModel/Annot.lean, describes the code after the `fix:` changes; the pre-fix key and
  printers are kept for the `…_counterexample` theorems.

  Sections: exit status over Go error values (trichotomy under `StepsOK`, the error → status
  mapping, three necessity counterexamples) · `buf format` modes · `-w` and the output sinks
  (stdout, `-o file`, `-o dir`) at the level of file contents · de-duplication and order ·
  the formats (record structure, `formats_decode` = parse ∘ print, cross-format agreement
  `formats_carry_same_fields` on the fields two formats share).
-/
namespace BufProofs.C20
open BufModel.Annot

/-! ## exit status

The commands are modelled over Go error VALUES (`GoErr`: FileAnnotationSet | ImportNotExistError |
plain | fmt.Errorf-wrapped | *appError(code) | *syserror.Error | *connect.Error | errors.Join) and
the code that classifies them as coded: `handleFAS` (controller.handleFileAnnotationSetRetError),
the check loops of lint / breaking, `wrapError` (buf.go), `getExitCode` (app.GetExitCode),
`textOf` (app.printError).  Hypothesis of the three trichotomy theorems, `StepsOK c`: an error a
step returns has a message and carries no exit code of its own (in /repo the only creators of an
*appError on these paths are bufctl.ErrFileAnnotation and wrapError itself — the harness scans the
tree for others), and the `wasmRuntime.Close` error of lint / breaking is no system / connect
error.  Each hypothesis is necessary: see the three `…_counterexample` theorems. -/

/-- `build`, `lint`, `breaking`, `format` (in every output mode: `Cmd.format` carries the mode
    `-d` / `-w` / `-o` / `--exit-code` as a parameter) exit 0 exactly when there is nothing to
    report: no annotation was printed, no "Failure: …" line, no format difference. -/
theorem exit_zero_iff_nothing (c : Cmd) (h : StepsOK c) :
    c.run.exit = 0 ↔ c.run.printed = [] ∧ c.run.failureLine = false ∧ c.run.diff = false := by
  rcases shape_observables (run_shape c h) with ⟨h1, h2, h3, h4, _, _⟩ | ⟨h1, h2, _⟩ | ⟨e, _, _, h1, h2, h3, h4, _⟩
  · simp [h1, h2, h3, h4]
  · simp only [h1]
    constructor
    · intro h; cases h
    · rintro ⟨hp, _, hd⟩
      rcases h2 with h2 | h2
      · exact absurd hp h2
      · rw [hd] at h2; cases h2
  · rw [h1, h3]
    constructor
    · intro h; split at h <;> cases h
    · rintro ⟨_, hf, _⟩; cases hf

/-- Status 100 exactly when the problem lies in the user's sources: annotations were printed,
    an import could not be found (`importNotFound`: wrapError took its `errors.As(err,
    &importNotExistError)` branch — characterised by `import_not_found_exits_100`), or `format
    --exit-code` found a difference — for every output mode of `buf format` (see
    `format_diff_reported_iff` for when `diff` is set). -/
theorem exit_100_iff_user_sources (c : Cmd) (h : StepsOK c) :
    c.run.exit = 100 ↔ c.run.printed ≠ [] ∨ c.run.importNotFound = true ∨ c.run.diff = true := by
  rcases shape_observables (run_shape c h) with ⟨h1, h2, _, h4, h5, _⟩ | ⟨h1, h2, _⟩ | ⟨e, _, _, h1, h2, _, h4, h5⟩
  · simp [h1, h2, h4, h5]
  · simp only [h1, true_iff]
    rcases h2 with h2 | h2
    · exact Or.inl h2
    · exact Or.inr (Or.inr h2)
  · rw [h1, h2, h4, h5]
    cases importBranch e <;> simp

/-- Every other failure (operational error: the command returned an error that is neither the
    annotation sentinel nor reaches the import-not-found branch) exits with 1 — different from
    both 0 and 100 — and says "Failure: …" with nothing printed; there is no fourth status. -/
theorem exit_other_iff_operational (c : Cmd) (h : StepsOK c) :
    (c.run.exit ≠ 0 ∧ c.run.exit ≠ 100 ↔
      ∃ e, c.run.ret = some e ∧ e.noApp = true ∧ importBranch e = false) ∧
    ((∃ e, c.run.ret = some e ∧ e.noApp = true ∧ importBranch e = false) →
      c.run.exit = 1 ∧ c.run.failureLine = true ∧ c.run.printed = [] ∧ c.run.diff = false) ∧
    (c.run.exit = 0 ∨ c.run.exit = 100 ∨ c.run.exit = 1) := by
  rcases shape_observables (run_shape c h) with ⟨h1, _, _, _, _, h6⟩ | ⟨h1, _, e', he', hn'⟩ | ⟨e, he, hn, h1, h2, h3, h4, _⟩
  · have hB : ¬ ∃ e, c.run.ret = some e ∧ e.noApp = true ∧ importBranch e = false :=
      fun ⟨e, he, _⟩ => by rw [h6] at he; cases he
    simp [hB, h1]
  · have hB : ¬ ∃ e, c.run.ret = some e ∧ e.noApp = true ∧ importBranch e = false :=
      fun ⟨e, he, hn, _⟩ => by rw [he'] at he; cases he; rw [hn'] at hn; cases hn
    simp [hB, h1]
  · have hB : (∃ e, c.run.ret = some e ∧ e.noApp = true ∧ importBranch e = false) ↔ importBranch e = false :=
      ⟨fun ⟨e', he', _, hb⟩ => by rw [he] at he'; cases he'; exact hb, fun hb => ⟨e, he, hn, hb⟩⟩
    rw [hB, h1]
    cases importBranch e <;> simp [h2, h3, h4]

/-- The error → exit status mapping itself (wrapError + GetExitCode + printError, as coded), for
    EVERY error value without an exit code of its own: 100 exactly when wrapError's
    import-not-found branch is taken, 1 otherwise; a "Failure:" line exactly when the error has a
    message. -/
theorem error_exit_status (e : GoErr) (h : e.noApp = true) :
    getExitCode (wrapError (some e)) = (if importBranch e then 100 else 1) ∧
    textOf (wrapError (some e)) = e.text :=
  ⟨wrapError_exit e h, wrapError_failureLine e⟩

/-- "an import could not be found ⇒ 100": an error tree that holds an ImportNotExistError below
    ANY stack of wrappers (fmt.Errorf %w, errors.Join, even a foreign *appError), and no connect /
    system error, exits 100 with a "Failure:" line.  (With a *syserror.Error or one of the special
    connect codes in the tree wrapError drops the chain first and the status is 1 — as coded.) -/
theorem import_not_found_exits_100 (e : GoErr) (hc : e.findConnect = none) (hs : e.findSys = none)
    (hi : e.hasImport = true) :
    importBranch e = true ∧ getExitCode (wrapError (some e)) = 100 ∧ textOf (wrapError (some e)) = true := by
  have ht := text_of_hasImport hi
  have hb : importBranch e = true := by simp [importBranch, hc, ht, sysStrip, hs, hi]
  exact ⟨hb, by rw [wrapError_exitCode, hb]; rfl, by rw [wrapError_failureLine, ht]⟩

/-- A FileAnnotationSet ANYWHERE in the error tree of a controller method is printed
    (de-duplicated, sorted) and turns into status 100 without a "Failure:" line. -/
theorem annotation_set_exits_100 (e : GoErr) (hd : Annot) (tl : List Annot) (h : e.findAnnots = some (hd, tl)) :
    (failStep e []).printed = dedupSort (hd :: tl) ∧ (failStep e []).printed ≠ [] ∧
    (failStep e []).exit = 100 ∧ (failStep e []).failureLine = false := by
  rw [failStep_of_findAnnots h]
  exact ⟨rfl, dedupSort_ne_nil (List.cons_ne_nil hd tl), reported_observables rfl⟩

private def ex1 : Annot :=
  { file := some "a.proto".toList, sl := 1, sc := 23, el := 1, ec := 29,
    type := "FIELD_LOWER_SNAKE_CASE".toList, msg := "m".toList, plugin := [] }
private def ex2 : Annot := { ex1 with sl := 12, sc := 3, el := 12, ec := 9 }

/-- Necessity of `CloseBenign`: `buf lint` printed annotations, then `wasmRuntime.Close` fails with
    a system error — wrapError keeps only what the *syserror.Error wraps, the ErrFileAnnotation it
    was joined with is lost, and the status is 1 although annotations were printed (as coded; not
    reachable in the harness). -/
theorem close_syserror_counterexample :
    (Cmd.lint [] [] [some (.annotSet ex1 [])] (some (.sys (.plain true)))).run.printed ≠ [] ∧
    (Cmd.lint [] [] [some (.annotSet ex1 [])] (some (.sys (.plain true)))).run.exit = 1 := by decide

/-- Necessity of "a step error has a message": errors.New("") from a step gives status 1 and no
    output at all. -/
theorem silent_error_counterexample :
    (Cmd.build [(false, some (.plain false))]).run.exit = 1 ∧
    (Cmd.build [(false, some (.plain false))]).run.failureLine = false ∧
    (Cmd.build [(false, some (.plain false))]).run.printed = [] := by decide

/-- Necessity of "no exit code of its own": a step returning app.NewError(100, "x") exits 100
    with nothing printed and no import involved. -/
theorem foreign_exit_code_counterexample :
    (Cmd.build [(true, some (.app 100 (.plain true)))]).run.exit = 100 ∧
    (Cmd.build [(true, some (.app 100 (.plain true)))]).run.printed = [] ∧
    (Cmd.build [(true, some (.app 100 (.plain true)))]).run.importNotFound = false := by decide

/-- WHERE a problem in the sources is met decides how it is reported (as coded).  The header scan
    of a `.proto` file (`file.proto#include_package_files=true` scans every file of the module
    before anything is compiled) returns an annotation set; inside a controller method
    (`buf ls-files`, `build`, `lint`, `breaking`: first line) it is printed and the status is 100
    with no "Failure:" line.  The same value returned by a step that runs directly in the
    command (`buf ls-files --include-imports`, `buf dep graph`: second line) is NOT printed: status
    1 and a "Failure:" line.  And if the scan error were no annotation set at all (third line: a
    plain error, what a missing conversion in bufmodule would give) the controller method has
    nothing to print either: status 1 - which is why the conversion is part of the property. -/
theorem header_scan_error_where_it_is_met :
    ((Cmd.lsFiles [(false, none), (true, some (.annotSet ex1 []))]).run.exit = 100 ∧
     (Cmd.lsFiles [(false, none), (true, some (.annotSet ex1 []))]).run.printed = [ex1] ∧
     (Cmd.lsFiles [(false, none), (true, some (.annotSet ex1 []))]).run.failureLine = false) ∧
    ((Cmd.lsFiles [(false, none), (true, none), (false, some (.annotSet ex1 []))]).run.exit = 1 ∧
     (Cmd.lsFiles [(false, none), (true, none), (false, some (.annotSet ex1 []))]).run.printed = [] ∧
     (Cmd.lsFiles [(false, none), (true, none), (false, some (.annotSet ex1 []))]).run.failureLine = true) ∧
    ((Cmd.build [(true, some (.plain true))]).run.exit = 1 ∧
     (Cmd.build [(true, some (.plain true))]).run.printed = [] ∧
     (Cmd.build [(true, some (.plain true))]).run.failureLine = true) := by
  unfold ex1
  repeat rw [String.toList_ofList]
  decide +kernel

-- non-vacuity: each status is reached, by each kind of cause
private def ok1 : CStep := (true, none)
private def annStep (l : List Annot) : Step := match l with | [] => none | a :: t => some (.annotSet a t)
example : (Cmd.lint [none] [ok1] [none, none] none).run.exit = 0 := by decide
example : (Cmd.lint [none] [ok1] [none, some (.annotSet ex1 [ex2])] none).run.exit = 100 := by decide
example : (Cmd.lint [none] [ok1] [none, some (.wrapf (.annotSet ex1 [ex2]))] none).run.printed.length = 2 := by decide
example : (Cmd.build [(true, some (.annotSet ex1 []))]).run.exit = 100 := by decide
example : (Cmd.depGraph [ok1, (false, some (.wrapf .importNotExist))]).run.exit = 100 := by decide
example : (Cmd.depGraph [ok1, (false, some (.wrapf .importNotExist))]).run.failureLine = true := by decide
example : (Cmd.breaking [] [ok1, (true, some .importNotExist)] [] none).run.importNotFound = true := by decide
-- annotations collected, then a check fails otherwise: nothing printed, status 1
example : (Cmd.lint [] [ok1] [some (.annotSet ex1 []), some (.plain true)] none).run =
    { ret := some (.plain true), printed := [], diff := false } := by decide
example : (Cmd.lint [] [ok1] [some (.annotSet ex1 []), some (.plain true)] none).run.exit = 1 := by decide
-- annotations printed and a (benign) close error: still 100, now with a Failure line
example : (Cmd.lint [] [ok1] [some (.annotSet ex1 [])] (some (.plain true))).run.exit = 100 ∧
    (Cmd.lint [] [ok1] [some (.annotSet ex1 [])] (some (.plain true))).run.failureLine = true := by decide
-- an image that lacks a dependency: a system error, status 1
example : (Cmd.lint [] [(true, some (.sys (.plain true)))] [] none).run.exit = 1 := by decide
example : StepsOK (Cmd.lint [none] [ok1] [none, some (.annotSet ex1 [ex2])] (some (.plain true))) := by
  refine ⟨?_, ?_⟩
  · intro e he
    simp only [Cmd.stepErrs, ok1, List.map_cons, List.map_nil, List.cons_append, List.nil_append, List.filterMap_cons,
      List.filterMap_nil, id, List.mem_cons, List.not_mem_nil, or_false] at he
    rcases he with rfl | rfl <;> exact ⟨rfl, rfl⟩
  · intro e he; cases he; exact ⟨rfl, rfl⟩
example : importBranch (.join (.wrapf (.wrapf .importNotExist)) (.plain true)) = true := by decide
example : importBranch (.sys (.wrapf .importNotExist)) = true := by decide
example : importBranch (.join (.sys (.plain true)) .importNotExist) = false := by decide
private def mDiffExit : FmtMode := { diff := true, write := false, out := .stdout, exitCode := true }
example : (Cmd.format mDiffExit true [ok1] none true .ok).run.exit = 100 := by decide
example : (Cmd.format mDiffExit true [ok1] none false .ok).run.exit = 0 := by decide
example : (Cmd.format { mDiffExit with exitCode := false } true [ok1] none true .ok).run.exit = 0 := by decide
example : (Cmd.format mDiffExit true [ok1] (some (.plain true)) true .ok).run.exit = 1 := by decide

/-! ## `buf format`: the verdict is the same in every output mode -/

/-- `--exit-code` in EVERY mode — plain, `-d`, `-w`, `-d -w`, `-o X`, `-d -o X`: when nothing
    operational goes wrong the exit status is 100 exactly when the flag is given and a file is
    not formatted, 0 otherwise; no annotation and no "Failure:" line is printed. -/
theorem format_exit_code_every_mode (m : FmtMode) (sw : Bool) (ctl : List CStep) (f : Step) (d : Bool)
    (io : FmtIO) (h : FmtClean m sw ctl f d io) :
    (Cmd.format m sw ctl f d io).run.exit = (if m.exitCode && d then 100 else 0) ∧
    (Cmd.format m sw ctl f d io).run.printed = [] ∧
    (Cmd.format m sw ctl f d io).run.failureLine = false := by
  simp only [Cmd.run, format, formatFull_clean h, fmtDeferred]
  split
  · exact ⟨(reported_observables rfl).1, rfl, (reported_observables rfl).2⟩
  · simp [Outcome.exit, Outcome.failureLine, Outcome.err, Outcome.ok, wrapError, getExitCode, textOf]

/-- The "difference found" verdict, completely, for every mode: it is reported exactly when
    `--exit-code` is given, a difference exists, the flag combination is valid, and no step of
    the run — controller, formatter, or an I/O step THE MODE PERFORMS — failed.  Together with
    `exit_100_iff_user_sources` (which quantifies over all modes through `Cmd.format`): no mode
    loses the 100 and no mode invents one. -/
theorem format_diff_reported_iff (m : FmtMode) (sw : Bool) (ctl : List CStep) (f : Step) (d : Bool)
    (io : FmtIO) :
    (Cmd.format m sw ctl f d io).run.diff = true ↔
      m.exitCode = true ∧ d = true ∧ FmtClean m sw ctl f d io := by
  rw [fmtClean_iff, Cmd.run]
  cases hv : m.valid sw with
  | false => simp [format, formatFull, hv, failDirect]
  | true =>
    rw [format_eq m ctl f d io hv]
    cases hr : runSteps (ctl ++ (f :: m.ioSteps d io).map fun s => (false, s)) with
    | some o => simp [runSteps_diff _ o hr]
    | none =>
      -- no step failed: the deferred function alone decides
      simp only [Option.getD_none, fmtDeferred]
      split <;> simp_all [Outcome.ok]

/-- Two valid modes with the same `--exit-code` setting give the same exit status on the same
    sources: the verdict does not depend on WHERE the result goes. -/
theorem format_verdict_mode_independent (m1 m2 : FmtMode) (sw : Bool) (ctl : List CStep) (f : Step)
    (d : Bool) (io1 io2 : FmtIO) (he : m1.exitCode = m2.exitCode)
    (h1 : FmtClean m1 sw ctl f d io1) (h2 : FmtClean m2 sw ctl f d io2) :
    (Cmd.format m1 sw ctl f d io1).run.exit = (Cmd.format m2 sw ctl f d io2).run.exit := by
  rw [(format_exit_code_every_mode m1 sw ctl f d io1 h1).1,
    (format_exit_code_every_mode m2 sw ctl f d io2 h2).1, he]

/-- Already formatted input exits 0 in every mode, with or without `--exit-code` — in particular
    the second run after `-w` (which rewrote every changed file: `rewrote = d`; that re-formatting
    the formatted file changes nothing is C07's idempotence). -/
theorem format_formatted_input_exits_zero (m : FmtMode) (sw : Bool) (ctl : List CStep) (f : Step)
    (io : FmtIO) (h : FmtClean m sw ctl f false io) :
    (Cmd.format m sw ctl f false io).run.exit = 0 := by
  rw [(format_exit_code_every_mode m sw ctl f false io h).1]
  simp

/-- What each mode does besides exiting (clean run): the diff goes to stdout exactly with `-d`
    when one exists; the formatted source goes to stdout only in the plain mode; files are
    rewritten exactly with `-w` when a difference exists; the `-o` location is written exactly
    without `-w` when `-o` names a path. -/
theorem format_effects_by_mode (m : FmtMode) (sw : Bool) (ctl : List CStep) (f : Step) (d : Bool)
    (io : FmtIO) (h : FmtClean m sw ctl f d io) :
    (formatFull m sw ctl f d io).2 =
      { stdoutDiff := m.diff && d,
        stdoutSource := !m.diff && !m.write && m.out == .stdout,
        rewrote := m.write && d,
        wroteOut := !m.write && m.out == .path } := by
  rw [formatFull_clean h]

/-- An invalid flag combination (`-w` with `-o`, `-w` on a source that cannot be rewritten) is an
    operational error in every mode: status 1 with a "Failure:" line, nothing done. -/
theorem format_invalid_mode_is_operational (m : FmtMode) (sw : Bool) (ctl : List CStep) (f : Step)
    (d : Bool) (io : FmtIO) (h : m.valid sw = false) :
    (Cmd.format m sw ctl f d io).run.exit = 1 ∧ (Cmd.format m sw ctl f d io).run.failureLine = true ∧
    (formatFull m sw ctl f d io).2 = FmtEffects.none := by
  simp only [Cmd.run, format, formatFull, h, Bool.not_false, if_true]
  refine ⟨?_, ?_, ?_⟩ <;> first | rfl | decide

/-! ## `buf format -w`: what is on disk afterwards

`buf format` owns the output modes; the verdict of `--exit-code` ("a difference exists") and of
the run after `-w` ("nothing to report") are only right when `-w` leaves in every targeted file
exactly the formatter's output.  The walk is modelled as coded (`rewriteWalk`: path order, open
with O_TRUNC, first failing open ends it); the formatter is a parameter (C07). -/

/-- A `-w` run in which every targeted file parses and every changed file can be opened: it does
    not fail, EVERY file holds what it is to hold — the formatter's output if targeted, its old
    content otherwise (byte for byte, whatever the lengths) — and the difference it reports is
    "some targeted file differed from the formatter's output". -/
theorem write_leaves_formatter_output (fs : List WFile) (hp : fmtStepOk fs = true)
    (ho : ∀ f ∈ fs, f.changed = true → f.openable = true) :
    formatWrite fs = (fs.map (fun f => (f.path, f.want)), false, fs.any (·.changed)) := by
  unfold formatWrite
  rw [hp, if_pos rfl, rewriteWalk_clean writeTrunc fs ho]
  simp only [WFile.written_eq_want]

/-- The run after `-w` is clean: with a formatter that reproduces its own output (C07's
    idempotence, needed only on the outputs written) no file is among the changed paths any more
    — `--exit-code` gives 0, `-d` prints nothing (`format_formatted_input_exits_zero`) — and the
    second run leaves every file as the first one left it. -/
theorem write_second_run_clean (F : Str → Option Str) (fs : List WFile) (hp : fmtStepOk fs = true)
    (hF : ∀ f ∈ fs, f.target = true → ∀ t, f.fmt = some t → F t = some t) :
    (nextRun F fs).any (·.changed) = false ∧
    formatWrite (nextRun F fs) = (fs.map (fun f => (f.path, f.want)), false, false) := by
  -- file by file: the next run finds it formatted, parsing, and wants what it holds
  have key : ∀ f ∈ fs, ∀ g, g = ({ f with orig := f.want, fmt := F f.want } : WFile) →
      g.changed = false ∧ (!g.target || g.fmt.isSome) = true ∧ (g.path, g.want) = (f.path, f.want) := by
    intro f hf g hg
    subst hg
    cases ht : f.target
    · simp [WFile.changed, WFile.want, ht]
    · obtain ⟨t, hft⟩ := Option.isSome_iff_exists.mp (by simpa [ht] using List.all_eq_true.mp hp f hf)
      simp [WFile.changed, WFile.want, ht, hft, hF f hf ht t hft]
  have hch : ∀ g ∈ nextRun F fs, g.changed = false := fun g hg => by
    obtain ⟨f, hf, rfl⟩ := List.mem_map.mp hg
    exact (key f hf _ rfl).1
  have hany : (nextRun F fs).any (·.changed) = false :=
    List.any_eq_false.mpr fun g hg => by rw [hch g hg]; exact Bool.false_ne_true
  have hp2 : fmtStepOk (nextRun F fs) = true := List.all_eq_true.mpr fun g hg => by
    obtain ⟨f, hf, rfl⟩ := List.mem_map.mp hg
    exact (key f hf _ rfl).2.1
  refine ⟨hany, ?_⟩
  rw [write_leaves_formatter_output _ hp2 (fun g hg hc => by rw [hch g hg] at hc; exact nomatch hc), hany]
  congr 1
  rw [nextRun, List.map_map]
  exact List.map_congr_left fun f hf => (key f hf _ rfl).2.2

/-- A changed file that cannot be opened (a read-only file for a non-root user): the run fails
    (an operational error: status 1 by `exit_other_iff_operational`), the files before it in path
    order are rewritten, that file and every later one are as they were. -/
theorem write_failure_stops_walk (pre : List WFile) (f : WFile) (post : List WFile)
    (hp : fmtStepOk (pre ++ f :: post) = true)
    (hpre : ∀ g ∈ pre, g.changed = true → g.openable = true)
    (hc : f.changed = true) (ho : f.openable = false) :
    formatWrite (pre ++ f :: post) =
      (pre.map (fun g => (g.path, g.want)) ++ (f.path, f.orig) :: untouched post, true, true) := by
  unfold formatWrite
  rw [hp, if_pos rfl, rewriteWalk_stops writeTrunc pre f post hpre hc ho]
  simp only [WFile.written_eq_want]
  congr 2
  simp [hc]

/-- Whatever happens (a failing open included): no file appears or disappears, and a file that is
    not targeted, or already formatted, keeps its content. -/
theorem write_touches_only_changed (fs : List WFile) :
    (formatWrite fs).1.map Prod.fst = fs.map (·.path) ∧
    ∀ f ∈ fs, f.changed = false → (f.path, f.orig) ∈ (formatWrite fs).1 := by
  unfold formatWrite
  cases fmtStepOk fs
  · refine ⟨by simp [untouched, List.map_map, Function.comp_def], ?_⟩
    intro f hf _
    exact List.mem_map.mpr ⟨f, hf, rfl⟩
  · exact rewriteWalk_frame writeTrunc fs

/-- Why the open must truncate: written over the old content WITHOUT truncation a formatted text
    that is shorter leaves the tail of the old content behind it — the file is not the formatter's
    output (here it no longer parses) — while equal or longer texts come out right, which is why
    only inputs that SHRINK when formatted show it (`writeOver_eq_iff`). -/
theorem write_without_truncate_counterexample :
    let f : WFile := { path := "a.proto".toList, orig := "message   A   {   }\n".toList,
                       fmt := some "message A {}\n".toList, target := true, openable := true }
    (rewriteWalk writeOver [f]).1 = [("a.proto".toList, "message A {}\n {   }\n".toList)] ∧
    (rewriteWalk writeTrunc [f]).1 = [("a.proto".toList, "message A {}\n".toList)] ∧
    (∀ old new : Str, writeOver old new = new ↔ old.length ≤ new.length) := by
  intro f
  refine ⟨?_, ?_, writeOver_eq_iff⟩
  all_goals
    unfold f
    repeat rw [String.toList_ofList]
    decide +kernel

-- non-vacuity: a directory with a file that shrinks, one that grows, an untargeted and a formatted one
def wEx : List WFile :=
  [ { path := "a.proto".toList, orig := "message   A   {   }\n".toList, fmt := some "message A {}\n".toList, target := true, openable := true },
    { path := "b.proto".toList, orig := "message B{}".toList, fmt := some "message B {}\n".toList, target := true, openable := true },
    { path := "c.proto".toList, orig := "message  C{}".toList, fmt := some "message C {}\n".toList, target := false, openable := true },
    { path := "d.proto".toList, orig := "message D {}\n".toList, fmt := some "message D {}\n".toList, target := true, openable := false } ]
example : fmtStepOk wEx = true ∧ (∀ f ∈ wEx, f.changed = true → f.openable = true) := by
  unfold wEx
  repeat rw [String.toList_ofList]
  decide +kernel
example : formatWrite wEx =
    ([("a.proto".toList, "message A {}\n".toList), ("b.proto".toList, "message B {}\n".toList),
      ("c.proto".toList, "message  C{}".toList), ("d.proto".toList, "message D {}\n".toList)], false, true) := by
  unfold wEx
  repeat rw [String.toList_ofList]
  decide +kernel
example : (formatWrite (nextRun (fun t => some t) wEx)).2 = (false, false) := by
  unfold wEx
  repeat rw [String.toList_ofList]
  decide +kernel

/-! ## `buf format` to stdout, `-o file.proto`, `-o dir`: what the sink holds afterwards

The verdict of `--exit-code` says "the formatter's output differs from the input"; what the user
gets in the modes without `-w` is the sink.  As coded (`writeToProtoFile`: `PutProtoFile`
truncating, one walk in path order, a complete read and a complete write per file;
`writeToDir`: `storage.Copy`) the sink holds every targeted file's formatter output completely,
whatever its length; the formatter is a parameter (C07). -/

/-- stdout / `-o file.proto` when every targeted file parses: the run does not fail and the sink
    holds exactly the concatenation, in path order, of the formatter's outputs of the targeted
    files, whatever the location held before (truncate on open) — every targeted file's COMPLETE
    output `t` is in it, after the outputs of the targeted files before it and followed by those
    of the files after it; the length is the sum of the lengths. -/
theorem sink_holds_every_output_in_path_order (old : Str) (fs : List WFile) (hp : fmtStepOk fs = true) :
    formatToFile old fs = (sinkOut fs, false) ∧ formatToStdout fs = (sinkOut fs, false) ∧
    (∀ pre f post t, fs = pre ++ f :: post → f.target = true → f.fmt = some t →
      sinkOut fs = sinkOut pre ++ t ++ sinkOut post) ∧
    (sinkOut fs).length = ((fs.filter (·.target)).map fun f => (f.fmt.getD []).length).sum := by
  refine ⟨?_, ?_, ?_, sinkOut_length fs⟩
  · unfold formatToFile writeTrunc; rw [hp, if_pos rfl]
  · unfold formatToStdout formatToFile writeTrunc; rw [hp, if_pos rfl]
  · intro pre f post t hfs ht hf
    rw [hfs, sinkOut_append, sinkOut_cons, ht, if_pos rfl, hf, List.append_assoc]
    rfl

/-- `-o dir` when every targeted file parses: exactly the targeted files are written, each holding
    its complete formatter output (`f.fmt = some t` ⇒ `(f.path, t)` is written). -/
theorem dir_holds_every_output (fs : List WFile) (hp : fmtStepOk fs = true) :
    (formatToDir fs).2 = false ∧
    (∀ f ∈ fs, f.target = true → ∀ t, f.fmt = some t → (f.path, t) ∈ (formatToDir fs).1) ∧
    (∀ pc ∈ (formatToDir fs).1, ∃ f ∈ fs, f.target = true ∧ pc = (f.path, f.fmt.getD [])) := by
  unfold formatToDir
  rw [hp, if_pos rfl]
  refine ⟨rfl, ?_, ?_⟩
  · intro f hf ht t hft
    refine List.mem_map.mpr ⟨f, List.mem_filter.mpr ⟨hf, by simpa using ht⟩, ?_⟩
    rw [hft]; rfl
  · intro pc hpc
    obtain ⟨f, hf, rfl⟩ := List.mem_map.mp hpc
    have := List.mem_filter.mp hf
    exact ⟨f, this.1, by simpa using this.2, rfl⟩

/-- A targeted file that does not parse: the run fails BEFORE the sink is opened — the `-o` file
    keeps what it held, nothing is written below `-o dir`, nothing reaches stdout. -/
theorem sink_untouched_on_parse_error (old : Str) (fs : List WFile) (hp : fmtStepOk fs = false) :
    formatToFile old fs = (old, true) ∧ formatToStdout fs = ([], true) ∧ formatToDir fs = ([], true) := by
  unfold formatToStdout formatToFile formatToDir
  rw [hp]
  exact ⟨rfl, rfl, rfl⟩

/-- The protocol of the correspondence harness carries summaries (length, polynomial hash) of
    texts of up to a megabyte instead of the texts.  The summary is a monoid homomorphism
    (`summ_append`), hence the sink model evaluated on the summaries of the files gives the
    summary of what the sink model on the contents gives — for stdout / `-o file`, `-o dir` and
    (every changed file can be opened) `-w`. -/
theorem sink_summary_is_summary_of_sink (old : Str) (fs : List WFile) :
    (∀ a b : List Nat, summ (a ++ b) = (summ a).append (summ b)) ∧
    formatToFileS (summS old) (fs.map WFile.toS) = (summS (formatToFile old fs).1, (formatToFile old fs).2) ∧
    formatToDirS (fs.map WFile.toS) = ((formatToDir fs).1.map fun pc => (pc.1, summS pc.2), (formatToDir fs).2) ∧
    ((∀ f ∈ fs, f.changed = true → f.openable = true) →
      formatWriteS (fs.map WFile.toS) = ((formatWrite fs).1.map fun pc => (pc.1, summS pc.2), (formatWrite fs).2.1)) := by
  refine ⟨summ_append, ?_, ?_, ?_⟩
  · unfold formatToFileS formatToFile writeTrunc
    rw [sfmtStepOk_toS, sinkSumm_eq]
    cases fmtStepOk fs <;> rfl
  · unfold formatToDirS formatToDir
    rw [sfmtStepOk_toS]
    cases fmtStepOk fs
    · rfl
    · simp only [if_true, List.filter_map, List.map_map, Prod.mk.injEq, and_true]
      exact List.map_congr_left fun f _ => by simp only [Function.comp, toS_fmt]; rfl
  · intro ho
    unfold formatWriteS
    rw [sfmtStepOk_toS]
    cases hp : fmtStepOk fs
    · unfold formatWrite untouched
      rw [hp]
      simp only [Bool.false_eq_true, if_false, List.map_map, Prod.mk.injEq, and_true]
      rfl
    · rw [write_leaves_formatter_output fs hp ho]
      simp only [if_true, List.map_map, Prod.mk.injEq, and_true]
      apply List.map_congr_left
      intro f _
      simp only [Function.comp, WFile.want, WFile.toS]
      rcases f with ⟨p, o, fm, t, op⟩
      cases t <;> cases fm <;> rfl

/-- Why every file must be read to its end: sent through ONE `Read` into a buffer of `n` units per
    file (the recorded regression: n = 32768) the sink is the formatter's output exactly when no
    targeted output is longer than the buffer — every test with small files passes, a longer file
    is cut silently (here n = 8: `message A {}\n` arrives as `message `), and the file after it
    follows the cut directly. -/
theorem sink_single_read_counterexample :
    (∀ n fs, sinkCut n fs = sinkOut fs ↔ ∀ f ∈ fs, f.target = true → (f.fmt.getD []).length ≤ n) ∧
    (let a : WFile := { path := "a.proto".toList, orig := "message A{}".toList, fmt := some "message A {}\n".toList, target := true, openable := true }
     let b : WFile := { path := "b.proto".toList, orig := "enum E{}".toList, fmt := some "enum E {}\n".toList, target := true, openable := true }
     sinkCut 8 [a, b] = "message enum E {".toList ∧ sinkOut [a, b] = "message A {}\nenum E {}\n".toList ∧
     sinkCut 13 [a, b] = sinkOut [a, b]) := by
  refine ⟨sinkCut_eq_iff, ?_⟩
  repeat rw [String.toList_ofList]
  decide +kernel

/-- Why the `-o` file must be opened truncating: opened for appending, the result is the
    formatter's output exactly when the location was empty. -/
theorem sink_without_truncate_counterexample :
    (∀ old new : Str, writeAppend old new = new ↔ old = []) ∧
    (∀ old new : Str, writeTrunc old new = new) ∧
    writeAppend "// stale\n".toList "message A {}\n".toList = "// stale\nmessage A {}\n".toList := by
  refine ⟨?_, fun _ _ => rfl, ?_⟩
  · intro old new
    unfold writeAppend
    exact List.append_left_eq_self
  · repeat rw [String.toList_ofList]
    decide +kernel

-- non-vacuity: the directory of `wEx` (c.proto is not targeted) sent to stdout / a file that held something
example : fmtStepOk wEx = true := by decide
example : formatToFile "// stale\n".toList wEx = ("message A {}\nmessage B {}\nmessage D {}\n".toList, false) := by
  unfold wEx
  repeat rw [String.toList_ofList]
  decide +kernel
example : (formatToDir wEx).1.map (·.1) = ["a.proto".toList, "b.proto".toList, "d.proto".toList] := by decide
example : (summ [1, 2]).append (summ [3]) = summ [1, 2, 3] ∧ summ [1, 2, 3] = ⟨3, 66566⟩ := by decide
example : formatToFileS Summ.empty (wEx.map WFile.toS) = (summS "message A {}\nmessage B {}\nmessage D {}\n".toList, false) := by
  rw [show Summ.empty = summS [] from rfl, (sink_summary_is_summary_of_sink [] wEx).2.1]
  unfold wEx
  repeat rw [String.toList_ofList]
  decide +kernel

-- non-vacuity: all 16 flag combinations exist, the 12 valid ones are clean on an all-ok run and
-- give 100 exactly for the six with --exit-code when a difference exists
example : FmtMode.all.length = 16 := by decide
example : (FmtMode.all.filter (·.valid true)).length = 12 := by decide
example : ((FmtMode.all.filter (·.valid true)).map fun m => (Cmd.format m true [(true, none)] none true .ok).run.exit)
    = [0, 100, 0, 100, 0, 100, 0, 100, 0, 100, 0, 100] := by decide
example : ∀ m ∈ FmtMode.all, (Cmd.format m true [(true, none)] none false .ok).run.exit = if m.valid true then 0 else 1 := by decide
example : FmtClean mDiffExit true [(true, none)] none true .ok := by
  refine ⟨by decide, by simp, rfl, by decide⟩
-- a failing output step in `-d -o X --exit-code`: the diff was printed, the error wins
example : formatFull { diff := true, write := false, out := .path, exitCode := true } true [(true, none)] none true
    { FmtIO.ok with output := some (.plain true) } =
    ({ ret := some (.plain true), printed := [], diff := false }, { FmtEffects.none with stdoutDiff := true }) := by decide

/-! ## de-duplication and order -/

/-- Two annotations that differ on one of the seven key fields (path, start line, start column,
    end line, end column, type, message) are both represented in the result, by different
    entries: de-duplication merges only annotations equal on all seven. -/
theorem dedup_only_equal (l : List Annot) (a b : Annot) (ha : a ∈ l) (hb : b ∈ l)
    (hne : keyFields a ≠ keyFields b) :
    ∃ a' b', a' ∈ dedupSort l ∧ b' ∈ dedupSort l ∧ keyFields a' = keyFields a ∧
      keyFields b' = keyFields b ∧ a' ≠ b' := by
  obtain ⟨a', ha', hka⟩ := dedupWith_covers (key := keyNew) l [] a ha (by simp)
  obtain ⟨b', hb', hkb⟩ := dedupWith_covers (key := keyNew) l [] b hb (by simp)
  refine ⟨a', b', mem_dedupSort.mpr ha', mem_dedupSort.mpr hb', keyNew_inj hka, keyNew_inj hkb, ?_⟩
  intro e
  apply hne
  rw [← keyNew_inj hka, ← keyNew_inj hkb, e]

/-- Nothing at all is dropped from a list whose members differ pairwise on a key field, and the
    result never contains two entries equal on all seven, and contains nothing new. -/
theorem dedup_drops_only_duplicates (l : List Annot) :
    (l.Pairwise (fun a b => keyFields a ≠ keyFields b) → (dedupSort l).Perm l) ∧
    (dedupSort l).Pairwise (fun a b => keyFields a ≠ keyFields b) ∧
    (∀ a ∈ dedupSort l, a ∈ l) := by
  refine ⟨?_, ?_, fun a h => dedupSort_subset h⟩
  · intro h
    have : dedupWith keyNew l [] = l :=
      dedupWith_id l [] (h.imp (fun hk e => hk (keyNew_inj e))) (by simp)
    unfold dedupSort dedupSortWith
    rw [this]; exact sortS_perm l
  · have h1 : (dedupWith keyNew l []).Pairwise (fun a b => keyFields a ≠ keyFields b ∧ keyFields b ≠ keyFields a) :=
      (dedupWith_keys_distinct (key := keyNew) l []).imp
        (fun hk => ⟨fun e => hk ((keyNew_eq_iff _ _).mpr e), fun e => hk ((keyNew_eq_iff _ _).mpr e.symm)⟩)
    have h2 := List.Pairwise.perm h1 (sortS_perm _).symm (fun h => ⟨h.2, h.1⟩)
    exact h2.imp (fun h => h.1)

/-- The recorded defect: with the key as coded before the fix (fields concatenated without
    separators) (line 1, col 23 – 1:29) and (line 12, col 3 – 12:9) collide and a distinct
    annotation is dropped; the fixed key keeps both. -/
theorem dedup_collision_counterexample :
    keyFields ex1 ≠ keyFields ex2 ∧ keyOld ex1 = keyOld ex2 ∧
    (dedupSortOld [ex1, ex2]).length = 1 ∧ (dedupSort [ex1, ex2]).length = 2 := by
  unfold ex2 ex1
  repeat rw [String.toList_ofList]
  decide +kernel

/-- The result does not depend on the order in which the annotations arrive (C02 uses this),
    provided annotations equal on the seven key fields are equal altogether — i.e. the rule ID
    determines the plugin name.  (Without the proviso the FIRST of two key-equal annotations
    wins, so the plugin name shown could depend on the order.) -/
theorem dedupSort_perm (l1 l2 : List Annot) (p : l1.Perm l2) (kd : KeyDet l1) :
    dedupSort l1 = dedupSort l2 :=
  dedupSort_perm_eq p kd

/-- fileAnnotationCompareTo is a total order on annotations that differ on a compared field:
    it answers "equal" only for annotations equal on all seven fields, is antisymmetric and
    transitive; hence the output of dedupSort is STRICTLY increasing — the order is fully
    determined, no tie is ever broken by the input order. -/
theorem sort_total_on_distinct :
    (∀ a b, compareTo a b = .eq ↔ cmpFields a = cmpFields b) ∧
    (∀ a b, compareTo b a = (compareTo a b).swap) ∧
    (∀ a b c, compareTo a b = .lt → compareTo b c = .lt → compareTo a c = .lt) ∧
    (∀ l, (dedupSort l).Pairwise fun a b => compareTo a b = .lt) :=
  ⟨compareTo_eq_iff, fun _ _ => compareTo_trans.eq_swap, fun _ _ _ => compareTo_trans.lt_trans,
    fun l => sortS_strict (dedup_noTies l)⟩

-- non-vacuity
example : dedupSort [ex2, ex1, ex2] = [ex1, ex2] := by
  unfold ex2 ex1
  repeat rw [String.toList_ofList]
  decide +kernel
example : dedupSort [ex1, ex2] = dedupSort [ex2, ex1] := by
  unfold ex2 ex1
  repeat rw [String.toList_ofList]
  decide +kernel
example : KeyDet [ex1, ex2] := by
  unfold KeyDet ex2 ex1
  repeat rw [String.toList_ofList]
  decide +kernel
example : compareTo ex1 ex2 = .lt := by decide

/-! ## the formats -/

/-- For every --error-format, what a consumer of the printed document reads — the lines of
    text / msvs / github-actions, the JSON objects, the JUnit testcases — is, record by record
    and in the same order, the rendering of `dedupSort as`: every format shows the same
    annotations in the same order.  Two side conditions, both about the human `text` format and
    a file-name corner: text lines are only line-separable when no shown text has a line feed
    (text is not escaped — see `text_in_order` for the unconditional statement), and JUnit
    groups by displayed path, which is order-preserving unless a file is literally called
    "<input>" while a path-less annotation is present too. -/
theorem formats_agree (f : Format) (as : List Annot)
    (htext : f = .text → ∀ a ∈ as, ∀ c ∈ textLine a, c ≠ '\n')
    (hjunit : f = .junit → DispInj as) :
    (printSet f as).items = (dedupSort as).map (render f) := by
  cases f with
  | text => exact items_printLines textLine _ fun a ha => htext rfl a (dedupSort_subset ha)
  | msvs => exact items_printLines msvsLine _ fun a _ c hc => (oneLine_msvsLine a c hc).1
  | gha => exact items_printLines ghaLine _ fun a _ c hc => (oneLine_ghaLine a c hc).1
  | json =>
    simp only [printSet, printDoc, Doc.items, List.map_map]
    rfl
  | junit =>
    simp only [printSet, printDoc, Doc.items, junitSuites]
    rw [junit_items_eq _ (groupByPath_ok _)]
    have hs : (dedupSort as).Pairwise LE := sortS_sorted _
    rw [groupByPath_flat (sorted_contig hs ?_)]
    intro a ha b hb h
    exact hjunit rfl a (dedupSort_subset ha) b (dedupSort_subset hb) h

/-- text, unconditionally: the bytes written are the text renderings of `dedupSort as`, one
    after the other, each followed by a line feed. -/
theorem text_in_order (as : List Annot) :
    printSet .text as = .lines ((dedupSort as).flatMap fun a => textLine a ++ ['\n']) := rfl

/-- The machine-readable line formats stay well formed for ANY message, path, type and plugin
    name: a github-actions command / an msvs diagnostic never contains a line feed or carriage
    return, so the output has exactly one line per annotation and splitting it at line feeds
    gives back the per-annotation lines. (json and junit are produced by encoding/json and
    encoding/xml — trusted base — and decoded again by the harness on every case.) -/
theorem line_formats_wellformed (as : List Annot) :
    (∀ a, ∀ c ∈ ghaLine a, c ≠ '\n' ∧ c ≠ '\r') ∧
    (∀ a, ∀ c ∈ msvsLine a, c ≠ '\n' ∧ c ≠ '\r') ∧
    linesOf (printLines ghaLine (dedupSort as)) = (dedupSort as).map ghaLine ∧
    linesOf (printLines msvsLine (dedupSort as)) = (dedupSort as).map msvsLine ∧
    (linesOf (printLines ghaLine (dedupSort as))).length = (dedupSort as).length ∧
    (linesOf (printLines msvsLine (dedupSort as))).length = (dedupSort as).length := by
  have hg := linesOf_printLines ghaLine (dedupSort as) (fun a _ c hc => (oneLine_ghaLine a c hc).1)
  have hm := linesOf_printLines msvsLine (dedupSort as) (fun a _ c hc => (oneLine_msvsLine a c hc).1)
  refine ⟨oneLine_ghaLine, oneLine_msvsLine, hg, hm, ?_, ?_⟩
  · rw [hg, List.length_map]
  · rw [hm, List.length_map]

/-! ### the decoder statements: "agreeing on every field the format carries" -/

/-- `parse_f (print_f as) = as.map proj_f` for every --error-format: decoding the printed
    document (`parseDoc`: split into records, then split each record at the format's separators /
    undo GitHub's escaping) gives back, record by record and in order, the fields format `f`
    carries (`proj f`) of the de-duplicated, sorted annotations.  Side condition `Side f as`:
    none for github-actions (escaped) and json (field level); text: no ':' in a displayed path,
    no line feed in a line; msvs: no '(' in a displayed path, no ':' in a type; junit: the text
    line carried as message decodes and grouping by path keeps the order. -/
theorem formats_decode (f : Format) (as : List Annot) (h : Side f as) :
    parseDoc f (printSet f as) = some ((dedupSort as).map (proj f)) := by
  have hitems : (printSet f as).items = (dedupSort as).map (render f) :=
    formats_agree f as
      (fun hf a ha => by subst hf; exact (h a ha).2)
      (fun hf => by subst hf; exact h.1)
  unfold parseDoc
  rw [hitems]
  exact BufProofs.ListLemmas.mapM_map_some _ _ _ _ (fun a ha => parseItem_render f as h a (dedupSort_subset ha))

/-- The side condition of the text decoder is exactly right: the decoder (path = everything before
    the first ':') returns the fields of an annotation iff its displayed path has no ':'. -/
theorem text_decode_iff (a : Annot) :
    parseTextLine (textLine a) = some (textF a) ↔ ∀ c ∈ dispPath a, c ≠ ':' :=
  ⟨fun h => parseTextLine_path h, parseTextLine_textLine a⟩

/-- The side condition of the msvs decoder is exactly right: the path ends at the first '(', the type at the first ':'. -/
theorem msvs_decode_iff (a : Annot) :
    parseMsvsLine (msvsLine a) = some (msvsF a) ↔
      (∀ c ∈ dispPath a, c ≠ '(') ∧ (∀ c ∈ shownType a, c ≠ ':') := by
  constructor
  · intro h
    have := parseMsvsLine_fields h
    exact ⟨(forall_mem_oneLine_ne (by decide) _).mp this.1, (forall_mem_oneLine_ne (by decide) _).mp this.2⟩
  · rintro ⟨h1, h2⟩; exact parseMsvsLine_msvsLine a h1 h2

/-- No decoder at all can do without a condition on text paths: these two different annotations
    print the same text line (`a:1:1:2:2:x`). -/
theorem text_colon_path_counterexample :
    textLine { file := some "a:1:1".toList, sl := 2, sc := 2, el := 0, ec := 0, type := [], msg := "x".toList, plugin := [] }
    = textLine { file := some "a".toList, sl := 1, sc := 1, el := 0, ec := 0, type := [], msg := "2:2:x".toList, plugin := [] } := by
  decide

/-- Nor can a decoder do without a condition on msvs paths. -/
theorem msvs_paren_path_counterexample :
    msvsLine { file := some "a(1,1) : error X : m".toList, sl := 2, sc := 2, el := 0, ec := 0, type := "Y".toList, msg := "n".toList, plugin := [] }
    = msvsLine { file := some "a".toList, sl := 1, sc := 1, el := 0, ec := 0, type := "X".toList, msg := "m(2,2) : error Y : n".toList, plugin := [] } := by
  repeat rw [String.toList_ofList]
  decide +kernel

/-- github-actions, unconditionally and per line: the decoder — `file=` value up to the first ','
    or ':', the optional `line` / `col` / `endLine` / `endColumn` properties, the data after `::`,
    both passed through the runner's unescape (`unescProp` / `unescData`, the very functions the
    decoder runs) — returns path, raw position and message + plugin exactly, for ANY strings. -/
theorem gha_fields_roundtrip (a : Annot) :
    parseGhaLine (ghaLine a) = some (ghaF a) ∧
    unescProp (escProp (dispPath a)) = dispPath a ∧
    unescData (escData (withPlugin a.msg a.plugin)) = withPlugin a.msg a.plugin ∧
    (∀ c ∈ escProp (dispPath a), c ≠ ',' ∧ c ≠ ':') :=
  ⟨parseGhaLine_ghaLine a, unescProp_escProp _, unescData_escData _, escProp_no_sep _⟩

/-- Agreement on every field a format carries, for ANY two formats f and g (github-actions and
    junit included): decode what each printed; then, record by record and in the same order, the
    projections of the two decoded records onto the fields BOTH carry (`Shared.restrict`: file at
    the precision both show it, start / end position, rule ID, message) are equal.  So no format
    shows a different file, position, rule ID or message than another one. -/
theorem formats_carry_same_fields (f g : Format) (as : List Annot) (hf : Side f as) (hg : Side g as) :
    ∃ df dg, parseDoc f (printSet f as) = some df ∧ parseDoc g (printSet g as) = some dg ∧
      InOrder (fun x y => (view x).restrict (view y) = (view y).restrict (view x)) df dg := by
  refine ⟨_, _, formats_decode f as hf, formats_decode g as hg, ?_⟩
  generalize dedupSort as = l
  induction l with
  | nil => exact InOrder.nil
  | cons a t ih =>
    exact InOrder.cons (restrict_comm (view_sub f a) (view_sub g a)) ih

/-- Which property-level fields each format carries (so that the agreement above is not
    vacuous): text — file, line, column, message; msvs — file (flattened), line, column, type,
    message (flattened); json — everything (file unless the path key is absent); junit — file,
    suite, line, column, rule ID, message; github-actions — file, message and each position number
    that is known (0 = the key is absent). -/
theorem formats_fields_present (a : Annot) :
    ((view (proj .text a)).file.isSome ∧ (view (proj .text a)).line.isSome ∧
      (view (proj .text a)).col.isSome ∧ (view (proj .text a)).text.isSome) ∧
    ((view (proj .msvs a)).fileFlat.isSome ∧ (view (proj .msvs a)).line.isSome ∧
      (view (proj .msvs a)).col.isSome ∧ (view (proj .msvs a)).ruleFlat.isSome ∧
      (view (proj .msvs a)).textFlat.isSome) ∧
    ((view (proj .json a)).line.isSome ∧ (view (proj .json a)).col.isSome ∧
      (view (proj .json a)).endLine.isSome ∧ (view (proj .json a)).endCol.isSome ∧
      (view (proj .json a)).rule.isSome ∧ (view (proj .json a)).text.isSome ∧
      (view (proj .json a)).message.isSome ∧
      ((view (proj .json a)).file.isSome ↔ pathOf a ≠ [])) ∧
    ((view (proj .junit a)).file.isSome ∧ (view (proj .junit a)).suite.isSome ∧
      (view (proj .junit a)).line.isSome ∧ (view (proj .junit a)).col.isSome ∧
      (view (proj .junit a)).rule.isSome ∧ (view (proj .junit a)).text.isSome) ∧
    ((view (proj .gha a)).file.isSome ∧ (view (proj .gha a)).message.isSome ∧
      ((view (proj .gha a)).line.isSome ↔ a.sl ≠ 0) ∧
      ((view (proj .gha a)).col.isSome ↔ a.sl ≠ 0 ∧ a.sc ≠ 0) ∧
      ((view (proj .gha a)).endLine.isSome ↔ a.sl ≠ 0 ∧ a.el ≠ 0) ∧
      ((view (proj .gha a)).endCol.isSome ↔ a.sl ≠ 0 ∧ a.el ≠ 0 ∧ a.ec ≠ 0)) := by
  refine ⟨⟨rfl, rfl, rfl, rfl⟩, ⟨rfl, rfl, rfl, rfl, rfl⟩, ⟨rfl, rfl, rfl, rfl, rfl, rfl, rfl, ?_⟩,
    ⟨rfl, rfl, rfl, rfl, rfl, rfl⟩, ⟨rfl, rfl, ?_, ?_, ?_, ?_⟩⟩
  · simp only [view, proj, jsonRec]
    by_cases h : pathOf a = [] <;> simp [h]
  · simp only [view, proj, ghaF, known]
    by_cases h : a.sl = 0 <;> simp [h]
  · simp only [view, proj, ghaF, known]
    by_cases h : a.sl = 0 <;> by_cases h2 : a.sc = 0 <;> simp [h, h2]
  · simp only [view, proj, ghaF, known]
    by_cases h : a.sl = 0 <;> by_cases h2 : a.el = 0 <;> simp [h, h2]
  · simp only [view, proj, ghaF, known]
    by_cases h : a.sl = 0 <;> by_cases h2 : a.el = 0 <;> by_cases h3 : a.ec = 0 <;> simp [h, h2, h3]

/-- github-actions shows the message itself, text / msvs / junit fall back to the rule ID (then
    "FAILURE") when it is empty: for an annotation with a message the github-actions data IS the
    text the others show; for an empty message it is not (as coded: "should never happen"). -/
theorem gha_text_message_agree (a : Annot) (h : a.msg ≠ []) :
    (view (proj .gha a)).message = (view (proj .text a)).text ∧
    (view (proj .gha a)).message = (view (proj .junit a)).text ∧
    (view (proj .gha a)).message = (view (proj .json a)).text := by
  simp [view, proj, ghaF, textF, junitF, viewText, jsonRec, shownMsg, shownMsgOf, h]

/-- JUnit testcase names: `junitCaseName` is a function of the rule ID and the RAW start line /
    column only (`junitName`), and the position can be read back from the name after the rule ID
    (0 = unknown — json shows 1 there). -/
theorem junit_name_factored (a : Annot) :
    junitCaseName a = junitName a.type a.sl a.sc ∧
    (dropPrefix a.type (junitCaseName a)).bind parsePosSuffix = some (a.sl, a.sc) := by
  refine ⟨rfl, ?_⟩
  simp only [junitCaseName, junitName, dropPrefix_append, Option.bind_some, parsePosSuffix_junitPosSuffix]

private def exNl : Annot :=
  { file := some "a.proto".toList, sl := 3, sc := 1, el := 3, ec := 4, type := "X".toList,
    msg := "first\nsecond".toList, plugin := [] }

/-- The recorded defect: before the fix a message with a line feed broke the github-actions
    command (and the msvs diagnostic) into two lines; after the fix it is one line. -/
theorem gha_newline_counterexample :
    (linesOf (printLines ghaLineOld [exNl])).length = 2 ∧
    (linesOf (printLines msvsLineOld [exNl])).length = 2 ∧
    linesOf (printLines ghaLine [exNl]) =
      ["::error file=a.proto,line=3,col=1,endLine=3,endColumn=4::first%0Asecond".toList] ∧
    linesOf (printLines msvsLine [exNl]) = ["a.proto(3,1) : error X : first second".toList] := by
  unfold exNl
  repeat rw [String.toList_ofList]
  decide +kernel

-- non-vacuity of formats_agree: two annotations, all five formats
example : (printSet .json [ex2, ex1]).items = [.json (jsonRec ex1), .json (jsonRec ex2)] := by
  unfold ex2 ex1
  repeat rw [String.toList_ofList]
  decide +kernel
example : (printSet .junit [ex2, ex1]).items =
    [.junit "a".toList (junitCase ex1), .junit "a".toList (junitCase ex2)] := by
  unfold ex2 ex1
  repeat rw [String.toList_ofList]
  decide +kernel
example : (printSet .text [ex2, ex1]).items =
    [.line "a.proto:1:23:m".toList, .line "a.proto:12:3:m".toList] := by
  unfold ex2 ex1
  repeat rw [String.toList_ofList]
  decide +kernel
-- non-vacuity of the decoder statements: the side conditions hold for ordinary annotations, the
-- decoders run, and two formats share fields
example : ∀ f ∈ Format.all, Side f [ex2, ex1, exNl] ∨ f = .text := by
  unfold exNl ex2 ex1
  repeat rw [String.toList_ofList]
  intro f hf
  simp only [Format.all, List.mem_cons, List.mem_nil_iff, or_false] at hf
  rcases hf with rfl | rfl | rfl | rfl | rfl
  · exact Or.inr rfl
  · exact Or.inl trivial
  · exact Or.inl (by unfold Side; decide +kernel)
  · exact Or.inl (by unfold Side DispInj; decide +kernel)
  · exact Or.inl trivial
example : Side .text [ex2, ex1] := by intro a ha; revert a; decide
example : parseDoc .text (printSet .text [ex2, ex1]) =
    some [.text { path := "a.proto".toList, line := 1, col := 23, text := "m".toList },
          .text { path := "a.proto".toList, line := 12, col := 3, text := "m".toList }] := by
  unfold ex2 ex1
  repeat rw [String.toList_ofList]
  decide +kernel
example : parseDoc .gha (printSet .gha [exNl]) =
    some [.gha { path := "a.proto".toList, line := 3, col := 1, endLine := 3, endCol := 4,
                 msg := "first\nsecond".toList }] := by
  unfold exNl
  repeat rw [String.toList_ofList]
  decide +kernel
example : parseDoc .msvs (printSet .msvs [exNl]) =
    some [.msvs { path := "a.proto".toList, line := 3, col := 1, type := "X".toList,
                  text := "first second".toList }] := by
  unfold exNl
  repeat rw [String.toList_ofList]
  decide +kernel
example : ((view (proj .gha exNl)).restrict (view (proj .msvs exNl))) =
    { file := none, fileFlat := some "a.proto".toList, suite := none, line := some 3, col := some 1,
      endLine := none, endCol := none, rule := none, ruleFlat := none, text := none, textFlat := none,
      message := none } := by decide
example : parseJunitCase "a".toList (junitCase ex1) = some (junitF ex1) := by
  unfold ex1
  repeat rw [String.toList_ofList]
  decide +kernel
example : escProp "c:d,e%.proto".toList = "c%3Ad%2Ce%25.proto".toList := by
  repeat rw [String.toList_ofList]
  decide +kernel
example : DispInj [ex1, ex2, exNl] := by
  intro a ha b hb; revert a b; decide

/-! ## import statements that cannot be resolved

`importFate files wkt p` is what the compiler's accessor answers for an import path AS WRITTEN
(a file of the module set named by its normalised path · a Well-Known Type · fs.ErrNotExist · a
normalpath error: absolute / leaves the root · an existing file not named by its normalised path);
`buildImageErr` what bufimage.BuildImage returns for it (as coded: every positioned error `Compile`
returns becomes a FileAnnotationSet, whatever its cause), `moduleDepsErr` what `ModuleDeps()`
returns (`buf dep graph`).  The harness runs generated paths and module sets through the real
functions and compares (`imp` lines). -/

/-- **The property's clause for an import that cannot be resolved — whatever the reason.**  For
    every module set, every list of Well-Known Types and every import path as written: unless the
    path names a file of the module set by its normalised path or a Well-Known Type, `build`,
    `lint` and `breaking` (the image is built in a controller method after steps that succeeded;
    for `breaking` that is either side) end with status 100, exactly the annotation at the import
    statement printed and no `Failure:` line.  The cause - not found, absolute, leaving the root,
    not normalised - does not enter. -/
theorem unresolvable_import_is_annotated (files wkt : List Str) (p : Str) (a : Annot)
    (h : (importFate files wkt p).resolves = false)
    (oks rest : List CStep) (hoks : ∀ s ∈ oks, s.2 = none)
    (pre checks : List Step) (hpre : ∀ s ∈ pre, s = none) :
    ∀ c ∈ [Cmd.build (oks ++ (true, buildImageErr a (importFate files wkt p)) :: rest),
           Cmd.lint pre (oks ++ (true, buildImageErr a (importFate files wkt p)) :: rest) checks none,
           Cmd.breaking pre (oks ++ (true, buildImageErr a (importFate files wkt p)) :: rest) checks none],
      c.run.exit = 100 ∧ c.run.printed = [a] ∧ c.run.failureLine = false := by
  have hb : buildImageErr a (importFate files wkt p) = some (.annotSet a []) := by
    simp [buildImageErr, h]
  have hpre' : runSteps (pre.map fun s => (false, s)) = none := by
    rw [runSteps_eq_none_iff]
    intro s hs
    obtain ⟨x, hx, rfl⟩ := List.mem_map.mp hs
    exact hpre x hx
  have hrun := runSteps_oks_then oks hoks true (.annotSet a []) rest
  have hl : lintLike pre (oks ++ (true, some (.annotSet a [])) :: rest) checks none
      = failStep (.annotSet a []) [] := by
    simp only [lintLike, hpre', hrun, if_true]
    rfl
  intro c hc
  simp only [List.mem_cons, List.mem_nil_iff, or_false] at hc
  rcases hc with rfl | rfl | rfl
  · simp only [Cmd.run, build, hb, hrun, if_true]; exact failStep_annotation a
  · simp only [Cmd.run, hb, hl]; exact failStep_annotation a
  · simp only [Cmd.run, hb, hl]; exact failStep_annotation a

/-- What decides the fate: a path the bucket rejects is `invalid` with normalpath's error and
    never looked up; a path that resolves is its own normal form and names a file of the module set
    or a Well-Known Type; a path that IS its normal form (relative, inside the root) can only be
    found or not found - `invalid` and `notNormal` are the fates of paths written in another way. -/
theorem import_fate_of_path (files wkt : List Str) (p : Str) :
    (∀ e, importFate files wkt p = .invalid e ↔ BufModel.Path.normalizeAndValidate p = .error e) ∧
    ((importFate files wkt p).resolves = true →
      BufModel.Path.normalizeAndValidate p = .ok p ∧ (files.contains p = true ∨ wkt.contains p = true)) ∧
    (BufModel.Path.normalizeAndValidate p = .ok p →
      importFate files wkt p ≠ .notNormal ∧ ∀ e, importFate files wkt p ≠ .invalid e) := by
  cases hv : BufModel.Path.normalizeAndValidate p with
  | error e0 =>
    have hi : importFate files wkt p = .invalid e0 := by simp only [importFate, hv]
    rw [hi]
    refine ⟨fun e => ?_, fun h => ?_, fun h => ?_⟩
    · constructor
      · intro h; cases h; rfl
      · intro h; cases h; rfl
    · cases h
    · cases h
  | ok q =>
    rw [importFate_ok files wkt p q hv]
    by_cases hf : files.contains q = true <;> by_cases hw : wkt.contains q = true <;>
      by_cases hq : q = p <;> simp [hq, ImportFate.resolves] <;> (try subst hq) <;> simp_all

/-- **The recorded regression** (the conversion in `getBuildResult` additionally demands
    `errors.Is(err, fs.ErrNotExist)`): it agrees with the code exactly on the paths that resolve
    or are simply not found; for every other fate - an absolute path, a path that leaves the root,
    an existing file not named by its normalised path - the run ends with status 1, a `Failure:`
    line and nothing printed, whatever `--error-format` asks for.  Three such paths. -/
theorem unresolvable_import_guard_counterexample (files wkt : List Str) (p : Str) (a : Annot) :
    (buildImageErrGuarded a (importFate files wkt p) = buildImageErr a (importFate files wkt p) ↔
      ((importFate files wkt p).resolves = true ∨ importFate files wkt p = .notExist)) ∧
    ((importFate files wkt p).resolves = false → importFate files wkt p ≠ .notExist →
      (Cmd.build [(true, buildImageErrGuarded a (importFate files wkt p))]).run.exit = 1 ∧
      (Cmd.build [(true, buildImageErrGuarded a (importFate files wkt p))]).run.printed = [] ∧
      (Cmd.build [(true, buildImageErrGuarded a (importFate files wkt p))]).run.failureLine = true) ∧
    importFate [] [] "../sibling/b.proto".toList = .invalid .outsideContext ∧
    importFate [] [] "/usr/include/b.proto".toList = .invalid .notRelative ∧
    importFate ["a.proto".toList] [] "./a.proto".toList = .notNormal := by
  refine ⟨?_, ?_, ?_, ?_, ?_⟩
  · cases hf : importFate files wkt p <;> simp [buildImageErrGuarded, buildImageErr, ImportFate.resolves]
  · intro hr hn
    have hg : buildImageErrGuarded a (importFate files wkt p) = some (.wrapf (.plain true)) := by
      simp [buildImageErrGuarded, hr, hn]
    rw [hg]
    decide
  all_goals
    repeat rw [String.toList_ofList]
    decide +kernel

/-- `buf dep graph` on the same statement, AS CODED: `ModuleDeps()` finds a file by its normalised
    path (so `./a.proto` is no problem there); what no module and no Well-Known Type has is the
    ImportNotExistError - status 100 and a `Failure:` line; a path the bucket rejects comes back as
    the plain normalpath error - status 1 (the message does not name the importing file).  Outside
    the four commands of the property; recorded as an observation. -/
theorem dep_graph_import_as_coded (files wkt : List Str) (p : Str)
    (oks : List CStep) (hoks : ∀ s ∈ oks, s.2 = none) :
    match BufModel.Path.normalizeAndValidate p with
    | .error _ =>
      (Cmd.depGraph (oks ++ [(false, moduleDepsErr files wkt p)])).run.exit = 1 ∧
      (Cmd.depGraph (oks ++ [(false, moduleDepsErr files wkt p)])).run.printed = [] ∧
      (Cmd.depGraph (oks ++ [(false, moduleDepsErr files wkt p)])).run.failureLine = true
    | .ok q =>
      if files.contains q || wkt.contains q then
        (Cmd.depGraph (oks ++ [(false, moduleDepsErr files wkt p)])).run.exit = 0
      else
        (Cmd.depGraph (oks ++ [(false, moduleDepsErr files wkt p)])).run.exit = 100 ∧
        (Cmd.depGraph (oks ++ [(false, moduleDepsErr files wkt p)])).run.failureLine = true ∧
        (Cmd.depGraph (oks ++ [(false, moduleDepsErr files wkt p)])).run.importNotFound = true := by
  unfold moduleDepsErr
  cases BufModel.Path.normalizeAndValidate p with
  | error e =>
    simp only [Cmd.run, build, runSteps_oks_then oks hoks false (.plain true) []]
    decide
  | ok q =>
    simp only
    cases files.contains q || wkt.contains q with
    | true =>
      simp only [if_true, Cmd.run, build, runSteps_append, (runSteps_eq_none_iff oks).mpr hoks]
      rfl
    | false =>
      simp only [Bool.false_eq_true, if_false, Cmd.run, build, runSteps_oks_then oks hoks false .importNotExist []]
      decide

-- non-vacuity: each fate is reached; the clause on a concrete workspace
private def wktEx : List Str := ["google/protobuf/empty.proto".toList]
private def filesEx : List Str := ["a.proto".toList, "zz/x.proto".toList]
example : importFate filesEx wktEx "zz/x.proto".toList = .file := by decide
example : importFate filesEx wktEx "google/protobuf/empty.proto".toList = .wkt := by
  unfold filesEx wktEx
  repeat rw [String.toList_ofList]
  decide +kernel
example : importFate filesEx wktEx "./google/protobuf/empty.proto".toList = .notNormal := by
  unfold filesEx wktEx
  repeat rw [String.toList_ofList]
  decide +kernel
example : importFate filesEx wktEx "google/protobuf/nope.proto".toList = .notExist := by
  unfold filesEx wktEx
  repeat rw [String.toList_ofList]
  decide +kernel
example : importFate filesEx wktEx "zz".toList = .notExist := by
  unfold filesEx wktEx
  repeat rw [String.toList_ofList]
  decide +kernel
example : importFate filesEx wktEx "zz/".toList = .notExist := by
  unfold filesEx wktEx
  repeat rw [String.toList_ofList]
  decide +kernel
example : importFate filesEx wktEx [] = .notExist := by
  unfold filesEx wktEx
  repeat rw [String.toList_ofList]
  decide +kernel
example : importFate filesEx wktEx "zz//x.proto".toList = .notNormal := by
  unfold filesEx wktEx
  repeat rw [String.toList_ofList]
  decide +kernel
example : importFate filesEx wktEx "zz/x.proto/".toList = .notNormal := by
  unfold filesEx wktEx
  repeat rw [String.toList_ofList]
  decide +kernel
example : importFate filesEx wktEx "zz/../a.proto".toList = .notNormal := by
  unfold filesEx wktEx
  repeat rw [String.toList_ofList]
  decide +kernel
example : importFate filesEx wktEx "zz/../../a.proto".toList = .invalid .outsideContext := by
  unfold filesEx wktEx
  repeat rw [String.toList_ofList]
  decide +kernel
example : importFate filesEx wktEx "..".toList = .invalid .outsideContext := by decide
example : (Cmd.build [(true, none), (true, buildImageErr ex1 (importFate filesEx wktEx "../x.proto".toList))]).run.exit = 100 := by decide
example : (Cmd.build [(true, none), (true, buildImageErrGuarded ex1 (importFate filesEx wktEx "../x.proto".toList))]).run.exit = 1 := by decide
example : moduleDepsErr filesEx wktEx "./a.proto".toList = none := by decide
example : moduleDepsErr filesEx wktEx "/a.proto".toList = some (.plain true) := by decide
example : moduleDepsErr filesEx wktEx "nope.proto".toList = some .importNotExist := by
  unfold filesEx wktEx
  repeat rw [String.toList_ofList]
  decide +kernel

end BufProofs.C20
