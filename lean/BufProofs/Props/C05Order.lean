import BufProofs.Props.C05
import BufProofs.Lemmas.LintOrder
/-
  C05 — the DECLARATION-ORDER family.

  The per-element rules are handed ONE element at a time by the iteration helpers; the model
  (`elemRule` over `fileEnumValues`, `fileFields`, `fileRpcs`, …) is per element, in declaration
  order, with `Int` value numbers (negative numbers, aliases: several values with one number).
  The theorems below state the family explicitly: the element standing at position `|l₁|` of a list
  `l₁ ++ x :: l₂` is judged and reported at index `|l₁|`, WHATEVER `l₁` and `l₂` are — a zero value
  that is not declared first, a second name of a number, a value after a negative one, the eleventh
  field.  The `…_first_only_counterexample`s show what a rule that picks `[0]` of the parent itself
  (seed C05-m7: ENUM_ZERO_VALUE_SUFFIX over `enum.Values()[0]`) does not see, and
  `enum_zero_value_suffix_first_only_blind_spot` on which enums such a rule is indistinguishable
  from the real one (zero value first, no other name of 0 — every enum of a clean proto3 file).
-/
namespace BufProofs.C05
open BufModel.Case BufModel.Lint

/-! ## enum values: every value, wherever it is declared -/

/-- **ENUM_ZERO_VALUE_SUFFIX, any position.**  In an enum (top-level or nested at any depth) whose
    values are `l₁ ++ v :: l₂`, where `v` has number 0 and a name without the configured suffix, the
    rule reports `v` at ITS index `|l₁|` — whatever `l₁` is: non-zero values declared before the zero
    value (closed enums), other names of 0 with or without the suffix (`allow_alias`), negative numbers. -/
theorem plant_enum_zero_value_suffix_any_position (o : Options) (rules : List Rule) (w : Schema)
    (f : File) (hf : f ∈ w) (hni : f.isImport = false) (p : List Nat) (e : Enum)
    (he : (p, e) ∈ fileEnums f) (l₁ : List EnumValue) (v : EnumValue) (l₂ : List EnumValue)
    (hv : e.values = l₁ ++ v :: l₂) (hr : .ENUM_ZERO_VALUE_SUFFIX ∈ rules)
    (hz : v.number = 0) (hs : hasSuffix o.zeroSuffix v.name = false) :
    (⟨.ENUM_ZERO_VALUE_SUFFIX, f.path, p ++ [2, l₁.length, 1]⟩ : Annotation) ∈ lint o rules w := by
  have h := elem_bad_reported o rules w .ENUM_ZERO_VALUE_SUFFIX _ rfl hr f hf hni
    (p ++ [2, l₁.length], e, v) (fileEnumValues_at f p e he l₁ v l₂ hv)
    (by show (v.number == 0 && !hasSuffix o.zeroSuffix v.name) = true; simp [hz, hs])
  simpa [ann] using h

/-- **ENUM_ZERO_VALUE_SUFFIX reports exactly the names of 0 that lack the suffix** — one annotation
    per such value, at the value's own index; nothing for a value with another number, nothing for a
    name of 0 that has the suffix, wherever they are declared. -/
theorem enum_zero_value_suffix_exactly_the_zero_names (o : Options) (rules : List Rule) (w : Schema)
    (a : Annotation) :
    (a ∈ lint o rules w ∧ a.rule = .ENUM_ZERO_VALUE_SUFFIX) ↔
      .ENUM_ZERO_VALUE_SUFFIX ∈ rules ∧ ∃ f ∈ w, f.isImport = false ∧
        ∃ p e, (p, e) ∈ fileEnums f ∧ ∃ l₁ v l₂, e.values = l₁ ++ v :: l₂ ∧
          v.number = 0 ∧ hasSuffix o.zeroSuffix v.name = false ∧
          a = ⟨.ENUM_ZERO_VALUE_SUFFIX, f.path, p ++ [2, l₁.length, 1]⟩ := by
  rw [violations_exact_elem o rules w .ENUM_ZERO_VALUE_SUFFIX _ rfl a]
  constructor
  · rintro ⟨hr, f, hf, hni, ⟨q, e, v⟩, hmem, hbad, ha⟩
    obtain ⟨p, l₁, l₂, he, hv, rfl⟩ := fileEnumValues_split f q e v hmem
    have hb : (v.number == 0 && !hasSuffix o.zeroSuffix v.name) = true := hbad
    simp only [Bool.and_eq_true, beq_iff_eq, Bool.not_eq_eq_eq_not, Bool.not_true] at hb
    exact ⟨hr, f, hf, hni, p, e, he, l₁, v, l₂, hv, hb.1, hb.2, by rw [ha]; simp [ann]⟩
  · rintro ⟨hr, f, hf, hni, p, e, he, l₁, v, l₂, hv, hz, hs, ha⟩
    refine ⟨hr, f, hf, hni, (p ++ [2, l₁.length], e, v), fileEnumValues_at f p e he l₁ v l₂ hv, ?_, ?_⟩
    · show (v.number == 0 && !hasSuffix o.zeroSuffix v.name) = true
      simp [hz, hs]
    · rw [ha]; simp [ann]

/-- **ENUM_VALUE_PREFIX, ENUM_VALUE_UPPER_SNAKE_CASE, COMMENT_ENUM_VALUE, any position and any
    number.**  The value at position `|l₁|` is judged on its own name / comment and reported at index
    `|l₁|` — no hypothesis on its number: it may repeat the number of an earlier value (an alias),
    be zero, be negative. -/
theorem enum_value_rules_any_position (o : Options) (rules : List Rule) (w : Schema)
    (f : File) (hf : f ∈ w) (hni : f.isImport = false) (p : List Nat) (e : Enum)
    (he : (p, e) ∈ fileEnums f) (l₁ : List EnumValue) (v : EnumValue) (l₂ : List EnumValue)
    (hv : e.values = l₁ ++ v :: l₂) :
    (.ENUM_VALUE_PREFIX ∈ rules → hasPrefix (toUpperSnakeCase false e.name ++ ['_']) v.name = false →
        (⟨.ENUM_VALUE_PREFIX, f.path, p ++ [2, l₁.length, 1]⟩ : Annotation) ∈ lint o rules w) ∧
    (.ENUM_VALUE_UPPER_SNAKE_CASE ∈ rules → v.name ≠ toUpperSnakeCase false v.name →
        (⟨.ENUM_VALUE_UPPER_SNAKE_CASE, f.path, p ++ [2, l₁.length, 1]⟩ : Annotation) ∈ lint o rules w) ∧
    (.COMMENT_ENUM_VALUE ∈ rules → validLeadingComment o.commentExcludes v.comment = false →
        (⟨.COMMENT_ENUM_VALUE, f.path, p ++ [2, l₁.length]⟩ : Annotation) ∈ lint o rules w) := by
  have hmem := fileEnumValues_at f p e he l₁ v l₂ hv
  refine ⟨fun hr hb => ?_, fun hr hb => ?_, fun hr hb => ?_⟩
  · have h := elem_bad_reported o rules w .ENUM_VALUE_PREFIX _ rfl hr f hf hni _ hmem
      (by show (!hasPrefix (toUpperSnakeCase false e.name ++ ['_']) v.name) = true; simp [hb])
    simpa [ann] using h
  · have h := elem_bad_reported o rules w .ENUM_VALUE_UPPER_SNAKE_CASE _ rfl hr f hf hni _ hmem
      (by show (v.name != toUpperSnakeCase false v.name) = true; simpa using hb)
    simpa [ann] using h
  · have h := elem_bad_reported o rules w .COMMENT_ENUM_VALUE _ rfl hr f hf hni _ hmem
      (by show (!validLeadingComment o.commentExcludes v.comment) = true; simp [hb])
    simpa [ann] using h

/-- **ENUM_FIRST_VALUE_ZERO reads the first DECLARED value and nothing else**: with values
    `v :: l` the rule fires iff `v.number ≠ 0` (then at the number of value 0), whatever `l`
    contains — a zero value further down does not help, a non-zero one does not hurt. -/
theorem enum_first_value_zero_reads_first_declared (o : Options) (rules : List Rule) (w : Schema)
    (f : File) (hf : f ∈ w) (hni : f.isImport = false) (p : List Nat) (e : Enum)
    (he : (p, e) ∈ fileEnums f) (v : EnumValue) (l : List EnumValue) (hv : e.values = v :: l) :
    (.ENUM_FIRST_VALUE_ZERO ∈ rules → v.number ≠ 0 →
        (⟨.ENUM_FIRST_VALUE_ZERO, f.path, p ++ [2, 0, 2]⟩ : Annotation) ∈ lint o rules w) ∧
    (v.number = 0 → ((elemRule .ENUM_FIRST_VALUE_ZERO).get rfl).bad o (p, e) = false) := by
  refine ⟨fun hr hb => ?_, fun hz => ?_⟩
  · have h := elem_bad_reported o rules w .ENUM_FIRST_VALUE_ZERO _ rfl hr f hf hni (p, e) he
      (by show (match e.values with | v :: _ => v.number != 0 | [] => false) = true
          rw [hv]; simpa using hb)
    simpa [ann] using h
  · show (match e.values with | v :: _ => v.number != 0 | [] => false) = false
    rw [hv]; simp [hz]

/-! ### the "first value only" variant (seed C05-m7) -/

/-- ENUM_ZERO_VALUE_SUFFIX rewritten as a per-ENUM rule that looks at `Values()[0]` only. -/
def zeroSuffixFirstOnly (o : Options) (f : File) : List Annotation :=
  (fileEnums f).flatMap fun (p, e) =>
    match e.values with
    | v :: _ => if v.number == 0 && !hasSuffix o.zeroSuffix v.name then [ann .ENUM_ZERO_VALUE_SUFFIX f (p ++ [2, 0, 1])] else []
    | [] => []

/-- what the real rule flags in ONE enum at `p` -/
def zeroSuffixOfEnum (o : Options) (f : File) (p : List Nat) (e : Enum) : List Annotation :=
  ((indexed e.values).filter fun (_, v) => v.number == 0 && !hasSuffix o.zeroSuffix v.name).map
    fun (i, _) => ann .ENUM_ZERO_VALUE_SUFFIX f (p ++ [2, i, 1])

/-- **The blind spot.**  On an enum whose zero value is declared FIRST and has no other name — every
    enum of a clean proto3 file — `zeroSuffixOfEnum` (the
    real rule's body on one enum, written out above) flags what the "first value only" variant
    flags there: such a rewrite cannot be told from the real rule by planting at value 0. -/
theorem enum_zero_value_suffix_first_only_blind_spot (o : Options) (f : File) (p : List Nat) (e : Enum)
    (v : EnumValue) (l : List EnumValue) (hv : e.values = v :: l) (hl : ∀ x ∈ l, x.number ≠ 0) :
    zeroSuffixOfEnum o f p e =
      (if v.number == 0 && !hasSuffix o.zeroSuffix v.name then [ann .ENUM_ZERO_VALUE_SUFFIX f (p ++ [2, 0, 1])] else []) := by
  unfold zeroSuffixOfEnum
  rw [hv]
  have hnil : (indexFrom 1 l).filter (fun (x : Nat × EnumValue) => x.2.number == 0 && !hasSuffix o.zeroSuffix x.2.name) = [] :=
    filter_eq_nil_of_forall _ _ (fun ⟨j, x⟩ hx => by
      have := hl x (mem_indexFrom_val 1 l (j, x) hx)
      simp [this])
  show (((0, v) :: indexFrom 1 l).filter _).map _ = _
  rw [List.filter_cons, hnil]
  cases hb : (v.number == 0 && !hasSuffix o.zeroSuffix v.name) <;> simp [hb]

/-- the closed enum `enum Kind { KIND_ONE = 1; KIND_UNKNOWN = 0; }` and the alias enum
    `enum Color { option allow_alias = true; COLOR_UNSPECIFIED = 0; COLOR_NONE = 0; COLOR_RED = 1; }` -/
def orderKind : Enum :=
  { name := "Kind".toList, comment := " A kind.\n".toList,
    values := [⟨"KIND_ONE".toList, " One.\n".toList, 1⟩, ⟨"KIND_UNKNOWN".toList, " Zero.\n".toList, 0⟩] }
def orderColor : Enum :=
  { name := "Color".toList, comment := " A color.\n".toList, allowAlias := true,
    values := [⟨"COLOR_UNSPECIFIED".toList, " Zero.\n".toList, 0⟩, ⟨"COLOR_NONE".toList, " Zero again.\n".toList, 0⟩,
               ⟨"COLOR_RED".toList, " Red.\n".toList, 1⟩, ⟨"COLOR_DARK".toList, " Negative.\n".toList, -1⟩,
               ⟨"ZZ_CRIMSON".toList, " Red again.\n".toList, 1⟩] }
def orderFile : File :=
  { path := "acme/foo/v1/order.proto".toList, pkg := "acme.foo.v1".toList, enums := [orderKind, orderColor] }
def orderWs : Schema := [orderFile]

/-- **Seed C05-m7 as a statement.**  A zero value declared SECOND in a closed enum, and the SECOND
    name of 0 in an `allow_alias` enum, both without the suffix: the rule as coded reports both, at
    their own indices; the variant that looks at `Values()[0]` reports NOTHING.  (The other rules on
    the same file: ENUM_FIRST_VALUE_ZERO at the first enum, ENUM_NO_ALLOW_ALIAS at the second, and
    ENUM_VALUE_PREFIX at the alias `ZZ_CRIMSON = 1` — the fifth value, a second name of 1.) -/
theorem enum_zero_value_suffix_first_only_counterexample :
    lint {} [.ENUM_ZERO_VALUE_SUFFIX] orderWs =
      [⟨.ENUM_ZERO_VALUE_SUFFIX, "acme/foo/v1/order.proto".toList, [5, 0, 2, 1, 1]⟩,
       ⟨.ENUM_ZERO_VALUE_SUFFIX, "acme/foo/v1/order.proto".toList, [5, 1, 2, 1, 1]⟩] ∧
    (nonImport orderWs).flatMap (zeroSuffixFirstOnly {}) = [] ∧
    lint {} [.ENUM_FIRST_VALUE_ZERO, .ENUM_NO_ALLOW_ALIAS, .ENUM_VALUE_PREFIX, .ENUM_VALUE_UPPER_SNAKE_CASE, .COMMENT_ENUM_VALUE] orderWs =
      [⟨.ENUM_FIRST_VALUE_ZERO, "acme/foo/v1/order.proto".toList, [5, 0, 2, 0, 2]⟩,
       ⟨.ENUM_NO_ALLOW_ALIAS, "acme/foo/v1/order.proto".toList, [5, 1, 3, 2]⟩,
       ⟨.ENUM_VALUE_PREFIX, "acme/foo/v1/order.proto".toList, [5, 1, 2, 4, 1]⟩] := by decide +kernel

-- non-vacuity of the any-position theorems on `orderWs`: the second value of the first enum
example : (⟨.ENUM_ZERO_VALUE_SUFFIX, orderFile.path, [5, 0] ++ [2, 1, 1]⟩ : Annotation) ∈
    lint {} [.ENUM_ZERO_VALUE_SUFFIX] orderWs :=
  plant_enum_zero_value_suffix_any_position {} _ orderWs orderFile (.head _) rfl [5, 0] orderKind (List.mem_append_left _ (.head _))
    [⟨"KIND_ONE".toList, " One.\n".toList, 1⟩] ⟨"KIND_UNKNOWN".toList, " Zero.\n".toList, 0⟩ [] rfl (.head _) rfl (by decide)
-- … and the fifth value of the second enum, an alias of 1 without the prefix
example : (⟨.ENUM_VALUE_PREFIX, orderFile.path, [5, 1] ++ [2, 4, 1]⟩ : Annotation) ∈
    lint {} [.ENUM_VALUE_PREFIX] orderWs :=
  (enum_value_rules_any_position {} _ orderWs orderFile (.head _) rfl [5, 1] orderColor (List.mem_append_left _ (.tail _ (.head _)))
    [⟨"COLOR_UNSPECIFIED".toList, " Zero.\n".toList, 0⟩, ⟨"COLOR_NONE".toList, " Zero again.\n".toList, 0⟩,
     ⟨"COLOR_RED".toList, " Red.\n".toList, 1⟩, ⟨"COLOR_DARK".toList, " Negative.\n".toList, -1⟩]
    ⟨"ZZ_CRIMSON".toList, " Red again.\n".toList, 1⟩ [] rfl).1 (.head _) (by decide)
-- the blind-spot hypothesis on the witness enum: zero first, numbers 1, 2, … after it
example : zeroSuffixOfEnum {} pA pathColor pColor = [] :=
  (enum_zero_value_suffix_first_only_blind_spot {} pA pathColor pColor _ _ rfl (by decide)).trans (by decide)

/-! ## the other per-element rules: the element at index `|l₁|` of its parent -/

/-- **Fields, any position.**  The field at position `|l₁|` of a message enumerated at `p` (any
    depth; not a synthetic map entry) is reported at `p ++ [2, |l₁|]` by each of the four field rules
    whose predicate it satisfies — the first field is nothing special. -/
theorem field_rules_any_position (o : Options) (rules : List Rule) (w : Schema) (f : File) (hf : f ∈ w)
    (hni : f.isImport = false) (p : List Nat) (m : Message) (hm : (p, m) ∈ fileMsgs f)
    (hme : m.mapEntry = false) (l₁ : List Field) (fd : Field) (l₂ : List Field) (h : m.fields = l₁ ++ fd :: l₂) :
    (.COMMENT_FIELD ∈ rules → fd.group = false →
        validLeadingComment o.commentExcludes fd.comment = false →
        (⟨.COMMENT_FIELD, f.path, p ++ [2, l₁.length]⟩ : Annotation) ∈ lint o rules w) ∧
    (.FIELD_LOWER_SNAKE_CASE ∈ rules → fd.name ≠ toLowerSnakeCase false fd.name →
        (⟨.FIELD_LOWER_SNAKE_CASE, f.path, p ++ [2, l₁.length] ++ [1]⟩ : Annotation) ∈ lint o rules w) ∧
    (.FIELD_NO_DESCRIPTOR ∈ rules → (trimUnderscores fd.name).map toLower = "descriptor".toList →
        (⟨.FIELD_NO_DESCRIPTOR, f.path, p ++ [2, l₁.length] ++ [1]⟩ : Annotation) ∈ lint o rules w) ∧
    (.FIELD_NOT_REQUIRED ∈ rules → fd.required = true →
        (⟨.FIELD_NOT_REQUIRED, f.path, p ++ [2, l₁.length] ++ [1]⟩ : Annotation) ∈ lint o rules w) :=
  field_rules_report o rules w f hf hni _ (some m) fd (fileFields_field_at f p m hm l₁ fd l₂ h)
    (by simp [isMapEntryParent, hme])

/-- **Extensions, any position**: nested in a message (`p ++ [6, |l₁|]`) and at file level (`[7, |l₁|]`). -/
theorem extension_rules_any_position (o : Options) (rules : List Rule) (w : Schema) (f : File) (hf : f ∈ w)
    (hni : f.isImport = false) (l₁ : List Field) (fd : Field) (l₂ : List Field)
    (hr : .COMMENT_FIELD ∈ rules) (hg : fd.group = false)
    (hc : validLeadingComment o.commentExcludes fd.comment = false) :
    (∀ p m, (p, m) ∈ fileMsgs f → m.mapEntry = false → m.exts = l₁ ++ fd :: l₂ →
        (⟨.COMMENT_FIELD, f.path, p ++ [6, l₁.length]⟩ : Annotation) ∈ lint o rules w) ∧
    (f.exts = l₁ ++ fd :: l₂ →
        (⟨.COMMENT_FIELD, f.path, [7, l₁.length]⟩ : Annotation) ∈ lint o rules w) := by
  refine ⟨fun p m hm hme h => ?_, fun h => ?_⟩
  · exact (field_rules_report o rules w f hf hni _ (some m) fd (fileFields_nestedExt_at f p m hm l₁ fd l₂ h)
      (by simp [isMapEntryParent, hme])).1 hr hg hc
  · exact (field_rules_report o rules w f hf hni _ none fd (fileFields_fileExt_at f l₁ fd l₂ h) rfl).1 hr hg hc

/-- **RPCs, any position**: the RPC at position `|r₁|` of the service at position `|s₁|` is reported
    at `[6, |s₁|, 2, |r₁|]` (comment, streaming) / `… ++ [2]`, `… ++ [3]` (request / response type). -/
theorem rpc_rules_any_position (o : Options) (rules : List Rule) (w : Schema) (f : File) (hf : f ∈ w)
    (hni : f.isImport = false) (s₁ : List Service) (s : Service) (s₂ : List Service)
    (hs : f.svcs = s₁ ++ s :: s₂) (r₁ : List Rpc) (r : Rpc) (r₂ : List Rpc) (hr : s.rpcs = r₁ ++ r :: r₂) :
    (.COMMENT_RPC ∈ rules → validLeadingComment o.commentExcludes r.comment = false →
        (⟨.COMMENT_RPC, f.path, [6, s₁.length, 2, r₁.length]⟩ : Annotation) ∈ lint o rules w) ∧
    (.RPC_REQUEST_STANDARD_NAME ∈ rules → stdNameBad o true s r = true →
        (⟨.RPC_REQUEST_STANDARD_NAME, f.path, [6, s₁.length, 2, r₁.length, 2]⟩ : Annotation) ∈ lint o rules w) ∧
    (.RPC_RESPONSE_STANDARD_NAME ∈ rules → stdNameBad o false s r = true →
        (⟨.RPC_RESPONSE_STANDARD_NAME, f.path, [6, s₁.length, 2, r₁.length, 3]⟩ : Annotation) ∈ lint o rules w) ∧
    (.RPC_PASCAL_CASE ∈ rules → r.name ≠ toPascalCase r.name →
        (⟨.RPC_PASCAL_CASE, f.path, [6, s₁.length, 2, r₁.length, 1]⟩ : Annotation) ∈ lint o rules w) ∧
    (.RPC_NO_CLIENT_STREAMING ∈ rules → r.clientStreaming = true →
        (⟨.RPC_NO_CLIENT_STREAMING, f.path, [6, s₁.length, 2, r₁.length]⟩ : Annotation) ∈ lint o rules w) ∧
    (.RPC_NO_SERVER_STREAMING ∈ rules → r.serverStreaming = true →
        (⟨.RPC_NO_SERVER_STREAMING, f.path, [6, s₁.length, 2, r₁.length]⟩ : Annotation) ∈ lint o rules w) := by
  have hmem := fileRpcs_at f s₁ s s₂ hs r₁ r r₂ hr
  refine ⟨fun h hb => ?_, fun h hb => ?_, fun h hb => ?_, fun h hb => ?_, fun h hb => ?_, fun h hb => ?_⟩
  · exact elem_bad_reported o rules w .COMMENT_RPC _ rfl h f hf hni _ hmem
      (by show (!validLeadingComment o.commentExcludes r.comment) = true; simp [hb])
  · exact elem_bad_reported o rules w .RPC_REQUEST_STANDARD_NAME _ rfl h f hf hni _ hmem hb
  · exact elem_bad_reported o rules w .RPC_RESPONSE_STANDARD_NAME _ rfl h f hf hni _ hmem hb
  · exact elem_bad_reported o rules w .RPC_PASCAL_CASE _ rfl h f hf hni _ hmem
      (by show (r.name != toPascalCase r.name) = true; simpa using hb)
  · exact elem_bad_reported o rules w .RPC_NO_CLIENT_STREAMING _ rfl h f hf hni _ hmem hb
  · exact elem_bad_reported o rules w .RPC_NO_SERVER_STREAMING _ rfl h f hf hni _ hmem hb

/-- **Messages, enums, oneofs, services, any position** (comment rules; the naming rules of the same
    elements go through the same enumeration lemmas): top-level message `[4, i]`, nested message
    `p ++ [3, i]`, top-level enum `[5, i]`, nested enum `p ++ [4, i]`, oneof `p ++ [8, i]`, service `[6, i]`. -/
theorem container_rules_any_position (o : Options) (rules : List Rule) (w : Schema) (f : File) (hf : f ∈ w)
    (hni : f.isImport = false) :
    (∀ l₁ m l₂, f.msgs = l₁ ++ m :: l₂ → .COMMENT_MESSAGE ∈ rules → m.mapEntry = false →
        validLeadingComment o.commentExcludes m.comment = false →
        (⟨.COMMENT_MESSAGE, f.path, [4, l₁.length]⟩ : Annotation) ∈ lint o rules w) ∧
    (∀ p m, (p, m) ∈ fileMsgs f → ∀ l₁ x l₂, m.msgs = l₁ ++ x :: l₂ → .COMMENT_MESSAGE ∈ rules → x.mapEntry = false →
        validLeadingComment o.commentExcludes x.comment = false →
        (⟨.COMMENT_MESSAGE, f.path, p ++ [3, l₁.length]⟩ : Annotation) ∈ lint o rules w) ∧
    (∀ l₁ e l₂, f.enums = l₁ ++ e :: l₂ → .COMMENT_ENUM ∈ rules →
        validLeadingComment o.commentExcludes e.comment = false →
        (⟨.COMMENT_ENUM, f.path, [5, l₁.length]⟩ : Annotation) ∈ lint o rules w) ∧
    (∀ p m, (p, m) ∈ fileMsgs f → ∀ l₁ e l₂, m.enums = l₁ ++ e :: l₂ → .COMMENT_ENUM ∈ rules →
        validLeadingComment o.commentExcludes e.comment = false →
        (⟨.COMMENT_ENUM, f.path, p ++ [4, l₁.length]⟩ : Annotation) ∈ lint o rules w) ∧
    (∀ p m, (p, m) ∈ fileMsgs f → ∀ l₁ oo l₂, m.oneofs = l₁ ++ oo :: l₂ → .COMMENT_ONEOF ∈ rules → oo.synthetic = false →
        validLeadingComment o.commentExcludes oo.comment = false →
        (⟨.COMMENT_ONEOF, f.path, p ++ [8, l₁.length]⟩ : Annotation) ∈ lint o rules w) ∧
    (∀ l₁ s l₂, f.svcs = l₁ ++ s :: l₂ → .COMMENT_SERVICE ∈ rules →
        validLeadingComment o.commentExcludes s.comment = false →
        (⟨.COMMENT_SERVICE, f.path, [6, l₁.length]⟩ : Annotation) ∈ lint o rules w) := by
  refine ⟨fun l₁ m l₂ h hr hme hc => ?_, fun p m hm l₁ x l₂ h hr hme hc => ?_, fun l₁ e l₂ h hr hc => ?_,
    fun p m hm l₁ e l₂ h hr hc => ?_, fun p m hm l₁ oo l₂ h hr hs hc => ?_, fun l₁ s l₂ h hr hc => ?_⟩
  · exact elem_bad_reported o rules w .COMMENT_MESSAGE _ rfl hr f hf hni _ (fileMsgs_top_at f l₁ m l₂ h)
      (by show (if m.mapEntry then false else !validLeadingComment o.commentExcludes m.comment) = true; simp [hme, hc])
  · exact elem_bad_reported o rules w .COMMENT_MESSAGE _ rfl hr f hf hni _ (fileMsgs_nested_at f p m hm l₁ x l₂ h)
      (by show (if x.mapEntry then false else !validLeadingComment o.commentExcludes x.comment) = true; simp [hme, hc])
  · exact elem_bad_reported o rules w .COMMENT_ENUM _ rfl hr f hf hni _ (fileEnums_top_at f l₁ e l₂ h)
      (by show (!validLeadingComment o.commentExcludes e.comment) = true; simp [hc])
  · exact elem_bad_reported o rules w .COMMENT_ENUM _ rfl hr f hf hni _ (fileEnums_nested_at f p m hm l₁ e l₂ h)
      (by show (!validLeadingComment o.commentExcludes e.comment) = true; simp [hc])
  · exact elem_bad_reported o rules w .COMMENT_ONEOF _ rfl hr f hf hni _ (fileOneofs_at f p m hm l₁ oo l₂ h)
      (by show (if oo.synthetic then false else !validLeadingComment o.commentExcludes oo.comment) = true; simp [hs, hc])
  · exact elem_bad_reported o rules w .COMMENT_SERVICE _ rfl hr f hf hni _ (fileSvcs_at f l₁ s l₂ h)
      (by show (!validLeadingComment o.commentExcludes s.comment) = true; simp [hc])

/-! ### "the first element of the parent only" for a field rule and an RPC rule -/

/-- COMMENT_FIELD rewritten to look at `message.Fields()[0]` only. -/
def commentFieldFirstOnly (o : Options) (f : File) : List Annotation :=
  (fileMsgs f).flatMap fun (p, m) =>
    match m.fields with
    | fd :: _ => if !m.mapEntry && !fd.group && !validLeadingComment o.commentExcludes fd.comment then [ann .COMMENT_FIELD f (p ++ [2, 0])] else []
    | [] => []

/-- RPC_REQUEST_STANDARD_NAME rewritten to look at `service.Methods()[0]` only. -/
def requestNameFirstOnly (o : Options) (f : File) : List Annotation :=
  (fileSvcs f).flatMap fun (p, s) =>
    match s.rpcs with
    | r :: _ => if stdNameBad o true s r then [ann .RPC_REQUEST_STANDARD_NAME f (p ++ [2, 0, 2])] else []
    | [] => []

/-- the multi-file witness workspace `pw` with the comment of the SECOND field of `Outer` removed and
    the request type of the SECOND RPC of `FooService` renamed -/
def orderPw : Schema :=
  setFieldComment pA.path [4, 0, 2, 1] [] (setRequestType pA.path [6, 0, 2, 1] "acme.foo.v1.ListFooReq".toList pw)

/-- **A non-first field and a non-first RPC**: the rules as coded report them at index 1; the "first
    element of the parent only" variants report nothing. -/
theorem per_element_first_only_counterexample :
    lint {} [.COMMENT_FIELD, .RPC_REQUEST_STANDARD_NAME] orderPw =
      [⟨.COMMENT_FIELD, pA.path, [4, 0, 2, 1]⟩, ⟨.RPC_REQUEST_STANDARD_NAME, pA.path, [6, 0, 2, 1, 2]⟩] ∧
    (nonImport orderPw).flatMap (commentFieldFirstOnly {}) = [] ∧
    (nonImport orderPw).flatMap (requestNameFirstOnly {}) = [] := by decide +kernel

end BufProofs.C05
