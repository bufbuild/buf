import BufProofs.Lemmas.FilterCommentLemmas
import BufProofs.Lemmas.FilterOneofLemmas
/-
  C12 — Type filtering yields a self-contained, minimal, otherwise unchanged image.
  Model: BufModel/Filter.lean (closure = task machine `run`, rewrite = `remapFile`).

  Three kinds of statement, each labelled in its docstring:
    * OUTPUT level — about what `filterWith cfgFixed`, the function the driver runs, returns;
    * CLOSURE level — about the final closure state only; they hold for every cfg or for
      `svcMarksInput = false` and cannot by themselves imply an output clause;
    * MODEL SANITY — they restate what `remapX` / `remapSlice` do and carry weight only through the
      correspondence leg; `*_counterexample`: the pre-fix behaviours (the `Cfg` flags of the model)
      and the as-coded families that are recorded known findings, each on a concrete image.
  NOT proved (correspondence + implementation oracle only): the map-entry / extension-range
    clauses of `linksB`, filter_minimal, filter_total, filter_idempotent (not statable: no
    OFile → Image), message-level survivors_unchanged.
-/
namespace BufProofs.C12
open BufModel.Filter BufProofs.FilterLemmas BufProofs.FilterClosure BufProofs.FilterRewrite
open BufProofs.FilterIndex BufProofs.FilterOutput BufProofs.FilterComment BufProofs.FilterOneof

/-! ### excludes -/

/-- CLOSURE level only (any cfg, including the pre-fix `cfgOld`, so this cannot by itself imply the
    output clause — see `filter_drops_excludes` for that): an element named by an exclude is
    `excluded` in the final closure — through includes, the include-everything default and
    addExtensions — and `hasType` is false for it. -/
theorem filter_drops_excludes_closure_partial (cfg : Cfg) (img : Image) (o : Opts) (fuel : Nat) (st : St)
    (h : closure cfg img o fuel = .ok st) (n : Id) (hn : n ∈ o.excludes) (i : Info)
    (hi : (buildIndex img).find (.el n) = some i) :
    st.get (.el n) = some .excluded ∧ ∀ noInc, hasType st noInc (.el n) = false := by
  have e := rk_excl.mp (closure_exclKey cfg img o fuel st h (.el n)
    ⟨n, hn, Or.inl ⟨i, hi, by rw [find_key _ _ _ hi]; exact List.mem_cons_self⟩⟩)
  exact ⟨e, fun _ => by unfold hasType; rw [e]⟩

/-- Model sanity (restates `remapMsg`): the rewrite drops a message whose id is not `hasType`. -/
theorem rewrite_drops_message (c : RCtx) (path : List Nat) (m : Msg) (h : c.has (.el m.id) = false) :
    (remapMsg c path m).1 = none := by
  cases m with
  | mk id fields oneofs exts nested enums rangeOpts reserved mapEntry opts =>
    unfold remapMsg
    simp only [Msg.id] at h
    simp [h]

/-- Model sanity (restate `remapEnum/Service/Method/Field`): … and an enum, a service, a method, an
    extension with such an id; and every field or extension whose type, and (unless `svcMarksInput`)
    every method whose request or response type, is not kept. -/
theorem rewrite_drops_enum (c : RCtx) (p : List Nat) (e : Enum) (h : c.has (.el e.id) = false) :
    (remapEnum c p e).1 = none := by unfold remapEnum; simp [h]

theorem rewrite_drops_service (c : RCtx) (p : List Nat) (s : Service) (h : c.has (.el s.id) = false) :
    (remapService c p s).1 = none := by unfold remapService; simp [h]

theorem rewrite_drops_method (c : RCtx) (p : List Nat) (m : Method)
    (h : c.has (.el m.id) = false ∨ (c.methodIO = true ∧ (c.has (.el m.input) = false ∨ c.has (.el m.output) = false))) :
    (remapMethod c p m).1 = none := by
  unfold remapMethod
  rcases h with h | ⟨hio, h | h⟩ <;> simp [*]

theorem rewrite_drops_field_of_type (c : RCtx) (p : List Nat) (f : Field) (t : Id)
    (ht : f.ty = some t) (h : c.has (.el t) = false) : (remapField c p f).1 = none := by
  unfold remapField
  split
  · rfl
  · simp [ht, h]

theorem rewrite_drops_extension (c : RCtx) (p : List Nat) (f : Field) (e : Id)
    (he : f.extendee = some e) (h : c.has (.el f.id) = false) : (remapField c p f).1 = none := by
  unfold remapField
  simp [he, h]

/-! ### survivors -/

theorem remapField_unchanged (c : RCtx) (p : List Nat) (x y : Field) (h : (remapField c p x).1 = some y) : y = x :=
  (remapField_some c p x y h).1

theorem remapEnum_unchanged (c : RCtx) (p : List Nat) (x y : Enum) (h : (remapEnum c p x).1 = some y) : y = x :=
  (remapEnum_some c p x y h).1

theorem remapMethod_unchanged (c : RCtx) (p : List Nat) (x y : Method) (h : (remapMethod c p x).1 = some y) : y = x :=
  (remapMethod_some c p x y h).1

/-- The list remapSlice returns is exactly the kept items in their original order … -/
theorem remapSlice_items {α β} (path : List Nat) (f : List Nat → α → Option β × Marks) (xs : List α) (fr to : Nat) :
    (remapSlice path f xs fr to).1 = keptFrom path f xs fr :=
  BufProofs.FilterLemmas.remapSlice_items path f xs fr to

/-- … so the fields, extensions, enums and methods `remapSlice` keeps are the original descriptors,
    unchanged and in order (`Sublist`).  True by construction of `remapX` (they only keep or drop);
    the protocol renders ids only, so "otherwise unchanged" rests on the Go oracle.  Partial: the
    statement for messages (nested declarations filtered recursively, namespace-only messages
    cleared, `oneof_index` of the kept fields renumbered: `rewrite_renumbers_oneofs`) is not proved
    here. -/
theorem survivors_unchanged_partial (c : RCtx) (path : List Nat) (fs : List Field) (es : List Enum) (ms : List Method) :
    (remapSlice path (remapField c) fs 0 0).1.Sublist fs ∧
    (remapSlice path (remapEnum c) es 0 0).1.Sublist es ∧
    (remapSlice path (remapMethod c) ms 0 0).1.Sublist ms := by
  refine ⟨?_, ?_, ?_⟩
  · rw [remapSlice_items]; exact keptFrom_sublist _ _ (remapField_unchanged c) _ _
  · rw [remapSlice_items]; exact keptFrom_sublist _ _ (remapEnum_unchanged c) _ _
  · rw [remapSlice_items]; exact keptFrom_sublist _ _ (remapMethod_unchanged c) _ _

/-! ### remapSlice index arithmetic and source paths -/

/-- The trie node remapSlice leaves for element `i`: deleted iff dropped; moved to `newIdx` (= number
    of kept elements before it) iff that differs from `i`; untouched otherwise.  Holds for any two
    adjacent dropped elements, a dropped prefix, a dropped suffix, …: it is proved for all flag lists. -/
theorem remapSlice_index (path : List Nat) (bs : List Bool) (i : Nat) (hi : i < bs.length) :
    actAt (sliceMarks path bs 0 0) (path ++ [i]) =
      if bs[i] = false then some Act.deleted
      else if i ≠ newIdx bs i 0 then some (Act.moved (newIdx bs i 0)) else none := by
  have := actAt_sliceMarks path bs 0 0 i hi
  simpa using this

/-- For a list of declarations without nested marks (fields, extensions, enums, methods, oneofs,
    dependencies): the source location `path ++ [i]` of element `i` is deleted exactly when the
    element is dropped and otherwise becomes `path ++ [newIdx i]` with its comments kept.
    Partial: SLICE level — the marks are those of this one slice and `fixPath` starts at the slice's
    own node; `hleaf` fails for service lists.  The file-level statement (merged marks of the whole
    file, walk from the root) is `comments_follow_file_partial` (messages only). -/
theorem comments_follow_elements_partial {α β} (path : List Nat) (f : List Nat → α → Option β × Marks)
    (hleaf : ∀ p x, (f p x).2 = []) (xs : List α) (i : Nat) (hi : i < (flagsFrom path f xs 0).length) :
    fixPath (remapSlice path f xs 0 0).2 path [i] =
      if (flagsFrom path f xs 0)[i] = false then none
      else some ([newIdx (flagsFrom path f xs 0) i 0], false) := by
  rw [fixPath_remapSlice path f (fun p x => by rw [hleaf]; exact below_nil p) xs i hi,
    remapSlice_marks path f hleaf, noCommentAt_sliceMarks]

/-- The closure's answer does not depend on the fuel once there is one. -/
theorem fuel_monotone (c : Ctx) (n k : Nat) (st st' : St) (ts : List Task)
    (h : run c n st ts = .ok st') : run c (n + k) st ts = .ok st' :=
  run_fuel_mono c n k st st' ts h

/-! ### witnesses -/

def errOf {α} : Except Err α → Option Err | .error e => some e | .ok _ => none
def linksOf : Except Err (List OFile) → Option Bool | .ok o => some (linksB o) | .error _ => none
def idsOf : Except Err (List OFile) → Option (List (Id × List Id))
  | .ok o => some (o.map fun f => (f.id, (presentFile f).map (·.id))) | .error _ => none

/-- per top-level message of the output: id, (field id, oneof index + 1 or 0) of its fields -/
def oneofIdxOf : Except Err (List OFile) → Option (List (Id × List (Id × Nat)))
  | .ok o => some ((o.map fun f => f.msgs.map fun m =>
      (m.id, m.fields.map (fun x => (x.id, match x.oneof with | some i => i + 1 | none => 0)))).flatten)
  | .error _ => none
/-- per top-level message of the output: id, number of oneof declarations -/
def oneofCountOf : Except Err (List OFile) → Option (List (Id × Nat))
  | .ok o => some ((o.map fun f => f.msgs.map fun m => (m.id, m.oneofs.length)).flatten)
  | .error _ => none

def m0 (id : Id) (fields : List Field := []) : Msg := .mk id fields [] [] [] [] [] false false []
def fld (id : Id) (ty : Option Id := none) (oneof : Option Nat := none) : Field := ⟨id, ty, oneof, none, []⟩

/-- a.proto (file 1, package 10): `message X`(11) with comment 1, `message Y`(12) with comment 2;
    e.proto (file 2, package 20): no types. -/
def imgTypeless : Image :=
  { files := [
      { id := 1, pkg := 10, isImport := false, deps := [], types := [11, 12], msgs := [m0 11, m0 12],
        enums := [], svcs := [], exts := [], opts := [], locs := [⟨[4, 0], 1⟩, ⟨[4, 1], 2⟩] },
      { id := 2, pkg := 20, isImport := false, deps := [], types := [], msgs := [], enums := [], svcs := [],
        exts := [], opts := [], locs := [] }],
    pkgs := [0, 10, 20] }

/-- pre-fix (`typelessErr`): an exclude-only filter on an image that has a file without types fails. -/
theorem filter_total_typeless_counterexample :
    errOf (filterOld imgTypeless { includes := [], excludes := [11] }) = some .missing := by decide

-- non-vacuity / `cfgFixed`: Y survives, its comment follows it to index 0
example : (match filter imgTypeless { includes := [], excludes := [11] } with
    | .ok o => some (o.map fun f => (f.id, f.msgs.map Msg.id, f.locs)) | .error _ => none) =
    some [(1, [12], [⟨[4, 0], 2⟩]), (2, [], [])] := by decide +kernel

/-- file 1: `message X`(11) `message Y`(12) `service S`(13) { rpc A(X) returns (Y) (14); rpc C(Y) returns (Y) (15) } -/
def imgRpc : Image :=
  { files := [
      { id := 1, pkg := 10, isImport := false, deps := [], types := [11, 12, 13, 14, 15], msgs := [m0 11, m0 12],
        enums := [], svcs := [⟨13, [⟨14, 11, 12, []⟩, ⟨15, 12, 12, []⟩], []⟩], exts := [], opts := [], locs := [] }],
    pkgs := [0, 10] }

/-- pre-fix (`svcMarksInput`): excluding an RPC request type makes the exclude-only filter fail. -/
theorem filter_total_rpc_counterexample :
    errOf (filterOld imgRpc { includes := [], excludes := [11] }) = some .conflict := by decide +kernel

example : idsOf (filter imgRpc { includes := [], excludes := [11] }) = some [(1, [12, 13, 15])] ∧
    linksOf (filter imgRpc { includes := [], excludes := [11] }) = some true := by decide +kernel

/-- pre-fix (`keepsInputWhenEmpty`): when nothing survives, the unfiltered image (with the excluded X) came back. -/
theorem filter_drops_excludes_old_counterexample :
    idsOf (filterOld imgRpc { includes := [], excludes := [10] }) = some [(1, [11, 12, 13, 14, 15])] ∧
    errOf (filter imgRpc { includes := [], excludes := [10] }) = some .empty := by decide +kernel

/-- file 1: `message X`(11); `message Z`(12) { map<string,X> m (field 21 → entry 13); int32 k (22) }
    with nested map-entry message 13 { key (23), value (24): X }. -/
def imgMap : Image :=
  { files := [
      { id := 1, pkg := 10, isImport := false, deps := [], types := [11, 12, 13],
        msgs := [m0 11, .mk 12 [fld 21 (some 13), fld 22] [] []
                   [.mk 13 [fld 23, fld 24 (some 11)] [] [] [] [] [] false true []] [] [] false false []],
        enums := [], svcs := [], exts := [], opts := [], locs := [] }],
    pkgs := [0, 10] }

/-- Known finding (as coded): excluding a map value type leaves a one-field map entry: no link. -/
theorem filter_links_map_value_counterexample :
    linksOf (filter imgMap { includes := [], excludes := [11] }) = some false := by decide +kernel

/-- file 1: X(11), Y(12), `message A`(13) { oneof first { X x (21) } oneof second { Y y (22); int32 z (23) } } -/
def imgOneof : Image :=
  { files := [
      { id := 1, pkg := 10, isImport := false, deps := [], types := [11, 12, 13],
        msgs := [m0 11, m0 12, .mk 13 [fld 21 (some 11) (some 0), fld 22 (some 12) (some 1), fld 23 none (some 1)]
                   [⟨[]⟩, ⟨[]⟩] [] [] [] [] false false []],
        enums := [], svcs := [], exts := [], opts := [], locs := [] }],
    pkgs := [0, 10] }

/-- pre-fix (`cfgStaleOneof`): the emptied oneof is removed but `oneof_index` 1 is not renumbered
    — field y(22) and z(23) point past the one remaining oneof and the result does not link. -/
theorem filter_links_oneof_index_counterexample :
    linksOf (filterWith cfgStaleOneof imgOneof { includes := [13], excludes := [11] } (defaultFuel imgOneof)) = some false ∧
    oneofIdxOf (filterWith cfgStaleOneof imgOneof { includes := [13], excludes := [11] } (defaultFuel imgOneof)) =
      some [(12, []), (13, [(22, 2), (23, 2)])] ∧
    oneofCountOf (filterWith cfgStaleOneof imgOneof { includes := [13], excludes := [11] } (defaultFuel imgOneof)) =
      some [(12, 0), (13, 1)] := by decide +kernel

-- `cfgFixed`: the members of `second` carry index 0 and the result links
example : linksOf (filter imgOneof { includes := [13], excludes := [11] }) = some true ∧
    oneofIdxOf (filter imgOneof { includes := [13], excludes := [11] }) = some [(12, []), (13, [(22, 1), (23, 1)])] ∧
    oneofCountOf (filter imgOneof { includes := [13], excludes := [11] }) = some [(12, 0), (13, 1)] := by decide +kernel

/-- target a.proto (file 1, pkg 10, imports 2): A(11){ D1 x }; non-target dep.proto (file 2, pkg 20,
    imports 3): D1(21), D2(22){ O o }; non-target other.proto (file 3, pkg 30): O(31). -/
def imgImport : Image :=
  { files := [
      { id := 3, pkg := 30, isImport := true, deps := [], types := [31], msgs := [m0 31], enums := [], svcs := [],
        exts := [], opts := [], locs := [] },
      { id := 2, pkg := 20, isImport := true, deps := [⟨3, false⟩], types := [21, 22],
        msgs := [m0 21, m0 22 [fld 41 (some 31)]], enums := [], svcs := [], exts := [], opts := [], locs := [] },
      { id := 1, pkg := 10, isImport := false, deps := [⟨2, false⟩], types := [11, 12],
        msgs := [m0 11 [fld 42 (some 21)], m0 12], enums := [], svcs := [], exts := [], opts := [], locs := [] }],
    pkgs := [0, 10, 20, 30] }

/-- Known finding (as coded): an exclude-only filter keeps the unvisited D2 of a non-target file but
    drops the file its field needs. -/
theorem filter_links_unvisited_import_counterexample :
    linksOf (filter imgImport { includes := [], excludes := [12] }) = some false ∧
    idsOf (filter imgImport { includes := [], excludes := [12] }) = some [(2, [21, 22]), (1, [11])] := by decide +kernel

-- with an include filter the same image is cut down to what A needs and links
example : linksOf (filter imgImport { includes := [11], excludes := [] }) = some true ∧
    idsOf (filter imgImport { includes := [11], excludes := [] }) = some [(2, [21]), (1, [11])] := by decide +kernel

-- non-vacuity of filter_drops_excludes_closure_partial: the closure succeeds, the excluded name is indexed
example : (match closure cfgFixed imgRpc { includes := [], excludes := [11] } (defaultFuel imgRpc) with
    | .ok st => some (st.get (.el 11)) | .error _ => none) = some (some .excluded) ∧
    ((buildIndex imgRpc).find (.el 11)).isSome = true := by decide +kernel

-- non-vacuity of comments_follow_elements_partial / remapSlice_index: drop two adjacent elements
example : fixPath (sliceMarks [4] [true, false, false, true] 0 0) [4] [3] = some ([1], false) ∧
    fixPath (sliceMarks [4] [true, false, false, true] 0 0) [4] [2] = none := by decide

/-! ### fuel -/

/-- `fuelBound img` (= 1 + the sum over the index of the expansion and enclosing costs, see
    `FilterClosure.eCost/cCost`) always suffices: with at least that much fuel neither the closure
    nor the filter ever answers `fuel`, for every cfg, image and filter.  Proof: the potential
    `wTasks stack + potSum state` strictly decreases with every machine step (`step_cost`). -/
theorem fuel_suffices (cfg : Cfg) (img : Image) (o : Opts) (fuel : Nat) (h : fuelBound img ≤ fuel) :
    closure cfg img o fuel ≠ .error .fuel ∧ filterWith cfg img o fuel ≠ .error .fuel :=
  ⟨closure_ne_fuel cfg img o fuel h, filterWith_ne_fuel cfg img o fuel h⟩

/-- `defaultFuel` suffices for every image whose `fuelBound` it dominates (a computable condition
    on the image alone).  Partial: the condition cannot be dropped — `defaultFuel` does not count
    option lists (enum values, extension ranges, oneofs, `Any` payloads), see
    `defaultFuel_insufficient_counterexample`. -/
theorem defaultFuel_suffices_partial (img : Image) (o : Opts) (h : fuelBound img ≤ defaultFuel img) :
    filter img o ≠ .error .fuel ∧ filterOld img o ≠ .error .fuel :=
  ⟨filterWith_ne_fuel _ img o _ h, filterWith_ne_fuel _ img o _ h⟩

-- non-vacuity: the condition holds on the witness images of this file
example : fuelBound imgRpc ≤ defaultFuel imgRpc ∧ fuelBound imgImport ≤ defaultFuel imgImport ∧
    fuelBound imgMap ≤ defaultFuel imgMap ∧ fuelBound imgOneof ≤ defaultFuel imgOneof := by decide +kernel

/-- one file with one enum of `n` values (no options anywhere) -/
def imgBigEnum (n : Nat) : Image :=
  { files := [
      { id := 1, pkg := 10, isImport := false, deps := [], types := [11], msgs := [],
        enums := [Enum.mk 11 (List.replicate n []) []], svcs := [], exts := [], opts := [], locs := [] }],
    pkgs := [0, 10] }

/-- MODEL defect (not of buf): `defaultFuel` is too small for an enum with 300 values — the model
    answers `fuel` where the implementation succeeds; with `fuelBound` it succeeds. -/
theorem defaultFuel_insufficient_counterexample :
    errOf (filter (imgBigEnum 300) { includes := [11], excludes := [] }) = some .fuel ∧
    errOf (filterWith cfgFixed (imgBigEnum 300) { includes := [11], excludes := [] } (fuelBound (imgBigEnum 300))) = none := by
  decide +kernel

/-! ### the worklist invariant and what follows from it -/

/-- **The worklist invariant, closure level** (`FilterClosure.run_closed` lifted through all
    phases).  For the current code (`svcMarksInput = false`) the final closure state is `Closed`:
    for every indexed key `k ↦ i`
      * if `k` has a non-excluded mode, its parent has a mode (`PostEncl`), and
      * if `k` is visited (implicit/explicit), every sub-task its expansion pushed has its
        post-condition (`Reqs`): field / extension / method types, extendees, option extensions and
        Any payloads are visited-or-excluded with the import `file(k) → file(target)` recorded,
        the file of `k` is in `seen`, custom options explored, oneofs with no live member excluded.
    Nothing is assumed about the image; cycles in the type graph are covered. -/
theorem closure_closed (cfg : Cfg) (hcfg : cfg.svcMarksInput = false) (img : Image) (o : Opts) (fuel : Nat)
    (st : St) (h : closure cfg img o fuel = .ok st) : Closed ⟨cfg, buildIndex img, o.customOpts⟩ st := by
  obtain ⟨_, _, _, hg⟩ := closure_good cfg hcfg img o fuel st h
  exact hg.1

/-- **filter_links, closure level** (partial: the rewrite-level statement `linksB out` is not
    derived).  In the final closure of the current code, for every visited message `M` (mode
    implicit or explicit) and every field `f` of `M` with a message/enum type `t`:
    either `t` is excluded (the rewrite then drops `f`: `rewrite_drops_field_of_type`), or `t` is
    itself visited-or-excluded *and*, unless it ended excluded, the file of `t` is in `seen` and
    is either `M`'s own file or the import edge `file(M) → file(t)` is recorded (which is what
    `remapDeps` lists).  Likewise both types of a visited method, and the extendee and type of a
    visited extension; and every key with a non-excluded mode has a parent with a mode.
    No hypothesis on the image or the filter is needed at this level: the known-finding
    families break `linksB` only in the rewrite (map entry loses its value field) or through
    `hasType` of *unvisited* keys in exclude-only filters. -/
theorem filter_links_closure_partial (cfg : Cfg) (hcfg : cfg.svcMarksInput = false) (img : Image) (o : Opts) (fuel : Nat)
    (st : St) (h : closure cfg img o fuel = .ok st) (k : Key) (i : Info)
    (hi : (buildIndex img).find k = some i) :
    let c : Ctx := ⟨cfg, buildIndex img, o.customOpts⟩
    (1 ≤ rk st k → rk st k ≤ 3 → ∀ p, i.parent = some p → 1 ≤ rk st p) ∧
    (2 ≤ rk st k → rk st k ≤ 3 →
      i.file ∈ st.seen ∧
      (i.kind = .msg → ∀ f ∈ i.fields, ∀ t, f.ty = some t →
        rk st (.el t) = 4 ∨ PostAdd c st (.el t) (some i.file)) ∧
      (i.kind = .method → PostAdd c st (.el i.input) (some i.file) ∧ PostAdd c st (.el i.output) (some i.file)) ∧
      (i.kind = .ext → ∀ f e, i.fld = some f → f.extendee = some e →
        PostAdd c st (.el e) (some i.file) ∧ ∀ t, f.ty = some t → PostAdd c st (.el t) (some i.file))) := by
  intro c
  have hc := closure_closed cfg hcfg img o fuel st h k i hi
  refine ⟨fun h1 h3 => hc.1 h1 h3, fun h2 h3 => ?_⟩
  have hr := hc.2 h2 h3
  exact ⟨hr.seen, fun hk f hf t ht => Or.inr (hr.refers (.field hk hf ht)),
    fun hk => ⟨hr.refers (.input hk rfl), hr.refers (.output hk rfl)⟩,
    fun hk f e hf he => ⟨hr.refers (.extendee hk hf he), fun t ht => hr.refers (.extTy hk hf ht)⟩⟩

-- non-vacuity: A(11){ D1 x } of imgImport is visited, D1(21) is visited, the edge 1 → 2 is recorded
example : (match closure cfgFixed imgImport { includes := [11], excludes := [] } (defaultFuel imgImport) with
    | .ok st => some (st.get (.el 11), st.get (.el 21), st.edges, st.seen) | .error _ => none) =
    some (some .explicit, some .explicit, [(1, 2)], [1, 2]) := by decide +kernel

/-- **every needed import is listed** (output level).  For a successful filter of the current code,
    an output file `of`, a visited message `M` of that file and a field of `M` whose type `t` is not
    excluded (so the rewrite keeps the field): the file that declares `t` is `of` itself or is
    listed in `of.deps`.  No hypothesis on image or filter.  (That the listed file is itself in
    the output is enforced by `rewrite`'s `internal` check; that `t` is declared there is clause (1) of
    `filter_links_partial`, under its hypotheses.) -/
theorem filter_links_imports_partial (img : Image) (o : Opts) (fuel : Nat) (st : St) (out : List OFile)
    (hcl : closure cfgFixed img o fuel = .ok st) (hrw : rewrite cfgFixed st o.includes.isEmpty img = .ok out)
    (of : OFile) (hof : of ∈ out) (k : Key) (i : Info) (hi : (buildIndex img).find k = some i)
    (h2 : 2 ≤ rk st k) (h3 : rk st k ≤ 3) (hfile : i.file = of.id) (hk : i.kind = .msg)
    (f : Field) (hf : f ∈ i.fields) (t : Id) (ht : f.ty = some t) (hne : rk st (.el t) ≠ 4)
    (it : Info) (hit : (buildIndex img).find (.el t) = some it) :
    it.file = of.id ∨ it.file ∈ of.deps := by
  obtain ⟨f0, _, hr⟩ := rewrite_origin cfgFixed rfl st _ img out hrw of hof
  obtain ⟨hid, hdeps⟩ := remapFile_deps _ f0 of hr
  have hl := (filter_links_closure_partial cfgFixed rfl img o fuel st hcl k i hi).2 h2 h3
  rcases hl.2.1 hk f hf t ht with h4 | hp
  · exact absurd h4 hne
  · obtain ⟨_, h4 | he⟩ := hp it hit
    · exact absurd h4 hne
    · rcases he.2 i.file rfl with e | e
      · left; rw [← e, hfile]
      · right
        rw [hdeps]
        rw [hfile, hid] at e
        exact remapDeps_lists st f0 it.file e

/-! ### includes are kept -/

/-- **filter_keeps_includes, closure level**: an include naming any indexed non-extension element
    (message, enum, service, method) ends `explicit` in the closure of the current code — later
    includes, the include-everything default and addExtensions never demote it.  (Extensions are
    not covered by this invariant: an extension key is the one kind of element key a later step may
    still exclude.  Including an extension whose extendee or (unless `silentExtDrop`) whose value type
    is excluded is an error: `include_extension_excluded_type_is_conflict`.) -/
theorem filter_keeps_includes_closure_partial (cfg : Cfg) (hcfg : cfg.svcMarksInput = false) (img : Image) (o : Opts)
    (fuel : Nat) (st : St) (h : closure cfg img o fuel = .ok st) (n : Id) (hn : n ∈ o.includes)
    (i : Info) (hi : (buildIndex img).find (.el n) = some i) (hne : i.fld = none) :
    st.get (.el n) = some .explicit :=
  closure_keeps_includes cfg hcfg img o fuel st h n hn i hi hne

/-- **The structural part of `WFIdx` is a theorem**: for every image whose index has unique keys
    (`UniqIdx`: no two indexed elements share an id — the one genuine input condition; implied by
    `Nodup` of the key list, `buildIndex_wf_of_nodup`) the index `buildIndex` builds is well-formed:
    parent pointers never name a oneof key nor an extension, and descendant lists are closed under
    children. -/
theorem buildIndex_wf (img : Image) (hu : UniqIdx (buildIndex img)) : WFIdx (buildIndex img) :=
  wfIdx_of_uniq img hu

theorem buildIndex_wf_of_nodup (img : Image) (h : ((buildIndex img).map (·.key)).Nodup) :
    WFIdx (buildIndex img) := wfIdx_of_nodup img h

-- non-vacuity of buildIndex_wf / buildIndex_wf_of_nodup: the index of a three-file image with imports has
-- unique keys (both forms of the hypothesis), and the proved `WFIdx` agrees with the executable check
example : ((buildIndex imgImport).map (·.key)).Nodup ∧ uniqIdxB (buildIndex imgImport) = true ∧
    wfIdxB (buildIndex imgImport) = true := by decide +kernel

/-- **filter_keeps_includes** (output level, messages / enums / services): if the filter of the
    current code succeeds on an image with unique ids (`UniqIdx`, decidable: `uniqIdxB`), every
    include that names a message, an enum or a service is present in the output, in the output file
    with the id of its own file.  Any filter: other includes, excludes (an exclude of the element or
    of an ancestor makes the filter fail with `conflict` instead), option flags; any fuel.  Methods
    and packages are not covered here. -/
theorem filter_keeps_includes (img : Image) (o : Opts) (fuel : Nat) (out : List OFile)
    (h : filterWith cfgFixed img o fuel = .ok out) (hu : UniqIdx (buildIndex img))
    (n : Id) (hn : n ∈ o.includes) (i : Info) (hi : (buildIndex img).find (.el n) = some i)
    (hkind : i.kind = .msg ∨ i.kind = .enum ∨ i.kind = .svc) (hfld : i.fld = none) :
    ∃ of ∈ out, of.id = i.file ∧ n ∈ (presentFile of).map (·.id) :=
  filterWith_keeps_include img o fuel out h hu n hn i hi hfld
    (by rcases hkind with h | h | h <;> rw [h] <;> simp) (by rcases hkind with h | h | h <;> rw [h] <;> simp)

-- non-vacuity: the hypotheses hold for imgImport with include A(11) and the filter succeeds
example : uniqIdxB (buildIndex imgImport) = true ∧
    (((buildIndex imgImport).find (.el 11)).map (fun i => (i.kind, i.fld))) = some (.msg, none) ∧
    idsOf (filter imgImport { includes := [11], excludes := [12] }) = some [(2, [21]), (1, [11])] := by decide +kernel

-- non-vacuity of filter_links_imports_partial: file 1 (A{ D1 x }) lists file 2 (D1)
example : (match filter imgImport { includes := [11], excludes := [] } with
    | .ok o => some (o.map fun f => (f.id, f.deps)) | .error _ => none) = some [(2, []), (1, [2])] := by decide +kernel

/-! ### source paths of nested message lists -/

/-- **comments_follow_elements for message lists at any nesting depth** (top-level messages of a
    file, `path = [4]`, or nested messages of a message at `p`, `path = p ++ [3]`), with all the
    marks of the nested declarations present in the trie: the location `path ++ [i]` of message `i`
    is deleted exactly when the message is dropped (`msgFlags` = `has` of its id) and otherwise
    becomes `path ++ [newIdx i]` (the number of kept messages before it); its comments are blanked
    exactly when the trie has a `noComment` mark there (namespace-only message that was cleared).
    Any two adjacent dropped messages, dropped prefixes/suffixes, arbitrary nesting below.
    Partial: one message list's own marks, `fixPath` started at the list node; the file-level
    statement is `comments_follow_file_partial`. -/
theorem comments_follow_messages_partial (c : RCtx) (path : List Nat) (ms : List Msg) (i : Nat)
    (hi : i < (msgFlags c ms).length) :
    fixPath (remapMsgs c path ms 0 0).2 path [i] =
      if (msgFlags c ms)[i] = false then none
      else some ([newIdx (msgFlags c ms) i 0], noCommentAt (remapMsgs c path ms 0 0).2 (path ++ [i])) := by
  have := fixPath_remapSlice path (remapMsg c) (below_remapMsg c) ms i (by rw [flagsFrom_msgs]; exact hi)
  simpa only [remapMsgs_eq, flagsFrom_msgs] using this

/-- the marks a message at `p` leaves are a `noComment` at `p` or lie strictly below `p`; so they
    never disturb the source paths of its siblings or ancestors. -/
theorem marks_stay_below (c : RCtx) (p : List Nat) (m : Msg) : Below p (remapMsg c p m).2 :=
  below_remapMsg c p m

-- non-vacuity: nested messages [13 dropped, 14 kept (with a dropped nested 15 of its own)] below [4,0,3]
example :
    let c : RCtx := ⟨{ modes := [(.el 14, .explicit)] }, false, true, true⟩
    let ms := [m0 13, Msg.mk 14 [] [] [] [m0 15] [] [] false false []]
    fixPath (remapMsgs c [4, 0, 3] ms 0 0).2 [4, 0, 3] [1] = some ([0], false) ∧
    fixPath (remapMsgs c [4, 0, 3] ms 0 0).2 [4, 0, 3] [0] = none ∧ msgFlags c ms = [false, true] := by decide +kernel

/-! ### excludes, at the level of the function the driver runs -/

/-- **filter_drops_excludes** (output of `filterWith cfgFixed`, the function the driver runs).
    Let `x` be a name an exclude removes (`ExclKey`: the excluded element itself or one of its indexed
    descendants — nested messages, enums, extensions, methods —; for an excluded package, every
    element of its files).  If the filter succeeds, then in every output file
      * `x` is not declared (`outIds`: messages, enums, services, methods, extensions at any depth),
      * `x` is not the type of a kept field or extension (at any depth) nor the request / response
        type of a kept method (`typeRefs`),
      * `x` is not the extendee of a kept extension (`extendeeRefs`) — provided the filter has an
        include or the image has no import file and `FileTypes` lists every declared element
        (`NoImportCover`).  This is exactly the hypothesis that excludes the known finding
        `exclude-only-import-file-not-closed` (an exclude-only filter keeps UNVISITED extensions of
        import files, whose extendee may be excluded).  The map-value family
        (`filter_links_map_value_counterexample`) breaks linking, not this clause: a map entry that loses its value field refers to nothing excluded.
    Input conditions (decidable, `uniqIdxB` / `wfRefsB`): ids are unique; every extension names an
    extendee that is not itself an extension; ordinary fields carry no extendee.  Any fuel, any
    option flags. -/
theorem filter_drops_excludes (img : Image) (o : Opts) (fuel : Nat) (out : List OFile)
    (h : filterWith cfgFixed img o fuel = .ok out) (hu : UniqIdx (buildIndex img)) (hr : WFRefs (buildIndex img))
    (x : Id) (hx : ExclKey img o (.el x)) (of : OFile) (hof : of ∈ out) :
    x ∉ outIds of ∧ x ∉ typeRefs of ∧ ((o.includes ≠ [] ∨ NoImportCover img) → x ∉ extendeeRefs of) :=
  filterWith_drops_excludes img o fuel out h hu hr x hx of hof

/-- file 1 (target): `message X`(11) { extensions; message XN (12) }; `message Y`(13) { X x (31); XN n (32);
    int32 k (33) }; `extend X { Y e1 (14) }`; `service S`(15) { rpc A(X) returns (Y) (16); rpc B(Y) returns (Y) (17) };
    `message Z`(18). -/
def imgExt : Image :=
  { files := [
      { id := 1, pkg := 10, isImport := false, deps := [], types := [11, 12, 13, 14, 15, 16, 17, 18],
        msgs := [.mk 11 [] [] [] [m0 12] [] [[]] false false [],
                 m0 13 [fld 31 (some 11), fld 32 (some 12), fld 33], m0 18],
        enums := [], svcs := [⟨15, [⟨16, 11, 13, []⟩, ⟨17, 13, 13, []⟩], []⟩],
        exts := [⟨14, some 13, none, some 11, []⟩], opts := [], locs := [] }],
    pkgs := [0, 10] }

-- non-vacuity of filter_drops_excludes, ALL hypotheses, exclude-only filter: excluding X removes X and
-- its nested XN, the two fields typed by them, the extension of X and the method taking X
example : idsOf (filter imgExt { includes := [], excludes := [11] }) = some [(1, [13, 18, 15, 17])] ∧
    idsOf (filter imgExt { includes := [], excludes := [] }) = some [(1, [11, 12, 13, 18, 15, 16, 17, 14])] := by
  decide +kernel

example : ∀ out, filterWith cfgFixed imgExt { includes := [], excludes := [11] } (defaultFuel imgExt) = .ok out →
    ∀ of ∈ out, 12 ∉ outIds of ∧ 12 ∉ typeRefs of ∧ 11 ∉ extendeeRefs of := by
  intro out h of hof
  have hu := uniqIdx_of_B (buildIndex imgExt) (by decide)
  have hr := wfRefs_of_B (buildIndex imgExt) (by decide)
  have a := filter_drops_excludes imgExt _ _ out h hu hr 12 (exclKey_of_B _ _ _ (by decide)) of hof
  have b := filter_drops_excludes imgExt _ _ out h hu hr 11 (exclKey_of_B _ _ _ (by decide)) of hof
  exact ⟨a.1, a.2.1, b.2.2 (Or.inr (noImportCover_of_B imgExt (by decide)))⟩

-- … and with an include filter (first disjunct of the mode hypothesis)
example : idsOf (filter imgExt { includes := [15, 14], excludes := [12] }) = some [(1, [11, 13, 15, 16, 17, 14])] ∧
    uniqIdxB (buildIndex imgExt) = true ∧ wfRefsB (buildIndex imgExt) = true ∧
    exclKeyB imgExt { includes := [15, 14], excludes := [12] } (.el 12) = true := by decide +kernel

/-! ### links, at the level of the function the driver runs -/

/-- **filter_links, output level** (partial: the reference and the oneof clauses of `linksB`).  If the
    filter of the current code succeeds, then for every output file `of`
    (1) every reference `t` it contains — the type of a kept field or extension at any depth, the
        request / response type of a kept method (`typeRefs`), the extendee of a kept extension
        (`extendeeRefs`) — is DECLARED by an output file `of'` (`outIds`), and `of'` is `of` itself or is
        listed in `of.deps`;
    (2) in every message of `of`, at any nesting depth (`msgsAll`), every `oneof_index` is in range
        of the message's oneof declarations (`OneofOK`) and every oneof declaration has a member
        field (`OneofFull`) — the two oneof clauses of `msgOK`.  False for the pre-fix rewrite
        `cfgStaleOneof` (`filter_links_oneof_index_counterexample`).
    Hypotheses: unique ids (`UniqIdx`); extensions name non-extension extendees, ordinary fields
    have none (`WFRefs`); every reference of the INPUT image resolves to an indexed message / enum
    (`RefsResolve`) and every `oneof_index` of the INPUT is in range (`OneofsWF`) — the input image
    is well-formed; and the mode hypothesis that excludes the known finding
    `exclude-only-import-file-not-closed`: the filter has an include, or the image has no import
    file and `FileTypes` lists every declared element (`NoImportCover`).  All five are decidable (`uniqIdxB`, `wfRefsB`, `refsResolveB`,
    `oneofsWFB`, `noImportCoverB`).
    Not covered (the other clauses of `linksB`, false as coded on the recorded map-value family): a map
    entry keeps two fields, an extendee keeps its extension ranges; and that every listed dependency
    is itself in the output (enforced by `rewrite`'s `internal` check, not restated here). -/
theorem filter_links_partial (img : Image) (o : Opts) (fuel : Nat) (out : List OFile)
    (h : filterWith cfgFixed img o fuel = .ok out) (hu : UniqIdx (buildIndex img)) (hr : WFRefs (buildIndex img))
    (hres : RefsResolve (buildIndex img)) (hw : OneofsWF (buildIndex img))
    (hmode : o.includes ≠ [] ∨ NoImportCover img) (of : OFile) (hof : of ∈ out) :
    (∀ t, (t ∈ typeRefs of ∨ t ∈ extendeeRefs of) →
      ∃ of' ∈ out, t ∈ outIds of' ∧ (of'.id = of.id ∨ of'.id ∈ of.deps)) ∧
    (∀ y ∈ msgsAll of.msgs, OneofOK y ∧ OneofFull y) :=
  ⟨fun t ht => filterWith_refs_resolve img o fuel out h hu hr hres hmode of hof t ht,
   fun y hy => ⟨filterWith_oneofs_ok img o fuel out h hu hw of hof y hy,
     filterWith_oneofs_full img o fuel out h hu hr hres hmode of hof y hy⟩⟩

/-- **the oneof-index clause of filter_links, for every filter**.  If the filter of the current code
    succeeds on an image with unique ids whose own oneof indexes are in range, then in every message
    of every output file, at any nesting depth, every `oneof_index` is in range of the oneof
    declarations the message kept.  No mode hypothesis: exclude-only filters over images with import
    files (the family of `exclude-only-import-file-not-closed`) are covered too — an unvisited message keeps all its oneofs.  This is the
    statement the defect `oneof-index-not-renumbered` made false (`protodesc`: "invalid oneof
    index"); it rests on the rewrite renumbering the kept fields (`rewrite_renumbers_oneofs`) and
    on the run invariant `closure_oneof_dropped_only_if_empty`. -/
theorem filter_links_oneof_index (img : Image) (o : Opts) (fuel : Nat) (out : List OFile)
    (h : filterWith cfgFixed img o fuel = .ok out) (hu : UniqIdx (buildIndex img)) (hw : OneofsWF (buildIndex img))
    (of : OFile) (hof : of ∈ out) (y : Msg) (hy : y ∈ msgsAll of.msgs) (g : Field) (hg : g ∈ y.fields)
    (j : Nat) (hj : g.oneof = some j) : j < y.oneofs.length :=
  filterWith_oneofs_ok img o fuel out h hu hw of hof y hy g hg j hj

/-- **The oneof run invariant, closure level** (`FilterOutput.OInv`, checked against the state writes
    of the task machine, `FilterClosure.Write`: the only write to a oneof key, `dropOneof`, carries
    what the oneof loop had checked, and `Pushable` says that a `oneofs` task is pushed only for an
    indexed message).  In the final closure of the current code a oneof key is excluded only if
    EVERY member field of that oneof has an excluded type — so the rewrite, which drops exactly the
    fields whose type is excluded, never keeps a member of a oneof it drops.  Nothing is assumed
    about the image or the filter. -/
theorem closure_oneof_dropped_only_if_empty (cfg : Cfg) (hcfg : cfg.svcMarksInput = false) (img : Image) (o : Opts)
    (fuel : Nat) (st : St) (h : closure cfg img o fuel = .ok st) (m : Id) (n : Nat) (i : Info)
    (hx : st.get (.oneof m n) = some .excluded) (hi : (buildIndex img).find (.el m) = some i)
    (f : Field) (hf : f ∈ i.fields) (ho : f.oneof = some n) :
    ∃ t, f.ty = some t ∧ st.get (.el t) = some .excluded := by
  obtain ⟨t, ht, h4⟩ := closure_oinv cfg img o fuel st h m n i (rk_excl.mpr hx) hi f hf ho
  exact ⟨t, ht, rk_excl.mp h4⟩

/-- Model sanity + list arithmetic (rewrite level, any `RCtx` that renumbers): in a kept message
    that is not enclosing-only, a kept field `g0` that is a member of input oneof `i` (in range, not
    dropped) comes out with `oneof_index = j` where `j` = number of kept oneofs before `i`; `j` is in
    range of the output's oneof list and the output's oneof `j` IS the input's oneof `i`: the field
    still names its oneof. -/
theorem rewrite_renumbers_oneofs (c : RCtx) (id : Id) (path : List Nat) (oneofs : List Oneof) (g0 : Field) (i : Nat)
    (hi : g0.oneof = some i) (hlt : i < oneofs.length) (hk : c.st.get (.oneof id i) ≠ some .excluded) :
    ∃ j, (renumberOneof (newOneofIndexes c.st id oneofs.length 0 0) g0).oneof = some j ∧
      j < (remapSlice (path ++ [8]) (remapOneof c id) oneofs 0 0).1.length ∧
      (remapSlice (path ++ [8]) (remapOneof c id) oneofs 0 0).1[j]? = oneofs[i]? := by
  obtain ⟨j, h1, h2, h3, _⟩ := renumbered_names_oneof c id path oneofs g0 i hi hlt hk
  exact ⟨j, h1, h2, h3⟩

-- non-vacuity of the oneof clauses, ALL hypotheses of filter_links_partial (include filter): imgOneof,
-- include A(13), exclude X(11) — oneof `first` is dropped, y and z follow `second` to index 0
example : uniqIdxB (buildIndex imgOneof) = true ∧ wfRefsB (buildIndex imgOneof) = true ∧
    refsResolveB (buildIndex imgOneof) = true ∧ oneofsWFB (buildIndex imgOneof) = true ∧
    oneofIdxOf (filter imgOneof { includes := [13], excludes := [11] }) = some [(12, []), (13, [(22, 1), (23, 1)])] := by
  decide +kernel

example : ∀ out, filterWith cfgFixed imgOneof { includes := [13], excludes := [11] } (defaultFuel imgOneof) = .ok out →
    ∀ of ∈ out, ∀ y ∈ msgsAll of.msgs, OneofOK y ∧ OneofFull y := by
  intro out h of hof
  exact (filter_links_partial imgOneof _ _ out h (uniqIdx_of_B _ (by decide)) (wfRefs_of_B _ (by decide))
    (refsResolve_of_B _ (by decide)) (oneofsWF_of_B _ (by decide)) (Or.inl (by simp)) of hof).2

-- non-vacuity, include filter over an image WITH import files: A{ D1 x } pulls D1 from file 2
example : uniqIdxB (buildIndex imgImport) = true ∧ wfRefsB (buildIndex imgImport) = true ∧
    refsResolveB (buildIndex imgImport) = true ∧
    (match filter imgImport { includes := [11], excludes := [] } with
      | .ok o => some (o.map fun f => (f.id, f.deps, outIds f, typeRefs f)) | .error _ => none) =
      some [(2, [], [21], []), (1, [2], [11], [21])] := by decide +kernel

-- non-vacuity, exclude-only filter over an image without import files (second disjunct), with an
-- extension, a service and nested messages: every reference of the output resolves in the output
example : uniqIdxB (buildIndex imgExt) = true ∧ wfRefsB (buildIndex imgExt) = true ∧
    refsResolveB (buildIndex imgExt) = true ∧ noImportCoverB imgExt = true ∧
    (match filter imgExt { includes := [], excludes := [18] } with
      | .ok o => some (o.map fun f => (outIds f, typeRefs f, extendeeRefs f)) | .error _ => none) =
      some [([11, 12, 13, 15, 16, 17, 14], [11, 12, 13, 11, 13, 13, 13], [11])] := by decide +kernel

/-! ### an extension dropped for its value type contributes nothing (`extendeeFirst = false`) -/

/-- Current code (`extendeeFirst = false`): `addElement` of a not yet visited extension whose value
    type is already excluded — and whose extendee is not — marks the extension excluded and pushes NO
    task: the extendee is not added, no import is recorded (`seen`, `edges` unchanged), no other key
    changes.  (With `extendeeFirst` the step pushes `add extendee (ref := the extension's file)` first,
    which records the import of the extendee's file although the extension is dropped:
    `filter_minimal_dropped_extension_counterexample`.) -/
theorem dropped_extension_adds_nothing (c : Ctx) (hcfg : c.cfg.extendeeFirst = false) (st : St) (k : Key)
    (ref : Option Id) (implied : Bool) (i : Info) (f : Field) (e t : Id)
    (hi : c.idx.find k = some i) (hkind : i.kind = .ext) (hf : i.fld = some f) (he : f.extendee = some e)
    (ht : f.ty = some t) (hx : st.isExcl (.el t) = true) (hnew : st.get k = none) :
    ∃ st1, step c st (.add k ref implied) = .ok (st1, []) ∧ st1.get k = some .excluded ∧
      st1.seen = st.seen ∧ st1.edges = st.edges ∧ ∀ k', k' ≠ k → st1.get k' = st.get k' := by
  have hkt : k ≠ .el t := by
    intro e'
    rw [e'] at hnew
    unfold St.isExcl at hx
    rw [hnew] at hx
    simp at hx
  have hstep : step c st (.add k ref implied) = expand c (st.set k (newMode implied)) k ref implied i := by
    simp only [step, hi, hnew]
  have hother : ∀ k', k' ≠ k → ((st.set k (newMode implied)).set k .excluded).get k' = st.get k' := by
    intro k' hk'
    rw [get_set, get_set]
    simp [hk']
  refine ⟨(st.set k (newMode implied)).set k .excluded, ?_, by rw [get_set]; simp, rfl, rfl, hother⟩
  rw [hstep]
  unfold expand
  by_cases hee : (st.set k (newMode implied)).isExcl (.el e) = true
  · simp only [hkind, hf, he, hee, if_true]
  · have h2 : typeExcluded (st.set k (newMode implied)) f = true := by
      unfold typeExcluded St.isExcl
      rw [ht]
      simp only [get_set, if_neg (Ne.symm hkt)]
      exact hx
    simp only [hkind, hf, he, hee, hcfg, h2, if_false, Bool.not_false, Bool.and_self, if_true, Bool.false_eq_true]

/-- x/f4.proto (file 1, imports file 2): `message NE`(11); `message K`(12) { int32 k (31) };
    `extend M7 { NE x89 (13) }`.  y/f1.proto (file 2): `message M7`(21) { extensions … }. -/
def imgDropExt : Image :=
  { files := [
      { id := 2, pkg := 10, isImport := false, deps := [], types := [21],
        msgs := [.mk 21 [] [] [] [] [] [[]] false false []], enums := [], svcs := [], exts := [], opts := [], locs := [] },
      { id := 1, pkg := 10, isImport := false, deps := [⟨2, false⟩], types := [11, 12, 13],
        msgs := [m0 11, m0 12 [fld 31]], enums := [], svcs := [],
        exts := [⟨13, some 11, none, some 21, []⟩], opts := [], locs := [] }],
    pkgs := [0, 10] }

def depsOf : Except Err (List OFile) → Option (List (Id × List Id))
  | .ok o => some (o.map fun f => (f.id, f.deps)) | .error _ => none

/-- pre-fix (`cfgExtendeeFirst`): excluding the value type NE drops the extension x89, but file 1 keeps
    the import of file 2 (the extendee's file) although nothing it still declares refers to file 2 —
    for an include filter and for an exclude-only filter.  The current code drops that import. -/
theorem filter_minimal_dropped_extension_counterexample :
    depsOf (filterWith cfgExtendeeFirst imgDropExt { includes := [12, 21], excludes := [11] } (defaultFuel imgDropExt)) =
      some [(2, []), (1, [2])] ∧
    depsOf (filterWith cfgExtendeeFirst imgDropExt { includes := [], excludes := [11] } (defaultFuel imgDropExt)) =
      some [(2, []), (1, [2])] ∧
    depsOf (filter imgDropExt { includes := [12, 21], excludes := [11] }) = some [(2, []), (1, [])] ∧
    depsOf (filter imgDropExt { includes := [], excludes := [11] }) = some [(2, []), (1, [])] ∧
    idsOf (filter imgDropExt { includes := [12, 21], excludes := [11] }) = some [(2, [21]), (1, [12])] ∧
    idsOf (filterWith cfgExtendeeFirst imgDropExt { includes := [12, 21], excludes := [11] } (defaultFuel imgDropExt)) =
      some [(2, [21]), (1, [12])] := by decide +kernel

-- non-vacuity of dropped_extension_adds_nothing: x89(13) of imgDropExt after NE(11) was excluded
example : ((buildIndex imgDropExt).find (.el 13)).map (fun i => (i.kind, i.fld.map (fun f => (f.extendee, f.ty)))) =
    some (.ext, some (some 21, some 11)) := by decide

/-! ### including an extension whose value type is excluded (`silentExtDrop = false`) -/

/-- Current code (`silentExtDrop = false`): `includeType` of an extension whose value type is
    excluded fails — with `conflict` when the earlier checks pass (not an import, not itself
    excluded, extendee not excluded), with the error of the first check that does not otherwise —
    instead of succeeding without the included extension. -/
theorem include_extension_excluded_type_is_conflict (c : Ctx) (hcfg : c.cfg.silentExtDrop = false) (img : Image)
    (o : Opts) (fuel : Nat) (st : St) (n : Id) (i : Info) (f : Field) (e t : Id)
    (hi : c.idx.find (.el n) = some i) (hf : i.fld = some f) (he : f.extendee = some e) (ht : f.ty = some t)
    (hx : st.isExcl (.el t) = true) :
    ∃ err, includeType c img o fuel st n = .error err := by
  unfold includeType
  rw [hi]
  simp only []
  split
  · exact ⟨_, rfl⟩
  · split
    · exact ⟨_, rfl⟩
    · split
      · exact ⟨_, rfl⟩
      · have h2 : extTypeExcluded st i = true := by
          unfold extTypeExcluded typeExcluded
          rw [hf]
          simp only [he, ht, hx, Option.isSome_some, Bool.and_self]
        simp only [hcfg, h2, Bool.not_false, Bool.and_self, if_true]
        exact ⟨_, rfl⟩

/-- pre-fix (`cfgSilentExtDrop`): `include: [K, x89]`, `exclude: [NE]` (the value type of x89) on imgDropExt
    succeeds and the result does not contain the included extension 13; the current code answers
    `conflict` (also for the include of x89 alone).  When the value type is kept the extension is kept. -/
theorem filter_keeps_includes_extension_counterexample :
    idsOf (filterWith cfgSilentExtDrop imgDropExt { includes := [12, 13], excludes := [11] } (defaultFuel imgDropExt)) =
      some [(1, [12])] ∧
    errOf (filter imgDropExt { includes := [12, 13], excludes := [11] }) = some .conflict ∧
    errOf (filter imgDropExt { includes := [13], excludes := [11] }) = some .conflict ∧
    idsOf (filter imgDropExt { includes := [13], excludes := [12] }) = some [(2, [21]), (1, [11, 13])] := by decide +kernel

/-! ### source locations at file level -/

/-- **comments follow their elements, FILE level** (partial: messages).  `remapFile` remaps every
    location of the file with `newPath` over the MERGED marks of all sections and nesting levels
    (`fileMarks`).  For every message `m` reached from the top-level list through kept messages
    (`MsgAt`: old path `4 :: p`, e.g. `[4, i, 3, j, 3, k]`; `p'` = the same path with every index
    replaced by the number of kept siblings before it):
      * the location of `m` is mapped to `4 :: p'` (comments blanked iff the trie holds a `noComment`
        there), and every input location with that path appears in the output with the new path;
      * every location below `m` is mapped by continuing the walk below `m` and prefixing `4 :: p'`
        (`cont`) — so marks of siblings, of other sections of the file and of other nesting levels
        never interfere;
      * every location at or below a dropped nested message of `m`, and at or below a dropped
        top-level message, is deleted.
    Gap (hence `_partial`): the leaf children of a message (fields, enums, oneofs, extensions: slice
    level only, `comments_follow_elements_partial`), top-level enums / extensions, services and
    methods, dependency paths; the converse "only those are deleted" is not stated. -/
theorem comments_follow_file_partial (c : RCtx) (f : File) (of : OFile) (hof : remapFile c f = some of) :
    of.locs = remapLocs (fileMarks c f) f.locs ∧
    (∀ p p' m, MsgAt c f.msgs p p' m →
      newPath (fileMarks c f) (4 :: p) = some (4 :: p', noCommentAt (fileMarks c f) (4 :: p)) ∧
      (∀ l ∈ f.locs, l.path = 4 :: p →
        (⟨4 :: p', if noCommentAt (fileMarks c f) (4 :: p) then 0 else l.tag⟩ : Loc) ∈ of.locs) ∧
      (∀ rest, newPath (fileMarks c f) (4 :: p ++ rest) = cont (fileMarks c f) (4 :: p) rest (4 :: p')) ∧
      (∀ i (hi : i < m.nested.length), c.has (.el m.nested[i].id) = false →
        ∀ rest, newPath (fileMarks c f) (4 :: p ++ 3 :: i :: rest) = none)) ∧
    (∀ i (hi : i < f.msgs.length), c.has (.el f.msgs[i].id) = false →
      ∀ rest, newPath (fileMarks c f) (4 :: i :: rest) = none) := by
  have hl := remapFile_locs c f of hof
  refine ⟨hl, ?_, fun i hi hk rest => newPath_dropped_top c f i hi hk rest⟩
  intro p p' m hm
  have h0 : newPath (fileMarks c f) (4 :: p) = some (4 :: p', noCommentAt (fileMarks c f) (4 :: p)) := by
    have := newPath_msgAt c f p p' m hm []
    simpa [cont] using this
  refine ⟨h0, ?_, fun rest => newPath_msgAt c f p p' m hm rest,
    fun i hi hk rest => newPath_dropped_nested c f p p' m hm i hi hk rest⟩
  intro l hlm hp
  rw [hl]
  unfold remapLocs
  rw [List.mem_filterMap]
  exact ⟨l, hlm, by rw [hp, h0]⟩

/-- top level [G(10), A(11)]; A nests [B(12), C(13)]; C nests [D(14), E(15)]; G, B, D are dropped. -/
def msgC : Msg := .mk 13 [] [] [] [m0 14, m0 15] [] [] false false []
def msgA : Msg := .mk 11 [] [] [] [m0 12, msgC] [] [] false false []
def fileNest : File :=
  { id := 1, pkg := 10, isImport := false, deps := [], types := [10, 11, 12, 13, 14, 15],
    msgs := [m0 10, msgA],
    enums := [], svcs := [], exts := [], opts := [],
    locs := [⟨[4, 1, 3, 1, 3, 1], 7⟩, ⟨[4, 1, 3, 1, 3, 0, 1], 8⟩, ⟨[4, 1, 3, 1, 3, 1, 1], 9⟩] }

def cNest : RCtx := ⟨{ modes := [(.file 1, .explicit), (.el 11, .enclosing), (.el 13, .enclosing), (.el 15, .explicit)] }, false, true, true⟩

-- non-vacuity of comments_follow_file_partial: E(15) sits at [4,1,3,1,3,1]; all three index levels shift
example : MsgAt cNest fileNest.msgs [1, 3, 1, 3, 1] [0, 3, 0, 3, 0] (m0 15) :=
  MsgAt.nest [1, 3, 1] [0, 3, 0] msgC
    (MsgAt.nest [1] [0] msgA (MsgAt.top (c := cNest) (ms := fileNest.msgs) 1 (by decide) (by decide)) 1 (by decide) (by decide))
    1 (by decide) (by decide)

example : (remapFile cNest fileNest).map (·.locs) = some [⟨[4, 0, 3, 0, 3, 0], 7⟩, ⟨[4, 0, 3, 0, 3, 0, 1], 9⟩] := by decide +kernel

/-- The fuel the correspondence driver actually runs with, `max (defaultFuel img) (fuelBound img)`,
    is never exhausted (`defaultFuel` alone can be: `defaultFuel_insufficient_counterexample`). -/
theorem driver_fuel_suffices (cfg : Cfg) (img : Image) (o : Opts) :
    filterWith cfg img o (max (defaultFuel img) (fuelBound img)) ≠ .error .fuel :=
  (fuel_suffices cfg img o _ (Nat.le_max_right _ _)).2

end BufProofs.C12
