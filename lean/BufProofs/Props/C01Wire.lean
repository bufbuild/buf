import BufModel.ImageWire
/-
  C01 — the SERIALISED image is the compilation, field by field.

  `BufModel.ImageWire` gives every field number of `google.protobuf.FileDescriptorProto` its own
  slot (C11's model keeps the descriptor as one opaque payload), so that "the proto image carries
  every descriptor field under its own number, and reading it back returns it" is a statement;
  forgetting the slots gives C11's `toProto`, so C11's round-trip theorems speak about the same
  conversion.  The builder without its `WeakDependency:` line is the counter-model.

  What is NOT proved here: that the Go builder literal lists the fields as `toWire` does — that is
  the correspondence leg (harness/cmd/c01/wire.go sends, per file of every built image, the slots
  of an INDEPENDENT protocompile run plus the generator's own bookkeeping through `toWire` /
  `fromWire` and compares with the slots of the real `ImageToProtoImage` / `NewImageForProto`
  result, read by FIELD NUMBER through protoreflect) and the oracle classes `wire-*`.
-/
namespace BufProofs.C01
open BufModel.Path BufModel.ImagePaths BufModel.ImageWire

/-- `ImageToProtoImage`, per file and per field number: every slot of the descriptor arrives under
    its own number, untouched; the unknown bytes lose only a stray field 8042; the buf extension
    is present and carries the import flag, the syntax-unspecified flag, the unused-dependency
    indexes and the module name / commit. -/
theorem wire_maps_every_field (f : IFileW) :
    (toWire f).d.name = f.d.name ∧
    (toWire f).d.package = f.d.package ∧
    (toWire f).d.dependency = f.d.dependency ∧
    (toWire f).d.messageType = f.d.messageType ∧
    (toWire f).d.enumType = f.d.enumType ∧
    (toWire f).d.service = f.d.service ∧
    (toWire f).d.extension = f.d.extension ∧
    (toWire f).d.options = f.d.options ∧
    (toWire f).d.sourceCodeInfo = f.d.sourceCodeInfo ∧
    (toWire f).d.publicDependency = f.d.publicDependency ∧
    (toWire f).d.weakDependency = f.d.weakDependency ∧
    (toWire f).d.syntaxStr = f.d.syntaxStr ∧
    (toWire f).d.edition = f.d.edition ∧
    (toWire f).d.unknown = stripBufExtensionField f.d.unknown ∧
    ∃ e, (toWire f).ext = some e ∧ e.isImport = some f.isImport ∧
      e.syntaxUnspecified = some f.syntaxUnspecified ∧ e.unused = f.unusedDeps ∧
      e.moduleInfo = (f.modName.map fun n => { name := some n, commit := f.commit }) := by
  refine ⟨rfl, rfl, rfl, rfl, rfl, rfl, rfl, rfl, rfl, rfl, rfl, rfl, rfl, rfl, _, rfl, rfl, rfl, rfl, ?_⟩
  cases f.modName <;> rfl

/-- What `NewImageFile` / `BuildImage` guarantee about an image file (as `C11.WFIFile`). -/
def WFW (f : IFileW) : Prop :=
  (∀ i ∈ f.unusedDeps, i < f.d.dependency.length) ∧
  (∀ n, f.modName = some n →
    n.registry ≠ [] ∧ n.owner ≠ [] ∧ n.name ≠ [] ∧ '/' ∉ n.owner ∧ '/' ∉ n.name) ∧
  (f.modName = none → f.commit = none) ∧
  (∀ c, f.commit = some c → validDashless c = true ∧ c ≠ nilDashless ∧ c ≠ [] ∧ c.map Char.toLower = c)

/-- A descriptor as a compiler (or a protobuf decoder of compiler output) produces it: no optional
    string that is set but empty, no edition that is set but `EDITION_UNKNOWN`. -/
def Canon (d : FDesc) : Prop :=
  d.name ≠ some [] ∧ d.package ≠ some [] ∧ d.syntaxStr ≠ some [] ∧ d.edition ≠ some 0

theorem nonEmpty_of_ne {s : Option Str} (h : s ≠ some []) : nonEmpty s = s := by
  cases s with
  | none => rfl
  | some l => cases l with
    | nil => exact absurd rfl h
    | cons _ _ => rfl

theorem nonZero_of_ne {e : Option Nat} (h : e ≠ some 0) : nonZero e = e := by
  cases e with
  | none => rfl
  | some n => cases n with
    | zero => exact absurd rfl h
    | succ _ => rfl

theorem descOfWire_canon (d : FDesc) (h : Canon d) : descOfWire d = d := by
  obtain ⟨h1, h2, h3, h4⟩ := h
  obtain ⟨n, p, dep, m, e, s, x, o, sc, pd, wd, sy, ed, u⟩ := d
  simp only at h1 h2 h3 h4
  simp only [descOfWire, nonEmpty_of_ne h1, nonEmpty_of_ne h2, nonEmpty_of_ne h3, nonZero_of_ne h4]

/-- 1:1 — the wire form determines the image file: if two (well-formed) image files whose unknown
    bytes agree serialise to the same proto image file, they are equal.  Nothing of the descriptor
    or of buf's bookkeeping is merged, defaulted or dropped on the way out. -/
theorem wire_one_to_one (f g : IFileW) (hf : WFW f) (hg : WFW g)
    (hu : f.d.unknown = g.d.unknown) (h : toWire f = toWire g) : f = g := by
  obtain ⟨⟨fn, fp, fdep, fm, fe, fs, fx, fo, fsc, fpd, fwd, fsy, fed, fu⟩, fi, fsu, fun_, fmn, fc⟩ := f
  obtain ⟨⟨gn, gp, gdep, gm, ge, gs, gx, go, gsc, gpd, gwd, gsy, ged, gu⟩, gi, gsu, gun, gmn, gc⟩ := g
  simp only at hu
  subst hu
  obtain ⟨_, _, hf0, _⟩ := hf
  obtain ⟨_, _, hg0, _⟩ := hg
  simp only at hf0 hg0
  simp only [toWire, PFileW.mk.injEq, FDesc.mk.injEq, Option.some.injEq, PExt.mk.injEq] at h
  obtain ⟨⟨h1, h2, h3, h4, h5, h6, h7, h8, h9, h10, h11, h12, h13, _⟩, hi, hsu, hun, hmi⟩ := h
  subst h1 h2 h3 h4 h5 h6 h7 h8 h9 h10 h11 h12 h13 hi hsu hun
  cases fmn with
  | none =>
    cases gmn with
    | none => rw [hf0 rfl, hg0 rfl]
    | some _ => cases hmi
  | some n =>
    cases gmn with
    | none => cases hmi
    | some m =>
      simp only [Option.some.injEq, PModuleInfo.mk.injEq] at hmi
      obtain ⟨hn, hc⟩ := hmi
      subst hn hc
      rfl

/-- `NewImageForProto (ImageToProtoImage i)`, per file: every descriptor slot, the import flag,
    the syntax-unspecified flag, the unused-dependency indexes, module name and commit come back;
    only a stray unknown field 8042 is gone and set-but-empty `name` / `package` / `syntax` /
    `edition = 0` come back unset (`FileDescriptorProtoForFileDescriptor`, as coded). -/
theorem wire_roundtrip (f : IFileW) (h : WFW f) :
    fromWire (toWire f) =
      .ok { f with d := descOfWire { f.d with unknown := stripBufExtensionField f.d.unknown } } := by
  obtain ⟨hu, hn, hc0, hc⟩ := h
  obtain ⟨d, isImport, su, unused, modName, commit⟩ := f
  simp only at hu hn hc0 hc
  have hall : ∀ x ∈ unused, decide (x < d.dependency.length) = true := by
    intro x hx; simpa using hu x hx
  cases modName with
  | none =>
    have := hc0 rfl; subst this
    simp [fromWire, toWire]
    exact hall
  | some n =>
    obtain ⟨h1, h2, h3, h4, h5⟩ := hn n rfl
    cases commit with
    | none =>
      simp [fromWire, toWire, h1, h2, h3, h4, h5]
      exact hall
    | some c =>
      obtain ⟨v1, v2, v3, v4⟩ := hc c rfl
      simp [fromWire, toWire, h1, h2, h3, h4, h5, v1, v2, v3, v4]
      exact hall

/-- … the exact identity for a compiler-shaped descriptor without a stray field 8042 (a freshly
    compiled file has no unknown bytes at all). -/
theorem wire_roundtrip_exact (f : IFileW) (h : WFW f) (hc : Canon f.d)
    (hs : stripBufExtensionField f.d.unknown = f.d.unknown) : fromWire (toWire f) = .ok f := by
  rw [wire_roundtrip f h]
  have e : ({ f.d with unknown := stripBufExtensionField f.d.unknown } : FDesc) = f.d := by rw [hs]
  rw [e, descOfWire_canon f.d hc]

/-- proto image → `NewImageForProto` → proto image is the identity (per file): reading an image
    and writing it again changes no byte of any field.  `hs` (stripping is idempotent on these
    unknown bytes) holds trivially for `[]` and is `C11.strip_idempotent_partial` in general. -/
theorem wire_reserialise_identical (f : IFileW) (h : WFW f) (hc : Canon f.d)
    (hs : stripBufExtensionField (stripBufExtensionField f.d.unknown) = stripBufExtensionField f.d.unknown) :
    (fromWire (toWire f)).map toWire = .ok (toWire f) := by
  rw [wire_roundtrip f h]
  have hc' : Canon ({ f.d with unknown := stripBufExtensionField f.d.unknown } : FDesc) := hc
  rw [descOfWire_canon _ hc']
  simp only [Except.map, toWire, hs]

/-- Forgetting the slots (descriptor ↦ path, dependency list, an arbitrary function `pay` of all
    other fields) turns `toWire` into C11's `ImagePaths.toProto`: the two models describe the same
    conversion, this one at field resolution. -/
theorem wire_refines_image_paths (pay : Rest → Str) (f : IFileW) :
    eraseP pay (toWire f) = toProto (eraseI pay f) := rfl

/-- …and on compiler-shaped proto image files `fromWire` is C11's `toImage`. -/
theorem wire_read_refines_image_paths (pay : Rest → Str) (p : PFileW) (hc : Canon p.d) :
    (fromWire p).map (eraseI pay) = toImage (eraseP pay p) := by
  obtain ⟨d, ext⟩ := p
  simp only at hc
  have hE : eraseP pay ⟨d, ext⟩ = ⟨d.name.getD [], d.dependency, pay (restOf d), d.unknown, ext⟩ := rfl
  rw [hE]
  simp only [fromWire, toImage, descOfWire_canon d hc]
  cases ext with
  | none => rfl
  | some e =>
    obtain ⟨imp, su, un, mi⟩ := e
    dsimp only
    cases (!un.all fun i => decide (i < d.dependency.length)) with
    | true => rfl
    | false =>
      cases mi with
      | none => rfl
      | some mi =>
        obtain ⟨nm, cm⟩ := mi
        cases nm with
        | none => rfl
        | some n =>
          dsimp only
          cases (decide (n.registry = []) || decide (n.owner = []) || decide (n.name = []) ||
              List.contains n.owner '/' || List.contains n.name '/') with
          | true => rfl
          | false =>
            cases cm with
            | none => rfl
            | some c =>
              cases c with
              | nil => rfl
              | cons a as =>
                dsimp only
                cases (!validDashless (a :: as)) with
                | true => rfl
                | false => rfl

def exWire : IFileW :=
  { d := { name := some "a/b.proto".toList, package := some "a".toList,
           dependency := ["z.proto".toList, "x.proto".toList, "y.proto".toList],
           messageType := ["m0".toList], enumType := [], service := [], extension := [],
           options := none, sourceCodeInfo := some "sci".toList,
           publicDependency := [2], weakDependency := [1], syntaxStr := none, edition := none, unknown := [] }
    isImport := false, syntaxUnspecified := true, unusedDeps := [0],
    modName := some ⟨"buf.build".toList, "acme".toList, "m".toList⟩,
    commit := some "0123456789abcdef0123456789abcdef".toList }

theorem exWire_wf : WFW exWire ∧ Canon exWire.d := by
  refine ⟨⟨by decide +kernel, ?_, by decide +kernel, ?_⟩, ⟨by decide +kernel, by decide +kernel, by decide +kernel, by decide +kernel⟩⟩
  · intro n hn; cases hn; decide +kernel
  · intro c hc; cases hc; decide +kernel

set_option maxRecDepth 100000 in
/-- Non-vacuity: `import "z.proto"; import weak "x.proto"; import public "y.proto";` with z unused,
    no syntax statement, a module name and a commit — round trip and re-serialisation. -/
example : fromWire (toWire exWire) = .ok exWire ∧ (fromWire (toWire exWire)).map toWire = .ok (toWire exWire) :=
  ⟨wire_roundtrip_exact exWire exWire_wf.1 exWire_wf.2 (by decide +kernel),
   wire_reserialise_identical exWire exWire_wf.1 exWire_wf.2 (by decide +kernel)⟩

/-- The regression (seed C01-m6: the `WeakDependency:` line deleted from the builder) as a
    counter-model: on a file with a weak import the wire form differs from `toWire` in slot 11,
    and what is read back is a different descriptor (the weak import has become a plain one). -/
theorem wire_drop_weak_counterexample :
    toWireNoWeak exWire ≠ toWire exWire ∧
    (toWireNoWeak exWire).d.weakDependency ≠ exWire.d.weakDependency ∧
    fromWire (toWireNoWeak exWire) ≠ .ok exWire := by
  decide +kernel

end BufProofs.C01
