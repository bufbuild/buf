import BufProofs.Lemmas.GenerateLemmas
import BufProofs.Lemmas.GenerateWriterLemmas
/-
  C17 — Each file is generated exactly once and plugin output stays in its directory.
  `pluginRequests img cfg` are the CodeGeneratorRequests one local plugin receives
  (strategy all: the image itself; strategy directory: `ImageByDir`), `allGenerated` the
  concatenation of their `file_to_generate` lists.  Images are assumed to have pairwise
  distinct paths (`NewImage` rejects anything else).  Theorems about the ORDER of a request
  assume the input image is `Ordered` (the documented contract of `bufimage.Image`);
  `built_image_ordered` proves it for every image the build (C01's model) produces.
-/
namespace BufProofs.C17
open BufModel.Path BufModel.Bucket BufModel.Generate

/-- Every non-import file of the image is generated exactly once over all requests sent to a
    plugin — for every image, both strategies, every include_imports / include_wkt setting. -/
theorem targets_exactly_once (img : Image) (cfg : PluginCfg) (hn : (paths img).Nodup)
    (f : File) (hf : f ∈ img) (hni : f.isImport = false) :
    (allGenerated (pluginRequests img cfg)).count f.path = 1 := by
  -- the strategy images partition the targets, so the count is taken in the image's own target list
  have hperm := stratImages_partition img cfg hn
  have hf' : f.path ∈ paths (nonImports img) := mem_paths_of_mem (mem_nonImports.mpr ⟨hf, hni⟩)
  rw [pluginRequests_eq, allGenerated_reqs, reqFiles_count_nonImp _ _ _ _ (hperm.mem_iff.mpr hf'),
    ← allNonImportPaths_eq, hperm.count_eq, (nodup_paths_nonImports hn).count, if_pos hf']

/-- With include_imports, an import of the image that some request carries (and that is not a
    well-known type unless include_wkt) is generated exactly once over all requests.
    (`imports_reachable_once` below replaces "some request carries it" by "a target depends on
    it, transitively" for ordered images.) -/
theorem imports_once_when_requested (img : Image) (cfg : PluginCfg) (hn : (paths img).Nodup)
    (g : File) (hg : g ∈ img) (hi : g.isImport = true)
    (hii : cfg.includeImports = true) (hw : g.isWKT = false ∨ cfg.includeWKT = true)
    (hreq : ∃ r ∈ pluginRequests img cfg, g.path ∈ r.protoFiles.map (·.1.path)) :
    (allGenerated (pluginRequests img cfg)).count g.path = 1 := by
  rw [import_generated_count img cfg hn g hg hi]
  obtain ⟨r, hr, hp⟩ := hreq
  have hmem := request_files_mem_stratImages img cfg r hr
  have hany : (stratImages img cfg).any (fun i => (paths i).contains g.path) = true := by
    rw [List.any_eq_true]
    refine ⟨_, hmem, ?_⟩
    simpa [paths] using hp
  have hel : eligible cfg.includeImports cfg.includeWKT g.isWKT = true := by
    unfold eligible
    rcases hw with hw | hw <;> simp [hii, hw]
  rw [hel, hany]; rfl

/-- Imports are never generated when they were not asked for: without include_imports, or a
    well-known type without include_wkt; and a path that is not a file of the image is never
    generated at all. -/
theorem imports_never_otherwise (img : Image) (cfg : PluginCfg) (hn : (paths img).Nodup) :
    (∀ g ∈ img, g.isImport = true →
      (cfg.includeImports = false ∨ (g.isWKT = true ∧ cfg.includeWKT = false)) →
      (allGenerated (pluginRequests img cfg)).count g.path = 0) ∧
    (∀ p, p ∉ paths img → (allGenerated (pluginRequests img cfg)).count p = 0) := by
  constructor
  · intro g hg hi hno
    rw [import_generated_count img cfg hn g hg hi]
    have hel : eligible cfg.includeImports cfg.includeWKT g.isWKT = false := by
      unfold eligible
      rcases hno with h | ⟨h1, h2⟩ <;> simp [*]
    simp [hel]
  · intro p hp
    -- what is generated is a path of some strategy image, hence of the image
    rw [pluginRequests_eq, allGenerated_reqs]
    refine List.count_eq_zero.mpr fun hm => hp ?_
    obtain ⟨x, hx, rfl⟩ := List.mem_map.mp (reqFiles_gen_sub _ _ _ _ _ p hm)
    obtain ⟨i, hi, hxi⟩ := List.mem_flatten.mp hx
    exact stratImages_paths_sub img cfg i hi _ (mem_paths_of_mem hxi)

/-- No file is ever generated twice for one plugin. -/
theorem generated_at_most_once (img : Image) (cfg : PluginCfg) (hn : (paths img).Nodup) (p : Str) :
    (allGenerated (pluginRequests img cfg)).count p ≤ 1 := by
  by_cases hp : p ∈ paths img
  · obtain ⟨g, hg, rfl⟩ := List.mem_map.mp hp
    cases hi : g.isImport
    · rw [targets_exactly_once img cfg hn g hg hi]; exact Nat.le_refl 1
    · rw [import_generated_count img cfg hn g hg hi]; split <;> omega
  · rw [(imports_never_otherwise img cfg hn).2 p hp]; omega

/-- Given an ordered input image (distinct paths, every file after its dependencies), each
    request's proto_file list is dependency-closed and topologically ordered: whenever a file
    `h` is listed, every dependency of `h` that the image contains is listed before it; and
    every file to generate has its descriptor in the request.  The DFS behind `ImageByDir`
    never runs out of fuel on such an image (that is part of what is proved). -/
theorem request_closed_and_ordered (img : Image) (cfg : PluginCfg) (ho : Ordered img) :
    ∀ r ∈ pluginRequests img cfg,
      (∀ pre h post, r.protoFiles.map (·.1) = pre ++ h :: post →
        ∀ d ∈ h.deps, d ∈ paths img → d ∈ paths pre) ∧
      (∀ p ∈ r.toGenerate, p ∈ paths (r.protoFiles.map (·.1))) := by
  intro r hr
  constructor
  · exact stratImages_depsBefore img cfg ho _ (request_files_mem_stratImages img cfg r hr)
  · rw [pluginRequests_eq] at hr
    obtain ⟨i, _, u, h1, h2, _⟩ := reqs_mem _ _ _ _ _ r hr
    intro p hp
    rw [h1] at hp
    rw [h2, reqFiles_protoFiles]
    exact reqFiles_gen_sub _ _ _ i u p hp

/-- Full-strength form of `imports_once_when_requested` on an ordered image: with
    include_imports, every import a target depends on (transitively, through files of the image),
    not a well-known type unless include_wkt, is generated exactly once. -/
theorem imports_reachable_once (img : Image) (cfg : PluginCfg) (ho : Ordered img)
    (g : File) (hg : g ∈ img) (hi : g.isImport = true)
    (f : File) (hf : f ∈ img) (hfn : f.isImport = false) (hreach : Reach img f.path g.path)
    (hii : cfg.includeImports = true) (hw : g.isWKT = false ∨ cfg.includeWKT = true) :
    (allGenerated (pluginRequests img cfg)).count g.path = 1 := by
  apply imports_once_when_requested img cfg ho.1 g hg hi hii hw
  -- the strategy image holding the target `f` is closed under dependencies, so it holds everything `f` reaches
  obtain ⟨i, hi', hfi⟩ := target_in_stratImage img cfg ho.1 f hf hfn
  have hgi : g.path ∈ paths i :=
    closed_under_deps ho.1 (stratImages_closed img cfg i hi') (stratImages_files img cfg i hi') hreach hfi
  have hmap := reqs_protoFiles (allNonImportPaths (stratImages img cfg)) cfg.includeImports cfg.includeWKT
    (stratImages img cfg) []
  rw [← hmap] at hi'
  obtain ⟨r, hr, hri⟩ := List.mem_map.mp hi'
  refine ⟨r, by rw [pluginRequests_eq]; exact hr, ?_⟩
  have : paths (r.protoFiles.map (·.1)) = r.protoFiles.map (·.1.path) := by simp [paths]
  rw [← this, hri]; exact hgi

/-- Every image the build produces (`BufModel.Targeting.buildImage`, the model of
    `bufimage.BuildImage` of property C01) is `Ordered` when read as a C17 image (`ofBuilt`:
    dependencies = what the compiler says the file imports; `w` = `datawkt.Exists`): C01's
    `image_nodup` and `image_topological`.  This discharges the hypothesis `Ordered img` of
    `request_closed_and_ordered` / `imports_reachable_once` for `buf generate` on sources.
    For an image read from a file the order is the documented precondition of
    `bufimage.NewImage` ("The input ImageFiles are expected to be in correct DAG order!",
    bufimage.go) — not checked by the code, hence a hypothesis here. -/
theorem built_image_ordered (t : BufModel.Targeting.TWS) (c : BufModel.Targeting.Compiler)
    (perm : List Str → List Str) (bimg : List BufModel.Targeting.ImgFile)
    (h : BufModel.Targeting.buildImage t c perm = .ok bimg) (w : Str → Bool) :
    Ordered (ofBuilt c w bimg) := ordered_of_buildImage t c perm bimg h w

/-- `request_closed_and_ordered` without any hypothesis on the image, for built images: in
    every request a plugin receives, each file's imports (all of them: a built image is closed)
    are listed before it, and every file to generate has its descriptor. -/
theorem built_request_closed_and_ordered (t : BufModel.Targeting.TWS) (c : BufModel.Targeting.Compiler)
    (perm : List Str → List Str) (bimg : List BufModel.Targeting.ImgFile)
    (h : BufModel.Targeting.buildImage t c perm = .ok bimg) (w : Str → Bool) (cfg : PluginCfg) :
    ∀ r ∈ pluginRequests (ofBuilt c w bimg) cfg,
      (∀ pre x post, r.protoFiles.map (·.1) = pre ++ x :: post → ∀ d ∈ x.deps, d ∈ paths pre) ∧
      (∀ p ∈ r.toGenerate, p ∈ paths (r.protoFiles.map (·.1))) := by
  intro r hr
  have ho := ordered_of_buildImage t c perm bimg h w
  obtain ⟨h1, h2⟩ := request_closed_and_ordered (ofBuilt c w bimg) cfg ho r hr
  refine ⟨?_, h2⟩
  intro pre x post e d hd
  apply h1 pre x post e d hd
  -- closed: every import of an image file is in the image (C01 `image_closed`)
  have hx : x ∈ r.protoFiles.map (·.1) := by rw [e]; simp
  obtain ⟨g, hg, hp, _, hdeps⟩ :=
    stratImages_files (ofBuilt c w bimg) cfg _ (request_files_mem_stratImages (ofBuilt c w bimg) cfg r hr) x hx
  unfold ofBuilt at hg
  obtain ⟨bf, hbf, rfl⟩ := List.mem_map.mp hg
  rw [paths_ofBuilt]
  exact BufProofs.C01.image_closed t c perm bimg h bf hbf d (by rw [hdeps] at hd; exact hd)

/-- Source-retention options are removed only from the runtime view: in every request the
    proto_file entry of a file is stripped iff the file is in file_to_generate, and the
    (unstripped) source_file_descriptors are exactly the files to generate. -/
theorem source_retention_only_runtime_view (img : Image) (cfg : PluginCfg) (hn : (paths img).Nodup) :
    ∀ r ∈ pluginRequests img cfg,
      r.sourceFiles = r.toGenerate ∧ ∀ x ∈ r.protoFiles, (x.2 = true ↔ x.1.path ∈ r.toGenerate) := by
  intro r hr
  rw [pluginRequests_eq] at hr
  obtain ⟨i, hi, u, h1, h2, h3⟩ := reqs_mem _ _ _ _ _ r hr
  refine ⟨by rw [h3, h1], ?_⟩
  rw [h1, h2]
  exact reqFiles_flag _ _ _ i u (stratImages_nodup img cfg hn i hi)

/-- Strategy `all` sends the plugin a single request whose proto_file list is the image. -/
theorem strategy_all_single_request (img : Image) (cfg : PluginCfg) (hs : cfg.strategyAll = true) :
    ∃ r, pluginRequests img cfg = [r] ∧ r.protoFiles.map (·.1) = img ∧ r.sourceFiles = r.toGenerate := by
  unfold pluginRequests imagesToRequests
  rw [hs]
  exact ⟨_, rfl, reqFiles_protoFiles _ _ _ img [], rfl⟩

/-- Whatever names the plugins return — "../x", "/abs", "a//b", "./c", anything — if the run
    succeeds (working directory absolute, as `os.Getwd` returns it):
    (1) every object that is flushed was returned as a plain file by a plugin `p` of this run,
        sits in the bucket of THAT plugin's absolute out directory under the validated form of
        the name it returned, and the file written on disk, `diskPath out key` (= `storageos`'s
        `Join(root, key)`), is the out directory's components followed by the key's components:
        proper name components only (no "..", ".", empty or separator-bearing component), at
        least one below the out directory — i.e. the file is beneath that plugin's out;
    (2) per plugin, forward: every file a plugin returned (plain or insertion point) is written
        in that plugin's own out directory, under its validated name.
    So nothing is written outside the out directory of the plugin that returned it. -/
theorem writes_under_out (cwd : Str) (ps : List PluginResp) (bs : Buckets)
    (hcwd : isAbs cwd = true) (h : runResponses cwd ps = .ok bs) :
    (∀ x ∈ flushed bs, ∃ p ∈ ps, ∃ f ∈ p.files, f.getIP = [] ∧
      x.1 = absPath cwd p.out ∧ validatePath f.getName = .ok x.2.1 ∧
      ∃ os ns : List Comp, AllProper os ∧ AllProper ns ∧ ns ≠ [] ∧
        absPath cwd p.out = '/' :: joinSlash os ∧ x.2.1 = renderKey ns ∧
        diskPath x.1 x.2.1 = '/' :: joinSlash (os ++ ns)) ∧
    (∀ p ∈ ps, ∀ f ∈ p.files, ∃ k c, validatePath f.getName = .ok k ∧
      (absPath cwd p.out, k, c) ∈ flushed bs) := by
  unfold runResponses runResponsesWith at h
  split at h
  · cases h
  · obtain ⟨hback, hfwd⟩ := (addResponses_run h).result
    constructor
    · intro x hx
      unfold flushed at hx
      obtain ⟨⟨o, m⟩, hom, hxm⟩ := List.mem_flatMap.mp hx
      obtain ⟨⟨k, c⟩, hkc, rfl⟩ := List.mem_map.mp hxm
      -- the bucket is one `writeResponse` into the empty bucket: its keys are plain files' names
      obtain ⟨_, m0, rfl, hw⟩ := hback o m hom
      rcases ((writeResponse_keys _ _ _ hw).1 k).mp (List.mem_map.mpr ⟨(k, c), hkc, rfl⟩) with hk | ⟨f, hf, hip, hv⟩
      · cases hk
      · obtain ⟨p, hp, hpo, hfp⟩ := mem_filesAt.mp hf
        obtain ⟨ns, hns, hne, hkn⟩ := validatePath_keyOK hv
        obtain ⟨os, hos, hshape⟩ := absPath_shape cwd p.out hcwd
        refine ⟨p, hp, f, hfp, hip, hpo.symm, hv, os, ns, hos, hns, hne, hshape, hkn, ?_⟩
        show diskPath o k = _
        rw [← hpo, hshape, hkn]
        exact diskPath_shape hos hns
    · intro p hp f hf
      obtain ⟨_, m, _, hw, hfind⟩ := hfwd p hp
      obtain ⟨k, hk, hkm⟩ := (writeResponse_keys _ _ _ hw).2 f (mem_filesAt.mpr ⟨p, hp, rfl, hf⟩)
      obtain ⟨c, hc⟩ := hasKey_flushed ⟨m, hfind, hkm⟩
      exact ⟨k, c, hk, hc⟩

/-- Insertion points only modify files produced in the same run: if the run succeeds, every
    insertion-point file names (after validation) a file that a plugin of this very run, with
    the same absolute out directory, returned as a plain file.  (The model's response writer
    has no access to the disk at all: targets are read from the in-memory bucket only.)  In
    particular an insertion point into a pre-existing file on disk makes the whole run fail. -/
theorem insertion_same_run_only (cwd : Str) (ps : List PluginResp) (bs : Buckets)
    (h : runResponses cwd ps = .ok bs) :
    ∀ p ∈ ps, ∀ f ∈ p.files, f.getIP ≠ [] →
      ∃ k, validatePath f.getName = .ok k ∧
        ∃ p' ∈ ps, absPath cwd p'.out = absPath cwd p.out ∧
          ∃ f' ∈ p'.files, f'.getIP = [] ∧ validatePath f'.getName = .ok k := by
  unfold runResponses runResponsesWith at h
  split at h
  · cases h
  · intro p hp f hf _
    obtain ⟨_, m, rfl, hw, _⟩ := (addResponses_run h).result.2 p hp
    obtain ⟨hkeys, hall⟩ := writeResponse_keys _ _ _ hw
    obtain ⟨k, hk, hkm⟩ := hall f (mem_filesAt.mpr ⟨p, hp, rfl, hf⟩)
    rcases (hkeys k).mp hkm with h0 | ⟨f', hf', hip', hv'⟩
    · cases h0
    · obtain ⟨p', hp', ho, hfp'⟩ := mem_filesAt.mp hf'
      exact ⟨k, hk, p', hp', ho, f', hfp', hip', hv'⟩

/-- An insertion point never creates a file and never succeeds on a bucket that lacks its target. -/
theorem insertion_needs_target (m : Mem) (f : RFile) (hip : f.getIP ≠ [])
    (k : Str) (hk : validatePath f.getName = .ok k) (hnot : k ∉ m.keys) :
    ∃ e, writeFile m f = .error e := by
  cases hw : writeFile m f with
  | error e => exact ⟨e, rfl⟩
  | ok m' =>
    obtain ⟨⟨p, hp, _, hins⟩, _⟩ := writeFile_keys hw
    rw [hk] at hp; injection hp with hp; subst hp
    exact absurd (hins hip) hnot

/-- The same output path produced twice is an error: `ValidatePluginResponses` keys every plain
    file by `filepath.Abs(filepath.Join(out, name))` — the place the response writer will write
    it to — and two files (of two plugins or of one) with equal keys make the run fail with the
    duplicate error, for every list of plugins, every spelling of the names ("a//b" vs "a/b",
    "./c" vs "c", out "gen/sub" + "a" vs out "gen" + "sub/a") and every spelling of the out
    directories ("gen" vs "$PWD/gen" vs "../w/gen").  (Before fix 969fe1c of /repo the key was
    `Join(out, name)` on the configured spelling: `duplicate_alias_counterexample`.) -/
theorem duplicate_output_is_error (cwd : Str) (ps : List PluginResp)
    (hdup : ¬ (allKeys (dupKey cwd) ps).Nodup) : runResponses cwd ps = .error .duplicate := by
  unfold runResponses runResponsesWith
  rw [validate_duplicate (dupKey cwd) ps hdup]

/-- With the pre-fix key (`runResponsesOld`), plugin 0 with out "gen" and plugin 1 with
    out "/w/gen" (the same directory when the working directory is "/w") both return "a.txt"; no
    error is reported and the second silently overwrites the first in the shared bucket. -/
theorem duplicate_alias_counterexample :
    runResponsesOld "/w".toList
      [⟨"gen".toList, [rf "a.txt".toList [] ("one".toList)]⟩,
       ⟨"/w/gen".toList, [rf "a.txt".toList [] ("two".toList)]⟩] =
      .ok [("/w/gen".toList, [("a.txt".toList, "two")])] := by
  repeat rw [String.toList_ofList]
  decide +kernel

/-- Two directories sharing the import `common/c.proto`, a well-known-type import, and an
    import nothing depends on. -/
def exImage : Image :=
  [ ⟨"google/protobuf/any.proto".toList, true, true, []⟩,
    ⟨"common/c.proto".toList, true, false, ["google/protobuf/any.proto".toList]⟩,
    ⟨"a/x.proto".toList, false, false, ["common/c.proto".toList]⟩,
    ⟨"a/y.proto".toList, false, false, ["a/x.proto".toList]⟩,
    ⟨"b/z.proto".toList, false, false, ["common/c.proto".toList, "a/x.proto".toList]⟩,
    ⟨"unused/u.proto".toList, true, false, []⟩ ]

-- `rw [String.toList_ofList]` turns each literal `"…".toList` into its list of characters, which
-- spares the kernel decoding the string (here and in the evaluations below)
private theorem exImage_ordered : Ordered exImage := by
  apply orderedB_sound
  unfold exImage
  repeat rw [String.toList_ofList]
  decide +kernel

example : Ordered exImage := exImage_ordered
example : (paths exImage).Nodup := exImage_ordered.1

-- strategy directory, include_imports without include_wkt: two requests (a, b); the shared
-- import is generated once (with the first directory), the WKT and the unreachable import never,
-- and a/x.proto — a target of request 1, an import of request 2 — once.
example : (pluginRequests exImage ⟨false, true, false⟩).map (·.toGenerate) =
    [["common/c.proto".toList, "a/x.proto".toList, "a/y.proto".toList], ["b/z.proto".toList]] := by
  unfold exImage
  repeat rw [String.toList_ofList]
  decide +kernel
example : (pluginRequests exImage ⟨false, true, false⟩).map (fun r => r.protoFiles.map (·.1.path)) =
    [["google/protobuf/any.proto".toList, "common/c.proto".toList, "a/x.proto".toList, "a/y.proto".toList],
     ["google/protobuf/any.proto".toList, "common/c.proto".toList, "a/x.proto".toList, "b/z.proto".toList]] := by
  unfold exImage
  repeat rw [String.toList_ofList]
  decide +kernel
-- with include_wkt the WKT import is generated too, once
example : (allGenerated (pluginRequests exImage ⟨false, true, true⟩)).count "google/protobuf/any.proto".toList = 1 := by
  unfold exImage
  repeat rw [String.toList_ofList]
  decide +kernel
-- strategy all generates the import nothing depends on as well (it is in the image)
example : (pluginRequests exImage ⟨true, true, false⟩).map (·.toGenerate) =
    [["common/c.proto".toList, "a/x.proto".toList, "a/y.proto".toList, "b/z.proto".toList, "unused/u.proto".toList]] := by
  unfold exImage
  repeat rw [String.toList_ofList]
  decide +kernel
-- the hypotheses of `imports_reachable_once` are satisfiable
example : Reach exImage "b/z.proto".toList "google/protobuf/any.proto".toList := by
  have h1 : Reach exImage "b/z.proto".toList "common/c.proto".toList :=
    .step (.refl _) ⟨_, .tail _ (.tail _ (.tail _ (.tail _ (.head _)))), rfl, .head _⟩ (.tail _ (.head _))
  exact .step h1 ⟨_, .tail _ (.head _), rfl, .head _⟩ (.head _)

-- the hypothesis of `built_image_ordered` / `built_request_closed_and_ordered` is satisfiable
-- (C01's example workspace: a.proto imports b.proto of another module and a WKT), and the
-- resulting C17 image is the ordered one
example : ∃ bimg, BufModel.Targeting.buildImage BufProofs.C01.exWs BufProofs.C01.exC id = .ok bimg := by
  have h : (BufModel.Targeting.buildImage BufProofs.C01.exWs BufProofs.C01.exC id).toBool = true := by
    unfold BufProofs.C01.exWs BufProofs.C01.exC
    repeat rw [String.toList_ofList]
    decide +kernel
  cases hb : BufModel.Targeting.buildImage BufProofs.C01.exWs BufProofs.C01.exC id with
  | error e => rw [hb] at h; cases h
  | ok b => exact ⟨b, rfl⟩
example : (BufModel.Targeting.buildImage BufProofs.C01.exWs BufProofs.C01.exC id).map (fun bimg =>
    (ofBuilt BufProofs.C01.exC (fun p => p = "google/protobuf/any.proto".toList) bimg).map
      (fun f => (String.ofList f.path, f.isImport, f.isWKT, f.deps.map String.ofList))) =
    .ok [("b.proto", true, false, []), ("google/protobuf/any.proto", true, true, []),
     ("a.proto", false, false, ["b.proto", "google/protobuf/any.proto"])] := by
  unfold BufProofs.C01.exWs BufProofs.C01.exC
  repeat rw [String.toList_ofList]
  decide +kernel
-- the working directory of `writes_under_out` is absolute in every response example below
example : isAbs "/w".toList = true := by decide
-- responses: a successful run with a hostile-looking but valid spelling and an insertion point
-- from a second plugin that shares the out directory under another spelling
example : runResponses "/w".toList
    [⟨"gen".toList, [rf "a//b/../x.txt".toList [] ("l1\n  // @@protoc_insertion_point(p)\nl3".toList)]⟩,
     ⟨"./gen/".toList, [rf "a/x.txt".toList "p".toList ("new".toList)]⟩] =
    .ok [("/w/gen".toList, [("a/x.txt".toList, "l1\n  new\n  // @@protoc_insertion_point(p)\nl3")])] := by
  repeat rw [String.toList_ofList]
  decide +kernel
-- escaping names are rejected
example : runResponses "/w".toList [⟨"gen".toList, [rf "../x".toList [] ([])]⟩] = .error (.path .outsideContext) := by decide +kernel
example : runResponses "/w".toList [⟨"gen".toList, [rf "/abs".toList [] ([])]⟩] = .error (.path .notRelative) := by decide
-- an insertion point into a file no plugin produced in this run fails
example : runResponses "/w".toList [⟨"gen".toList, [rf "existing.txt".toList "p".toList ("x".toList)]⟩] =
    .error (.path .notExist) := by
  repeat rw [String.toList_ofList]
  decide +kernel
-- duplicates under different spellings of the name are an error
example : runResponses "/w".toList
    [⟨"gen".toList, [rf "a/b".toList [] ([])]⟩, ⟨"gen".toList, [rf "./a//b".toList [] ([])]⟩] = .error .duplicate := by
  repeat rw [String.toList_ofList]
  decide +kernel
-- … and so are duplicates under different spellings of the OUT directory (the fixed finding)
example : runResponses "/w".toList
    [⟨"gen".toList, [rf "a.txt".toList [] ("one".toList)]⟩, ⟨"/w/gen".toList, [rf "a.txt".toList [] ("two".toList)]⟩] = .error .duplicate := by
  repeat rw [String.toList_ofList]
  decide +kernel
example : runResponses "/w".toList
    [⟨"./x/../gen".toList, [rf "a.txt".toList [] ([])]⟩, ⟨"../w/gen".toList, [rf "./a.txt".toList [] ([])]⟩] = .error .duplicate := by
  repeat rw [String.toList_ofList]
  decide +kernel
example : ¬ (allKeys (dupKey "/w".toList)
    [⟨"gen/sub".toList, [rf "a".toList [] ([])]⟩, ⟨"gen".toList, [rf "sub/a".toList [] ([])]⟩]).Nodup := by
  repeat rw [String.toList_ofList]
  decide +kernel

end BufProofs.C17
