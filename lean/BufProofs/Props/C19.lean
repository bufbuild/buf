import BufProofs.Lemmas.TokenLemmas
/-
  C19 — Credentials are only sent to the registry they were configured for.
  All theorems quantify over ALL strings (`Str = List Char`), not over a bounded alphabet.
-/
namespace BufProofs.C19
open BufModel.Token

/-- **No leak.**  Whatever the BUF_TOKEN string `s` is: if the host-keyed provider built from it
    hands a (non-empty) token `t` to a request for `host`, then `s` literally contains the entry
    `t@host` between commas.  -/
theorem no_leak (s : Str) (m : List (Str × Str)) (host t : Str)
    (hp : newTokenProvider s = .ok (.multi m))
    (ht : remoteToken (.multi m) host = t) (hne : t ≠ []) :
    (t ++ '@' :: host) ∈ splitOn ',' s := by
  obtain ⟨-, hs, -, -⟩ := (newTokenProvider_multi s m).mp hp
  have hl : m.lookup host = some t := by
    cases hq : m.lookup host with
    | none => simp [remoteToken, hq] at ht; exact absurd ht hne
    | some v => simp [remoteToken, hq] at ht; rw [ht]
  rw [hs]
  exact List.mem_map_of_mem (f := entryOf) (mem_of_lookup host t _ hl)

/-- A token configured for one host is never sent to another: if no entry of `s` is literally
    `t@host`, a request to `host` does not carry `t` — no matter which other hosts `t` is
    configured for. -/
theorem no_cross_host (s : Str) (m : List (Str × Str)) (host t : Str)
    (hp : newTokenProvider s = .ok (.multi m)) (hne : t ≠ [])
    (hnot : (t ++ '@' :: host) ∉ splitOn ',' s) :
    remoteToken (.multi m) host ≠ t :=
  fun h => hnot (no_leak s m host t hp h hne)

/-- The host-less token (no '@', no ',') is by design sent to every host, and it is the whole
    string. -/
theorem single_token_all_hosts (s t : Str) (hp : newTokenProvider s = .ok (.single t)) :
    t = s ∧ s ≠ [] ∧ '@' ∉ s ∧ ',' ∉ s ∧ ∀ host, remoteToken (.single t) host = s := by
  rw [newTokenProvider_eq] at hp
  split at hp
  · cases hp
  · rename_i hs
    split at hp
    · obtain ⟨m, h, -⟩ := (multiOf_eq_ok _ _).mp hp
      cases h
    · rename_i hsep
      cases hp
      exact ⟨rfl, hs, fun h => hsep (.inl h), fun h => hsep (.inr h), fun _ => rfl⟩

/-- **All or nothing.**  An accepted BUF_TOKEN string is exactly one of: empty (no token at all);
    a host-less token; or a comma-separated list in which EVERY entry is a well-formed
    `token@host`, every entry is served to its host, hosts are pairwise distinct and nothing else
    is in the table. -/
theorem accepted_shape (s : Str) (p : Provider) (hp : newTokenProvider s = .ok p) :
    (s = [] ∧ p = .nop) ∨
    (s ≠ [] ∧ '@' ∉ s ∧ ',' ∉ s ∧ p = .single s) ∨
    (∃ m, p = .multi m ∧ ('@' ∈ s ∨ ',' ∈ s) ∧
      (∀ e ∈ splitOn ',' s, ∃ t h, WellFormed e t h ∧ remoteToken p h = t) ∧
      (m.map Prod.fst).Nodup ∧ m.length = (splitOn ',' s).length) := by
  rw [newTokenProvider_eq] at hp
  split at hp
  · exact .inl ⟨‹_›, by cases hp; rfl⟩
  · rename_i hs
    split at hp
    · rename_i hsep
      obtain ⟨m, rfl, hps, hnd⟩ := (multiOf_eq_ok _ _).mp hp
      obtain ⟨hs', hwf⟩ := (map_parseEntry_eq _ _).mp hps
      refine .inr (.inr ⟨m, rfl, hsep, ?_, hnd, by simp [hs']⟩)
      rw [hs']
      intro e he
      obtain ⟨⟨h, t⟩, hm, rfl⟩ := List.mem_map.mp he
      exact ⟨t, h, hwf _ hm, by simp [remoteToken, lookup_of_mem h t m hnd hm]⟩
    · rename_i hsep
      cases hp
      exact .inr (.inl ⟨hs, fun h => hsep (.inl h), fun h => hsep (.inr h), rfl⟩)

/-- **Malformed strings are rejected, never partially applied.**  If `s` is not a plain host-less
    token (it contains '@' or ',') and some comma-separated entry is not a well-formed
    `token@host` (wrong number of '@', empty token, empty host, ':' in the token), construction
    fails — there is no provider, hence no token for any host. -/
theorem malformed_rejected (s : Str) (hsep : '@' ∈ s ∨ ',' ∈ s)
    (hbad : ∃ e ∈ splitOn ',' s, ∀ t h, ¬ WellFormed e t h) :
    ∃ err, newTokenProvider s = .error err := by
  cases hr : newTokenProvider s with
  | error err => exact ⟨err, rfl⟩
  | ok p =>
    exfalso
    obtain ⟨e, he, hno⟩ := hbad
    rcases accepted_shape s p hr with ⟨h, _⟩ | ⟨_, h1, h2, _⟩ | ⟨m, _, _, hall, _, _⟩
    · subst h; simp at hsep
    · exact hsep.elim h1 h2
    · obtain ⟨t, h, w, _⟩ := hall e he
      exact hno t h w

/-- **Complete.**  Conversely, when every comma-separated entry of `s` is a
    well-formed `token@host` and the hosts are pairwise distinct, `s` is accepted and the table is
    exactly those (host, token) pairs — nothing is dropped, added or reordered. -/
theorem wellformed_accepted (s : Str) (pairs : List (Str × Str)) (hne : pairs ≠ [])
    (hs : splitOn ',' s = pairs.map entryOf)
    (hwf : ∀ p ∈ pairs, WellFormed (entryOf p) p.2 p.1)
    (hnd : (pairs.map Prod.fst).Nodup) :
    newTokenProvider s = .ok (.multi pairs) := by
  refine (newTokenProvider_multi s pairs).mpr ⟨?_, hs, hwf, hnd⟩
  -- a string without separator is its own only entry, and an entry has an '@'
  apply Classical.byContradiction
  intro hsep
  rw [not_or] at hsep
  rw [split_no_sep ',' s hsep.2] at hs
  cases pairs with
  | nil => exact hne rfl
  | cons p ps =>
    simp only [List.map_cons, List.cons.injEq] at hs
    exact hsep.1 (hs.1 ▸ by simp [entryOf])

/-- Two entries for the same host make the whole string invalid (the second one is never
    silently dropped, nor does it overwrite the first). -/
theorem repeated_host_rejected (s : Str) (pre mid post : List Str) (e₁ e₂ t₁ t₂ h : Str)
    (hs : splitOn ',' s = pre ++ e₁ :: (mid ++ e₂ :: post))
    (w₁ : WellFormed e₁ t₁ h) (w₂ : WellFormed e₂ t₂ h) :
    ∃ err, newTokenProvider s = .error err := by
  cases hr : newTokenProvider s with
  | error err => exact ⟨err, rfl⟩
  | ok p =>
    exfalso
    have hc : ',' ∈ s := Classical.byContradiction fun hc => by
      rw [split_no_sep ',' s hc] at hs
      cases pre <;> simp at hs
    have hne : s ≠ [] := fun h0 => by simp [h0] at hc
    rw [newTokenProvider_eq, if_neg hne, if_pos (.inr hc)] at hr
    obtain ⟨m, -, hps, nd⟩ := (multiOf_eq_ok _ _).mp hr
    -- the hosts of the table, read off the parsed entries: `h` occurs twice
    have hk := congrArg (List.map fun x : Except TErr (Str × Str) => match x with
      | .ok p => p.1
      | .error _ => []) hps
    simp [hs, (parseEntry_ok e₁ h t₁).mpr w₁, (parseEntry_ok e₂ h t₂).mpr w₂, Function.comp_def] at hk
    simp [← hk, List.nodup_append] at nd

/-! ### the interceptor: first provider with a non-empty token wins -/

/-- **First source wins.**  If every provider before `p` has no token for the address and `p`
    has the non-empty token `t`, the header carries exactly `t` (and the env-var attribution is
    `p`'s) — whatever later providers would have said; they are not even consulted. -/
theorem first_source_wins (pre post : List Source) (p : Source) (a t : Str)
    (hpre : ∀ q ∈ pre, q.token a = .ok []) (hp : p.token a = .ok t) (hne : t ≠ []) :
    authorize (pre ++ p :: post) a = .ok ⟨some t, true, p.fromEnv⟩ := by
  induction pre with
  | nil => simp [authorize, hp, hne]
  | cons q qs ih =>
    have hq := hpre q (by simp)
    simp [authorize, hq]
    exact ih (fun x hx => hpre x (by simp [hx]))

/-- No provider has a token ⇒ no Authorization header. -/
theorem no_source_no_header (ps : List Source) (a : Str) (h : ∀ q ∈ ps, q.token a = .ok []) :
    authorize ps a = .ok ⟨none, false, false⟩ := by
  induction ps with
  | nil => simp [authorize]
  | cons q qs ih =>
    simp [authorize, h q (by simp)]
    exact ih (fun x hx => h x (by simp [hx]))

/-- Converse: a header is only ever set from a provider of the list, namely the first one with a
    non-empty token for THIS address; the header value is exactly that provider's token. -/
theorem header_has_source (ps : List Source) (a t : Str) (r : AuthResult)
    (h : authorize ps a = .ok r) (ht : r.header = some t) :
    ∃ pre p post, ps = pre ++ p :: post ∧ (∀ q ∈ pre, q.token a = .ok []) ∧
      p.token a = .ok t ∧ t ≠ [] ∧ r.hasToken = true ∧ r.usingEnv = p.fromEnv := by
  induction ps with
  | nil => cases h; cases ht
  | cons q qs ih =>
    simp only [authorize] at h
    cases hq : q.token a with
    | error e => rw [hq] at h; cases h
    | ok tq =>
      simp only [hq] at h
      by_cases hne : tq ≠ []
      · rw [if_pos hne] at h
        cases h
        cases ht
        exact ⟨[], q, qs, rfl, nofun, hq, hne, rfl, rfl⟩
      · rw [if_neg hne] at h
        obtain ⟨pre, p, post, rfl, e2, e3⟩ := ih h
        exact ⟨q :: pre, p, post, rfl, List.forall_mem_cons.mpr ⟨Decidable.not_not.mp hne ▸ hq, e2⟩, e3⟩

/-! ### .netrc -/

/-- **Exact machine, else `default`.**  On the parsed machine list the token handed out for
    `host` is the password of the FIRST machine named exactly `host`; only if there is none, of
    the first machine named "default"; otherwise nothing.  No other machine's password is ever
    returned. -/
theorem netrc_exact_or_default (ms : List Machine) (host : Str) :
    (∀ m, ms.find? (fun m => m.name = host) = some m → netrcPasswordOf ms host = m.get kwPassword) ∧
    (ms.find? (fun m => m.name = host) = none →
      (∀ d, ms.find? (fun m => m.name = kwDefault) = some d → netrcPasswordOf ms host = d.get kwPassword) ∧
      (ms.find? (fun m => m.name = kwDefault) = none → netrcPasswordOf ms host = [])) := by
  refine ⟨?_, ?_⟩
  · intro m hm
    simp [netrcPasswordOf, machineFor, findMachine, hm]
  · intro hn
    refine ⟨?_, ?_⟩
    · intro d hd
      simp [netrcPasswordOf, machineFor, findMachine, hn, hd]
    · intro hd
      simp [netrcPasswordOf, machineFor, findMachine, hn, hd]

/-- For every plain .netrc file (any number of machine / default entries in any order, no value
    spelled "machine" or "default") the provider returns exactly what the netrc format says:
    the password of the first entry for that machine, else of the first default entry, else
    nothing.  In particular a password of machine `a` is never returned for host `b ≠ a`. -/
theorem netrc_plain_exact_or_default (es : List Entry) (hp : ∀ e ∈ es, e.Plain) (host : Str) :
    netrcRemoteToken (some (renderEntries es)) host = .ok (specLookup es host) := by
  have hparse := parseToks_entries es [] hp
  simp at hparse
  simp only [netrcRemoteToken, hparse]
  congr 1
  have hnd : ∀ e ∈ es, e.name ≠ some kwDefault := by
    intro e he hn
    exact (((hp e he).1 kwDefault hn).2) rfl
  have hdef := findMachine_default es hnd
  by_cases hd : host = kwDefault
  · subst hd
    have hnone : es.find? (fun e => e.name = some kwDefault) = none :=
      List.find?_eq_none.mpr fun e he => by simpa using hnd e he
    simp only [netrcPasswordOf, machineFor, specLookup, hnone, hdef]
    cases es.find? (fun e => e.name = none) <;> simp [toMachine_password]
  · simp only [netrcPasswordOf, machineFor, specLookup, findMachine_exact es host hd, hdef]
    cases es.find? (fun e => e.name = some host) <;> cases es.find? (fun e => e.name = none) <;>
      simp [toMachine_password]

/-- The recorded finding: go-netrc treats a VALUE spelled `default` as the keyword.  For the
    file `machine h login default password secret` host `h` gets nothing and EVERY other host
    gets `secret` — the plainness hypothesis of `netrc_plain_exact_or_default` is necessary. -/
theorem netrc_keyword_value_counterexample :
    let file := renderEntries [⟨some "h".toList, "default".toList, "secret".toList⟩]
    netrcRemoteToken (some file) "h".toList = .ok [] ∧
    netrcRemoteToken (some file) "other".toList = .ok "secret".toList ∧
    specLookup [⟨some "h".toList, "default".toList, "secret".toList⟩] "other".toList = [] := by
  repeat rw [String.toList_ofList]
  decide +kernel

/-! ### the whole chain: BUF_TOKEN first, then .netrc, for the address the client was made for -/

private theorem static_token_configured (s : Str) (p : Provider) (host t : Str)
    (hp : newTokenProvider s = .ok p) (ht : remoteToken p host = t) (hne : t ≠ []) :
    ((newTokenProvider s = .ok (.single t) ∧ t = s) ∨ (t ++ '@' :: host) ∈ splitOn ',' s) ∧
      ∀ flag, isFromEnvVar flag p = flag := by
  cases p with
  | nop => exact absurd ht.symm hne
  | single tok =>
    have : tok = t := ht
    subst this
    exact ⟨Or.inl ⟨hp, (single_token_all_hosts s tok hp).1⟩, fun _ => rfl⟩
  | multi m => exact ⟨Or.inr (no_leak s m host t hp ht hne), fun _ => rfl⟩

/-- **A credential reaches `host` only if it was configured for `host`.**  If a request of a
    client made for `host` carries the token `t`, then one of:
    (1) BUF_TOKEN is the single host-less token `t` (by design for every host);
    (2) BUF_TOKEN literally contains the entry `t@host`;
    (3) BUF_TOKEN has nothing for `host` and `t` is what the .netrc lookup for `host` returns
        (see `netrc_exact_or_default` / `netrc_plain_exact_or_default`).
    Moreover the env-var attribution is right: `usingEnv` holds exactly in cases (1)/(2). -/
theorem header_only_if_configured (bufToken : Str) (file : Option (List Str)) (host t : Str)
    (r : AuthResult) (h : chainAuth bufToken file host = .ok r) (ht : r.header = some t) :
    (newTokenProvider bufToken = .ok (.single t) ∧ t = bufToken ∧ r.usingEnv = true) ∨
    ((t ++ '@' :: host) ∈ splitOn ',' bufToken ∧ r.usingEnv = true) ∨
    (∃ p, newTokenProvider bufToken = .ok p ∧ remoteToken p host = [] ∧
      netrcRemoteToken file host = .ok t ∧ r.usingEnv = false) := by
  unfold chainAuth at h
  cases hp : newTokenProvider bufToken with
  | error e => simp [hp] at h
  | ok p =>
    simp only [hp, authorize, staticSource, netrcSource] at h
    by_cases hne : remoteToken p host ≠ []
    · rw [if_pos hne] at h
      cases h
      cases ht
      obtain ⟨h1 | h1, h2⟩ := static_token_configured bufToken p host _ hp rfl hne
      · exact Or.inl ⟨hp ▸ h1.1, h1.2, h2 true⟩
      · exact Or.inr (Or.inl ⟨h1, h2 true⟩)
    · rw [if_neg hne] at h
      cases hn : netrcRemoteToken file host with
      | error e => simp [hn] at h
      | ok pw =>
        simp only [hn] at h
        by_cases hpw : pw ≠ []
        · rw [if_pos hpw] at h
          cases h
          cases ht
          exact Or.inr (Or.inr ⟨p, rfl, by simpa using hne, rfl, rfl⟩)
        · rw [if_neg hpw] at h
          cases h
          cases ht

/-- The same for the `--token` flag path (`NewConnectClientConfigWithToken`): the header carries
    `t` only if the flag value is the host-less token `t` or literally contains `t@host`; .netrc
    plays no role and the token is never attributed to the BUF_TOKEN variable. -/
theorem token_flag_only_if_configured (token host t : Str) (r : AuthResult)
    (h : chainAuthWithToken token host = .ok r) (ht : r.header = some t) :
    ((newTokenProvider token = .ok (.single t) ∧ t = token) ∨ (t ++ '@' :: host) ∈ splitOn ',' token) ∧
    r.usingEnv = false := by
  unfold chainAuthWithToken at h
  cases hp : newTokenProvider token with
  | error e => simp [hp] at h
  | ok p =>
    simp only [hp, authorize, staticSource] at h
    by_cases hne : remoteToken p host ≠ []
    · rw [if_pos hne] at h
      cases h
      cases ht
      obtain ⟨h1, h2⟩ := static_token_configured token p host _ hp rfl hne
      exact ⟨hp ▸ h1, h2 false⟩
    · rw [if_neg hne] at h
      cases h
      cases ht

/-- A malformed BUF_TOKEN stops everything: no client config, hence no request and no header. -/
theorem malformed_no_request (bufToken : Str) (file : Option (List Str)) (host : Str)
    (hsep : '@' ∈ bufToken ∨ ',' ∈ bufToken)
    (hbad : ∃ e ∈ splitOn ',' bufToken, ∀ t h, ¬ WellFormed e t h) :
    ∃ err, chainAuth bufToken file host = .error (.config err) := by
  obtain ⟨err, he⟩ := malformed_rejected bufToken hsep hbad
  exact ⟨err, by simp [chainAuth, he]⟩

/-! ### non-vacuity -/

example : newTokenProvider "t@h,u@g".toList = .ok (.multi [("h".toList, "t".toList), ("g".toList, "u".toList)]) := by
  repeat rw [String.toList_ofList]
  decide +kernel
example : remoteToken (.multi [("h".toList, "t".toList), ("g".toList, "u".toList)]) "g".toList = "u".toList := by
  repeat rw [String.toList_ofList]
  decide +kernel
example : remoteToken (.multi [("h".toList, "t".toList), ("g".toList, "u".toList)]) "hg".toList = [] := by
  repeat rw [String.toList_ofList]
  decide +kernel
example : newTokenProvider "t:u".toList = .ok (.single "t:u".toList) := by
  repeat rw [String.toList_ofList]
  decide +kernel
example : newTokenProvider "t@h,u".toList = .error .invalid := by
  repeat rw [String.toList_ofList]
  decide +kernel
example : newTokenProvider "t@h,,u@g".toList = .error .invalid := by
  repeat rw [String.toList_ofList]
  decide +kernel
example : newTokenProvider "t@h,t:u@g".toList = .error .colon := by
  repeat rw [String.toList_ofList]
  decide +kernel
example : newTokenProvider "t@h,u@h".toList = .error .repeated := by
  repeat rw [String.toList_ofList]
  decide +kernel
example : newTokenProvider "t@h@g".toList = .error .invalid := by
  repeat rw [String.toList_ofList]
  decide +kernel
example : WellFormed "tok@h:80".toList "tok".toList "h:80".toList :=
  ⟨by decide, by decide, by decide, by decide, by decide, by decide, by decide⟩
example : chainAuth "t@h".toList (some (renderEntries [⟨some "g".toList, "l".toList, "p".toList⟩, ⟨none, "l".toList, "d".toList⟩])) "g".toList
    = .ok ⟨some "p".toList, true, false⟩ := by
  repeat rw [String.toList_ofList]
  decide +kernel
example : chainAuth "t@h".toList (some (renderEntries [⟨some "g".toList, "l".toList, "p".toList⟩, ⟨none, "l".toList, "d".toList⟩])) "h".toList
    = .ok ⟨some "t".toList, true, true⟩ := by
  repeat rw [String.toList_ofList]
  decide +kernel
example : chainAuth "t@h".toList (some (renderEntries [⟨some "g".toList, "l".toList, "p".toList⟩, ⟨none, "l".toList, "d".toList⟩])) "x".toList
    = .ok ⟨some "d".toList, true, false⟩ := by
  repeat rw [String.toList_ofList]
  decide +kernel
example : (⟨some "g".toList, "l".toList, "p".toList⟩ : Entry).Plain := by
  refine ⟨?_, by decide, by decide, by decide, by decide⟩
  intro n hn; cases hn; exact ⟨by decide, by decide⟩

/-! ### One shared Config, several registries, any interleaving of `Make` calls -/

/-- Invariant of the cloning `Make`: every private slice ends in the interceptor of its own call's
    address, and so does every client built so far. -/
theorem mrun_clone_inv (addr : Nat → Str) (steps : List MStep) (s : MState)
    (hown : ∀ p ∈ s.own, p.2 = addr p.1)
    (hbuilt : ∀ i a, (i, some a) ∈ s.built → a = addr i) :
    (∀ p ∈ (steps.foldl (mstep false addr) s).own, p.2 = addr p.1) ∧
    (∀ i a, (i, some a) ∈ (steps.foldl (mstep false addr) s).built → a = addr i) := by
  induction steps generalizing s with
  | nil => exact ⟨hown, hbuilt⟩
  | cons st rest ih =>
    cases st with
    | append i => exact ih _ (List.forall_mem_cons.mpr ⟨rfl, hown⟩) hbuilt
    | build i =>
      refine ih _ hown fun j a hj => ?_
      rcases List.mem_cons.mp hj with e | hj
      · obtain ⟨rfl, e⟩ := Prod.mk.inj e
        exact hown (j, a) (lookupOwn_some e.symm)
      · exact hbuilt j a hj

/-- As coded (`slices.Clone` per call): under EVERY interleaving of the steps of any number of
    `Make` calls on one shared Config, a client is built with the authorization interceptor of
    its OWN address — never another call's. -/
theorem make_clone_schedule_independent (addr : Nat → Str) (steps : List MStep) (i : Nat) (a : Str)
    (h : (i, some a) ∈ (mrun false addr steps).built) : a = addr i :=
  (mrun_clone_inv addr steps MState.init (by intro p hp; cases hp) (by intro i a h; cases h)).2 i a h

/-- Hence the credential a request carries is a function of (configuration, address of the
    client) only — whatever other clients were made from the same Config, before, after or at the
    same time: it is `chainAuth` at the client's own address, to which `header_only_if_configured`
    applies.  (The model is sequential and pure; that the real, concurrent `Make` behaves like
    some interleaving of these steps is exercised by section E of the harness: concurrent, nested
    and sequential construction on one shared config against four loopback registries.) -/
theorem client_token_function_of_config_and_address (bufToken : Str) (file : Option (List Str))
    (addr : Nat → Str) (steps : List MStep) (i : Nat) (a : Str)
    (h : (i, some a) ∈ (mrun false addr steps).built) :
    clientAuth bufToken file a = chainAuth bufToken file (addr i) := by
  rw [make_clone_schedule_independent addr steps i a h]; rfl

/-- Seed C19-m5 (append onto the shared slice): the interleaving append A, append B, build A,
    build B gives BOTH clients the interceptor of B — every later request to A carries B's token.
    A purely sequential use (append A, build A, append B, build B) shows nothing. -/
theorem make_shared_slice_counterexample :
    (mrun true (fun i => if i = 0 then "A".toList else "B".toList) [.append 0, .append 1, .build 0, .build 1]).built =
      [(1, some "B".toList), (0, some "B".toList)] ∧
    (mrun true (fun i => if i = 0 then "A".toList else "B".toList) [.append 0, .build 0, .append 1, .build 1]).built =
      [(1, some "B".toList), (0, some "A".toList)] := by decide

-- non-vacuity: an interleaved cloning run builds both clients correctly
example : (mrun false (fun i => if i = 0 then "A".toList else "B".toList) [.append 0, .append 1, .build 0, .build 1]).built =
    [(1, some "B".toList), (0, some "A".toList)] := by decide

/-! ## Redirect chains -/

/-- **No hop of a redirect chain carries a token unless it goes to the original host.**  For every
    chain of redirect targets, whatever the first request carried: a hop that carries a token `t`
    goes to the host the client was made for (up to the case of letters), and `t` is the token of
    the first request — which `header_only_if_configured` ties to the configuration of that host. -/
theorem redirect_hop_only_original_host (first : Option Str) (orig : Str) (chain : List Str)
    (stripped : Bool) (k : Nat) (t : Str)
    (h : (hopHeaders first orig chain stripped)[k]? = some (some t)) :
    first = some t ∧ ∃ host, chain[k]? = some host ∧ eqFoldHost host orig = true := by
  induction chain generalizing stripped k with
  | nil => simp [hopHeaders] at h
  | cons c rest ih =>
    cases k with
    | zero =>
      simp only [hopHeaders, List.getElem?_cons_zero, Option.some.injEq] at h
      by_cases hs : (stripped || !(isDomainOrSubdomain c orig)) = true
      · simp [hs] at h
      · simp only [hs] at h
        by_cases he : eqFoldHost c orig = true
        · simp [he] at h
          exact ⟨h, c, by simp, he⟩
        · simp [he] at h
    | succ k =>
      simp only [hopHeaders, List.getElem?_cons_succ] at h
      obtain ⟨h1, host, h2, h3⟩ := ih _ k h
      exact ⟨h1, host, by simpa using h2, h3⟩

/-- Whole chain: the token configured for `host` (if any) is the only thing any hop can carry, and
    only hops to `host` carry it — composition with `header_only_if_configured`. -/
theorem redirect_chain_only_if_configured (bufToken : Str) (file : Option (List Str)) (host t : Str)
    (r : AuthResult) (h : chainAuth bufToken file host = .ok r) (chain : List Str) (k : Nat)
    (hk : (hopHeaders r.header host chain false)[k]? = some (some t)) :
    (∃ hop, chain[k]? = some hop ∧ eqFoldHost hop host = true) ∧
    ((newTokenProvider bufToken = .ok (.single t) ∧ t = bufToken ∧ r.usingEnv = true) ∨
     ((t ++ '@' :: host) ∈ splitOn ',' bufToken ∧ r.usingEnv = true) ∨
     (∃ p, newTokenProvider bufToken = .ok p ∧ remoteToken p host = [] ∧
       netrcRemoteToken file host = .ok t ∧ r.usingEnv = false)) := by
  obtain ⟨h1, h2⟩ := redirect_hop_only_original_host r.header host chain false k t hk
  exact ⟨h2, header_only_if_configured bufToken file host t r h h1⟩

/-- Once net/http has left the site of the original host, nothing is carried any more (sticky). -/
theorem redirect_stripped_stays_stripped (first : Option Str) (orig : Str) (chain : List Str) :
    ∀ x ∈ hopHeaders first orig chain true, x = none := by
  induction chain with
  | nil => simp [hopHeaders]
  | cons c rest ih =>
    intro x hx
    simp only [hopHeaders, Bool.true_or, List.mem_cons] at hx
    rcases hx with hx | hx
    · simpa using hx
    · exact ih x hx

/-- Why the fix was needed (the code before 018ad7b, net/http alone): a redirect to a SUBDOMAIN of
    the registry carries the registry's token to that other host. -/
theorem redirect_subdomain_counterexample :
    hopHeadersStdlibOnly (some "tk0".toList) "buf.build".toList ["a.b.buf.build".toList] false = [some "tk0".toList] ∧
    hopHeaders (some "tk0".toList) "buf.build".toList ["a.b.buf.build".toList] false = [none] := by
  repeat rw [String.toList_ofList]
  decide +kernel

-- non-vacuity: a chain that leaves to a subdomain and comes back carries the token at the original
-- host again (checkRedirect is per request), while a chain through an unrelated host never does
example : hopHeaders (some "tk0".toList) "buf.build".toList
    ["sub.buf.build".toList, "buf.build".toList] false = [none, some "tk0".toList] := by
  repeat rw [String.toList_ofList]
  decide +kernel
example : hopHeaders (some "tk0".toList) "buf.build".toList
    ["evilbuf.build".toList, "buf.build".toList] false = [none, none] := by
  repeat rw [String.toList_ofList]
  decide +kernel
example : hopHeaders (some "tk0".toList) "buf.build".toList ["BUF.BUILD".toList] false = [none] := by
  repeat rw [String.toList_ofList]
  decide +kernel

end BufProofs.C19
