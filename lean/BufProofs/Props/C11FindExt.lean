import BufModel.FindExtension
/-
  Property C11, round-trip half, DECLARATION SITES.  A source-built image prints a custom option in
  json / yaml / txtpb only if `resolverForFiles.FindExtensionByNumber` finds the declaration of the
  extension, and that is the tree search `findExtension` (build_image.go).  An extension may be
  declared at file level or in ANY message of the file, however deep, whether or not the messages
  on the way declare extensions themselves.

  Model: BufModel/FindExtension.lean.  The search is the first hit in the pre-order listing of ALL
  declarations of the file (`findExtension_eq_first_declared`); the other theorems are read off
  that, and the two `_counterexample`s are searches that skip a message without extensions of its
  own or compare the number only.

  Correspondence: protocol line `fext` (Driver/C11.lean) against the function taken verbatim from
  the working tree (harness/cmd/c11/partb5.go, probe program).
-/
namespace BufProofs.C11
open BufModel.FindExtension

/-- the predicate of the code as it is -/
abbrev isDecl (message : Nat) (field : Int) (e : Ext) : Bool := hits Variant.asCoded message field e

theorem findExt_hits_iff (message : Nat) (field : Int) (e : Ext) :
    isDecl message field e = true ↔ e.extendee = message ∧ e.number = field := by
  simp [isDecl, hits, Variant.asCoded]
  constructor
  · intro h; exact ⟨h.2, h.1⟩
  · intro h; exact ⟨h.2, h.1⟩

theorem findExt_scan_eq_find (v : Variant) (message : Nat) (field : Int) (l : List Ext) :
    scanExts v message field l = l.find? (hits v message field) := by
  induction l with
  | nil => rfl
  | cons e rest ih =>
    simp only [scanExts, List.find?_cons]
    cases hits v message field e <;> simp [ih]

mutual
theorem findExt_msg_eq (message : Nat) (field : Int) : ∀ m : Msg,
    findMsg Variant.asCoded message field m = (allMsg m).find? (isDecl message field)
  | .mk exts nested => by
    have ih := findExt_msgs_eq message field nested
    simp only [findMsg, allMsg, List.find?_append, findExt_scan_eq_find, ih]
    cases exts.find? (hits Variant.asCoded message field) <;> rfl
theorem findExt_msgs_eq (message : Nat) (field : Int) : ∀ l : List Msg,
    findMsgs Variant.asCoded message field l = (allMsgs l).find? (isDecl message field)
  | [] => rfl
  | m :: rest => by
    have ih1 := findExt_msg_eq message field m
    have ih2 := findExt_msgs_eq message field rest
    have hstep : findMsgs Variant.asCoded message field (m :: rest) =
        (match findMsg Variant.asCoded message field m with
         | some e => some e
         | none => findMsgs Variant.asCoded message field rest) := rfl
    rw [hstep, ih1, ih2]
    simp only [allMsgs, List.find?_append]
    cases (allMsg m).find? (isDecl message field) <;> rfl
end

/-- `findExtension` returns the FIRST declaration, in pre-order over the whole file tree, that
    extends `message` with number `field` — for every file, every nesting. -/
theorem findExtension_eq_first_declared (f : File) (message : Nat) (field : Int) :
    findExtension f message field = (allFile f).find? (isDecl message field) := by
  simp only [findExtension, findFile, allFile, List.find?_append, findExt_scan_eq_find, findExt_msgs_eq]
  cases f.exts.find? (hits Variant.asCoded message field) <;> rfl

/-- It finds an extension iff one is declared anywhere in the file tree. -/
theorem findExtension_finds_iff_declared (f : File) (message : Nat) (field : Int) :
    (findExtension f message field).isSome = true ↔
      ∃ e, e ∈ allFile f ∧ e.extendee = message ∧ e.number = field := by
  rw [findExtension_eq_first_declared, List.find?_isSome]
  constructor
  · rintro ⟨e, he, hp⟩; exact ⟨e, he, (findExt_hits_iff message field e).mp hp⟩
  · rintro ⟨e, he, hp⟩; exact ⟨e, he, (findExt_hits_iff message field e).mpr hp⟩

/-- What it returns is declared in the file, extends the asked message, has the asked number
    (in particular: never an extension of ANOTHER message that happens to share the number). -/
theorem findExtension_sound (f : File) (message : Nat) (field : Int) (e : Ext)
    (h : findExtension f message field = some e) :
    e ∈ allFile f ∧ e.extendee = message ∧ e.number = field := by
  rw [findExtension_eq_first_declared] at h
  exact ⟨List.mem_of_find?_eq_some h, (findExt_hits_iff message field e).mp (List.find?_some h)⟩

/-- (extendee, number) identifies a declaration: what protocompile guarantees for a linked file -/
def UniqueKeys (l : List Ext) : Prop :=
  ∀ a, a ∈ l → ∀ b, b ∈ l → a.extendee = b.extendee → a.number = b.number → a = b

/-- Every declared extension is found under its own (extendee, number), whatever its nesting and
    whatever its neighbours: `FindExtensionByNumber` agrees with the declaration. -/
theorem findExtension_complete_unique (f : File) (hu : UniqueKeys (allFile f)) (e : Ext)
    (he : e ∈ allFile f) : findExtension f e.extendee e.number = some e := by
  have hsome : (findExtension f e.extendee e.number).isSome = true :=
    (findExtension_finds_iff_declared f e.extendee e.number).mpr ⟨e, he, rfl, rfl⟩
  cases hres : findExtension f e.extendee e.number with
  | none => rw [hres] at hsome; cases hsome
  | some x =>
    have hx := findExtension_sound f e.extendee e.number x hres
    rw [hu x hx.1 e he hx.2.1 hx.2.2]

/-- A message that declares nothing itself is transparent: the regression (not descending into a
    pure namespace) is excluded for every nesting depth. -/
theorem findExtension_namespace_transparent (message : Nat) (field : Int) (inner : List Msg) :
    findMsg Variant.asCoded message field (.mk [] inner) = findMsgs Variant.asCoded message field inner := rfl

/-- wrapping all messages of a file into a pure namespace message changes no answer -/
theorem findExtension_wrap_in_namespace (f : File) (message : Nat) (field : Int) :
    findExtension { exts := f.exts, msgs := [.mk [] f.msgs] } message field = findExtension f message field := by
  simp only [findExtension_eq_first_declared, allFile, allMsgs, allMsg, List.nil_append, List.append_nil]

/-! ## the regressions are expressible and violate the theorems (non-vacuity) -/

/-- `message Scope { message Fields { extend E1 { … = 7 } } }` -/
def exNamespaceFile : File :=
  { exts := [], msgs := [.mk [] [.mk [⟨1, 7, 100⟩] []]] }

example : findExtension exNamespaceFile 1 7 = some ⟨1, 7, 100⟩ := by decide
example : UniqueKeys (allFile exNamespaceFile) := by
  intro a ha b hb _ _
  simp [allFile, allMsgs, allMsg, exNamespaceFile] at ha hb
  rw [ha, hb]

/-- not descending into a message without own extensions: a declared extension is not found -/
theorem findExtension_skip_empty_counterexample :
    findFile ⟨true, false⟩ 1 7 exNamespaceFile = none ∧
    (∃ e, e ∈ allFile exNamespaceFile ∧ e.extendee = 1 ∧ e.number = 7) := by
  refine ⟨by decide, ⟨⟨1, 7, 100⟩, ?_, rfl, rfl⟩⟩
  simp [allFile, allMsgs, allMsg, exNamespaceFile]

/-- two extendees sharing number 7 in one file, the other one declared first -/
def exCollisionFile : File :=
  { exts := [⟨2, 7, 200⟩], msgs := [.mk [⟨1, 7, 100⟩] []] }

example : findExtension exCollisionFile 1 7 = some ⟨1, 7, 100⟩ := by decide
example : findExtension exCollisionFile 2 7 = some ⟨2, 7, 200⟩ := by decide
example : findExtension exCollisionFile 3 7 = none := by decide

/-- comparing the number only: an extension of ANOTHER message is returned -/
theorem findExtension_number_only_counterexample :
    findFile ⟨false, true⟩ 1 7 exCollisionFile = some ⟨2, 7, 200⟩ := by decide

end BufProofs.C11
