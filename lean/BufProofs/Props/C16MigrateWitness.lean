import BufProofs.Lemmas.MigrateRulesSpec
/-
  C16 migration theorems, part "witnesses": the hypotheses of the theorems in
  Props/C16Migrate.lean are satisfiable, every exception they state is necessary (concrete
  configurations, kernel evaluation on the regenerated tables).

  The facts about one witness are evaluated together, in one `private theorem`, and stated one by
  one after it: what the kernel pays for is decoding and comparing the id literals of the tables,
  and within one evaluation it does that once for all the facts.
-/
namespace BufProofs.C16
open BufModel.Path BufModel.Rules BufModel.MigrateRules BufGen.RuleTables

/-! ### witnesses: the hypotheses are satisfiable, each exception is necessary -/

-- An absent v1 lint section (the v1 defaults; also what a directory without buf.yaml gets):
-- migrated to `except: [FIELD_NOT_REQUIRED, PACKAGE_NO_IMPORT_CYCLE]` (the rules v2 added to its
-- defaults); the exception does not apply, the 33 selected rules are the same before and after.
private theorem absent_section :
    migrateCheck (rulesOf .v1) (rulesOf .v2) true (chkCfg [] []) =
      .ok (chkCfg [] ["FIELD_NOT_REQUIRED", "PACKAGE_NO_IMPORT_CYCLE"]) ∧
    selectedIds (rulesOf .v2) true (chkCfg [] ["FIELD_NOT_REQUIRED", "PACKAGE_NO_IMPORT_CYCLE"]) =
      selectedIds (rulesOf .v1) true (chkCfg [] []) := by decide +kernel

private theorem exceptCoversSelected_no_except (v : Version) (lint : Bool) (use : List Id) :
    exceptCoversSelected v lint (chkCfg use []) = false := by
  unfold exceptCoversSelected
  split
  · simp [coveredB, translateIds, chkCfg]
  · rfl

example : migrateCheck (rulesOf .v1) (rulesOf .v2) true (chkCfg [] []) =
    .ok (chkCfg [] ["FIELD_NOT_REQUIRED", "PACKAGE_NO_IMPORT_CYCLE"]) := absent_section.1
example : exceptCoversSelected .v1 true (chkCfg [] []) = false := exceptCoversSelected_no_except _ _ _
example : selectedIds (rulesOf .v2) true (chkCfg [] ["FIELD_NOT_REQUIRED", "PACKAGE_NO_IMPORT_CYCLE"]) =
    selectedIds (rulesOf .v1) true (chkCfg [] []) := absent_section.2

-- Exception "no v2 counterpart" is necessary: v1beta1 `use: [SENSIBLE]` selects
-- FIELD_NO_DESCRIPTOR, the migrated configuration cannot.
private theorem use_sensible :
    migrateCheck (rulesOf .v1beta1) (rulesOf .v2) true (chkCfg ["SENSIBLE"] []) =
      .ok (chkCfg ["ENUM_NO_ALLOW_ALIAS", "IMPORT_NO_PUBLIC", "PACKAGE_DEFINED"] []) ∧
    selectedIds (rulesOf .v1beta1) true (chkCfg ["SENSIBLE"] []) =
      .ok ["ENUM_NO_ALLOW_ALIAS", "FIELD_NO_DESCRIPTOR", "IMPORT_NO_PUBLIC", "PACKAGE_DEFINED"] ∧
    selectedIds (rulesOf .v2) true (chkCfg ["ENUM_NO_ALLOW_ALIAS", "IMPORT_NO_PUBLIC", "PACKAGE_DEFINED"] []) =
      .ok ["ENUM_NO_ALLOW_ALIAS", "IMPORT_NO_PUBLIC", "PACKAGE_DEFINED"] ∧
    hasV2Counterpart true "FIELD_NO_DESCRIPTOR" = false := by decide +kernel

example : migrateCheck (rulesOf .v1beta1) (rulesOf .v2) true (chkCfg ["SENSIBLE"] []) =
    .ok (chkCfg ["ENUM_NO_ALLOW_ALIAS", "IMPORT_NO_PUBLIC", "PACKAGE_DEFINED"] []) := use_sensible.1
example : selectedIds (rulesOf .v1beta1) true (chkCfg ["SENSIBLE"] []) =
    .ok ["ENUM_NO_ALLOW_ALIAS", "FIELD_NO_DESCRIPTOR", "IMPORT_NO_PUBLIC", "PACKAGE_DEFINED"] := use_sensible.2.1
example : selectedIds (rulesOf .v2) true (chkCfg ["ENUM_NO_ALLOW_ALIAS", "IMPORT_NO_PUBLIC", "PACKAGE_DEFINED"] []) =
    .ok ["ENUM_NO_ALLOW_ALIAS", "IMPORT_NO_PUBLIC", "PACKAGE_DEFINED"] := use_sensible.2.2.1
example : hasV2Counterpart true "FIELD_NO_DESCRIPTOR" = false := use_sensible.2.2.2

/-- The facts of `migrate_except_category_counterexample`, and its witness under the
    repair (the two `example`s at the end of this file). -/
private theorem except_wire :
    (migrateCheck (rulesOf .v1beta1) (rulesOf .v2) false (chkCfg [] ["WIRE"]) =
        .ok (chkCfg ["FILE_SAME_PACKAGE"] ["EXTENSION_NO_DELETE", "FIELD_SAME_CARDINALITY", "FIELD_SAME_TYPE", "WIRE"]) ∧
      (selectedIds (rulesOf .v1beta1) false (chkCfg [] ["WIRE"])).map (·.length) = .ok 38 ∧
      selectedIds (rulesOf .v2) false
        (chkCfg ["FILE_SAME_PACKAGE"] ["EXTENSION_NO_DELETE", "FIELD_SAME_CARDINALITY", "FIELD_SAME_TYPE", "WIRE"]) = .ok [] ∧
      exceptCoversSelected .v1beta1 false (chkCfg [] ["WIRE"]) = true) ∧
    (migrateCheckFixed true (rulesOf .v1beta1) (rulesOf .v2) false (chkCfg [] ["WIRE"])).map (fun c => (c.use.length, c.except)) =
      .ok (38, []) ∧
    (migrateCheckFixed true (rulesOf .v1beta1) (rulesOf .v2) false (chkCfg [] ["WIRE"])).bind
        (fun c => selectedIds (rulesOf .v2) false c) =
      selectedIds (rulesOf .v1beta1) false (chkCfg [] ["WIRE"]) := by decide +kernel

/-- Exception `exceptCoversSelected` is necessary, and in `migrateCheck` it is a defect of the
    migrator (repaired by fd016ed of /repo; replayed on the implementation, oracle class
    migrate-breaking-changed-except-category-grew):
    v1beta1 `breaking: except: [WIRE]` selects 38 rules (the defaults minus the v1beta1 members of
    WIRE); the migrated section is `use: [FILE_SAME_PACKAGE]`, `except: [EXTENSION_NO_DELETE,
    FIELD_SAME_CARDINALITY, FIELD_SAME_TYPE, WIRE]`, which selects NOTHING in v2: FILE_SAME_PACKAGE
    became a member of WIRE, the repair put it into `use`, which replaced the default rule set
    and loses against `except`. -/
theorem migrate_except_category_counterexample :
    migrateCheck (rulesOf .v1beta1) (rulesOf .v2) false (chkCfg [] ["WIRE"]) =
      .ok (chkCfg ["FILE_SAME_PACKAGE"] ["EXTENSION_NO_DELETE", "FIELD_SAME_CARDINALITY", "FIELD_SAME_TYPE", "WIRE"]) ∧
    (selectedIds (rulesOf .v1beta1) false (chkCfg [] ["WIRE"])).map (·.length) = .ok 38 ∧
    selectedIds (rulesOf .v2) false
      (chkCfg ["FILE_SAME_PACKAGE"] ["EXTENSION_NO_DELETE", "FIELD_SAME_CARDINALITY", "FIELD_SAME_TYPE", "WIRE"]) = .ok [] ∧
    exceptCoversSelected .v1beta1 false (chkCfg [] ["WIRE"]) = true :=
  except_wire.1

-- The same exception in v1 (no default set involved): PACKAGE_NO_IMPORT_CYCLE has no category in
-- v1 and belongs to MINIMAL in v2; `use: [COMMENTS, PACKAGE_NO_IMPORT_CYCLE], except: [MINIMAL]`
-- migrates to itself and no longer selects PACKAGE_NO_IMPORT_CYCLE.
private theorem except_minimal :
    migrateCheck (rulesOf .v1) (rulesOf .v2) true (chkCfg ["PACKAGE_NO_IMPORT_CYCLE", "COMMENTS"] ["MINIMAL"]) =
      .ok (chkCfg ["COMMENTS", "PACKAGE_NO_IMPORT_CYCLE"] ["MINIMAL"]) ∧
    exceptCoversSelected .v1 true (chkCfg ["PACKAGE_NO_IMPORT_CYCLE", "COMMENTS"] ["MINIMAL"]) = true ∧
    "PACKAGE_NO_IMPORT_CYCLE" ∈ (match selectedIds (rulesOf .v1) true (chkCfg ["PACKAGE_NO_IMPORT_CYCLE", "COMMENTS"] ["MINIMAL"]) with
      | .ok l => l | .error _ => []) ∧
    "PACKAGE_NO_IMPORT_CYCLE" ∉ (match selectedIds (rulesOf .v2) true (chkCfg ["COMMENTS", "PACKAGE_NO_IMPORT_CYCLE"] ["MINIMAL"]) with
      | .ok l => l | .error _ => []) := by decide +kernel

example : migrateCheck (rulesOf .v1) (rulesOf .v2) true (chkCfg ["PACKAGE_NO_IMPORT_CYCLE", "COMMENTS"] ["MINIMAL"]) =
    .ok (chkCfg ["COMMENTS", "PACKAGE_NO_IMPORT_CYCLE"] ["MINIMAL"]) := except_minimal.1
example : exceptCoversSelected .v1 true (chkCfg ["PACKAGE_NO_IMPORT_CYCLE", "COMMENTS"] ["MINIMAL"]) = true := except_minimal.2.1
example : "PACKAGE_NO_IMPORT_CYCLE" ∈ (match selectedIds (rulesOf .v1) true (chkCfg ["PACKAGE_NO_IMPORT_CYCLE", "COMMENTS"] ["MINIMAL"]) with
    | .ok l => l | .error _ => []) := except_minimal.2.2.1
example : "PACKAGE_NO_IMPORT_CYCLE" ∉ (match selectedIds (rulesOf .v2) true (chkCfg ["COMMENTS", "PACKAGE_NO_IMPORT_CYCLE"] ["MINIMAL"]) with
    | .ok l => l | .error _ => []) := except_minimal.2.2.2

-- Deprecated ids are replaced by their replacements, ids v2 does not have are expanded / dropped:
example : migrateCheck (rulesOf .v1) (rulesOf .v2) false (chkCfg ["FIELD_SAME_LABEL", "FIELD_SAME_CTYPE", "FILE_SAME_PHP_GENERIC_SERVICES"] []) =
    .ok (chkCfg ["FIELD_SAME_CARDINALITY", "FIELD_SAME_CPP_STRING_TYPE", "FIELD_WIRE_COMPATIBLE_CARDINALITY",
                "FIELD_WIRE_JSON_COMPATIBLE_CARDINALITY"] []) := by decide +kernel
example : migrateCheck (rulesOf .v1beta1) (rulesOf .v2) true (chkCfg ["FILE_LAYOUT", "FIELD_NO_DESCRIPTOR"] ["OTHER"]) =
    .ok (chkCfg ["DIRECTORY_SAME_PACKAGE", "PACKAGE_DIRECTORY_MATCH", "PACKAGE_SAME_DIRECTORY"] ["ENUM_FIRST_VALUE_ZERO"]) := by decide +kernel
-- an id the version does not know makes the migration fail
example : migrateCheck (rulesOf .v1) (rulesOf .v2) true (chkCfg ["FILE_LAYOUT"] []) = .error .unknownId := by decide +kernel

/-! ### the repair on the witnesses -/

-- the witness of `migrate_except_category_counterexample` under the repair: the 38 rules are named
example : (migrateCheckFixed true (rulesOf .v1beta1) (rulesOf .v2) false (chkCfg [] ["WIRE"])).map (fun c => (c.use.length, c.except)) =
    .ok (38, []) := except_wire.2.1
example : (migrateCheckFixed true (rulesOf .v1beta1) (rulesOf .v2) false (chkCfg [] ["WIRE"])).bind
      (fun c => selectedIds (rulesOf .v2) false c) =
    selectedIds (rulesOf .v1beta1) false (chkCfg [] ["WIRE"]) := except_wire.2.2


end BufProofs.C16
