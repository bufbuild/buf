import BufProofs.Lemmas.FormatLemmas
/-
  C07 — Formatting preserves meaning and comments and is idempotent.
  Level: TRANSLATION VALIDATION.  The 2.4k-line AST printer is NOT modelled and nothing here is a
  theorem about it.  What is proved is about the executable checker that the driver runs on every
  (input, real formatter output) pair:

    driver accepts  ⇔  validFormatFile inp out ∧ isFormatted out ∧ format(out) = out   (last one: harness)

  where `validFormatFile inp out = validFormat (stripBOM inp) out`: protocompile's lexer consumes a
  UTF-8 byte order mark at the beginning of a file (`file_checker_sound`, `file_comments_preserved`,
  `comments_stripBOM`; `comment_only_file_not_emptied`: an accepted run with EMPTY output has an
  input without any comment — a comment-only file is never formatted to nothing).

  * `checker_sound`, `checker_sound_tokens`, `header_permutation`: acceptance implies an explicit
    RELATION BETWEEN `inp` AND `out`: the significant tokens of `out` (with the comments
    protocompile attributes to them) are those of `inp` after the body-level token rewrites
    (`Rewrites`: each constructor one documented rewrite), cut into file-level statements
    (`stmts_flatten`: the cut loses/duplicates nothing) and rearranged as `HeaderRel` allows.
  * `comments_preserved`, `comments_attached`: no comment lost or invented, and every comment is
    attached to the same token of a token-identical declaration.
  * `formatted_accepts_itself`, `formatted_fixed_point`, `header_idempotent`: the normal form.
  What is VALIDATED per program (correspondence harness): the real formatter's output is accepted;
  the model's lexer / comment attribution / role automaton / header canonicalisation agree with
  protocompile's AST and with the header order the formatter actually produced.
  NOT proved: that the printer emits accepted output for every input; that protocompile's parser
  is a function of the significant tokens (library assumption); that a token-level `Rewrites`
  step preserves the PARSE (there is no parser model) — the roles are tied to protocompile's AST
  only per program (counts of empty statements / separators / angle brackets / missing colons).
-/
namespace BufProofs.C07
open BufModel.Format

/-! ### lexer and decoration: loss-free re-presentations of the text -/

/-- Concatenating the token texts gives back the input, for every input. -/
theorem lexer_roundtrip (s : Str) : (lex s).flatMap (·.text) = s := (lexAux_spec _ s (Nat.le_refl _)).1

/-- The lexer is total with fuel = input length: the out-of-fuel token is never produced and every
    token consumes at least one character. -/
theorem lexer_total (s : Str) : ∀ t ∈ lex s, t.kind ≠ .fuel ∧ t.text ≠ [] :=
  (lexAux_spec _ s (Nat.le_refl _)).2

/-- The decorated stream has exactly the significant tokens (plus the EOF token). -/
theorem decorate_toks (ts : List Token) : toks (decorate ts) = sig ts ++ [eofTok] := by
  unfold decorate
  rw [(decoAux_spec _ _).1]
  rfl

/-- The decorated stream has exactly the comments, in source order: attribution loses and invents nothing. -/
theorem decorate_comments (ts : List Token) : commentsOf (decorate ts) = (comments ts).map commentKey := by
  unfold decorate
  rw [(decoAux_spec _ _).2]
  rfl

example : (sig (lex "a=1;//c\n".toList)).map (·.text) = ["a".toList, "=".toList, "1".toList, ";".toList] := by decide
example : (lex "x='a\\'b'/*c*/1e-3".toList).map (·.kind) = [.ident, .sym, .str, .blockComment, .num] := by
  rw [String.toList_ofList]
  decide +kernel
-- attribution as protocompile does it: `// t` trails `;`, `/* l */` leads `b`, the last comment is EOF's
example : (decorate (lex "a; // t\n/* l */ b; // e".toList)).map (fun d => (d.tok.text, d.lead.length, d.trail.length))
    = [("a".toList, 0, 0), (";".toList, 0, 1), ("b".toList, 1, 0), (";".toList, 0, 1), ([], 0, 0)] := by
  repeat rw [String.toList_ofList]
  decide +kernel

/-! ### the documented body-level rewrites -/

theorem roleOf_ok (st : AState) (t : Token) (rest : List Token) :
    ((roleOf st t rest).1 = .dropEmpty → t.is ";") ∧
    ((roleOf st t rest).1 = .dropSep → (t.is "," ∨ t.is ";")) ∧
    ((roleOf st t rest).1 = .toOpenBrace → t.is "<") ∧
    ((roleOf st t rest).1 = .toCloseBrace → t.is ">") :=
  (roleOf_fits st t rest).ok

theorem annotateFrom_ok (st : AState) (ts : List Token) :
    ∀ p ∈ annotateFrom st ts, (p.2 = .dropEmpty → p.1.is ";") ∧ (p.2 = .dropSep → (p.1.is "," ∨ p.1.is ";")) ∧
      (p.2 = .toOpenBrace → p.1.is "<") ∧ (p.2 = .toCloseBrace → p.1.is ">") :=
  fun p hp => (annotateFrom_fits st ts p hp).ok

/-- The normaliser only ever applies the documented rewrites: only `;` is dropped as an empty
    statement, only `,`/`;` as a separator, only `<`/`>` become `{`/`}`, only `:` is inserted. -/
theorem norm_rewrites (ts : List Token) : Rewrites (annotate ts) (norm ts) :=
  norm_rewrites_aux _ (annotateFrom_fits {} ts)

/-- The decorated rewrite projects to the token rewrite: comments do not influence it. -/
theorem normD_tokens (ds : List DTok) : toks (normD ds) = norm (toks ds) := by
  unfold normD annotateD norm
  rw [flatMap_normTokD_toks, (moveSepTrail_spec _).1, zip_proj, annotate_eq_zip]

/-- Token conservation of the statement splitter: the statements, concatenated, are the stream. -/
theorem stmts_flatten (ds : List DTok) : (stmts ds).flatten = ds := by
  unfold stmts
  rw [splitStmts_flatten]
  rfl

/-- Partition into the five header classes loses and duplicates no statement. -/
theorem header_partition (ss : List Stmt) : (parseHeader ss).render.Perm ss := parseHeader_perm ss

/-- Comment-gap normalisation touches neither tokens nor the comment sequence. -/
theorem gapNorm_conservative (s : Stmt) : stmtText (gapNorm s) = stmtText s ∧ commentsOf (gapNorm s) = commentsOf s :=
  ⟨gapNorm_toks s, gapNorm_comments s⟩

/-! ### soundness of the checker -/

/-- The relation the checker decides, between the decorated streams of input and output. -/
structure FormatRel (di dout : List DTok) : Prop where
  /-- no token that the rewrites drop carries a comment -/
  clean : dropsClean (annotateD di) = true
  /-- the statements of the output are those of the rewritten input, hoisted / sorted -/
  header : HeaderRel ((stmts (normD di)).map gapNorm) ((stmts dout).map gapNorm)

/-- SOUNDNESS of the translation validator (on decorated streams). -/
theorem checker_sound (inp out : Str) (h : validFormat inp out = true) :
    FormatRel (decorate (lex inp)) (decorate (lex out)) := by
  unfold validFormat validD at h
  simp only [Bool.and_eq_true] at h
  exact ⟨h.1, headerOK_sound _ _ h.2⟩

/-- SOUNDNESS, spelled out on the significant tokens of the two TEXTS.  If the checker accepts
    (inp, out) there are statement lists `SI`, `SO` such that
    * `SI`, concatenated, is the token stream of `inp` (EOF appended) after the body-level rewrites,
      and those rewrites are an instance of the explicit relation `Rewrites`;
    * `SO`, concatenated, is the token stream of `out` (EOF appended) — unchanged;
    * `SO` is `SI` rearranged as `HeaderRel` allows: syntax / package / all other declarations
      identical and in the same order, imports permuted minus comment-free duplicates, options
      reordered stably — and hence (`header_permutation`) a permutation of `SI` minus the elided imports.
    What this does NOT say: that two token streams so related have the same PARSE — that step is
    the library assumption (protocompile's parser is a function of the significant tokens) plus
    the reading of `Rewrites`/`HeaderRel` as meaning-preserving; the roles are validated against
    protocompile's AST per program only. -/
theorem checker_sound_tokens (inp out : Str) (h : validFormat inp out = true) :
    ∃ SI SO : List Stmt,
      toks SI.flatten = norm (sig (lex inp) ++ [eofTok]) ∧
      Rewrites (annotate (sig (lex inp) ++ [eofTok])) (toks SI.flatten) ∧
      toks SO.flatten = sig (lex out) ++ [eofTok] ∧
      HeaderRel SI SO := by
  have hr := checker_sound inp out h
  refine ⟨_, _, ?_, ?_, ?_, hr.header⟩
  · rw [toks_flatten_gapNorm, stmts_flatten, normD_tokens, decorate_toks]
  · rw [toks_flatten_gapNorm, stmts_flatten, normD_tokens, decorate_toks]
    exact norm_rewrites _
  · rw [toks_flatten_gapNorm, stmts_flatten, decorate_toks]

/-- What `HeaderRel` implies globally: the output statements are a permutation of the input
    statements minus the elided ones; every elided statement is an import without any comment
    whose file is imported by a kept import. -/
theorem header_permutation (si so : List Stmt) (h : HeaderRel si so) :
    ∃ elided : List Stmt, (so ++ elided).Perm si ∧
      ∀ e ∈ elided, cls e = .imp ∧ stmtComments e = [] ∧ ∃ k ∈ so, cls k = .imp ∧ importName k = importName e :=
  h.perm

/-- The header rearrangement as a CHAIN OF ELEMENTARY STEPS (`HStep`): whatever `HeaderRel`
    relates is reachable by finitely many steps, each of which either exchanges two adjacent
    file-level statements whose relative order does not matter (an import with anything;
    statements of different classes — this is the hoisting; two options with different names) or
    removes a comment-free import of a file that another remaining import statement imports. -/
theorem header_chain (si so : List Stmt) (h : HeaderRel si so) : HSteps si so := h.chain

/-- Every elementary step preserves what can be stated about the meaning on statement lists:
    syntax, package and all declarations in their order; for every option name the sequence of
    its statements (a repeated option keeps the order of its values); the set of imported files;
    all comments with their anchors.  (That equal such data give equal descriptors is the library
    assumption — there is no parser model.) -/
theorem step_preserves_meaning (a b : List Stmt) (h : HStep a b) : SameMeaning a b := h.sound

theorem chain_preserves_meaning (a b : List Stmt) (h : HSteps a b) : SameMeaning a b := h.sound

/-- SOUNDNESS as a rewrite chain between the two texts: token-level `Rewrites` on the input
    stream, then `HSteps` on its statements, ends in the statements of the output stream. -/
theorem checker_sound_chain (inp out : Str) (h : validFormat inp out = true) :
    ∃ SI SO : List Stmt,
      Rewrites (annotate (sig (lex inp) ++ [eofTok])) (toks SI.flatten) ∧
      HSteps SI SO ∧
      toks SO.flatten = sig (lex out) ++ [eofTok] := by
  obtain ⟨SI, SO, _, h2, h3, h4⟩ := checker_sound_tokens inp out h
  exact ⟨SI, SO, h2, h4.chain, h3⟩

-- an exchange step is possible, and a forbidden exchange is not a step's premise
example : HStep [exStmtA, exStmtB] [exStmtB, exStmtA] := .swap [] [] _ _ (by decide +kernel)
example : conflict exStmtB exStmtB := by decide +kernel

/-! ### comments -/

/-- No comment is lost or invented: the comment contents of the output are a permutation of
    those of the input (content = the words of the comment: the formatter re-indents block
    comments and turns `// x` into `/* x */` when it prints it in-line). -/
theorem comments_preserved (inp out : Str) (h : validFormat inp out = true) :
    ((comments (lex out)).map commentKey).Perm ((comments (lex inp)).map commentKey) := by
  have hr := checker_sound inp out h
  -- every rearrangement step keeps the anchors, hence the comments of the statements
  have h1 := hr.header.chain.sound.comments.map (·.key)
  rw [anchors_keys, anchors_keys, commentsOf_flatten_gapNorm, commentsOf_flatten_gapNorm, stmts_flatten,
    stmts_flatten, decorate_comments] at h1
  exact h1.trans ((normD_comments _ hr.clean).trans (by rw [decorate_comments]))

/-- "Every comment stays attached to the same declaration."  With `SI` the declarations of the
    rewritten input and `SO` those of the output (both with interior comment gaps normalised):
    * the anchors of `SI` are exactly the comments of `inp`, the anchors of `SO` exactly the
      comments of `out` (nothing escapes the comparison);
    * the anchors of `SO` are a permutation of the anchors of `SI`: for every comment of the input
      the output has the same comment attached on the same side (leading / trailing) of the token
      with the same index in a declaration with the same token text.
    Moves that are built into the comparison (documented): (a) a comment BETWEEN two tokens of one
    declaration counts as leading for the right token unless the left token is `;`, `{` or a
    body-closing `}` (`gapNorm`); (b) the trailing comment of a dropped message-literal separator
    moves to the last token of the field value before it, or, when that token already has a
    trailing comment, in front of the leading comments of the token after the separator
    (`absorb`; before the repair it was lost in the second case: `sep_trailing_comment_lost_counterexample`);
    (c) a token that is dropped carries no other comment (`FormatRel.clean`), otherwise the run is
    rejected. -/
theorem comments_attached (inp out : Str) (h : validFormat inp out = true) :
    let SI := (stmts (normD (decorate (lex inp)))).map gapNorm
    let SO := (stmts (decorate (lex out))).map gapNorm
    ((anchors SI).map (·.key)).Perm ((comments (lex inp)).map commentKey) ∧
    (anchors SO).map (·.key) = (comments (lex out)).map commentKey ∧
    (anchors SO).Perm (anchors SI) := by
  intro SI SO
  have hr := checker_sound inp out h
  refine ⟨?_, ?_, ?_⟩
  · rw [anchors_keys, commentsOf_flatten_gapNorm, stmts_flatten, ← decorate_comments]
    exact normD_comments _ hr.clean
  · rw [anchors_keys, commentsOf_flatten_gapNorm, stmts_flatten, decorate_comments]
  · exact hr.header.chain.sound.comments

/-! ### file contents: the byte order mark, files without tokens -/

/-- `stripBOM` removes one leading U+FEFF and nothing else. -/
theorem stripBOM_spec (s : Str) : stripBOM s = s ∨ s = bomChar :: stripBOM s := by
  cases s with
  | nil => left; rfl
  | cons c cs =>
    unfold stripBOM
    by_cases h : c = bomChar
    · right; simp [h]
    · left; simp [h]

/-- the byte order mark is not (part of) a comment: the comments of a file are the comments of
    the text behind the mark. -/
theorem comments_stripBOM (s : Str) : comments (lex (stripBOM s)) = comments (lex s) := by
  rcases stripBOM_spec s with h | h
  · rw [h]
  · conv => rhs; rw [h]
    rw [lex_bom]
    unfold comments
    simp [List.filter, Token.isComment]

/-- soundness of the checker the driver runs, on file contents: acceptance relates the text of
    the input BEHIND ITS BYTE ORDER MARK (what protocompile lexes) to the output. -/
theorem file_checker_sound (inp out : Str) (h : validFormatFile inp out = true) :
    FormatRel (decorate (lex (stripBOM inp))) (decorate (lex out)) :=
  checker_sound _ _ h

/-- no comment of a FILE is lost or invented (byte order mark or not). -/
theorem file_comments_preserved (inp out : Str) (h : validFormatFile inp out = true) :
    ((comments (lex out)).map commentKey).Perm ((comments (lex inp)).map commentKey) := by
  rw [← comments_stripBOM inp]
  exact comments_preserved _ _ h

/-- A run whose output is EMPTY is accepted only if the input has no comment at all: a file that
    consists of comments only (a licence header, everything commented out -- all its comments
    belong to the EOF token) cannot be formatted to the empty file. -/
theorem comment_only_file_not_emptied (inp : Str) (h : validFormatFile inp [] = true) :
    comments (lex inp) = [] := by
  have hp := file_comments_preserved inp [] h
  have h0 : comments (lex ([] : Str)) = [] := rfl
  rw [h0] at hp
  have := hp.symm.eq_nil
  exact List.map_eq_nil_iff.mp this

/-- the number of comments never changes in an accepted run -/
theorem file_comment_count (inp out : Str) (h : validFormatFile inp out = true) :
    (comments (lex out)).length = (comments (lex inp)).length := by
  have := (file_comments_preserved inp out h).length_eq
  simpa using this

/-- why the rule is needed: without it the mark is a token of the input that the output lacks -/
theorem bom_needs_stripping_counterexample :
    validFormat (bomChar :: "// c\n".toList) "// c\n".toList = false ∧
    validFormatFile (bomChar :: "// c\n".toList) "// c\n".toList = true := by decide +kernel

/-! ### the normal form -/

/-- A formatted text is accepted as its own format. -/
theorem formatted_accepts_itself (x : Str) (h : isFormatted x = true) : validFormat x x = true := by
  unfold isFormatted formattedD at h
  simp only [Bool.and_eq_true] at h
  obtain ⟨⟨⟨hk, _⟩, _⟩, _⟩ := h
  unfold validFormat validD
  rw [normD_keep _ hk, dropsClean_keep _ hk, headerOK_refl]
  rfl

/-- The modelled token-level formatter (body rewrites; split; hoist, sort, elide; concatenate)
    leaves a formatted text unchanged: `isFormatted` IS its fixed-point set, tokens and comments.
    Together with `header_idempotent` this is the idempotence statement that can be proved; that
    the REAL printer reproduces its own output is checked per program (`format(out) = out`). -/
theorem formatted_fixed_point (x : Str) (h : isFormatted x = true) :
    fmtModel (decorate (lex x)) = decorate (lex x) := by
  unfold isFormatted formattedD at h
  simp only [Bool.and_eq_true, beq_iff_eq] at h
  obtain ⟨⟨⟨hk, hc⟩, _⟩, _⟩ := h
  unfold fmtModel
  rw [normD_keep _ hk, hc, stmts_flatten]

/-! ### non-vacuity: the checker accepts a real formatter run and rejects mutated outputs -/

-- `exIn` / `exOut` (Lemmas/FormatLemmas.lean): a real run — imports sorted (the trailing comment travels with
-- its import), `<>` → `{}`, the separator `,` dropped and its trailing comment moved to the value, empty statement dropped
example : validFormat exIn exOut = true := by
  unfold exIn exOut
  -- a literal is `String.ofList` of its characters: rewritten to that list first, because the kernel
  -- evaluates `"…".toList` through the byte array (quadratic in the length) and leaves every character
  -- an unevaluated decoding, on which the derived `DecidableEq` instances are very slow
  rw [String.toList_ofList, String.toList_ofList]
  decide +kernel
example : isFormatted exOut = true := by
  unfold exOut
  rw [String.toList_ofList]
  decide +kernel
-- a comment dropped (`// ta`)
example : validFormat exIn "import \"a\"; // ia\nimport \"b\";\n\noption x = {\n  a: 1 // s\n  b: {}\n};\n\nmessage M {\n  int32 a = 1;\n  /* lb */\n  int32 b = 2;\n}\n".toList = false := by
  unfold exIn
  rw [String.toList_ofList, String.toList_ofList]
  decide +kernel
-- the trailing comment of field a moved to the NEXT declaration (now leads field b)
example : validFormat exIn "import \"a\"; // ia\nimport \"b\";\n\noption x = {\n  a: 1 // s\n  b: {}\n};\n\nmessage M {\n  int32 a = 1;\n  // ta\n  /* lb */\n  int32 b = 2;\n}\n".toList = false := by
  unfold exIn
  rw [String.toList_ofList, String.toList_ofList]
  decide +kernel
-- the leading comment of field b attached to the PREVIOUS declaration (now trails field a)
example : validFormat "message M{int32 a=1;\n /* lb */ int32 b=2;}".toList "message M {\n  int32 a = 1; /* lb */\n  int32 b = 2;\n}\n".toList = false := by
  rw [String.toList_ofList, String.toList_ofList]
  decide +kernel
example : validFormat "message M{int32 a=1;\n /* lb */ int32 b=2;}".toList "message M {\n  int32 a = 1;\n  /* lb */\n  int32 b = 2;\n}\n".toList = true := by
  rw [String.toList_ofList, String.toList_ofList]
  decide +kernel
-- the comment of import "a" printed on import "b"
example : validFormat "import \"b\";import \"a\"; // ia\n".toList "import \"a\";\nimport \"b\"; // ia\n".toList = false := by
  rw [String.toList_ofList, String.toList_ofList]
  decide +kernel
-- two values of one repeated option swapped / kept
example : validFormat "option (r)=1;option (r)=2;".toList "option (r) = 2;\noption (r) = 1;\n".toList = false := by
  rw [String.toList_ofList, String.toList_ofList]
  decide +kernel
example : validFormat "option (r)=1;option (a)=2;".toList "option (a) = 2;\noption (r) = 1;\n".toList = true := by
  rw [String.toList_ofList, String.toList_ofList]
  decide +kernel
-- a token changed (sign dropped; literal respelled with another value)
example : validFormat "message M{int32 a=-1;}".toList "message M {\n  int32 a = 1;\n}\n".toList = false := by
  rw [String.toList_ofList, String.toList_ofList]
  decide +kernel
example : validFormat "message M{int32 a=0x10;}".toList "message M {\n  int32 a = 10;\n}\n".toList = false := by
  rw [String.toList_ofList, String.toList_ofList]
  decide +kernel
-- a duplicate import that carries a comment must not be elided; without comment it may
example : validFormat "import \"a\";//c\nimport \"a\";".toList "import \"a\";\n".toList = false := by
  rw [String.toList_ofList, String.toList_ofList]
  decide +kernel
example : validFormat "import \"a\";import 'a';".toList "import \"a\";\n".toList = true := by
  rw [String.toList_ofList, String.toList_ofList]
  decide +kernel
-- the trailing comment of a dropped separator whose value has a trailing comment already is printed
-- on its own line below the field (repaired); losing it, or printing it elsewhere, is rejected
example : validFormat "option (o) = { a: 1 // v\n , // s\n b: 2 };".toList "option (o) = {\n  a: 1 // v\n  // s\n  b: 2\n};\n".toList = true := by
  rw [String.toList_ofList, String.toList_ofList]
  decide +kernel
example : validFormat "option (o) = { a: 1 // v\n , // s\n b: 2 };".toList "option (o) = {\n  a: 1 // v\n  b: 2\n};\n".toList = false := by
  rw [String.toList_ofList, String.toList_ofList]
  decide +kernel
example : validFormat "option (o) = { a: 1 // v\n , // s\n b: 2 };".toList "option (o) = {\n  a: 1 // v\n  b: 2 // s\n};\n".toList = false := by
  rw [String.toList_ofList, String.toList_ofList]
  decide +kernel
-- ... after a composite value (signed number) it moves to the last token of the value (repaired)
example : validFormat "option (o) = { d: -1.5, /* c */\n b: 2 };".toList "option (o) = {\n  d: -1.5 /* c */\n  b: 2\n};\n".toList = true := by
  rw [String.toList_ofList, String.toList_ofList]
  decide +kernel
example : validFormat "option (o) = { d: -1.5, /* c */\n b: 2 };".toList "option (o) = {\n  d: -1.5\n  b: 2\n};\n".toList = false := by
  rw [String.toList_ofList, String.toList_ofList]
  decide +kernel
-- a LEADING comment of a dropped separator is still lost by the formatter (recorded finding): rejected
example : validFormat "option (o) = { a: 1 /* c */ , b: 2 };".toList "option (o) = {\n  a: 1\n  b: 2\n};\n".toList = false := by
  rw [String.toList_ofList, String.toList_ofList]
  decide +kernel
-- a duplicate import whose only comment sits between the parts of a concatenated name is kept (repaired)
example : validFormat "import \"a.proto\"; import \"a.\" /* c */ \"proto\";".toList "import\n  \"a.\"\n  /* c */\n  \"proto\"\n;\n".toList = true := by
  rw [String.toList_ofList, String.toList_ofList]
  decide +kernel
example : isFormatted "import\n  \"a.\"\n  /* c */\n  \"proto\"\n;\n".toList = true := by
  rw [String.toList_ofList]
  decide +kernel
example : validFormat "import \"a.proto\"; import \"a.\" /* c */ \"proto\";".toList "import \"a.proto\";\n".toList = false := by
  rw [String.toList_ofList, String.toList_ofList]
  decide +kernel
-- a comment on an empty statement would be lost with it: rejected whatever the output is
example : validFormat "message M{}\n// c\n;".toList "message M {}\n".toList = false := by
  rw [String.toList_ofList, String.toList_ofList]
  decide +kernel
-- not in normal form: two spaces / options unsorted / an empty statement left / import after a message
example : isFormatted "option (r) = 1;\noption  (s) = 2;\n".toList = false := by
  rw [String.toList_ofList]
  decide +kernel
example : isFormatted "option (r) = 1;\noption (a) = 2;\n".toList = false := by
  rw [String.toList_ofList]
  decide +kernel
example : isFormatted "option (r) = 1;;\n".toList = false := by
  rw [String.toList_ofList]
  decide +kernel
example : isFormatted "message M {}\n\nimport \"a\";\n".toList = false := by
  rw [String.toList_ofList]
  decide +kernel

/-! ### header canonicalisation -/

/-- Canonicalising a canonical header changes nothing (imports: stable sort then elision; options:
    stable sort). -/
theorem header_idempotent (h : Header) : canon (canon h) = canon h := by
  have hs : Sorted ltImport (isort ltImport h.imports) := isort_sorted _ _ (fun _ _ => lexLt_asymm _ _) (fun _ _ _ => lexLt_negtrans _ _ _)
  have hsub : Sorted ltImport (elide none (isort ltImport h.imports)) :=
    List.Pairwise.sublist (elide_sublist _ _) hs
  have ho : Sorted ltOption (isort ltOption h.options) := isort_sorted _ _ (fun _ _ => lexLt_asymm _ _) (fun _ _ _ => lexLt_negtrans _ _ _)
  simp only [canon, canonImports, canonOptions]
  rw [isort_of_sorted _ _ hsub, elide_idem, isort_of_sorted _ _ ho]

/-- The repaired finding `comment-dropped:comment-inside-concatenated-string`, in the model of the
    code BEFORE the repair (`importHasCommentOld`): the old predicate does not look between the
    parts of a concatenated file name, so the duplicate import counted as comment-free and was
    elided together with its comment; the repaired predicate (`importHasComment`: any token of the
    statement) sees the comment, and the modelled canonicalisation keeps the statement and the
    comment.  (The checker rejects a run that elides it: the elided statement carries a comment.) -/
theorem elision_loses_comment_counterexample :
    let ss := stmts (decorate (lex "import \"a.proto\"; import \"a.\" /* c */ \"proto\";".toList))
    (ofCls .imp ss).map importHasCommentOld = [false, false] ∧
      (ofCls .imp ss).map importHasComment = [false, true] ∧
      (canonImports (ofCls .imp ss)).length = 1 ∧
      commentsOf (canonImports (ofCls .imp ss)).flatten = commentsOf ss.flatten ∧ commentsOf ss.flatten ≠ [] := by
  rw [String.toList_ofList]
  decide +kernel

/-- The repaired finding `comment-dropped:trailing-comment-on-message-literal-separator-whose-value-has-one`,
    in the model of the code BEFORE the repair (`absorbOld`): the trailing comment `s` of the
    dropped `,` is lost when the value `1` has the trailing comment `v`; the repaired rule
    (`absorb`) hands it to the token after the separator, so nothing is lost. -/
theorem sep_trailing_comment_lost_counterexample :
    let ds := decorate (lex "option (o) = { a: 1 // v\n , // s\n b: 2 };".toList)
    let l := ds.zip (roles (toks ds))
    (commentsOf ds).length = 2 ∧
      (commentsOf ((l.foldr absorbOld []).flatMap normTokD)).length = 1 ∧
      (commentsOf (normD ds)).length = 2 ∧ dropsClean (annotateD ds) = true := by
  rw [String.toList_ofList]
  decide +kernel

/-- The canonical option order is sorted and a permutation of the input. -/
theorem canonOptions_sorted_perm (l : List Stmt) : SortedPermOf ltOption l (canonOptions l) :=
  ⟨isort_perm _ _, isort_sorted _ _ (fun _ _ => lexLt_asymm _ _) (fun _ _ _ => lexLt_negtrans _ _ _)⟩

/-- The stable sort keeps the relative order of the statements of every option name: repeated
    options keep the order of their values. -/
theorem option_order_preserved_by_stable (l : List Stmt) (k : List Nat) :
    (canonOptions l).filter (optionKey · = k) = l.filter (optionKey · = k) := by
  apply isort_filter
  intro x y hyx hpx
  simp only [decide_eq_true_eq] at hpx
  simp only [decide_eq_false_iff_not]
  intro hy
  have : ltOption y x = false := by
    unfold ltOption; rw [hy, hpx]; exact lexLt_irrefl _
  rw [this] at hyx; exact absurd hyx (by simp)

/-- The modelled (fixed) option sort satisfies the checker's option clause.  PARTIAL with respect
    to "iff": the converse (a sorted permutation that keeps every class order IS the stable sort)
    is not proved. -/
theorem option_order_preserved_iff_stable_partial (l : List Stmt) :
    OptionsRel l (canonOptions l) :=
  ⟨isort_perm _ _, option_order_preserved_by_stable l⟩

/-- sort.Slice (pre-fix) may return ANY sorted permutation.  Concrete instance: values 1,2 of one
    repeated option; the permutation [2,1] is sorted (equal keys) but not the source order. -/
theorem unstable_sort_counterexample :
    let lt : (Nat × Nat) → (Nat × Nat) → Bool := fun a b => a.1 < b.1
    let l := [(7, 1), (7, 2), (3, 0)]
    let out := [(3, 0), (7, 2), (7, 1)]
    SortedPermOf lt l out ∧ out.filter (·.1 = 7) ≠ l.filter (·.1 = 7) ∧
      (isort lt l).filter (·.1 = 7) = l.filter (·.1 = 7) := by
  refine ⟨⟨by decide, by unfold Sorted; decide⟩, by decide, by decide⟩

-- degenerate files (family "degenerate"): comments of a file without tokens belong to EOF and must stay
example : validFormatFile "// licence\n\n/* all commented out */".toList "// licence\n\n/* all commented out */\n".toList = true := by
  rw [String.toList_ofList, String.toList_ofList]
  decide +kernel
example : isFormatted "// licence\n\n/* all commented out */\n".toList = true := by
  rw [String.toList_ofList]
  decide +kernel
example : validFormatFile "// licence\n".toList [] = false := by   -- seeded change C07-m10
  rw [String.toList_ofList]
  decide +kernel
example : validFormatFile "// a\n// b\n".toList "// a\n".toList = false := by
  rw [String.toList_ofList, String.toList_ofList]
  decide +kernel
example : validFormatFile "message M {} // t".toList "message M {}\n".toList = false := by   -- trailing comment of the last declaration, no final newline
  rw [String.toList_ofList, String.toList_ofList]
  decide +kernel
example : validFormatFile "message M {} // t".toList "message M {} // t\n".toList = true := by
  rw [String.toList_ofList, String.toList_ofList]
  decide +kernel
example : validFormatFile "syntax = \"proto3\";\n// after".toList "syntax = \"proto3\";\n".toList = false := by
  rw [String.toList_ofList, String.toList_ofList]
  decide +kernel
example : validFormatFile [] [] = true := by decide +kernel
example : isFormatted [] = true := by decide +kernel
-- comments on the separators and brackets of option literals (family "lit")
example : validFormatFile "option (o) = { r: [1], // c\n a: 2 };".toList "option (o) = {\n  r: [1] // c\n  a: 2\n};\n".toList = true := by
  rw [String.toList_ofList, String.toList_ofList]
  decide +kernel
example : validFormatFile "option (o) = { r: [1], // c\n a: 2 };".toList "option (o) = {\n  r: [1]\n  a: 2\n};\n".toList = false := by   -- seeded change C07-m9
  rw [String.toList_ofList, String.toList_ofList]
  decide +kernel
example : validFormatFile "option (o) = { r: [ // c\n 1, 2] };".toList "option (o) = {\n  r: [\n    1,\n    2\n  ]\n};\n".toList = false := by   -- comment behind '[' dropped
  rw [String.toList_ofList, String.toList_ofList]
  decide +kernel
example : validFormatFile "option (o) = { r: [ // c\n 1, 2] };".toList "option (o) = {\n  r: [\n    // c\n    1,\n    2\n  ]\n};\n".toList = true := by
  rw [String.toList_ofList, String.toList_ofList]
  decide +kernel

end BufProofs.C07
