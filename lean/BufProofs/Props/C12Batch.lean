import BufProofs.Lemmas.GenBatchLemmas
/-
  C12, `buf generate` with per-plugin `types` / `exclude_types`: every plugin receives the image
  filtered by ITS OWN filter (model: BufModel.GenBatch — `execPlugins` filters once per batch of
  plugins with equal `pluginConfigKeyForImage` and hands the first plugin's result to all).

  The as-coded key (two `%v` renderings of the sorted name lists, strategy, remote) determines the two
  name lists up to order, for names that are non-empty and contain no blank (every name of an element
  or package of an image); hence what reaches a plugin is what its own configuration asks for.  The
  side condition is needed as coded, and a key that folds the two lists into one string is wrong:
  the two counterexamples.
-/
namespace BufProofs.C12
open BufModel.Path BufModel.Generate BufModel.GenBatch

/-- `fmt.Sprintf("%v", names)` determines the names, when none is empty or contains a blank. -/
theorem render_injective (a b : List Str) (ha : ∀ s ∈ a, OkName s) (hb : ∀ s ∈ b, OkName s)
    (h : render a = render b) : a = b :=
  render_inj a b ha hb h

/-- Two plugin configurations with the same batching key have the same `types` and the same
    `exclude_types` up to order (in particular the same SETS, and the boundary between the two
    lists is part of the key), the same strategy and the same remote. -/
theorem key_injective_on_filters (p q : PCfg) (hp : NamesOK p) (hq : NamesOK q) (h : key p = key q) :
    p.types.Perm q.types ∧ p.excludes.Perm q.excludes ∧ p.strategyAll = q.strategyAll ∧ p.remote = q.remote :=
  key_inj p q hp hq h

/-- Conversely the key does not depend on the order in which the names are written. -/
theorem key_order_independent (p q : PCfg) (ht : sortStrs p.types = sortStrs q.types)
    (he : sortStrs p.excludes = sortStrs q.excludes) (hs : p.strategyAll = q.strategyAll) (hr : p.remote = q.remote) :
    key p = key q := by
  unfold key
  rw [ht, he, hs, hr]

/-- **Every plugin receives the image filtered by its own filter, split by its own strategy** —
    for every list of plugin configurations (any number, any order, equal or different filters),
    provided the filter is a function of the name sets (`hfilter`; Go keeps the names in maps) and
    the names are renderable (`hok`). -/
theorem plugin_receives_own_filter {α : Type} (filter : List Str → List Str → α)
    (hfilter : ∀ a a' b b', a.Perm a' → b.Perm b' → filter a b = filter a' b')
    (ps : List PCfg) (hok : ∀ q ∈ ps, NamesOK q) (p : PCfg) (hp : p ∈ ps) :
    received filter ps p = (filter p.types p.excludes, p.strategyAll) := by
  unfold received receivedWith
  have hspec := repWith_spec key ps p
  have hrok : NamesOK (repWith key ps p) := by
    rcases hspec.2 with hm | he
    · exact hok _ hm
    · rw [he]; exact hok p hp
  obtain ⟨h1, h2, h3, _⟩ := key_inj _ _ hrok (hok p hp) hspec.1
  show (filter (repWith key ps p).types (repWith key ps p).excludes, (repWith key ps p).strategyAll) = _
  rw [hfilter _ _ _ _ h1 h2, h3]

/-- The protocol line `g`: when the class the harness gives to a plugin's own filter result is a
    function of the filter as a pair of name sets (`hcls`), the class observed at every plugin is
    its own. -/
theorem observed_classes_are_own (ps : List (PCfg × Nat)) (hok : ∀ q ∈ ps, NamesOK q.1)
    (hcls : ∀ q ∈ ps, ∀ r ∈ ps, q.1.types.Perm r.1.types → q.1.excludes.Perm r.1.excludes → q.2 = r.2) :
    observedClasses ps = ps.map (·.2) := by
  unfold observedClasses
  apply List.map_congr_left
  intro pc hpc
  cases hf : ps.find? (fun (x : PCfg × Nat) => decide (key x.1 = key pc.1)) with
  | none => rfl
  | some r =>
    have h1 := List.find?_some hf
    have h2 := List.mem_of_find?_eq_some hf
    simp only [decide_eq_true_eq] at h1
    obtain ⟨ht, he, _, _⟩ := key_inj _ _ (hok r h2) (hok pc hpc) h1
    exact hcls r h2 pc hpc ht he

/-- Non-vacuity: three plugins over the same two names; each gets its own filter back. -/
example :
    let a : Str := "p.A".toList
    let b : Str := "p.B".toList
    let ps : List PCfg := [⟨[a, b], [], true, []⟩, ⟨[a], [b], true, []⟩, ⟨[], [b, a], true, []⟩, ⟨[b, a], [], true, []⟩]
    ps.map (received (fun t e => (sortStrs t, sortStrs e)) ps) =
      [(([a, b], []), true), (([a], [b]), true), (([], [a, b]), true), (([a, b], []), true)] := by
  decide +kernel

example : NamesOK ⟨["p.A".toList, "p.B.N".toList], ["q".toList], false, []⟩ := by
  unfold NamesOK OkName
  decide

/-- As coded the side condition is needed: the unnamed package `""` as the only type and no type
    at all render alike (`[]`), and so do `["a b"]` and `["a", "b"]`; plugins configured that way
    share a batch although their filters differ. -/
theorem key_collision_empty_name_counterexample :
    key ⟨[[]], [], true, []⟩ = key ⟨[], [], true, []⟩ ∧
    key ⟨["a b".toList], [], true, []⟩ = key ⟨["a".toList, "b".toList], [], true, []⟩ ∧
    received (fun t e => (t, e)) [⟨[], [], true, []⟩, ⟨[[]], [], true, []⟩] ⟨[[]], [], true, []⟩ = (([], []), true) := by
  decide +kernel

/-- A key that is one string made of the sorted types followed by the sorted
    exclude_types.  `{types: [X]}` and `{exclude_types: [X]}` (and `{types: [A, B]}` /
    `{types: [A], exclude_types: [B]}`) collide, and the later plugin receives the image of the
    earlier one's filter. -/
theorem folded_key_counterexample :
    let x : Str := "p.X".toList
    let a : Str := "p.A".toList
    let b : Str := "p.B".toList
    foldedKey ⟨[x], [], true, []⟩ = foldedKey ⟨[], [x], true, []⟩ ∧
    foldedKey ⟨[a, b], [], true, []⟩ = foldedKey ⟨[a], [b], true, []⟩ ∧
    receivedWith foldedKey (fun t e => (t, e)) [⟨[x], [], true, []⟩, ⟨[], [x], true, []⟩] ⟨[], [x], true, []⟩
      = (([x], []), true) ∧
    received (fun t e => (t, e)) [⟨[x], [], true, []⟩, ⟨[], [x], true, []⟩] ⟨[], [x], true, []⟩
      = (([], [x]), true) := by
  decide +kernel

end BufProofs.C12
