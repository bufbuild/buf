import BufProofs.Lemmas.LegacyStripLemmas
/-
  Property C11, round-trip half: an image read back from a file equals the image built from the
  sources.  While an image is read, a resolver is built from the descriptors THE IMAGE SHARES
  (`NewImageForProto` → `NewLazyResolver(protoImage.GetFile()...)` → `stripLegacyOptions`).  The
  image stays what was decoded only if that pass never writes into the descriptors it is given.

  Model: BufModel/LegacyStrip.lean (pointer discipline: every call returns the caller's object as
  it is AFTER the call, together with the result).  The pass leaves the caller's descriptors as
  they are and returns nil when nothing is legacy, else the declaratively specified `specFile`; the
  `legacy_spec_*` theorems say what that specification keeps and removes.

  Correspondence: protocol line `legacy` (Driver/C11.lean) against the real function.
-/
namespace BufProofs.C11
open BufModel.LegacyStrip BufProofs.LegacyStripLemmas

theorem legacy_head_mset_inv (rest : Nat) (opts : Option MOpts) (fields : List Fld) (nested : List Msg)
    (ranges : List ERange) (exts : List Fld) :
    Inv (if (Msg.mk rest opts fields nested ranges exts).isMset
          then (St.ensure ⟨.mk rest opts fields nested ranges exts, none⟩).write Msg.clearMset
          else (⟨.mk rest opts fields nested ranges exts, none⟩ : St Msg))
      (.mk rest opts fields nested ranges exts) (optsMset opts)
      (.mk rest (opts.map clearMsetO) fields nested ranges exts) := by
  cases opts with
  | none => exact Inv.init _
  | some o =>
    obtain ⟨mset, r⟩ := o
    cases mset with
    | none => exact Inv.init _
    | some b => cases b with
      | false => exact Inv.init _
      | true => exact ⟨rfl, rfl, fun hf => by cases hf⟩

theorem legacy_head_inv (rest : Nat) (opts : Option MOpts) (fields : List Fld) (nested : List Msg)
    (ranges : List ERange) (exts : List Fld) :
    Inv (msgHead (.mk rest opts fields nested ranges exts)) (.mk rest opts fields nested ranges exts)
      (optsMset opts || fields.any Fld.isWeak)
      (.mk rest (opts.map clearMsetO) (fields.map specFld) nested ranges exts) := by
  have h1 := legacy_head_mset_inv rest opts fields nested ranges exts
  unfold msgHead
  simp only []
  rw [h1.cur]
  exact childLoop_inv fieldsL fieldsL_lawful (fun f => (f, stripField f)) Fld.isWeak specFld fields h1 rfl rfl
    (fun c _ => by rw [stripField_eq]) (fun c _ hc => specFld_of_not_weak c hc)

mutual
/-- `stripLegacyOptionsFromMessage` as written: the caller's message is untouched and the result is
    nil exactly when the message holds nothing legacy, else `specMsg`. -/
theorem legacy_stripMsg_exact : ∀ m : Msg,
    stripMsg true m = (m, if legacyMsg m then some (specMsg m) else none)
  | .mk rest opts fields nested ranges exts => by
    have ih := legacy_stripMsgs_exact nested
    have h2 := legacy_head_inv rest opts fields nested ranges exts
    have h3 := childLoop_inv nestedL nestedL_lawful (stripMsg true) legacyMsg specMsg nested h2 rfl rfl ih
      (fun c _ hc => specMsg_id c hc)
    rw [← nestedLoop_eq] at h3
    have h4 := phase_write h3 (fun x => stripRanges x.ranges) Msg.putRanges (ranges.any ERange.legacy) (specRanges ranges)
      (stripRanges_spec ranges) (fun hf => by rw [specRanges_id ranges hf]; rfl)
    have h5 := phase_write h4 (fun x => stripExts x.exts) Msg.putExts (exts.any Fld.legacyExt) (specExts exts)
      (stripExts_spec exts) (fun hf => by rw [specExts_id exts hf]; rfl)
    simp only [stripMsg, msgTail]
    rw [h5.orig, h5.clone]
    simp only [legacyMsg, specMsg, legacyMsgs_eq_any, specMsgs_eq_map]
    rfl
theorem legacy_stripMsgs_exact : ∀ l : List Msg, ∀ c ∈ l,
    stripMsg true c = (c, if legacyMsg c then some (specMsg c) else none)
  | [] => by intro c hc; cases hc
  | m :: ms => by
    intro c hc
    cases List.mem_cons.mp hc with
    | inl h => rw [h]; exact legacy_stripMsg_exact m
    | inr h => exact legacy_stripMsgs_exact ms c h
end

theorem legacy_stripFile_exact (f : File) :
    stripFile true f = (f, if legacyFile f then some (specFile f) else none) := by
  have h1 := childLoop_inv msgsL msgsL_lawful (stripMsg true) legacyMsg specMsg f.msgs (Inv.init f) rfl rfl
    (legacy_stripMsgs_exact f.msgs) (fun c _ hc => specMsg_id c hc)
  have h2 := phase_write h1 (fun x => stripExts x.exts) (fun e (x : File) => { x with exts := e }) (f.exts.any Fld.legacyExt)
    (specExts f.exts) (stripExts_spec f.exts) (fun hf => by rw [specExts_id f.exts hf]; rfl)
  simp only [Option.isNone_none] at h2
  unfold stripFile
  simp only []
  rw [h2.orig, h2.clone]
  simp only [legacyFile, specFile, legacyMsgs_eq_any, specMsgs_eq_map, Bool.false_or]
  rfl

/-- **Never mutates its input**: after `stripLegacyOptionsFromFile` the caller's descriptor — the
    one the image shares — is what it was, for every descriptor tree. -/
theorem legacy_strip_never_mutates_input (f : File) : (stripFile true f).1 = f := by
  rw [legacy_stripFile_exact]

/-- **Strips exactly the legacy options**: nil (nothing to replace) iff the file holds no
    message-set option, weak option, extension above 2^29-1 or extension range reaching above it;
    otherwise the replacement is `specFile f`. -/
theorem legacy_strip_result_exact (f : File) :
    (stripFile true f).2 = if legacyFile f then some (specFile f) else none := by
  rw [legacy_stripFile_exact]

/-- **Touches nothing else** (1): a tree without legacy elements is specified to stay as it is. -/
theorem legacy_spec_touches_nothing_else (f : File) (h : legacyFile f = false) : specFile f = f := by
  unfold legacyFile at h
  rw [Bool.or_eq_false_iff] at h
  unfold specFile
  rw [specMsgs_id f.msgs h.1, specExts_id f.exts h.2]

/-- `stripLegacyOptions` on a slice: no caller descriptor changes, and slot i ends up holding
    `specFile` of file i (for a file without legacy elements that is the SAME descriptor). -/
theorem legacy_strip_slice (fs : List File) : stripFiles true fs = (fs, fs.map specFile) := by
  unfold stripFiles
  have h1 : (fs.map fun f => (stripFile true f).1) = fs :=
    BufProofs.ListLemmas.map_id_of_forall _ fs (fun f _ => legacy_strip_never_mutates_input f)
  have h2 : (fs.map fun f => (stripFile true f).2.getD (stripFile true f).1) = fs.map specFile := by
    apply List.map_congr_left
    intro f _
    rw [legacy_stripFile_exact]
    cases h : legacyFile f with
    | true => rfl
    | false => simp only [Bool.false_eq_true, if_false]; exact (legacy_spec_touches_nothing_else f h).symm
  rw [h1, h2]

/-- **Touches nothing else** (2), for a message that IS changed: the opaque remainder, the number
    and order of fields, every field's number and remainder, and the nesting structure stay; the
    extensions that stay are those numbered ≤ 2^29-1, the ranges that stay are those starting
    ≤ 2^29-1, both in their order. -/
theorem legacy_spec_frame (rest : Nat) (opts : Option MOpts) (fields : List Fld) (nested : List Msg)
    (ranges : List ERange) (exts : List Fld) :
    specMsg (.mk rest opts fields nested ranges exts) =
      .mk rest (opts.map clearMsetO) (fields.map specFld) (nested.map specMsg)
        ((ranges.filter fun r => decide (r.getStart ≤ maxTag)).map specRange)
        ((exts.filter fun e => decide (e.getNumber ≤ maxTag)).map specFld)
    ∧ (fields.map specFld).map (fun f => (f.number, f.rest, f.opts.map (·.rest))) =
        fields.map (fun f => (f.number, f.rest, f.opts.map (·.rest)))
    ∧ (opts.map clearMsetO).map (·.rest) = opts.map (·.rest) := by
  refine ⟨by simp only [specMsg, specMsgs_eq_map]; rfl, ?_, ?_⟩
  · rw [List.map_map]
    apply List.map_congr_left
    intro f _
    show ((specFld f).number, (specFld f).rest, (specFld f).opts.map (·.rest)) = _
    unfold specFld Fld.clearWeak
    split
    · cases f.opts <;> rfl
    · rfl
  · cases opts with
    | none => rfl
    | some o => simp only [Option.map_some]; unfold clearMsetO; split <;> rfl

/-- Nothing legacy is left: the result is what the Go runtime can link. -/
theorem legacy_spec_is_clean (f : File) : legacyFile (specFile f) = false := by
  unfold legacyFile specFile
  show (legacyMsgs (specMsgs f.msgs) || (specExts f.exts).any Fld.legacyExt) = false
  rw [specMsgs_clean, specExts_no_legacy]; rfl

theorem legacy_spec_idempotent (f : File) : specFile (specFile f) = specFile f :=
  legacy_spec_touches_nothing_else _ (legacy_spec_is_clean f)

/-! ## the regression the model excludes -/

/-- parent `P` (nothing legacy of its own) ⊃ `MS` (message set, `extensions 4 to max`) -/
def legacyWitness : Msg :=
  .mk 1 none [⟨some 1, none, 10⟩]
    [.mk 2 (some ⟨some true, 0⟩) [] [] [⟨some 4, some 2147483647, 0⟩] []] [] []

/-- Without the clone of the enclosing message (`faithful = false`) the stripped nested message is
    stored INTO THE CALLER'S descriptor: afterwards the caller's nested message is no longer a
    message set and its range ends at 2^29, and the call reports "nothing changed" (nil). -/
theorem legacy_strip_unfaithful_counterexample :
    (stripMsg false legacyWitness).2.isNone = true ∧
    (stripMsg false legacyWitness).1.nested.map Msg.isMset = [false] ∧
    (stripMsg false legacyWitness).1.nested.map (fun n => n.ranges.map (·.stop)) = [[some 536870912]] ∧
    legacyWitness.nested.map Msg.isMset = [true] ∧
    legacyWitness.nested.map (fun n => n.ranges.map (·.stop)) = [[some 2147483647]] := by
  decide

def legacyWitnessFile : File := ⟨7, [legacyWitness], [⟨some 536870912, none, 3⟩, ⟨some 5, some ⟨some true, 4⟩, 5⟩]⟩

example : legacyFile legacyWitnessFile = true := by decide
example : (stripFile true legacyWitnessFile).1.msgs.map (fun m => m.nested.map Msg.isMset) = [[true]] := by decide
example : (specFile legacyWitnessFile).msgs.map (fun m => m.nested.map Msg.isMset) = [[false]] := by decide
example : (specFile legacyWitnessFile).exts = [⟨some 5, some ⟨none, 4⟩, 5⟩] := by decide
example : legacyFile ⟨0, [.mk 1 none [⟨some 1, some ⟨some false, 2⟩, 3⟩] [] [⟨some 4, some 536870912, 0⟩] []], []⟩ = false := by decide

end BufProofs.C11
