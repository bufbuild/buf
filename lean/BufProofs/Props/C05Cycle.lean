import BufProofs.Lemmas.LintSpec
/-
  C05 — PACKAGE_NO_IMPORT_CYCLE: the search as coded finds a cycle iff there is one.

  `handleLintPackageNoImportCycle` runs, for every package `pkg` and every package `d` it imports
  directly, ONE depth-first search `getImportCycleIfExists(d, …, used = {pkg}, …)` that backtracks
  (it deletes what it added when a branch fails), i.e. it explores every SIMPLE path of the package
  graph that starts at `d`; every import statement of `pkg`'s files that imports a file of `d` is
  annotated when the search comes back to `pkg`.  The model is `reaches w target fuel used cur`
  with fuel `|w| + 1` and a FRESH `used = [target]` per (package, directly imported package) pair.

  With that fuel and a fresh `used`, `reaches` is true iff the package graph has a walk
  `cur → … → target` through non-empty packages: soundness by induction on the fuel, completeness
  by loop erasure, the backtracking invariant (a simple walk whose nodes are not on the stack is
  found whatever else is on the stack) and the pigeonhole bound (a simple walk visits at most `|w|`
  packages).  Hence `importCycle` is exact: import `i` of a target file `f` is annotated iff the
  imported file's package is another, non-empty package from which `f`'s package can be reached —
  in particular BOTH imports of a package whose two cycles share a package.  Last: the search with
  a `used` set SHARED by the searches of one start package, which keeps a found cycle's packages
  (seed C05-m9), loses the second import of the workspace a → b, a → c, c → b, b → a.
-/
namespace BufProofs.C05
open BufModel.Case BufModel.Lint

/-! ## walks of the package graph -/

/-- `PkgWalk w t a p`: a walk from package `a` to package `t` along `pkgEdges w` through non-empty
    packages; `p` lists the packages visited before `t` is reached (`a` first). -/
inductive PkgWalk (w : Schema) (t : Str) : Str → List Str → Prop
  | here : PkgWalk w t t []
  | step {a b : Str} {p : List Str} :
      b ∈ pkgEdges w a → b.isEmpty = false → PkgWalk w t b p → PkgWalk w t a (a :: p)

theorem reaches_succ (w : Schema) (t : Str) (fuel : Nat) (used : List Str) (cur : Str) :
    reaches w t (fuel + 1) used cur =
      (if cur == t then true
       else if used.contains cur then false
       else (pkgEdges w cur).any fun nxt => !nxt.isEmpty && reaches w t fuel (cur :: used) nxt) := by
  simp [reaches]

/-- soundness, whatever fuel and stack: a successful search has walked a walk -/
theorem reaches_sound (w : Schema) (t : Str) : ∀ (fuel : Nat) (used : List Str) (cur : Str),
    reaches w t fuel used cur = true → ∃ p, PkgWalk w t cur p
  | 0, _, _, h => by simp [reaches] at h
  | fuel + 1, used, cur, h => by
    rcases (reaches_succ_iff ..).mp h with rfl | ⟨-, nxt, hn, hne, hr⟩
    · exact ⟨[], .here⟩
    · obtain ⟨p, hp⟩ := reaches_sound w t fuel _ _ hr
      exact ⟨cur :: p, .step hn hne hp⟩

/-- the backtracking invariant: a SIMPLE walk none of whose packages (other than the target) is on
    the stack is found, given fuel for its length -/
theorem reaches_complete (w : Schema) (t : Str) {cur : Str} {p : List Str} (hw : PkgWalk w t cur p) :
    ∀ (fuel : Nat) (used : List Str), p.Nodup → (∀ x ∈ p, x ∉ used ∨ x = t) → p.length < fuel →
      reaches w t fuel used cur = true := by
  induction hw with
  | here =>
    intro fuel used _ _ hlen
    cases fuel with
    | zero => simp at hlen
    | succ f => exact (reaches_succ_iff ..).mpr (Or.inl rfl)
  | @step a b p hb hne _ ih =>
    intro fuel used hnd hused hlen
    cases fuel with
    | zero => simp at hlen
    | succ f =>
      obtain ⟨hap, hnd'⟩ := List.nodup_cons.mp hnd
      obtain ⟨ha, hused'⟩ := List.forall_mem_cons.mp hused
      -- below `a` the stack has grown by `a`, which the rest of a simple walk does not visit
      refine (reaches_succ_iff ..).mpr (ha.symm.imp_right fun hau =>
        ⟨hau, b, hb, hne, ih f (a :: used) hnd' (fun x hx => ?_) (by simp at hlen; omega)⟩)
      exact (hused' x hx).imp_left fun hxu hm => (List.mem_cons.mp hm).elim (fun e => hap (e ▸ hx)) hxu

/-- from any package on a walk the target is reached by the rest of the walk -/
theorem walk_suffix (w : Schema) (t : Str) {b : Str} {p : List Str} (hw : PkgWalk w t b p) :
    ∀ x ∈ p, ∃ q, PkgWalk w t x q ∧ q.Sublist p := by
  induction hw with
  | here => intro x hx; simp at hx
  | @step a b p hb hne hwb ih =>
    intro x hx
    rcases List.mem_cons.mp hx with h | h
    · subst h
      exact ⟨x :: p, .step hb hne hwb, List.Sublist.refl _⟩
    · obtain ⟨q, hq, hs⟩ := ih x h
      exact ⟨q, hq, hs.cons _⟩

/-- loop erasure: a walk contains a simple walk -/
theorem walk_simple (w : Schema) (t : Str) {a : Str} {p : List Str} (hw : PkgWalk w t a p) :
    ∃ q, PkgWalk w t a q ∧ q.Nodup ∧ q.Sublist p := by
  induction hw with
  | here => exact ⟨[], .here, List.nodup_nil, List.Sublist.refl _⟩
  | @step a b p hb hne _ ih =>
    obtain ⟨q, hq, hnd, hs⟩ := ih
    by_cases ha : a ∈ q
    · obtain ⟨q', hq', hs'⟩ := walk_suffix w t hq a ha
      exact ⟨q', hq', hnd.sublist hs', (hs'.trans hs).cons _⟩
    · exact ⟨a :: q, .step hb hne hq, List.nodup_cons.mpr ⟨ha, hnd⟩, hs.cons_cons _⟩

theorem mem_lintDedup {x : Str} : ∀ {l : List Str}, x ∈ dedup l → x ∈ l :=
  fun {l} h => (mem_dedup l x).mp h

/-- a package with an outgoing edge is the package of a file of the workspace -/
theorem edge_source (w : Schema) {a b : Str} (h : b ∈ pkgEdges w a) : ∃ f ∈ w, f.pkg = a := by
  unfold pkgEdges at h
  have h2 := mem_lintDedup h
  rw [List.mem_flatMap] at h2
  obtain ⟨f, hf, _⟩ := h2
  rw [List.mem_filter] at hf
  exact ⟨f, hf.1, by simpa using hf.2⟩

theorem walk_nodes (w : Schema) (t : Str) {a : Str} {p : List Str} (hw : PkgWalk w t a p) :
    ∀ x ∈ p, x ∈ w.map File.pkg := by
  induction hw with
  | here => intro x hx; simp at hx
  | @step a b p hb _ _ ih =>
    intro x hx
    rcases List.mem_cons.mp hx with h | h
    · obtain ⟨f, hf, hp⟩ := edge_source w hb
      rw [h, ← hp]
      exact List.mem_map_of_mem hf
    · exact ih x h

/-- pigeonhole: a simple walk visits at most `|w|` packages — the fuel `|w| + 1` suffices -/
theorem walk_length_le (w : Schema) (t : Str) {a : Str} {p : List Str} (hw : PkgWalk w t a p)
    (hnd : p.Nodup) : p.length ≤ w.length := by
  have := List.Nodup.length_le_of_subset hnd (fun x hx => walk_nodes w t hw x hx)
  simpa using this

/-- **The search as coded decides reachability**: started with the fuel of the model and a FRESH
    stack holding only the start package `t`, it succeeds iff the package graph has a walk from
    `c` back to `t`. -/
theorem reaches_iff_walk (w : Schema) (t c : Str) :
    reaches w t (w.length + 1) [t] c = true ↔ ∃ p, PkgWalk w t c p := by
  constructor
  · exact reaches_sound w t _ _ _
  · rintro ⟨p, hp⟩
    obtain ⟨q, hq, hnd, _⟩ := walk_simple w t hp
    refine reaches_complete w t hq _ _ hnd (fun x _ => ?_) (by have := walk_length_le w t hq hnd; omega)
    by_cases hx : x = t
    · right; exact hx
    · left; simpa using hx

/-! ## exactness of `importCycle` -/

/-- every import statement that lies on a package cycle is annotated -/
theorem import_on_cycle_reported (w : Schema) (f : File) (hf : f ∈ w) (hni : f.isImport = false)
    (hp : f.pkg.isEmpty = false) (i : Nat) (imp : Import) (hi : (i, imp) ∈ indexed f.imports)
    (g : File) (hg : findFile w imp.path = some g) (hne : (g.pkg == f.pkg) = false)
    (hge : g.pkg.isEmpty = false) (p : List Str) (hw : PkgWalk w f.pkg g.pkg p) :
    ann .PACKAGE_NO_IMPORT_CYCLE f [3, i] ∈ importCycle w :=
  (mem_importCycle_iff w _).mpr ⟨f, List.mem_filter.mpr ⟨hf, by simp [hni]⟩, hp, i, imp, hi, g, hg,
    by simp [hne, hge], (reaches_iff_walk w f.pkg g.pkg).mpr ⟨p, hw⟩, rfl⟩

/-- every annotation is an import statement of a target file that lies on a package cycle -/
theorem import_cycle_annotation_on_cycle (w : Schema) (a : Annotation) (h : a ∈ importCycle w) :
    ∃ f ∈ w, f.isImport = false ∧ f.pkg.isEmpty = false ∧ ∃ i imp, (i, imp) ∈ indexed f.imports ∧
      ∃ g, findFile w imp.path = some g ∧ (g.pkg == f.pkg) = false ∧ g.pkg.isEmpty = false ∧
        (∃ p, PkgWalk w f.pkg g.pkg p) ∧ a = ann .PACKAGE_NO_IMPORT_CYCLE f [3, i] := by
  obtain ⟨f, hf, hp, i, imp, hi, g, hg, hne, hr, rfl⟩ := (mem_importCycle_iff w a).mp h
  have hne := Bool.or_eq_false_iff.mp hne
  exact ⟨f, (mem_nonImport hf).1, (mem_nonImport hf).2, hp, i, imp, hi, g, hg, hne.1, hne.2,
    (reaches_iff_walk w f.pkg g.pkg).mp hr, rfl⟩

/-! ## overlapping cycles: a → b, a → c, c → b, b → a (seed C05-m9) -/

def ovFile (path pkg : String) (imps : List String) : File :=
  { path := path.toList, pkg := pkg.toList, imports := imps.map fun p => { path := p.toList } }

/-- packages a, b, c; a imports b and c, c imports b, b imports a: the cycles a → b → a and
    a → c → b → a share the package b -/
def ovW : Schema :=
  [ovFile "a/a.proto" "a" ["b/b.proto", "c/c.proto"], ovFile "b/b.proto" "b" ["a/a.proto"],
   ovFile "c/c.proto" "c" ["b/b.proto"]]

/-- BOTH imports of a/a.proto are annotated, and the single imports of b and c -/
theorem overlapping_cycles_both_reported :
    importCycle ovW =
      [⟨.PACKAGE_NO_IMPORT_CYCLE, "a/a.proto".toList, [3, 0]⟩, ⟨.PACKAGE_NO_IMPORT_CYCLE, "a/a.proto".toList, [3, 1]⟩,
       ⟨.PACKAGE_NO_IMPORT_CYCLE, "b/b.proto".toList, [3, 0]⟩, ⟨.PACKAGE_NO_IMPORT_CYCLE, "c/c.proto".toList, [3, 0]⟩] := by
  decide +kernel

/-- getImportCycleIfExists with the `used` set handed on: on success the packages of the found
    cycle STAY in the set (the function returns without deleting), on failure they are removed. -/
def reachesShared (w : Schema) (target : Str) : Nat → List Str → Str → Bool × List Str
  | 0, used, _ => (false, used)
  | fuel + 1, used, cur =>
    if cur == target then (true, used)
    else if used.contains cur then (false, used)
    else (pkgEdges w cur).foldl (fun acc nxt =>
        if acc.1 || nxt.isEmpty then acc
        else
          let r := reachesShared w target fuel (cur :: used) nxt
          if r.1 then (true, r.2) else acc) (false, used)

/-- the searches of ONE start package share the set (seed C05-m9) -/
def sharedSearches (w : Schema) (start : Str) : List Str → List Str → List (Str × Bool)
  | [], _ => []
  | d :: ds, used =>
    let r := reachesShared w start (w.length + 1) used d
    (d, r.1) :: sharedSearches w start ds r.2

/-- with the shared set the search for a → c gives up at b (left in the set by the search for
    a → b), although `reaches` — fresh set per search — finds a → c → b → a -/
theorem shared_used_counterexample :
    sharedSearches ovW "a".toList ["b".toList, "c".toList] ["a".toList] = [("b".toList, true), ("c".toList, false)] ∧
    reaches ovW "a".toList (ovW.length + 1) ["a".toList] "b".toList = true ∧
    reaches ovW "a".toList (ovW.length + 1) ["a".toList] "c".toList = true := by
  decide

end BufProofs.C05
