import BufProofs.Lemmas.BucketIDLemmas
import BufProofs.Lemmas.DepsLemmas
/-
  C10 — every module of a workspace keeps an identity of its own.

  bufworkspace identifies the local modules of a workspace by a BucketID
  (`bucketIDToModuleConfig`, `Module.BucketID()`, and — for a module without `name:` —
  `Module.OpaqueID()`, the key under which ModuleSetBuilder DEDUPLICATES the added modules, the
  node name of `buf dep graph` and the key of the per-module lint / breaking configuration).  In a
  v2 buf.yaml several modules may share one `path:` (overlapping directories separated by
  includes / excludes), so the ids are derived: `foo`, `foo-2`, `foo-3`, …, and, when that collides
  with a directory that is literally named `foo-2`, `foo-1`, `foo-2`, `foo-2-1` (every DirPath
  suffixed).  Dependency resolution can only be exact if distinct modules get distinct ids.

  Model: BufModel/BucketID.lean (`bucketIDsForDirPaths`, `bucketIDsV2` = bucketIDsForModuleConfigsV2,
  the stable sort of NewBufYAMLFile, OpaqueIDs, validateBufWorkYAMLDirPaths), as coded.  The coded
  scheme needs no precondition on the directory names; the first pass alone and the regressed second
  pass of seed C10-m8 are not injective (counterexamples below).
-/
namespace BufProofs.C10
open BufModel.Path BufModel.Graph BufModel.BucketID

/-- one id per module config. -/
theorem bucketID_length (paths : List Str) : (bucketIDsV2 paths).length = paths.length :=
  bid_bucketIDsV2_length paths

/-- the second pass (`firstIDHasSuffix = true`) is injective for every list of DirPaths. -/
theorem bucketID_fallback_nodup (paths : List Str) : (bucketIDsForDirPaths paths true).Nodup :=
  bid_idsFrom_nodup true [] paths (fun h => by cases h)

/-- `bucketIDsForModuleConfigsV2` never gives two module configs the same BucketID — for EVERY
    list of DirPaths (normalised or not, with or without directories named like derived ids). -/
theorem bucketID_v2_nodup (paths : List Str) : (bucketIDsV2 paths).Nodup := by
  unfold bucketIDsV2
  simp only
  split
  · exact bucketID_fallback_nodup paths
  · rename_i h
    exact bid_hasDuplicates_false (by simpa using h)

/-- the same, by positions: distinct positions in the module list get distinct ids. -/
theorem bucketID_v2_injective (paths : List Str) (i j : Nat) (hi : i < (bucketIDsV2 paths).length)
    (hj : j < (bucketIDsV2 paths).length) (hij : i ≠ j) : (bucketIDsV2 paths)[i] ≠ (bucketIDsV2 paths)[j] := by
  intro h
  exact hij ((List.getElem_inj (bucketID_v2_nodup paths)).mp h)

/-- pairwise distinct DirPaths are their own BucketIDs. -/
theorem bucketID_distinct_paths_identity (paths : List Str) (h : paths.Nodup) : bucketIDsV2 paths = paths := by
  have h1 : bucketIDsForDirPaths paths false = paths :=
    bid_idsFrom_false_distinct [] paths h (fun _ _ hm => by cases hm)
  unfold bucketIDsV2
  simp only [h1, bid_hasDuplicates_of_nodup h]
  rfl

/-- unless a directory is literally named `<p>-<k>` for a DirPath `p` used by at least `k ≥ 2`
    modules, the ids are the documented `p`, `p-2`, `p-3`, … of the first pass. -/
theorem bucketID_first_pass_kept (paths : List Str)
    (h : ∀ p k, 2 ≤ k → k ≤ runningCount p paths → suffixed p k ∉ paths) :
    bucketIDsV2 paths = bucketIDsForDirPaths paths false := by
  have hn : (bucketIDsForDirPaths paths false).Nodup := by
    apply bid_idsFrom_nodup false [] paths fun _ => ?_
    intro p k hk hle
    refine ⟨(fun hm => by cases hm), h p k hk ?_⟩
    simpa [runningCount] using hle
  unfold bucketIDsV2
  simp only [bid_hasDuplicates_of_nodup hn]
  rfl

/-- the first pass alone is not injective: directory `foo-2` next to two modules at `foo`; the
    coded scheme answers with `foo-1`, `foo-2`, `foo-2-1`. -/
theorem bucketID_first_pass_counterexample :
    ¬ (bucketIDsForDirPaths ["foo".toList, "foo".toList, "foo-2".toList] false).Nodup ∧
    bucketIDsV2 ["foo".toList, "foo".toList, "foo-2".toList] = ["foo-1".toList, "foo-2".toList, "foo-2-1".toList] := by
  decide +kernel

/-- seed C10-m8: keeping the plain DirPath of every non-repeated DirPath in the second pass gives
    the second module at `foo` and the module at `foo-2` the same id — in the sorted order
    `bufYAMLFile.ModuleConfigs()` returns as well as in the order of the buf.yaml. -/
theorem bucketID_seeded_counterexample :
    seededIDsV2 ["foo".toList, "foo".toList, "foo-2".toList] = ["foo-1".toList, "foo-2".toList, "foo-2".toList] ∧
    ¬ (seededIDsV2 ["foo".toList, "foo".toList, "foo-2".toList]).Nodup ∧
    ¬ (seededIDsV2 ["foo-2".toList, "foo".toList, "foo".toList]).Nodup := by
  decide +kernel

/-! ### the workspace level -/

/-- `BufYAMLFile.ModuleConfigs()` lists every entry of buf.yaml exactly once, each with its own
    DirPath and name. -/
theorem bid_v2_sorted_exact (dirs : List (Str × Option Str)) :
    ((v2Sorted dirs).map (fun x => x.1)).Perm (List.range dirs.length) ∧
    ∀ x ∈ v2Sorted dirs, dirs[x.1]? = some (x.2.1, x.2.2) := by
  have hp := bid_v2Sorted_perm dirs
  constructor
  · have := hp.map (fun x => x.1)
    refine this.trans ?_
    rw [List.map_map]
    have e : (dirs.zipIdx.map ((fun x : Nat × Str × Option Str => x.1) ∘ fun x => (x.2, x.1.1, x.1.2))) = List.range dirs.length := by
      have : ((fun x : Nat × Str × Option Str => x.1) ∘ fun x : (Str × Option Str) × Nat => (x.2, x.1.1, x.1.2)) = Prod.snd := rfl
      rw [this, List.zipIdx_map_snd, List.range_eq_range']
    rw [e]
  · intro x hx
    have hx' := (hp.mem_iff).mp hx
    obtain ⟨y, hy, rfl⟩ := List.mem_map.mp hx'
    obtain ⟨a, b⟩ := y
    have := List.mem_zipIdx hy
    simp only [Nat.zero_add, Nat.sub_zero] at this
    simp only
    rw [List.getElem?_eq_getElem this.2.1, ← this.2.2]

/-- one (BucketID, OpaqueID) pair per entry of buf.yaml. -/
theorem bid_v2_ids_length (dirs : List (Str × Option Str)) : (v2IDs dirs).length = dirs.length := by
  rw [(bid_v2_ids_perm dirs).length_eq, bid_v2SortedIDs_length]

/-- the modules of a v2 buf.yaml get pairwise distinct BucketIDs. -/
theorem bid_v2_bucketIDs_nodup (dirs : List (Str × Option Str)) : ((v2IDs dirs).map (fun x => x.1)).Nodup := by
  have hp := (bid_v2_ids_perm dirs).map (fun x => x.1)
  rw [hp.nodup_iff, bid_v2SortedIDs_fst]
  exact bucketID_v2_nodup _

/-- … and pairwise distinct OpaqueIDs, PROVIDED the names are distinct (checked by
    `NewBufYAMLFile`) and no `name:` equals a BucketID (checked by nobody). -/
theorem bid_v2_opaqueIDs_nodup (dirs : List (Str × Option Str))
    (hn : (someNames (dirs.map (fun x => x.2))).Nodup)
    (hd : ∀ v ∈ someNames (dirs.map (fun x => x.2)), v ∉ (v2IDs dirs).map (fun x => x.1)) :
    ((v2IDs dirs).map (fun x => x.2)).Nodup := by
  have hp := (bid_v2_ids_perm dirs).map (fun x => x.2)
  rw [hp.nodup_iff, bid_v2SortedIDs_snd]
  -- the names in sorted order are a permutation of the names in buf.yaml order
  have hperm : ((v2Sorted dirs).map (fun x => x.2.2)).Perm (dirs.map (fun x => x.2)) := by
    have h1 := (bid_v2Sorted_perm dirs).map (fun x => x.2.2)
    refine h1.trans ?_
    rw [List.map_map]
    have : ((fun x : Nat × Str × Option Str => x.2.2) ∘ fun x : (Str × Option Str) × Nat => (x.2, x.1.1, x.1.2))
        = (fun x : Str × Option Str => x.2) ∘ Prod.fst := rfl
    rw [this, ← List.map_map, List.zipIdx_map_fst]
  have hs : (someNames ((v2Sorted dirs).map (fun x => x.2.2))).Perm (someNames (dirs.map (fun x => x.2))) := by
    rw [bid_someNames_eq, bid_someNames_eq]; exact hperm.filterMap _
  apply bid_opaqueIDs_nodup
  · exact bucketID_v2_nodup _
  · exact hs.nodup_iff.mpr hn
  · intro v hv hm
    apply hd v (hs.mem_iff.mp hv)
    have hp1 := (bid_v2_ids_perm dirs).map (fun x => x.1)
    rw [hp1.mem_iff, bid_v2SortedIDs_fst]
    exact hm

/-- what the driver runs (`path:` as written → normalised → sorted → ids per entry): a buf.yaml
    whose paths are all valid gets one BucketID per entry, pairwise distinct. -/
theorem bid_v2_resolve_nodup (entries : List Entry) (r : List (Str × Str)) (h : v2Resolve entries = .ok r) :
    r.length = entries.length ∧ (r.map (fun x => x.1)).Nodup := by
  unfold v2Resolve at h
  split at h
  · cases h
  · rename_i ds hds
    simp only [Except.ok.injEq] at h
    subst h
    have hlen : ∀ (es : List Entry) (out : List Str), mapE (fun e => entryDirPath e.raw) es = .ok out → out.length = es.length := by
      intro es
      induction es with
      | nil => intro out h; cases h; rfl
      | cons e es ih =>
        intro out h
        unfold mapE at h
        split at h
        · cases h
        · split at h
          · cases h
          · rename_i ys hys
            cases h
            simp only [List.length_cons, ih ys hys]
    refine ⟨?_, bid_v2_bucketIDs_nodup _⟩
    rw [bid_v2_ids_length, List.length_zip, List.length_map, hlen entries ds hds, Nat.min_self]

/-- the hypothesis "no name equals a BucketID" cannot be dropped: an unnamed module in the
    directory `buf.build/acme/x` and a module NAMED buf.build/acme/x in directory `y` have the
    same OpaqueID (ModuleSetBuilder then keeps only the first of the two). -/
theorem bid_v2_opaque_collision_counterexample :
    (v2IDs [("buf.build/acme/x".toList, none), ("y".toList, some "buf.build/acme/x".toList)]).map (fun x => x.2)
      = ["buf.build/acme/x".toList, "buf.build/acme/x".toList] := by
  decide +kernel

/-- a buf.work.yaml that is accepted has pairwise distinct BucketIDs (= directories). -/
theorem bid_v1_bucketIDs_nodup (dirs ids : List Str) (h : v1Resolve dirs = .ok ids) : ids.Nodup := by
  unfold v1Resolve at h
  split at h
  · cases h
  · split at h
    · cases h
    · rename_i seen hc
      simp only at h
      split at h
      · cases h
      · simp only [Except.ok.injEq] at h
        subst h
        have := bid_v1Collect_nodup dirs [] seen List.nodup_nil hc
        exact (sortBy_perm strLe seen).nodup_iff.mpr this

/-- a directory listed twice — under any two spellings that normalise to the same path — makes
    buf.work.yaml invalid. -/
theorem bid_v1_duplicate_rejected (pre mid post : List Str) (a b n : Str)
    (ha : normalizeAndValidate a = .ok n) (hb : normalizeAndValidate b = .ok n) :
    ∀ ids, v1Resolve (pre ++ a :: mid ++ b :: post) ≠ .ok ids := by
  intro ids h
  unfold v1Resolve at h
  split at h
  · cases h
  · split at h
    · cases h
    · rename_i seen hc
      rw [List.append_assoc] at hc
      have hp := (List.pairwise_append.mp (bid_v1Collect_pairwise _ _ _ hc).1).2.1
      exact (List.pairwise_cons.mp hp).1 b (List.mem_append_right _ List.mem_cons_self) (ha.trans hb.symm)

/-! ### non-vacuity -/

/-- the documented example of the source comment. -/
example : bucketIDsV2 ["foo".toList, "bar".toList, "foo".toList, "bar".toList, "bar".toList, "new".toList, "foo".toList]
    = ["foo".toList, "bar".toList, "foo-2".toList, "bar-2".toList, "bar-3".toList, "new".toList, "foo-3".toList] := by decide +kernel

/-- `bucketID_first_pass_kept` applies to [foo, foo, foo-3] (no directory `foo-2`) … -/
example : bucketIDsV2 ["foo".toList, "foo".toList, "foo-3".toList] = ["foo".toList, "foo-2".toList, "foo-3".toList] := by decide +kernel

/-- … the second pass is collision free even when directories are named like ITS ids. -/
example : bucketIDsV2 ["foo".toList, "foo".toList, "foo-1".toList, "foo-2".toList, "foo-2-1".toList]
    = ["foo-1".toList, "foo-2".toList, "foo-1-1".toList, "foo-2-1".toList, "foo-2-1-1".toList] := by decide +kernel

/-- a workspace with different spellings of one path, a name and a derived-looking directory:
    ids per buf.yaml entry. -/
example : v2Resolve [{ raw := "foo-2".toList }, { raw := "./foo/".toList, name := some "buf.test/a/b".toList }, { raw := "foo".toList }]
    = .ok [("foo-2-1".toList, "foo-2-1".toList), ("foo-1".toList, "buf.test/a/b".toList), ("foo-2".toList, "foo-2".toList)] := by decide +kernel

/-- the hypotheses of `bid_v2_opaqueIDs_nodup` are satisfiable with a named module present. -/
example : (someNames ([("foo".toList, some "buf.test/a/b".toList), ("foo".toList, none)].map (fun x => x.2))).Nodup ∧
    ∀ v ∈ someNames ([("foo".toList, some "buf.test/a/b".toList), ("foo".toList, (none : Option Str))].map (fun x => x.2)),
      v ∉ (v2IDs [("foo".toList, some "buf.test/a/b".toList), ("foo".toList, none)]).map (fun x => x.1) := by decide +kernel

example : v1Resolve ["foo".toList, "bar".toList, "Foo".toList] = .ok ["Foo".toList, "bar".toList, "foo".toList] := by decide +kernel
example : v1Resolve ["foo".toList, "bar".toList, "./foo/".toList] = .error .duplicate := by decide +kernel
example : v1Resolve ["foo".toList, "foo/bar".toList] = .error .contains := by decide +kernel

end BufProofs.C10
