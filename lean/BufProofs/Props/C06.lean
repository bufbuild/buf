import BufProofs.Lemmas.RulesLemmas
import BufProofs.Lemmas.RulesResolveLemmas
import BufProofs.Lemmas.RulesScopeLemmas
/-
  C06 — Rule selection and suppression compose set-theoretically.  The property theorems, the fixtures of their
  witnesses (`exImg`, `exCfg`, …) and a few private steps; the vocabulary and the lemmas are in BufProofs/Lemmas/RulesLemmas.lean (the model read off), RulesResolveLemmas.lean (the level
  the user edits, `resolve` / `runCheck`) and RulesScopeLemmas.lean (the handler view, one added ignore path); the
  model is BufModel/Rules.lean over the REGENERATED tables BufGen/RuleTables.lean.
-/
namespace BufProofs.C06
open BufModel.Path BufModel.Rules BufGen.RuleTables

/-- The lint / breaking rules of a config version, from the regenerated tables. -/
abbrev lintRules (v : Version) : List RuleRow := rulesForType (rulesOf v) true
abbrev breakingRules (v : Version) : List RuleRow := rulesForType (rulesOf v) false

/-! ## selection -/

/-- For ALL `use` / `except` lists (any mix of rule ids, category ids, deprecated ids, blanks,
    duplicates, any order) and any rule table: whenever `newRulesConfig` accepts the
    configuration, the selected rule ids are exactly
    `(⋃ denote use) \ (⋃ denote except)`, where `use` is replaced by the default rules when it
    has no non-blank entry (`effectiveUse`, see `effective_use_spec`) and `denote` expands a
    category to its rules and a deprecated rule to its replacements. -/
theorem selection_is_set_algebra (all : List RuleRow) (lint : Bool) (c : CheckConfig) (rc : RulesConfig)
    (hrs : rulesForType all lint ≠ []) (h : newRulesConfig all lint c = .ok rc) (x : Id) :
    x ∈ rc.ruleIDs ↔
      (∃ u ∈ effectiveUse (rulesForType all lint) c.use, x ∈ denote (rulesForType all lint) u) ∧
      ¬ (∃ e ∈ c.except, blankId e = false ∧ x ∈ denote (rulesForType all lint) e) :=
  newRulesConfig_sel all lint c rc hrs h x

/-- What `use` means: its non-blank entries, or — when there is none — the default rules. -/
theorem effective_use_spec (rs : List RuleRow) (use : List Id) (x : Id) :
    x ∈ effectiveUse rs use ↔
      if (∀ u ∈ use, blankId u = true) then x ∈ defaultIds rs else (x ∈ use ∧ blankId x = false) := by
  rw [mem_effectiveUse]
  by_cases h : ∀ u ∈ use, blankId u = true
  · rw [if_pos h]
    exact ⟨fun hx => hx.elim (·.2) (fun k => absurd h k.1), fun hx => Or.inl ⟨h, hx⟩⟩
  · rw [if_neg h]
    exact ⟨fun hx => hx.elim (fun k => absurd k.1 h) (·.2), fun hx => Or.inr ⟨h, hx⟩⟩

/-- The rules `Client.ConfiguredRules` lists are, as a set, the selected ids that are ids of the table. -/
theorem configured_rules_are_selected (all : List RuleRow) (ruleIDs : List Id) (x : Id) :
    x ∈ configuredRuleIds all ruleIDs ↔ x ∈ ruleIDs ∧ ∃ r ∈ all, r.id = x :=
  mem_configuredRuleIds all ruleIDs x

/-- An id that is neither a rule id of the requested type nor a category carried by such a
    rule — in `use` (after defaulting), among the non-blank `except` entries, or as an
    `ignore_only` key — makes `newRulesConfig` fail.  (`hrs`: the table has a rule of the type.
    When the builtin rules are disabled `resolve` hands `newRulesConfig` the EMPTY table; then
    nothing is known or unknown and every configuration resolves to the empty selection — as
    coded, see `resolved_config_spec` and its `disableBuiltin` example.) -/
theorem unknown_id_rejected (all : List RuleRow) (lint : Bool) (c : CheckConfig)
    (hrs : rulesForType all lint ≠ []) (id : Id) (hu : Unknown (rulesForType all lint) id)
    (hin : id ∈ effectiveUse (rulesForType all lint) c.use ∨ (id ∈ c.except ∧ blankId id = false) ∨
           id ∈ c.ignoreOnly.map (·.1)) :
    ∃ e, newRulesConfig all lint c = .error e :=
  newRulesConfig_rejects_unknown all lint c hrs id hu hin

/-- Unknown ids denote nothing (so they could not silently select or except anything). -/
theorem unknown_denotes_nothing (rs : List RuleRow) (id : Id) (hu : Unknown rs id) : denote rs id = [] := by
  unfold denote; rw [(expandOne_none_iff rs id).2 hu]; rfl

/-- A deprecated rule id stands for exactly its replacements (which, in any table bufplugin
    validates, are themselves non-deprecated rule ids — `tables_replacements_wellformed`). -/
theorem deprecated_as_replacements (rs : List RuleRow) (d : Id) (repl : List Id)
    (hd : d ≠ "") (hr : isRuleId rs d = true) (hrep : replacementsOf rs d = some repl)
    (hwf : ∀ r ∈ repl, r ≠ "" ∧ isRuleId rs r = true ∧ replacementsOf rs r = none) (x : Id) :
    x ∈ denote rs d ↔ ∃ r ∈ repl, x ∈ denote rs r := by
  have hself : ∀ r ∈ repl, denote rs r = [r] := fun r hr' =>
    denote_self rs r (hwf r hr').1 (hwf r hr').2.1 (hwf r hr').2.2
  rw [denote_ruleId rs hd hr, undeprecateOne, hrep]
  constructor
  · intro hx; exact ⟨x, hx, by rw [hself x hx]; exact List.mem_singleton.2 rfl⟩
  · rintro ⟨r, hr', hx⟩
    rw [hself r hr', List.mem_singleton] at hx
    exact hx ▸ hr'

/-- In the regenerated tables of all three config versions and both rule types, every
    replacement id of a deprecated rule is a non-deprecated rule id of the same type. -/
theorem tables_replacements_wellformed : ∀ (v : Version) (lint : Bool),
    ∀ d ∈ rulesForType (rulesOf v) lint, d.deprecated = true →
      ∀ r ∈ d.replacements, r ≠ "" ∧ isRuleId (rulesForType (rulesOf v) lint) r = true ∧
        replacementsOf (rulesForType (rulesOf v) lint) r = none := by
  apply forall_version
  decide +kernel

/-- One sweep over the lint tables of the three versions: the facts of `category_nesting` about the
    rules the four categories carry, that none of the four names is also a rule id (so that each
    denotes its category), and the default set. -/
private theorem lint_category_tables : ∀ v : Version,
    (∀ x ∈ rulesInCategory (lintRules v) "MINIMAL", x ∈ rulesInCategory (lintRules v) "BASIC") ∧
    (∀ x ∈ rulesInCategory (lintRules v) "BASIC", x ∈ rulesInCategory (lintRules v) "STANDARD") ∧
    rulesInCategory (lintRules v) "DEFAULT" = rulesInCategory (lintRules v) "STANDARD" ∧
    rulesInCategory (lintRules v) "MINIMAL" ≠ [] ∧
    ((categoriesOf v).find? (fun c => c.id = "DEFAULT")) = some ⟨"DEFAULT", true, ["STANDARD"]⟩ ∧
    (isRuleId (lintRules v) "MINIMAL" = false ∧ isRuleId (lintRules v) "BASIC" = false ∧
      isRuleId (lintRules v) "STANDARD" = false ∧ isRuleId (lintRules v) "DEFAULT" = false) ∧
    defaultIds (lintRules v) = rulesInCategory (lintRules v) "STANDARD" := by
  apply forall_version
  decide +kernel

/-- MINIMAL ⊆ BASIC ⊆ STANDARD and DEFAULT ↦ STANDARD, over the REGENERATED tables, for
    v1beta1, v1 and v2: as rule sets carried by the categories, as what the ids denote in a
    configuration, and in the category table (DEFAULT is deprecated, replaced by STANDARD). -/
theorem category_nesting : ∀ v : Version,
    (∀ x ∈ rulesInCategory (lintRules v) "MINIMAL", x ∈ rulesInCategory (lintRules v) "BASIC") ∧
    (∀ x ∈ rulesInCategory (lintRules v) "BASIC", x ∈ rulesInCategory (lintRules v) "STANDARD") ∧
    rulesInCategory (lintRules v) "DEFAULT" = rulesInCategory (lintRules v) "STANDARD" ∧
    (∀ x ∈ denote (lintRules v) "MINIMAL", x ∈ denote (lintRules v) "BASIC") ∧
    (∀ x ∈ denote (lintRules v) "BASIC", x ∈ denote (lintRules v) "STANDARD") ∧
    denote (lintRules v) "DEFAULT" = denote (lintRules v) "STANDARD" ∧
    rulesInCategory (lintRules v) "MINIMAL" ≠ [] ∧
    ((categoriesOf v).find? (fun c => c.id = "DEFAULT")) = some ⟨"DEFAULT", true, ["STANDARD"]⟩ := by
  intro v
  obtain ⟨h1, h2, h3, h7, h8, ⟨m, b, s, d⟩, _⟩ := lint_category_tables v
  refine ⟨h1, h2, h3, denote_category_mono _ _ _ (by decide) (by decide) m b h1,
    denote_category_mono _ _ _ (by decide) (by decide) b s h2, ?_, h7, h8⟩
  rw [denote_category _ _ (by decide) d, denote_category _ _ (by decide) s, h3]

/-- The default rule set (what an empty `use` selects) is, for lint, exactly STANDARD
    (regenerated tables, all versions). -/
theorem default_is_standard : ∀ v : Version,
    ∀ x, x ∈ defaultIds (lintRules v) ↔ x ∈ rulesInCategory (lintRules v) "STANDARD" := by
  intro v x
  obtain ⟨_, _, _, _, _, _, h⟩ := lint_category_tables v
  rw [h]

/-! ## suppression -/

/-- Why a file location is suppressed — exactly the five clauses, nothing else: whenever
    `ignoreFileLocation` answers, it answers `true` iff (exclude-imports ∧ import) ∨ an ignore
    path equals-or-contains the file path component-wise ∨ an ignore_only path of THIS rule
    does ∨ (ignore_unstable_packages ∧ unstable package) ∨ (comment ignores allowed ∧ a
    `buf:lint:ignore <rule>` line leads the element or one of its enclosing declarations). -/
theorem suppressed_iff (cfg : Config) (r : Id) (f : FileInfo) (sp : SPath) (b : Bool)
    (h : ignoreFileLocation cfg r f sp = .ok b) : b = true ↔ Suppressed cfg r f sp :=
  ignoreFileLocation_ok cfg r f sp b h

/-- The report is the union over the selected rules of what each reports on its own, minus
    exactly the suppressed annotations: every reported annotation comes from a kept one
    (selected rule, not suppressed), and every kept annotation is reported up to the dedup key
    of `bufanalysis` — which is injective on these annotations, hence exactly: see
    `report_is_union_exact` (no side condition). -/
theorem report_is_union (cfg : Config) (img : Image) (out : List FileAnnot) (h : report cfg img = .ok out) :
    (∀ fa ∈ out, ∃ a, (a ∈ img.annots ∧ a.ruleId ∈ cfg.rules.ruleIDs ∧ ¬ AnnotSuppressed cfg img a) ∧
        toFileAnnot img a = fa) ∧
    (∀ a ∈ img.annots, a.ruleId ∈ cfg.rules.ruleIDs → ¬ AnnotSuppressed cfg img a →
        ∃ fb ∈ out, dedupKey fb = dedupKey (toFileAnnot img a)) := by
  have hs := report_mem_iff cfg img out h
  exact ⟨fun fa => (hs fa).1, fun a h1 h2 h3 => ⟨_, (hs _).2 ⟨a, ⟨h1, h2, h3⟩, rfl⟩, rfl⟩⟩

/-- … and exactly: `bufanalysis`' dedup key (length-prefixed fields, fix 16321bc) is injective on
    what `annotationToFileAnnotation` produces (`dedupKey_inj_wf`), so the dedup only removes
    genuine duplicates and the reported set is precisely the image of the kept annotations. -/
theorem report_is_union_exact (cfg : Config) (img : Image) (out : List FileAnnot) (h : report cfg img = .ok out)
    (fa : FileAnnot) :
    fa ∈ out ↔ ∃ a ∈ img.annots, a.ruleId ∈ cfg.rules.ruleIDs ∧ ¬ AnnotSuppressed cfg img a ∧ toFileAnnot img a = fa := by
  rw [report_mem_iff cfg img out h fa]
  simp only [Kept, and_assoc]

/-- Adding suppression to the RESOLVED configuration — fewer selected rules, more ignore paths,
    more ignore_only entries, allow_comment_ignores / ignore_unstable_packages / exclude-imports
    switched on — and/or more directives in comments that leave every POSITION unchanged
    (`MoreCommentsImg` demands `img'.annots = img.annots`: a directive appended to an existing
    comment line, or `img' = img`) never adds an annotation: everything reported afterwards was
    reported before (same path, positions, rule, message: `out' ⊆ out`).
    What the user edits resolves to `MoreSuppression`: `user_suppression_resolves_to_more`; the
    end-to-end forms over `runCheck` are `user_suppression_monotone` and `adding_*_monotone`.
    Comment edits that insert lines (and so shift positions) are covered by
    `suppression_monotone_elements`, stated over element identity instead of positions. -/
theorem suppression_monotone (cfg cfg' : Config) (img img' : Image) (out out' : List FileAnnot)
    (hc : MoreSuppression cfg cfg') (hi : MoreCommentsImg img img')
    (h : report cfg img = .ok out) (h' : report cfg' img' = .ok out') :
    ∀ fa ∈ out', fa ∈ out := by
  intro fa hfa
  rcases (report_mem_iff cfg' img' out' h' fa).1 hfa with ⟨a, ⟨h1, h2, h3⟩, h4⟩
  have hk : Kept cfg img a := by
    refine ⟨by rw [← hi.annots]; exact h1, hc.rules _ h2, ?_⟩
    intro hs; exact h3 (hs.mono_elem hc hi.toSrc (SameElement.refl a))
  exact (report_mem_iff cfg img out h fa).2 ⟨a, hk, by rw [← h4, toFileAnnot_moreComments hi]⟩

/-- A suppression removes only what is in its scope: if an annotation is kept under `cfg` and
    no longer under `cfg'` (same image), then either its rule was de-selected, or at its file
    location / against-file location a suppression clause applies that holds under `cfg'` but
    not under `cfg` — a NEW ignore path that equals-or-contains that file's path, a NEW
    ignore_only entry for exactly this rule whose path does, the import / unstable option newly
    switched on for an import / unstable file, or comment ignores newly in force with a
    directive naming this rule on an enclosing element. -/
theorem suppression_scoped (cfg cfg' : Config) (img : Image) (a : Annot)
    (hk : Kept cfg img a) (hk' : ¬ Kept cfg' img a) :
    a.ruleId ∉ cfg'.rules.ruleIDs ∨
    (∃ x, a.loc = some x ∧ NewlySuppressed cfg cfg' a.ruleId (fileAt img.files x.file) x.sourcePath) ∨
    (∃ x, a.against = some x ∧ NewlySuppressed cfg cfg' a.ruleId (fileAt img.againstFiles x.file) x.sourcePath) :=
  newlySuppressed_of_kept hk hk'

/-! ## the functions the driver runs (`resolve`, `configuredRules`, `runCheck`) are `newRulesConfig` / `report` -/

/-- `resolve` — what `Driver/C06.lean` evaluates on every `rules` / `check` line — is
    `newRulesConfig`, applied to the user's configuration directly (`validated = false`) or after
    `bufconfig.NewEnabledCheckConfig` (`validated = true`), over the rule table of the config
    version (EMPTY when the builtin rules are disabled: then every configuration, including one
    with unknown ids, resolves to the empty selection — `resolved_config_spec`). -/
theorem resolve_is_newRulesConfig (allRules : List RuleRow) (lint validated : Bool) (c : CheckConfig) :
    resolve allRules lint validated c =
      if validated then
        (newEnabledCheckConfig c).bind (newRulesConfig (if c.disableBuiltin then [] else allRules) lint)
      else newRulesConfig (if c.disableBuiltin then [] else allRules) lint c := by
  unfold resolve
  cases validated with
  | false => simp
  | true =>
    simp only [if_true]
    cases newEnabledCheckConfig c <;> rfl

/-- `runCheck` (driver, `check` lines) is `report` on the resolved configuration. -/
theorem runCheck_is_report (allRules : List RuleRow) (lint validated : Bool) (c : CheckConfig)
    (aci iup exi : Bool) (img : Image) :
    runCheck allRules lint validated c aci iup exi img =
      (resolve allRules lint validated c).bind (fun rc => report (mkConfig lint rc aci iup exi) img) := by
  unfold runCheck
  cases resolve allRules lint validated c <;> rfl

/-- `configuredRules` (driver, `rules` lines) is `configuredRuleIds` of the resolved selection. -/
theorem configuredRules_is_configuredRuleIds (allRules : List RuleRow) (lint validated : Bool) (c : CheckConfig) :
    configuredRules allRules lint validated c =
      (resolve allRules lint validated c).bind
        (fun rc => .ok (configuredRuleIds (if c.disableBuiltin then [] else allRules) rc.ruleIDs)) := by
  unfold configuredRules
  cases resolve allRules lint validated c <;> rfl

/-- What the driver's `resolve` returns, in terms of the lists THE USER wrote (through
    `NewEnabledCheckConfig`'s dedupe / sort / path normalisation when `validated`, and
    `newRulesConfig`'s category expansion, deprecation replacement and path normalisation):
    with an empty rule table (no rule of the type, or builtin rules disabled) the empty
    configuration; otherwise
      * the selected ids are `(⋃ denote use) \ (⋃ denote except)`,
      * the resolved ignore paths are the normal forms of the non-empty `ignore` entries,
      * rule `r` is ignored under `p` iff some `ignore_only` key DENOTING `r` — the rule id, a
        category carrying the rule, a deprecated id whose replacement it is — lists a non-empty
        path with normal form `p`. -/
theorem resolved_config_spec (allRules : List RuleRow) (lint validated : Bool) (c : CheckConfig) (rc : RulesConfig)
    (h : resolve allRules lint validated c = .ok rc) :
    (tableOf allRules lint c = [] → rc = { ruleIDs := [], ignoreRootPaths := [], ignoreOnly := [] }) ∧
    (tableOf allRules lint c ≠ [] →
      (∀ x, x ∈ rc.ruleIDs ↔
        (∃ u ∈ effectiveUse (tableOf allRules lint c) c.use, x ∈ denote (tableOf allRules lint c) u) ∧
        ¬ (∃ e ∈ c.except, blankId e = false ∧ x ∈ denote (tableOf allRules lint c) e)) ∧
      (∀ p, p ∈ rc.ignoreRootPaths ↔ ∃ q ∈ c.ignore, q ≠ [] ∧ normalizeAndValidate q = .ok p) ∧
      (∀ r p, (r, p) ∈ rc.ignoreOnly ↔
        ∃ k ps q, (k, ps) ∈ c.ignoreOnly ∧ q ∈ ps ∧ q ≠ [] ∧ r ∈ denote (tableOf allRules lint c) k ∧
          normalizeAndValidate q = .ok p)) := by
  have hs := resolve_spec allRules lint validated c rc h
  refine ⟨hs.1, fun hrs => ?_⟩
  have S := hs.2 hrs
  refine ⟨S.sel, S.ignore, fun r p => ?_⟩
  rw [S.ignoreOnly r p]
  constructor
  · rintro ⟨k, q, ⟨ps, hm, hq⟩, hne, hd, hn⟩; exact ⟨k, ps, q, hm, hq, hne, hd, hn⟩
  · rintro ⟨k, ps, q, hm, hq, hne, hd, hn⟩; exact ⟨k, q, ⟨ps, hm, hq⟩, hne, hd, hn⟩

/-- `suppressed_iff`'s two path clauses in the USER's terms: under the resolved configuration a
    file is covered by an ignore path iff some non-empty `ignore` entry the user wrote
    normalises to a path that equals-or-contains the file's path; it is covered for rule `r`
    through `ignore_only` iff some key denoting `r` lists such an entry. -/
theorem ignore_clauses_user_level (allRules : List RuleRow) (lint validated : Bool) (c : CheckConfig) (rc : RulesConfig)
    (h : resolve allRules lint validated c = .ok rc) (hrs : tableOf allRules lint c ≠ [])
    (aci iup exi : Bool) (r : Id) (f : FileInfo) :
    (IgnorePathClause (mkConfig lint rc aci iup exi) f ↔
      ∃ q ∈ c.ignore, q ≠ [] ∧ ∃ p, normalizeAndValidate q = .ok p ∧ equalsOrContainsPath p f.path = true) ∧
    (IgnoreOnlyClause (mkConfig lint rc aci iup exi) r f ↔
      ∃ k ps q, (k, ps) ∈ c.ignoreOnly ∧ q ∈ ps ∧ q ≠ [] ∧ r ∈ denote (tableOf allRules lint c) k ∧
        ∃ p, normalizeAndValidate q = .ok p ∧ equalsOrContainsPath p f.path = true) := by
  have S := (resolve_spec allRules lint validated c rc h).2 hrs
  unfold IgnorePathClause IgnoreOnlyClause
  rw [mkConfig_rules]
  constructor
  · constructor
    · rintro ⟨p, hp, he⟩
      rcases (S.ignore p).1 hp with ⟨q, hq, hne, hn⟩
      exact ⟨q, hq, hne, p, hn, he⟩
    · rintro ⟨q, hq, hne, p, hn, he⟩
      exact ⟨p, (S.ignore p).2 ⟨q, hq, hne, hn⟩, he⟩
  · constructor
    · rintro ⟨p, hp, he⟩
      rcases (S.ignoreOnly r p).1 hp with ⟨k, q, ⟨ps, hm, hq⟩, hne, hd, hn⟩
      exact ⟨k, ps, q, hm, hq, hne, hd, p, hn, he⟩
    · rintro ⟨k, ps, q, hm, hq, hne, hd, p, hn, he⟩
      exact ⟨p, (S.ignoreOnly r p).2 ⟨k, q, ⟨ps, hm, hq⟩, hne, hd, hn⟩, he⟩

/-- `report_is_union_exact`, end to end over what the driver runs: `runCheck` reports exactly
    the file annotations of the annotations of selected rules that are not suppressed under the
    resolved configuration. -/
theorem runCheck_is_union (allRules : List RuleRow) (lint validated : Bool) (c : CheckConfig)
    (aci iup exi : Bool) (img : Image) (out : List FileAnnot)
    (h : runCheck allRules lint validated c aci iup exi img = .ok out) :
    ∃ rc, resolve allRules lint validated c = .ok rc ∧
      ∀ fa, fa ∈ out ↔ ∃ a, Kept (mkConfig lint rc aci iup exi) img a ∧ toFileAnnot img a = fa := by
  rcases (runCheck_ok_iff _ _ _ _ _ _ _ _ _).1 h with ⟨rc, hr, hrep⟩
  exact ⟨rc, hr, report_mem_iff _ _ _ hrep⟩

/-! ## suppression added at the level the user edits -/

/-- Adding `except` ids, `ignore` paths, `ignore_only` (key, path) entries to the check
    configuration the user writes (`UserMoreSuppression`: as sets — any position, any number,
    duplicates allowed) yields, for every pair of accepted configurations and through all the
    normalisations of both constructors, `MoreSuppression` on the resolved configurations.
    Options may be switched on at the same time. -/
theorem user_suppression_resolves_to_more (allRules : List RuleRow) (lint validated : Bool) (c c' : CheckConfig)
    (rc rc' : RulesConfig) (hu : UserMoreSuppression c c')
    (h : resolve allRules lint validated c = .ok rc) (h' : resolve allRules lint validated c' = .ok rc')
    (aci iup exi aci' iup' exi' : Bool)
    (ha : aci = true → aci' = true) (hi : iup = true → iup' = true) (he : exi = true → exi' = true) :
    MoreSuppression (mkConfig lint rc aci iup exi) (mkConfig lint rc' aci' iup' exi') :=
  resolve_moreSuppression allRules lint validated c c' rc rc' hu h h' aci iup exi aci' iup' exi' ha hi he

/-- End to end (`runCheck`, same image): after the user added suppression entries and/or
    switched options on, nothing is reported that was not reported before. -/
theorem user_suppression_monotone (allRules : List RuleRow) (lint validated : Bool) (c c' : CheckConfig)
    (aci iup exi aci' iup' exi' : Bool) (img : Image) (out out' : List FileAnnot)
    (hu : UserMoreSuppression c c')
    (ha : aci = true → aci' = true) (hi : iup = true → iup' = true) (he : exi = true → exi' = true)
    (h : runCheck allRules lint validated c aci iup exi img = .ok out)
    (h' : runCheck allRules lint validated c' aci' iup' exi' img = .ok out') :
    ∀ fa ∈ out', fa ∈ out := by
  rcases (runCheck_ok_iff _ _ _ _ _ _ _ _ _).1 h with ⟨rc, hr, hrep⟩
  rcases (runCheck_ok_iff _ _ _ _ _ _ _ _ _).1 h' with ⟨rc', hr', hrep'⟩
  exact suppression_monotone _ _ img img out out'
    (resolve_moreSuppression _ _ _ _ _ _ _ hu hr hr' _ _ _ _ _ _ ha hi he) (MoreCommentsImg.refl img) hrep hrep'

/-- End to end (`runCheck`, same image, same options): an annotation that was reported and is
    no longer reported afterwards is in the scope of something the user ADDED — a new `except` id
    that denotes its rule, a new `ignore` path whose normal form covers (component-wise) its
    file or against-file, or a new `ignore_only` entry whose key denotes its rule and whose
    path's normal form covers its file or against-file (`UserScope`). -/
theorem user_suppression_scoped (allRules : List RuleRow) (lint validated : Bool) (c c' : CheckConfig)
    (aci iup exi : Bool) (img : Image) (out out' : List FileAnnot) (hu : UserMoreSuppression c c')
    (h : runCheck allRules lint validated c aci iup exi img = .ok out)
    (h' : runCheck allRules lint validated c' aci iup exi img = .ok out')
    (fb : FileAnnot) (hfb : fb ∈ out) (hgone : fb ∉ out') :
    ∃ a ∈ img.annots, toFileAnnot img a = fb ∧ UserScope (tableOf allRules lint c) c c' img a := by
  rcases (runCheck_ok_iff _ _ _ _ _ _ _ _ _).1 h with ⟨rc, hr, hrep⟩
  rcases (runCheck_ok_iff _ _ _ _ _ _ _ _ _).1 h' with ⟨rc', hr', hrep'⟩
  rcases (report_mem_iff _ _ _ hrep fb).1 hfb with ⟨a, hk, hfa⟩
  refine ⟨a, hk.1, hfa, user_scoped _ _ _ _ _ _ _ hu hr hr' _ _ _ _ _ hk ?_⟩
  intro hk'
  exact hgone ((report_mem_iff _ _ _ hrep' fb).2 ⟨a, hk', hfa⟩)

/-- Adding an `ignore` path to the configuration never adds an annotation. -/
theorem adding_ignore_monotone (allRules : List RuleRow) (lint validated : Bool) (c : CheckConfig) (q : Str)
    (aci iup exi : Bool) (img : Image) (out out' : List FileAnnot)
    (h : runCheck allRules lint validated c aci iup exi img = .ok out)
    (h' : runCheck allRules lint validated (addIgnore c q) aci iup exi img = .ok out') :
    ∀ fa ∈ out', fa ∈ out :=
  user_suppression_monotone _ _ _ _ _ _ _ _ _ _ _ _ _ _ (addIgnore_more c q) id id id h h'

/-- Adding an `ignore_only` entry (path `q` under rule / category / deprecated id `k`) never adds
    an annotation. -/
theorem adding_ignore_only_monotone (allRules : List RuleRow) (lint validated : Bool) (c : CheckConfig)
    (k : Id) (q : Str) (aci iup exi : Bool) (img : Image) (out out' : List FileAnnot)
    (h : runCheck allRules lint validated c aci iup exi img = .ok out)
    (h' : runCheck allRules lint validated (addIgnoreOnly c k q) aci iup exi img = .ok out') :
    ∀ fa ∈ out', fa ∈ out :=
  user_suppression_monotone _ _ _ _ _ _ _ _ _ _ _ _ _ _ (addIgnoreOnly_more c k q) id id id h h'

/-- Adding an `except` id never adds an annotation. -/
theorem adding_except_monotone (allRules : List RuleRow) (lint validated : Bool) (c : CheckConfig) (e : Id)
    (aci iup exi : Bool) (img : Image) (out out' : List FileAnnot)
    (h : runCheck allRules lint validated c aci iup exi img = .ok out)
    (h' : runCheck allRules lint validated (addExcept c e) aci iup exi img = .ok out') :
    ∀ fa ∈ out', fa ∈ out :=
  user_suppression_monotone _ _ _ _ _ _ _ _ _ _ _ _ _ _ (addExcept_more c e) id id id h h'

/-- Adding the `ignore` path `q` removes only annotations whose file or against-file lies at or
    under the normal form of `q` (component-wise). -/
theorem adding_ignore_scoped (allRules : List RuleRow) (lint validated : Bool) (c : CheckConfig) (q : Str)
    (aci iup exi : Bool) (img : Image) (out out' : List FileAnnot)
    (h : runCheck allRules lint validated c aci iup exi img = .ok out)
    (h' : runCheck allRules lint validated (addIgnore c q) aci iup exi img = .ok out')
    (fb : FileAnnot) (hfb : fb ∈ out) (hgone : fb ∉ out') :
    ∃ a ∈ img.annots, toFileAnnot img a = fb ∧
      ∃ p, normalizeAndValidate q = .ok p ∧ PathCovers img a p := by
  rcases user_suppression_scoped _ _ _ _ _ _ _ _ _ _ _ (addIgnore_more c q) h h' fb hfb hgone with ⟨a, ha, hfa, hsc⟩
  refine ⟨a, ha, hfa, ?_⟩
  rcases hsc with ⟨e, he, hne, _⟩ | ⟨q', hq', hnq', p, hn, hcov⟩ | ⟨k, q', hio, hnio, _⟩
  · exact absurd he hne
  · rcases List.mem_cons.1 hq' with hq' | hq'
    · subst hq'; exact ⟨p, hn, hcov⟩
    · exact absurd hq' hnq'
  · exact absurd hio hnio

/-- Adding the `ignore_only` entry (`k`, `q`) removes only annotations of rules that `k` denotes
    and whose file or against-file lies at or under the normal form of `q`. -/
theorem adding_ignore_only_scoped (allRules : List RuleRow) (lint validated : Bool) (c : CheckConfig)
    (k : Id) (q : Str) (aci iup exi : Bool) (img : Image) (out out' : List FileAnnot)
    (h : runCheck allRules lint validated c aci iup exi img = .ok out)
    (h' : runCheck allRules lint validated (addIgnoreOnly c k q) aci iup exi img = .ok out')
    (fb : FileAnnot) (hfb : fb ∈ out) (hgone : fb ∉ out') :
    ∃ a ∈ img.annots, toFileAnnot img a = fb ∧ a.ruleId ∈ denote (tableOf allRules lint c) k ∧
      ∃ p, normalizeAndValidate q = .ok p ∧ PathCovers img a p := by
  rcases user_suppression_scoped _ _ _ _ _ _ _ _ _ _ _ (addIgnoreOnly_more c k q) h h' fb hfb hgone with ⟨a, ha, hfa, hsc⟩
  refine ⟨a, ha, hfa, ?_⟩
  rcases hsc with ⟨e, he, hne, _⟩ | ⟨q', hq', hnq', _⟩ | ⟨k', q', hio, hnio, hd, p, hn, hcov⟩
  · exact absurd he hne
  · exact absurd hq' hnq'
  · rcases (ioHas_ioInsert c.ignoreOnly k q k' q').1 hio with hio | ⟨hk, hq⟩
    · exact absurd hio hnio
    · subst hk; subst hq; exact ⟨hd, p, hn, hcov⟩

/-- Adding the `except` id `e` removes only annotations of rules that `e` denotes (the rule
    itself, the rules of the category, the replacements of the deprecated id). -/
theorem adding_except_scoped (allRules : List RuleRow) (lint validated : Bool) (c : CheckConfig) (e : Id)
    (aci iup exi : Bool) (img : Image) (out out' : List FileAnnot)
    (h : runCheck allRules lint validated c aci iup exi img = .ok out)
    (h' : runCheck allRules lint validated (addExcept c e) aci iup exi img = .ok out')
    (fb : FileAnnot) (hfb : fb ∈ out) (hgone : fb ∉ out') :
    ∃ a ∈ img.annots, toFileAnnot img a = fb ∧ a.ruleId ∈ denote (tableOf allRules lint c) e := by
  rcases user_suppression_scoped _ _ _ _ _ _ _ _ _ _ _ (addExcept_more c e) h h' fb hfb hgone with ⟨a, ha, hfa, hsc⟩
  refine ⟨a, ha, hfa, ?_⟩
  rcases hsc with ⟨e', he', hne', _, hd⟩ | ⟨q', hq', hnq', _⟩ | ⟨k', q', hio, hnio, _⟩
  · rcases List.mem_cons.1 he' with he' | he'
    · subst he'; exact hd
    · exact absurd he' hne'
  · exact absurd hq' hnq'
  · exact absurd hio hnio

/-! ## comment edits, over element identity (positions may shift) -/

/-- More suppression in the configuration and/or a comment-only edit of the sources
    (`MoreCommentsSrc`: more `buf:lint:ignore` directives per ELEMENT; the edited image's
    single-rule annotations are annotations of the original image on the same element — file and
    source path — with the same rule and message, at ARBITRARY new positions) never adds an
    annotation: whatever is reported afterwards is the report of an annotation `a'` whose
    counterpart `a` on the same element was kept and reported before, and both reports agree on
    file path, rule id and message (only line / column numbers may differ). -/
theorem suppression_monotone_elements (cfg cfg' : Config) (img img' : Image) (out out' : List FileAnnot)
    (hc : MoreSuppression cfg cfg') (hi : MoreCommentsSrc img img')
    (h : report cfg img = .ok out) (h' : report cfg' img' = .ok out') :
    ∀ fa' ∈ out', ∃ a' ∈ img'.annots, toFileAnnot img' a' = fa' ∧
      ∃ a, SameElement a a' ∧ Kept cfg img a ∧
        toFileAnnot img a ∈ out ∧ faElem (toFileAnnot img a) = faElem fa' := by
  intro fa' hfa'
  rcases (report_mem_iff cfg' img' out' h' fa').1 hfa' with ⟨a', hk', hfa⟩
  rcases kept_mono_elem hc hi hk' with ⟨a, hs, hk⟩
  refine ⟨a', hk'.1, hfa, a, hs, hk, (report_mem_iff cfg img out h _).2 ⟨a, hk, rfl⟩, ?_⟩
  rw [← hfa]
  exact (faElem_sameElement (fun i => (hi.files i).path) hs).symm

/-- A comment edit removes only what a NEW directive covers: if the annotation `a` was kept and
    its counterpart `a'` on the same element is no longer kept after a comment-only edit (same
    configuration), then comment ignores are allowed and — at the file location or the
    against-file location — a directive for this rule is present after the edit and was absent
    before, on an element whose source path is a PREFIX of the annotation's source path (the
    annotated element itself or a declaration enclosing it). -/
theorem adding_comment_scoped (cfg : Config) (img img' : Image) (a a' : Annot)
    (hi : MoreCommentsSrc img img') (hs : SameElement a a') (ha' : a' ∈ img'.annots)
    (hk : Kept cfg img a) (hk' : ¬ Kept cfg img' a') :
    cfg.allowCommentIgnores = true ∧
    ((∃ x', a'.loc = some x' ∧ ∃ p, p <+: x'.sourcePath ∧
        commentIgnoresAt (fileAt img'.files x'.file) cfg.commentIgnorePrefix a'.ruleId p = true ∧
        commentIgnoresAt (fileAt img.files x'.file) cfg.commentIgnorePrefix a'.ruleId p = false) ∨
     (∃ x', a'.against = some x' ∧ ∃ p, p <+: x'.sourcePath ∧
        commentIgnoresAt (fileAt img'.againstFiles x'.file) cfg.commentIgnorePrefix a'.ruleId p = true ∧
        commentIgnoresAt (fileAt img.againstFiles x'.file) cfg.commentIgnorePrefix a'.ruleId p = false)) := by
  rcases kept_gone hs ha' hk hk' with hr | ⟨x', hx', h', hn⟩ | ⟨x', hx', h', hn⟩
  · exact absurd (hs.ruleId ▸ hk.2.1) hr
  · obtain ⟨c1, hp⟩ := h'.newly_comment (hi.files _) hn
    exact ⟨c1, Or.inl ⟨x', hx', hp⟩⟩
  · obtain ⟨c1, hp⟩ := h'.newly_comment (hi.againstFiles _) hn
    exact ⟨c1, Or.inr ⟨x', hx', hp⟩⟩

/-- "On an enclosing element", independently of the DFA's tables: every source path at which
    `ignoreFileLocation` looks for a directive is a prefix of the annotation's source path. -/
theorem comment_directives_reach_enclosing_only (sp : SPath) (ps : List SPath)
    (h : associatedSourcePaths sp = .ok ps) : ∀ p ∈ ps, p <+: sp :=
  associated_are_prefixes sp ps h

/-! ## imports -/

/-- Breaking with exclude-imports (and any configuration with `excludeImports`): nothing is
    reported whose file or against-file is an import. -/
theorem imports_never_reported (cfg : Config) (img : Image) (out : List FileAnnot)
    (h : report cfg img = .ok out) (hx : cfg.excludeImports = true) :
    ∀ fa ∈ out, ∃ a ∈ img.annots, toFileAnnot img a = fa ∧
      (∀ l, a.loc = some l → (fileAt img.files l.file).isImport = false) ∧
      (∀ l, a.against = some l → (fileAt img.againstFiles l.file).isImport = false) := by
  intro fa hfa
  rcases (report_mem_iff cfg img out h fa).1 hfa with ⟨a, ⟨h1, _, h3⟩, h4⟩
  -- were the file an import, the import clause would have suppressed the annotation
  exact ⟨a, h1, h4, fun l hl => Bool.eq_false_iff.2 fun hi => h3 (.inl ⟨l, hl, .inl ⟨hx, hi⟩⟩),
    fun l hl => Bool.eq_false_iff.2 fun hi => h3 (.inr ⟨l, hl, .inl ⟨hx, hi⟩⟩)⟩

/-- Lint never sets exclude-imports (`mkConfig true`): import files are skipped by the lint rule
    handlers themselves, which are a parameter here.  Under that (oracle-checked) assumption on
    the single-rule annotation sets, no configuration reports an import file. -/
theorem imports_never_reported_lint (cfg : Config) (img : Image) (out : List FileAnnot)
    (h : report cfg img = .ok out)
    (hh : ∀ a ∈ img.annots, ∀ l, a.loc = some l → (fileAt img.files l.file).isImport = false) :
    ∀ fa ∈ out, ∃ a ∈ img.annots, toFileAnnot img a = fa ∧
      ∀ l, a.loc = some l → (fileAt img.files l.file).isImport = false := by
  intro fa hfa
  rcases (report_mem_iff cfg img out h fa).1 hfa with ⟨a, ⟨h1, _, _⟩, h4⟩
  exact ⟨a, h1, h4, hh a h1⟩

/-- `ignore` / `ignore_only` matching is component-wise, not string-prefix: "a/v" does not
    cover "a/v1/a.proto", "a/v1" does. -/
theorem ignore_is_pathwise_counterexample :
    mapHasEqualOrContainingPath ["a/v".toList] "a/v1/a.proto".toList = false ∧
    mapHasEqualOrContainingPath ["a/v1".toList] "a/v1/a.proto".toList = true := by decide

/-! ## non-vacuity

  Values over one rule table are evaluated together, in one private lemma per family of examples:
  the kernel then works on the table's ids once per family instead of once per example. -/

private theorem v2_selection_values :
    (newRulesConfig (rulesOf .v2) true
      { use := ["MINIMAL", "ENUM_PASCAL_CASE", "", "MINIMAL"], except := ["PACKAGE_DEFINED", " "], ignore := [],
        ignoreOnly := [], disableBuiltin := false }).map (·.ruleIDs)
      = .ok ["DIRECTORY_SAME_PACKAGE", "ENUM_PASCAL_CASE", "PACKAGE_DIRECTORY_MATCH", "PACKAGE_NO_IMPORT_CYCLE", "PACKAGE_SAME_DIRECTORY"] ∧
    (Unknown (lintRules .v2) "NOPE" ∧ Unknown (lintRules .v2) "FILE_NO_DELETE" ∧ Unknown (lintRules .v2) "WIRE") ∧
    newRulesConfig (rulesOf .v2) true
      { use := ["NOPE"], except := [], ignore := [], ignoreOnly := [], disableBuiltin := false } = .error .unknownId ∧
    newRulesConfig (rulesOf .v2) true
      { use := ["BASIC"], except := ["BASIC"], ignore := [], ignoreOnly := [], disableBuiltin := false } = .ok ⟨[], [], []⟩ ∧
    newRulesConfigOld (rulesOf .v2) true
      { use := ["IMPORT_NO_WEAK"], except := [], ignore := [], ignoreOnly := [], disableBuiltin := false } = .error .emptyResult := by
  decide +kernel

-- selection on the real v2 table: a category, a deprecated id, an except, blanks and duplicates
example : (newRulesConfig (rulesOf .v2) true
    { use := ["MINIMAL", "ENUM_PASCAL_CASE", "", "MINIMAL"], except := ["PACKAGE_DEFINED", " "], ignore := [],
      ignoreOnly := [], disableBuiltin := false }).map (·.ruleIDs)
    = .ok ["DIRECTORY_SAME_PACKAGE", "ENUM_PASCAL_CASE", "PACKAGE_DIRECTORY_MATCH", "PACKAGE_NO_IMPORT_CYCLE", "PACKAGE_SAME_DIRECTORY"] :=
  v2_selection_values.1
example : rulesForType (rulesOf .v2) true ≠ [] := by decide
-- a deprecated breaking id behaves as its replacements
example : (newRulesConfig (rulesOf .v1) false
    { use := ["FIELD_SAME_CTYPE"], except := [], ignore := [], ignoreOnly := [], disableBuiltin := false }).map (·.ruleIDs)
    = .ok ["FIELD_SAME_CPP_STRING_TYPE"] := by decide +kernel
example : replacementsOf (rulesForType (rulesOf .v1) false) "FIELD_SAME_CTYPE" = some ["FIELD_SAME_CPP_STRING_TYPE"] := by decide +kernel
-- unknown ids, ids of the other type, categories of the other type are rejected
example : Unknown (lintRules .v2) "NOPE" ∧ Unknown (lintRules .v2) "FILE_NO_DELETE" ∧ Unknown (lintRules .v2) "WIRE" :=
  v2_selection_values.2.1
example : newRulesConfig (rulesOf .v2) true
    { use := ["NOPE"], except := [], ignore := [], ignoreOnly := [], disableBuiltin := false } = .error .unknownId :=
  v2_selection_values.2.2.1
-- an empty selection (except removes everything use selects) is a valid configuration …
example : (newRulesConfig (rulesOf .v2) true
    { use := ["BASIC"], except := ["BASIC"], ignore := [], ignoreOnly := [], disableBuiltin := false }).map (·.ruleIDs) = .ok [] := by
  rw [v2_selection_values.2.2.2.1]; rfl
/-- … but before the `fix:` it was rejected with the system error "resultRules was empty"
    (also for `use: [IMPORT_NO_WEAK]`, a deprecated rule without replacement): the selection is
    `(⋃ denote use) \ (⋃ denote except) = ∅`, which must report nothing, not fail. -/
theorem empty_selection_old_counterexample :
    newRulesConfigOld (rulesOf .v2) true
      { use := ["BASIC"], except := ["BASIC"], ignore := [], ignoreOnly := [], disableBuiltin := false } = .error .emptyResult ∧
    newRulesConfigOld (rulesOf .v2) true
      { use := ["IMPORT_NO_WEAK"], except := [], ignore := [], ignoreOnly := [], disableBuiltin := false } = .error .emptyResult := by
  refine ⟨?_, v2_selection_values.2.2.2.2⟩
  rw [newRulesConfigOld_of_ok _ _ _ _ (by decide) v2_selection_values.2.2.2.1]
  rfl

/-- A one-file image with two planted annotations, the second under a message whose leading
    comment carries a directive. -/
def exImg : Image :=
  { files := [{ path := "a/v1/a.proto".toList, isImport := false, unstable := false,
                comments := [([4, 0], " buf:lint:ignore FIELD_LOWER_SNAKE_CASE\n".toList)] },
              { path := "dep/dep.proto".toList, isImport := true, unstable := false, comments := [] }],
    againstFiles := [],
    annots := [{ ruleId := "MESSAGE_PASCAL_CASE", loc := some ⟨0, [4, 0, 1], 3, 8, 3, 19⟩, against := none, message := "m" },
               { ruleId := "FIELD_LOWER_SNAKE_CASE", loc := some ⟨0, [4, 0, 2, 0, 1], 4, 9, 4, 17⟩, against := none, message := "f" },
               { ruleId := "FIELD_NO_DELETE", loc := some ⟨1, [4, 0], 2, 1, 2, 5⟩, against := none, message := "d" }] }

def exCfg (aci : Bool) (ignore : List Str) (exi : Bool) : Config :=
  { rules := { ruleIDs := ["FIELD_LOWER_SNAKE_CASE", "FIELD_NO_DELETE", "MESSAGE_PASCAL_CASE"], ignoreRootPaths := ignore, ignoreOnly := [] },
    allowCommentIgnores := aci, ignoreUnstablePackages := false,
    commentIgnorePrefix := lintCommentIgnorePrefix, excludeImports := exi }

private theorem exImg_reports :
    (report (exCfg false [] false) exImg).map (·.map (·.type)) = .ok ["MESSAGE_PASCAL_CASE", "FIELD_LOWER_SNAKE_CASE", "FIELD_NO_DELETE"] ∧
    (report (exCfg true [] false) exImg).map (·.map (·.type)) = .ok ["MESSAGE_PASCAL_CASE", "FIELD_NO_DELETE"] ∧
    (report (exCfg false ["a".toList] true) exImg).map (·.map (·.type)) = .ok [] := by
  decide +kernel

example : (report (exCfg false [] false) exImg).map (·.map (·.type)) = .ok ["MESSAGE_PASCAL_CASE", "FIELD_LOWER_SNAKE_CASE", "FIELD_NO_DELETE"] :=
  exImg_reports.1
-- the directive on the enclosing message suppresses the field annotation only
example : (report (exCfg true [] false) exImg).map (·.map (·.type)) = .ok ["MESSAGE_PASCAL_CASE", "FIELD_NO_DELETE"] :=
  exImg_reports.2.1
-- an ignore directory suppresses everything under it, exclude-imports the import file
example : (report (exCfg false ["a".toList] true) exImg).map (·.map (·.type)) = .ok [] := exImg_reports.2.2
example : MoreSuppression (exCfg false [] false) (exCfg true ["a".toList] true) :=
  ⟨fun _ h => h, fun _ h => (by cases h), fun _ h => h, fun h => (by cases h), fun h => h, fun h => (by cases h), rfl⟩
example : associatedSourcePaths [4, 0, 2, 0, 1] = .ok [[4, 0], [4, 0, 2, 0]] := by decide
example : associatedSourcePaths [4, 0, 3, 1, 4, 0, 2, 2, 3] = .ok [[4, 0], [4, 0, 3, 1], [4, 0, 3, 1, 4, 0], [4, 0, 3, 1, 4, 0, 2, 2], [4, 0, 3, 1, 4, 0, 2, 2, 3]] := by decide

/-! ### non-vacuity of the user-level theorems (through the functions the driver runs)

  `exImg2` (lint annotations in two directories), `exImg2c` (the same sources after a directive
  line was INSERTED above message 0 of a/v1/a.proto: every position below moved down one line,
  source paths unchanged), `exC` and `exImg2_moreComments : MoreCommentsSrc exImg2 exImg2c` are
  in Lemmas/RulesResolveLemmas.lean. -/

def faM (l : Nat) : FileAnnot := ⟨some "a/v1/a.proto".toList, l, 9, l, 20, "MESSAGE_PASCAL_CASE", "m"⟩
def faF : FileAnnot := ⟨some "a/v1/a.proto".toList, 5, 10, 5, 18, "FIELD_LOWER_SNAKE_CASE", "f"⟩
def faE : FileAnnot := ⟨some "b/b.proto".toList, 3, 6, 3, 10, "ENUM_PASCAL_CASE", "e"⟩

/-- The values the examples below project out.  First group, what `runCheck` reports on `exImg2`
    (validated = through `NewEnabledCheckConfig`, raw = without; options off unless said):
      `.1.1`          validated, `exC`
      `.1.2.1`        validated, `exC` + ignore `./a//v1/`
      `.1.2.2.1`      validated, `exC` + ignore_only BASIC ↦ `b`
      `.1.2.2.2.1`    validated, `exC` + except FIELD_LOWER_SNAKE_CASE
      `.1.2.2.2.2.1`  raw, `exC`
      `.1.2.2.2.2.2`  raw, the three additions at once, comment ignores on
    Second group:
      `.2.1`      what `exC` resolves to
      `.2.2.1`    `exC` with `./b` under the category key BASIC is accepted
      `.2.2.2.1`  MESSAGE_PASCAL_CASE ∈ what BASIC denotes (table of that configuration)
      `.2.2.2.2`  ENUM_PASCAL_CASE ∈ what BASIC denotes (table of `exC`) -/
private theorem exC_values :
    (runCheck (rulesOf .v2) true true exC false false false exImg2 = .ok [faM 4, faF, faE] ∧
      runCheck (rulesOf .v2) true true (addIgnore exC "./a//v1/".toList) false false false exImg2 = .ok [faE] ∧
      runCheck (rulesOf .v2) true true (addIgnoreOnly exC "BASIC" "b".toList) false false false exImg2
        = .ok [faM 4, faF] ∧
      runCheck (rulesOf .v2) true true (addExcept exC "FIELD_LOWER_SNAKE_CASE") false false false exImg2
        = .ok [faM 4, faE] ∧
      runCheck (rulesOf .v2) true false exC false false false exImg2 = .ok [faM 4, faF, faE] ∧
      runCheck (rulesOf .v2) true false (addIgnore (addExcept (addIgnoreOnly exC "BASIC" "b".toList) "MINIMAL") "a".toList)
        true false false exImg2 = .ok []) ∧
    (resolve (rulesOf .v2) true true exC =
        .ok ⟨["ENUM_PASCAL_CASE", "FIELD_LOWER_SNAKE_CASE", "MESSAGE_PASCAL_CASE"], [], [("ENUM_PASCAL_CASE", "c".toList)]⟩ ∧
      (resolve (rulesOf .v2) true true (addIgnoreOnly exC "BASIC" "./b".toList)).isOk = true ∧
      "MESSAGE_PASCAL_CASE" ∈ denote (tableOf (rulesOf .v2) true (addIgnoreOnly exC "BASIC" "./b".toList)) "BASIC" ∧
      "ENUM_PASCAL_CASE" ∈ denote (tableOf (rulesOf .v2) true exC) "BASIC") := by
  decide +kernel

-- before: all three are reported (hypothesis `h` of the user-level theorems)
example : runCheck (rulesOf .v2) true true exC false false false exImg2 = .ok [faM 4, faF, faE] := exC_values.1.1
-- an UNNORMALISED ignore path is accepted and silences exactly the directory it normalises to
example : runCheck (rulesOf .v2) true true (addIgnore exC "./a//v1/".toList) false false false exImg2 = .ok [faE] :=
  exC_values.1.2.1
example : ∀ fa ∈ [faE], fa ∈ [faM 4, faF, faE] :=
  adding_ignore_monotone (rulesOf .v2) true true exC "./a//v1/".toList false false false exImg2 _ _
    exC_values.1.1 exC_values.1.2.1
example : ∃ a ∈ exImg2.annots, toFileAnnot exImg2 a = faF ∧
    ∃ p, normalizeAndValidate "./a//v1/".toList = .ok p ∧ PathCovers exImg2 a p :=
  adding_ignore_scoped (rulesOf .v2) true true exC "./a//v1/".toList false false false exImg2 [faM 4, faF, faE] [faE]
    exC_values.1.1 exC_values.1.2.1 faF (by decide) (by decide)
example : normalizeAndValidate "./a//v1/".toList = .ok "a/v1".toList := by decide
-- an ignore_only entry under a CATEGORY key, added to a map that already has another key
example : runCheck (rulesOf .v2) true true (addIgnoreOnly exC "BASIC" "b".toList) false false false exImg2
    = .ok [faM 4, faF] := exC_values.1.2.2.1
example : ∀ fa ∈ [faM 4, faF], fa ∈ [faM 4, faF, faE] :=
  adding_ignore_only_monotone (rulesOf .v2) true true exC "BASIC" "b".toList false false false exImg2 _ _
    exC_values.1.1 exC_values.1.2.2.1
example : ∃ a ∈ exImg2.annots, toFileAnnot exImg2 a = faE ∧ a.ruleId ∈ denote (tableOf (rulesOf .v2) true exC) "BASIC" ∧
    ∃ p, normalizeAndValidate "b".toList = .ok p ∧ PathCovers exImg2 a p :=
  adding_ignore_only_scoped (rulesOf .v2) true true exC "BASIC" "b".toList false false false exImg2 [faM 4, faF, faE] [faM 4, faF]
    exC_values.1.1 exC_values.1.2.2.1 faE (by decide) (by decide)
example : "ENUM_PASCAL_CASE" ∈ denote (tableOf (rulesOf .v2) true exC) "BASIC" := exC_values.2.2.2.2
-- … and under an existing key
example : (addIgnoreOnly exC "ENUM_PASCAL_CASE" "b".toList).ignoreOnly = [("ENUM_PASCAL_CASE", ["b".toList, "c".toList])] := by decide
-- an except id
example : runCheck (rulesOf .v2) true true (addExcept exC "FIELD_LOWER_SNAKE_CASE") false false false exImg2
    = .ok [faM 4, faE] := exC_values.1.2.2.2.1
example : ∀ fa ∈ [faM 4, faE], fa ∈ [faM 4, faF, faE] :=
  adding_except_monotone (rulesOf .v2) true true exC "FIELD_LOWER_SNAKE_CASE" false false false exImg2 _ _
    exC_values.1.1 exC_values.1.2.2.2.1
example : ∃ a ∈ exImg2.annots, toFileAnnot exImg2 a = faF ∧
    a.ruleId ∈ denote (tableOf (rulesOf .v2) true exC) "FIELD_LOWER_SNAKE_CASE" :=
  adding_except_scoped (rulesOf .v2) true true exC "FIELD_LOWER_SNAKE_CASE" false false false exImg2 [faM 4, faF, faE] [faM 4, faE]
    exC_values.1.1 exC_values.1.2.2.2.1 faF (by decide) (by decide)
-- several additions at once, an option switched on, the raw (unvalidated) entry point
example : UserMoreSuppression exC (addIgnore (addExcept (addIgnoreOnly exC "BASIC" "b".toList) "MINIMAL") "a".toList) :=
  ⟨fun _ => Iff.rfl, fun _ h => List.mem_cons_of_mem _ h, fun _ h => List.mem_cons_of_mem _ h,
   fun k q h => (ioHas_ioInsert _ _ _ k q).2 (Or.inl h), rfl⟩
example : ∀ fa ∈ ([] : List FileAnnot), fa ∈ [faM 4, faF, faE] :=
  user_suppression_monotone (rulesOf .v2) true false exC
    (addIgnore (addExcept (addIgnoreOnly exC "BASIC" "b".toList) "MINIMAL") "a".toList)
    false false false true false false exImg2 _ _
    ⟨fun _ => Iff.rfl, fun _ h => List.mem_cons_of_mem _ h, fun _ h => List.mem_cons_of_mem _ h,
     fun k q h => (ioHas_ioInsert _ _ _ k q).2 (Or.inl h), rfl⟩
    (fun h => (by cases h)) id id exC_values.1.2.2.2.2.1 exC_values.1.2.2.2.2.2
example : UserScope (tableOf (rulesOf .v2) true exC) exC (addIgnore exC "a".toList) exImg2
    { ruleId := "MESSAGE_PASCAL_CASE", loc := some ⟨0, [4, 0, 1], 3, 8, 3, 19⟩, against := none, message := "m" } :=
  Or.inr (Or.inl ⟨"a".toList, by simp [addIgnore], by decide, "a".toList, by decide, Or.inl ⟨_, rfl, by decide⟩⟩)
-- user_suppression_resolves_to_more, on the resolved configurations themselves
example : ∃ rc rc', resolve (rulesOf .v2) true true exC = .ok rc ∧
    resolve (rulesOf .v2) true true (addIgnoreOnly exC "BASIC" "./b".toList) = .ok rc' ∧
    MoreSuppression (mkConfig true rc false false false) (mkConfig true rc' true false false) ∧
    ("MESSAGE_PASCAL_CASE", "b".toList) ∈ rc'.ignoreOnly ∧ ("MESSAGE_PASCAL_CASE", "b".toList) ∉ rc.ignoreOnly := by
  obtain ⟨hrc, hok, hden, _⟩ := exC_values.2
  cases h' : resolve (rulesOf .v2) true true (addIgnoreOnly exC "BASIC" "./b".toList) with
  | error e => rw [h'] at hok; cases hok
  | ok rc' =>
    refine ⟨_, rc', hrc, rfl,
      user_suppression_resolves_to_more (rulesOf .v2) true true exC _ _ _ (addIgnoreOnly_more exC "BASIC" "./b".toList)
        hrc h' false false false true false false (fun h => (by cases h)) id id, ?_, by decide⟩
    -- `rc'` is not computed: `resolved_config_spec` says what its `ignore_only` relation holds
    exact (((resolved_config_spec _ _ _ _ _ h').2 (by decide)).2.2 _ _).2
      ⟨"BASIC", ["./b".toList], "./b".toList, by decide, List.mem_singleton.2 rfl, by decide, hden, by decide⟩
-- ignore_clauses_user_level on the resolved example configuration (hypotheses `h`, `hrs`)
example : IgnoreOnlyClause (mkConfig true ⟨["ENUM_PASCAL_CASE", "FIELD_LOWER_SNAKE_CASE", "MESSAGE_PASCAL_CASE"], [],
      [("ENUM_PASCAL_CASE", "c".toList)]⟩ false false false) "ENUM_PASCAL_CASE"
      { path := "c/x.proto".toList, isImport := false, unstable := false, comments := [] } :=
  ((ignore_clauses_user_level (rulesOf .v2) true true exC _ exC_values.2.1 (by decide) false false false "ENUM_PASCAL_CASE" _).2).2
    ⟨"ENUM_PASCAL_CASE", ["c".toList], "c".toList, by simp [exC], by simp, by decide, by decide, "c".toList, by decide, by decide⟩
-- resolved_config_spec: a DEPRECATED id as ignore_only key, unnormalised paths, duplicates (breaking, v1)
example : (resolve (rulesOf .v1) false true
    { use := ["WIRE"], except := [], ignore := ["./x/".toList, "./x/".toList],
      ignoreOnly := [("FIELD_SAME_CTYPE", ["a//b".toList])], disableBuiltin := false }).map
      (fun rc => (rc.ignoreRootPaths, rc.ignoreOnly))
    = .ok (["x".toList], [("FIELD_SAME_CPP_STRING_TYPE", "a/b".toList)]) := by decide +kernel
example : tableOf (rulesOf .v1) false
    { use := ["WIRE"], except := [], ignore := [], ignoreOnly := [], disableBuiltin := false } ≠ [] := by decide
-- builtin rules disabled: the empty table; everything (even an unknown id) resolves to the empty configuration
example : resolve (rulesOf .v2) true true
    { use := ["NOPE"], except := [], ignore := [], ignoreOnly := [], disableBuiltin := true }
    = .ok { ruleIDs := [], ignoreRootPaths := [], ignoreOnly := [] } := by decide
example : tableOf (rulesOf .v2) true
    { use := ["NOPE"], except := [], ignore := [], ignoreOnly := [], disableBuiltin := true } = [] := by decide

-- comment edit that shifts positions: reports before / after (hypotheses `h`, `h'`) …
def exCfgL : Config :=
  mkConfig true ⟨["ENUM_PASCAL_CASE", "FIELD_LOWER_SNAKE_CASE", "MESSAGE_PASCAL_CASE"], [], []⟩ true false false
private theorem exCfgL_reports :
    report exCfgL exImg2 = .ok [faM 4, faF, faE] ∧ report exCfgL exImg2c = .ok [faM 5, faE] := by decide +kernel
example : report exCfgL exImg2 = .ok [faM 4, faF, faE] := exCfgL_reports.1
example : report exCfgL exImg2c = .ok [faM 5, faE] := exCfgL_reports.2
-- … the message annotation is reported one line lower and is matched to its counterpart by element
example : ∀ fa' ∈ [faM 5, faE], ∃ a' ∈ exImg2c.annots, toFileAnnot exImg2c a' = fa' ∧
      ∃ a, SameElement a a' ∧ Kept exCfgL exImg2 a ∧
        toFileAnnot exImg2 a ∈ [faM 4, faF, faE] ∧ faElem (toFileAnnot exImg2 a) = faElem fa' :=
  suppression_monotone_elements exCfgL exCfgL exImg2 exImg2c _ _
    ⟨fun _ h => h, fun _ h => h, fun _ h => h, id, id, id, rfl⟩ exImg2_moreComments exCfgL_reports.1 exCfgL_reports.2
-- … and the field annotation disappears because of the NEW directive on the enclosing message [4,0]
example : exCfgL.allowCommentIgnores = true ∧
    ((∃ x', exF'.loc = some x' ∧ ∃ p, p <+: x'.sourcePath ∧
        commentIgnoresAt (fileAt exImg2c.files x'.file) exCfgL.commentIgnorePrefix exF'.ruleId p = true ∧
        commentIgnoresAt (fileAt exImg2.files x'.file) exCfgL.commentIgnorePrefix exF'.ruleId p = false) ∨
     (∃ x', exF'.against = some x' ∧ ∃ p, p <+: x'.sourcePath ∧
        commentIgnoresAt (fileAt exImg2c.againstFiles x'.file) exCfgL.commentIgnorePrefix exF'.ruleId p = true ∧
        commentIgnoresAt (fileAt exImg2.againstFiles x'.file) exCfgL.commentIgnorePrefix exF'.ruleId p = false)) :=
  adding_comment_scoped exCfgL exImg2 exImg2c exF exF' exImg2_moreComments ⟨rfl, rfl, rfl, rfl⟩ (by simp [exImg2c, exF'])
    ⟨by simp [exImg2, exF], by decide,
     fun hs => by have := (ignoreAnnotation_ok exCfgL exImg2 exF false (by decide)).2 hs; cases this⟩
    (fun hk => by
      have : ¬ AnnotSuppressed exCfgL exImg2c exF' := hk.2.2
      exact this ((ignoreAnnotation_ok exCfgL exImg2c exF' true (by decide)).1 rfl))

/-! ## buf.yaml sections (which `lint:` / `breaking:` section a module uses) -/

/-- EVERY key of the schema counts for "is there a section": the `isEmpty` test of the reader
    holds iff all twelve keys have their zero value (a section with exactly one key — e.g. only
    `disallow_comment_ignores: true`, only `ignore_unstable_packages: true` — is a section). -/
theorem yaml_section_empty_iff (s : YSection) : s.isEmpty = true ↔ s = {} := by
  cases s
  simp only [YSection.isEmpty, List.isEmpty_iff, Bool.and_eq_true, Bool.not_eq_true',
    YSection.mk.injEq, and_assoc]

/-- v2: a module-level section with at least one key REPLACES the workspace-level section as a
    whole (none of the workspace-level keys survives), and its paths must lie in the module. -/
theorem yaml_module_section_replaces_workspace (lint : Bool) (dir : Str) (ws mod : YSection)
    (h : mod ≠ {}) : moduleEff lint true dir ws mod = sectionToEff lint true dir true mod := by
  rw [moduleEff_v2, if_neg (mt (yaml_section_empty_iff mod).1 h)]

/-- v2: a module without a section of its own (absent, `{}`, only zero values) uses the
    workspace-level section; paths outside the module are skipped instead of rejected. -/
theorem yaml_empty_module_section_falls_back (lint : Bool) (dir : Str) (ws : YSection) :
    moduleEff lint true dir ws {} = sectionToEff lint true dir false ws :=
  moduleEff_v2 lint dir ws {}

/-- The comment-ignore switch of the effective configuration is the one of the section that
    applies: `allow_comment_ignores` (v1beta1 / v1), the negation of `disallow_comment_ignores`
    (v2, where comment ignores are on by default); never on for breaking. -/
theorem yaml_comment_flag_applies (lint v2 : Bool) (dir : Str) (req : Bool) (s : YSection) (eff : EffConfig)
    (h : sectionToEff lint v2 dir req s = .ok eff) :
    eff.allowCommentIgnores = (lint && (if v2 then !s.commentFlag else s.commentFlag)) ∧
    eff.ignoreUnstablePackages = (!lint && s.ignoreUnstablePackages) := by
  unfold sectionToEff at h
  dsimp only at h
  split at h
  · cases h
  · cases h; exact ⟨rfl, rfl⟩
  · split at h
    · split at h
      · cases h
      · cases h; exact ⟨rfl, rfl⟩
    · cases h

/-- The regression of seed C06-m4 as a statement about the model: a v2 module whose `lint:`
    section contains ONLY `disallow_comment_ignores: true` has comment ignores off, whatever the
    workspace-level section says. -/
theorem yaml_only_disallow_comment_ignores (dir : Str) (ws : YSection) (eff : EffConfig)
    (h : moduleEff true true dir ws { commentFlag := true } = .ok eff) : eff.allowCommentIgnores = false := by
  rw [yaml_module_section_replaces_workspace true dir ws _ (by decide)] at h
  simpa using (yaml_comment_flag_applies true true dir true _ eff h).1

example : moduleEff true true dot { serviceSuffix := "API".toList } { commentFlag := true } =
    .ok { disabled := false, check := ⟨[], [], [], [], false⟩, allowCommentIgnores := false,
          ignoreUnstablePackages := false, enumZeroValueSuffix := [], rpcAllowSameRequestResponse := false,
          rpcAllowGoogleProtobufEmptyRequests := false, rpcAllowGoogleProtobufEmptyResponses := false,
          serviceSuffix := [] } := by decide

/-! ## import-only files sharing packages with targets; ignore paths that
    split a cross-file violation -/

/-- The function the driver runs on `check` lines is `runCheck` on the handler view of the
    image: for lint, the annotations located in import files are dropped first (lint handlers
    are built on `NewLintFilesRuleHandler` and never see import files); for breaking nothing
    changes.  Every `runCheck` theorem above therefore applies with `handlerView lint img`. -/
theorem runCheckH_is_report (allRules : List RuleRow) (lint validated : Bool) (c : CheckConfig)
    (aci iup exi : Bool) (img : Image) :
    runCheckH allRules lint validated c aci iup exi img =
      (resolve allRules lint validated c).bind
        (fun rc => report (mkConfig lint rc aci iup exi) (handlerView lint img)) ∧
    handlerView false img = img :=
  ⟨runCheck_is_report _ _ _ _ _ _ _ _, rfl⟩

/-- … likewise on `ycheck` lines. -/
theorem runEffH_is_runEff (allRules : List RuleRow) (lint : Bool) (eff : EffConfig) (exi : Bool) (img : Image) :
    runEffH allRules lint eff exi img = runEff allRules lint eff exi (handlerView lint img) := rfl

/-- When the measured single-rule annotation sets contain nothing located in an import file
    (what the oracle class `C06-import-reported` checks on every run), the handler view is the
    image itself and `runCheckH` IS `runCheck`. -/
theorem runCheckH_eq_runCheck (allRules : List RuleRow) (lint validated : Bool) (c : CheckConfig)
    (aci iup exi : Bool) (img : Image)
    (hh : ∀ a ∈ img.annots, ∀ l, a.loc = some l → (fileAt img.files l.file).isImport = false) :
    runCheckH allRules lint validated c aci iup exi img = runCheck allRules lint validated c aci iup exi img := by
  unfold runCheckH
  rw [handlerView_eq_self lint img hh]

/-- "Files that are only imports are never reported", lint, WITHOUT a hypothesis about the
    handlers: whatever single-rule annotation sets are fed in (even ones that locate annotations
    in import files), under every configuration nothing `runCheckH … lint := true` reports is
    located in an import file: every reported annotation is the file annotation of a measured
    one whose file is not an import.  (With a handler that does emit on an import file the
    implementation reports it and this model does not: a correspondence failure in addition to
    the oracle's.) -/
theorem lint_never_reports_import_files (allRules : List RuleRow) (validated : Bool) (c : CheckConfig)
    (aci iup exi : Bool) (img : Image) (out : List FileAnnot)
    (h : runCheckH allRules true validated c aci iup exi img = .ok out) :
    ∀ fa ∈ out, ∃ a ∈ img.annots, toFileAnnot img a = fa ∧
      ∀ l, a.loc = some l → (fileAt img.files l.file).isImport = false := by
  intro fa hfa
  unfold runCheckH at h
  rcases (runCheck_ok_iff _ _ _ _ _ _ _ _ _).1 h with ⟨rc, _, hrep⟩
  rcases (report_mem_iff _ _ _ hrep fa).1 hfa with ⟨a, ⟨h1, _, _⟩, h4⟩
  rcases (mem_handlerView_lint img a).1 h1 with ⟨hm, hn⟩
  exact ⟨a, hm, by rw [← h4, toFileAnnot_handlerView], (locNotImport_iff img a).1 hn⟩

/-- The lint report does not depend on what the handlers were measured to emit INSIDE import
    files: two images with the same files whose annotation lists agree outside the import files
    give the same `runCheckH` result. -/
theorem lint_report_independent_of_import_located (allRules : List RuleRow) (validated : Bool) (c : CheckConfig)
    (aci iup exi : Bool) (img img' : Image)
    (hf : img'.files = img.files) (hg : img'.againstFiles = img.againstFiles)
    (ha : img'.annots.filter (locNotImport img') = img.annots.filter (locNotImport img)) :
    runCheckH allRules true validated c aci iup exi img' = runCheckH allRules true validated c aci iup exi img := by
  unfold runCheckH handlerView
  simp only [if_true, ha, hf, hg]

/-- One more `ignore` path, exactly (resolved configuration, same image): afterwards precisely
    those annotations are reported that were kept before AND whose file and against-file the
    path does not equal-or-contain — `report(with) = { a ∈ report(without) | a's file not
    covered }` (`Kept cfg img a` is membership in the report without the path:
    `report_is_union_exact`).  In particular an ignore path that covers only some of the files taking
    part in a cross-file violation (PACKAGE_SAME_*, DIRECTORY_SAME_PACKAGE, RPC_REQUEST_RESPONSE_UNIQUE …)
    leaves the annotations in the non-covered files untouched: the rules are not re-run on a
    smaller file set (seed C06-m6).  User-level forms: `adding_ignore_monotone`,
    `adding_ignore_scoped`; general form: `suppression_scoped`. -/
theorem ignore_path_exact (cfg : Config) (p : Str) (img : Image) (out' : List FileAnnot)
    (h' : report (withIgnorePath cfg p) img = .ok out') (fa : FileAnnot) :
    fa ∈ out' ↔ ∃ a, Kept cfg img a ∧ ¬ CoversAnnot p img a ∧ toFileAnnot img a = fa := by
  rw [report_mem_iff _ _ _ h' fa]
  simp only [kept_withIgnorePath, and_assoc]

/-- … hence: an annotation reported before whose file (and against-file) the new path does not
    cover is still reported, and nothing new is reported. -/
theorem ignore_path_keeps_non_covered (cfg : Config) (p : Str) (img : Image) (out out' : List FileAnnot)
    (h : report cfg img = .ok out) (h' : report (withIgnorePath cfg p) img = .ok out') :
    (∀ a, Kept cfg img a → ¬ CoversAnnot p img a → toFileAnnot img a ∈ out') ∧ (∀ fa ∈ out', fa ∈ out) := by
  constructor
  · intro a hk hc
    exact (ignore_path_exact cfg p img out' h' _).2 ⟨a, hk, hc, rfl⟩
  · intro fa hfa
    rcases (ignore_path_exact cfg p img out' h' fa).1 hfa with ⟨a, hk, _, rfl⟩
    exact (report_mem_iff _ _ _ h _).2 ⟨a, hk, rfl⟩

/-- One more `ignore_only` entry (rule `r`, path `p`), exactly: only annotations of rule `r`
    in covered files go away. -/
theorem ignore_only_exact (cfg : Config) (r : Id) (p : Str) (img : Image) (out' : List FileAnnot)
    (h' : report (withIgnoreOnly cfg r p) img = .ok out') (fa : FileAnnot) :
    fa ∈ out' ↔ ∃ a, Kept cfg img a ∧ ¬ (a.ruleId = r ∧ CoversAnnot p img a) ∧ toFileAnnot img a = fa := by
  rw [report_mem_iff _ _ _ h' fa]
  simp only [kept_withIgnoreOnly, and_assoc]

/-- Witness for the family of seeds C06-m5 / C06-m6: `a/v1/t.proto` (target) and `a/v1/i.proto`
    share a package; annotation 0 is what a PACKAGE_SAME_GO_PACKAGE handler that wrongly
    compares imports would emit IN the import file, 1 the same in the target, 2 a per-element
    annotation in the target. -/
def exImgShared (iImport : Bool) : Image :=
  { files := [{ path := "a/v1/t.proto".toList, isImport := false, unstable := false, comments := [] },
              { path := "a/v1/i.proto".toList, isImport := iImport, unstable := false, comments := [] }],
    againstFiles := [],
    annots := [{ ruleId := "PACKAGE_SAME_GO_PACKAGE", loc := some ⟨1, [8, 11], 2, 0, 2, 20⟩, against := none, message := "g" },
               { ruleId := "PACKAGE_SAME_GO_PACKAGE", loc := some ⟨0, [8, 11], 2, 0, 2, 20⟩, against := none, message := "g" },
               { ruleId := "MESSAGE_PASCAL_CASE", loc := some ⟨0, [4, 0, 1], 3, 8, 3, 12⟩, against := none, message := "m" }] }

def exCShared : CheckConfig :=
  { use := ["PACKAGE_SAME_GO_PACKAGE", "MESSAGE_PASCAL_CASE"], except := [], ignore := [], ignoreOnly := [], disableBuiltin := false }

private theorem exCShared_checks :
    (runCheckH (rulesOf .v2) true true exCShared false false false (exImgShared true)).map (·.map (fun fa => (fa.path.map String.ofList, fa.type))) =
      .ok [(some "a/v1/t.proto", "PACKAGE_SAME_GO_PACKAGE"), (some "a/v1/t.proto", "MESSAGE_PASCAL_CASE")] ∧
    (runCheckH (rulesOf .v2) true true exCShared false false false (exImgShared false)).map (·.length) = .ok 3 ∧
    (runCheckH (rulesOf .v2) true true (addIgnore exCShared "a/v1/i.proto".toList) false false false (exImgShared false)).map
        (·.map (fun fa => (fa.path.map String.ofList, fa.type))) =
      .ok [(some "a/v1/t.proto", "PACKAGE_SAME_GO_PACKAGE"), (some "a/v1/t.proto", "MESSAGE_PASCAL_CASE")] := by
  decide +kernel

-- the import-located annotation never comes out of the lint model, whatever was measured …
example : (runCheckH (rulesOf .v2) true true exCShared false false false (exImgShared true)).map (·.map (fun fa => (fa.path.map String.ofList, fa.type))) =
    .ok [(some "a/v1/t.proto", "PACKAGE_SAME_GO_PACKAGE"), (some "a/v1/t.proto", "MESSAGE_PASCAL_CASE")] :=
  exCShared_checks.1
-- … it does when the file is a target
example : (runCheckH (rulesOf .v2) true true exCShared false false false (exImgShared false)).map (·.length) = .ok 3 :=
  exCShared_checks.2.1
-- ignoring the sibling file removes exactly the annotation located in it (all-target image)
example : (runCheckH (rulesOf .v2) true true (addIgnore exCShared "a/v1/i.proto".toList) false false false (exImgShared false)).map
      (·.map (fun fa => (fa.path.map String.ofList, fa.type))) =
    .ok [(some "a/v1/t.proto", "PACKAGE_SAME_GO_PACKAGE"), (some "a/v1/t.proto", "MESSAGE_PASCAL_CASE")] :=
  exCShared_checks.2.2
example : ¬ CoversAnnot "a/v1/i.proto".toList (exImgShared false) (exImgShared false).annots[1] := by
  unfold CoversAnnot CoversLoc
  rintro (⟨x, hx, hc⟩ | ⟨x, hx, _⟩)
  · cases hx; revert hc; decide
  · cases hx

end BufProofs.C06
