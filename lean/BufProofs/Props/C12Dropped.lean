import BufProofs.Lemmas.FilterClosureLemmas
/-
  C12, clause "minimal": what the filter DROPS contributes nothing to the closure — in particular
  the custom options set on a dropped element are not explored (their extension definition,
  `google.protobuf.*Options`, the option's value type, the Any payloads of the value and the imports
  of their files stay out unless something that survives needs them).

  Statements about single steps of the closure machine of `BufModel.Filter` (the depth-first task
  stack that mirrors `transitiveClosure.addElement`): the step that meets the dropped element
  leaves the state (`modes`, `seen`, `edges`) untouched and pushes NO task, so — `run` being
  `step` + push — nothing is ever visited on behalf of that element: a field, a method, a oneof whose
  members are all dropped; a message kept as a namespace only pushes its own options and its parent.
  The extension case is `BufProofs.C12.dropped_extension_adds_nothing` (Props/C12.lean).
  Each has a counterpart in the harness (section D, dropped.go) and in the oracle (minimal.go).
-/
namespace BufProofs.C12
open BufModel.Filter BufProofs.FilterLemmas BufProofs.FilterClosure

/-- `addElement`, field loop of a message: a field whose type is excluded is skipped BEFORE its
    custom options are looked at — the state is unchanged and no task is pushed (no `.opts f.opts`,
    no `.add` of the type). -/
theorem dropped_field_adds_nothing (c : Ctx) (st : St) (f : Field) (file t : Id)
    (ht : f.ty = some t) (hx : st.isExcl (.el t) = true) :
    step c st (.field f file) = .ok (st, []) := by
  simp only [step, ht, hx, if_true]

/-- ... whereas a surviving field pushes the exploration of its options (so the hypothesis of
    `dropped_field_adds_nothing` is what makes the difference). -/
theorem kept_field_explores_options (c : Ctx) (st : St) (f : Field) (file t : Id)
    (ht : f.ty = some t) (hx : st.isExcl (.el t) = false) :
    step c st (.field f file) = .ok (st, [.add (.el t) (some file) false, .opts f.opts file]) := by
  simp only [step, ht, hx, Bool.false_eq_true, if_false]

/-- `addElement`, method loop of a service (current code, `svcMarksInput = false`): a method whose
    request or response type is excluded is skipped: state unchanged, no task (its options are
    never explored). -/
theorem dropped_method_adds_nothing (c : Ctx) (hcfg : c.cfg.svcMarksInput = false) (st : St) (m : Method)
    (hx : st.isExcl (.el m.input) = true ∨ st.isExcl (.el m.output) = true) :
    step c st (.svcMethod m) = .ok (st, []) := by
  have h : (st.isExcl (.el m.input) || st.isExcl (.el m.output)) = true := by
    rcases hx with h | h <;> simp [h]
  simp only [step, h, hcfg, if_true, Bool.false_eq_true, if_false]

private theorem fieldIncluded_set_oneof (st : St) (m : Id) (n : Nat) (md : Mode) (f : Field) :
    fieldIncluded (st.set (.oneof m n) md) f = fieldIncluded st f := by
  unfold fieldIncluded St.isExcl
  cases f.ty with
  | none => rfl
  | some t =>
    simp only [get_set]
    have : (Key.el t = Key.oneof m n) = False := by simp
    simp only [this, if_false]

/-- `addElement`, oneof loop: every task it pushes is the exploration of the options of a oneof
    that keeps at least one member; a oneof all of whose members are dropped pushes nothing. -/
theorem dropped_oneof_adds_nothing (st : St) (i : Info) (os : List Oneof) (n : Nat) :
    ∀ t ∈ (oneofsStep st i os n).2, ∃ j o, os[j]? = some o ∧ t = Task.opts o.opts i.file ∧
      (i.fields.filter (fun f => f.oneof = some (n + j) && fieldIncluded st f)).isEmpty = false := by
  induction os generalizing st n with
  | nil => intro t ht; simp [oneofsStep] at ht
  | cons o os ih =>
    intro t ht
    rw [oneofsStep_cons] at ht
    by_cases he : (i.fields.filter (fun f => f.oneof = some n && fieldIncluded st f)).isEmpty = true
    · rw [if_pos he] at ht
      obtain ⟨j, o', hj, hto, hne⟩ := ih _ (n + 1) t ht
      refine ⟨j + 1, o', by simpa using hj, hto, ?_⟩
      have : n + (j + 1) = n + 1 + j := by omega
      rw [this]
      simpa only [fieldIncluded_set_oneof] using hne
    · rw [if_neg he] at ht
      rcases List.mem_cons.mp ht with h0 | hrest
      · exact ⟨0, o, rfl, h0, by simpa using he⟩
      · obtain ⟨j, o', hj, hto, hne⟩ := ih st (n + 1) t hrest
        refine ⟨j + 1, o', by simpa using hj, hto, ?_⟩
        have : n + (j + 1) = n + 1 + j := by omega
        rw [this]
        exact hne

/-- `addEnclosing`: a parent that enters the closure as a namespace pushes the exploration of ITS
    OWN options and of its own parent — nothing for its fields, oneofs or extension ranges. -/
theorem namespace_parent_adds_only_its_own_options (c : Ctx) (st : St) (k : Key) (file : Id) (i : Info)
    (hnew : st.get k = none) (hi : c.idx.find k = some i) :
    step c st (.encl (some k) file) = .ok (st.set k .enclosing, [.opts i.opts file, .encl i.parent file]) := by
  simp only [step, hnew, hi]

/-- Non-vacuity: `message A { string id; B b [(tag) = …]; }` with
    `B` excluded — the step for field `b` (type 7, option use of extension 9 with Any payload 8)
    does nothing, the one for `id` explores its (empty) options. -/
example :
    let st : St := (({ modes := [], seen := [], edges := [] } : St).set (.el 7) .excluded)
    let c : Ctx := ⟨cfgFixed, [], true⟩
    step c st (.field ⟨2, some 7, none, none, [⟨some 9, [8]⟩]⟩ 1) = .ok (st, []) ∧
    step c st (.field ⟨1, none, none, none, []⟩ 1) = .ok (st, [.opts [] 1]) := by
  constructor <;> rfl

end BufProofs.C12
