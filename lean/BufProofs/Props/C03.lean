import BufProofs.Lemmas.BreakingWitness
import BufProofs.Lemmas.BreakingLocate
/-
  C03 — No documented breaking change goes unreported (staged).

  * `rules_active` — ONE `decide`-checked statement over the regenerated tables: for every modelled
    rule id, the categories of each configuration version in which it is active are exactly the
    documented ones (`activeCats`, the hand-written table `docTable` in Lemmas/BreakingDetect.lean).
  * `detects_*` — one theorem per edit family, stated on ARBITRARY pairs of schemas: the hypotheses
    constrain only the edited element (and ask the newer schema to have unique keys, `WF`, as every
    compiled image has), so "however the edit is surrounded by unrelated compatible changes" holds
    by construction.  The conclusion `Reports id a cur prev` says: the annotation `a` is in
    `check v cat cur prev` for EVERY config version `v` and category `cat` with
    `cat ∈ activeCats id v`, i.e. (by `rules_active`) for every configuration in which the rule is
    active.
  * `located_*` — the location carried by those annotations is the one DESIGN §6 prescribes:
    changed elements → the source path of the CURRENT element, which resolves in the current file's
    descriptor tree to that element; deleted
    elements → the nearest surviving enclosing message of the current file, i.e. the LONGEST proper
    prefix of the deleted nested name that is a current message (`located_deleted_element`);
    deleted files / packages → no file and no path (literally in the `detects_*` conclusion).
    `Ann` has no against-file and no message-text component: those two parts of "naming the edited
    element" are not modelled (oracle only); `detects_field_delete_each` gives the multiplicity
    ("one annotation per deleted field") that the missing text would otherwise distinguish.
  * every `detects_*` theorem has, at the end of the file, an `example` that instantiates
    ALL its hypotheses on the witness pair `W.wPrev → W.wCur` (Lemmas/BreakingWitness.lean: all the
    edits at once, nested at depth 3, surrounded by index-shifting additive changes) — the
    group-encoding, large-default and alias families on pairs of their own (`gPrev → gCur`,
    `dPrev → dCur`, `alPrev → alCurSome / alCurAll`) — and exhibits the concrete annotation.
-/
namespace BufProofs.C03
open BufModel.Schema BufModel.Breaking BufProofs.Breaking BufProofs.Breaking.W

variable {cur prev : Schema}

/-! ### the rules are active where the documentation says (regenerated tables) -/

/-- For every modelled rule id (`docTable` lists exactly the ids of the dispatch tables,
    `docTable_ids`), every config version and EVERY category string: the rule is run for that
    category iff the documentation table says so.  `decide` over the regenerated
    `BufGen.BreakingTables` (`docTable_exact`, `docTable_cats`, `table_cats`). -/
theorem rules_active (id : String) (hid : id ∈ docTable.map (·.id)) (v : Ver) (cat : String) :
    cat ∈ activeCats id v ↔ id ∈ rulesOf v cat :=
  ⟨active_sound, active_complete hid⟩

/-- the documentation table has one row per rule id of the model's dispatch tables, in order -/
theorem rules_active_covers_model :
    docTable.map (·.id) = ruleTable.map (·.1) ++ fileOptRules.map (·.1) := docTable_ids

/-- no `detects_*` theorem is vacuous for lack of an active configuration: every rule is active in
    at least one category of buf.yaml v2 -/
theorem rules_active_somewhere (id : String) (hid : id ∈ docTable.map (·.id)) : activeCats id .v2 ≠ [] := by
  rcases activeCats_cases id .v2 with ⟨r, hr, rfl, he⟩ | ⟨hno, _⟩
  · exact he ▸ docTable_v2_nonempty r hr
  · exact absurd hid hno

/-! ### nested lookup -/

/-- `Reach ms q m`: message `m` is reachable from the top-level messages `ms` through nesting, along
    the dotted name `q` -/
inductive Reach : List Msg → QName → Msg → Prop
  | top {ms : List Msg} {m : Msg} : m ∈ ms → Reach ms [m.info.name] m
  | nest {ms : List Msg} {q : QName} {m n : Msg} : Reach ms q m → n ∈ m.nested → Reach ms (q ++ [n.info.name]) n

/-- The flattened nested-name map of a file contains every message at every depth, under its dotted
    nested name, with its own content. -/
theorem nested_lookup_complete (f : File) (q : QName) (m : Msg) (h : Reach f.messages q m) :
    ∃ fm ∈ f.flatMsgs, fm.nested = q ∧ fm.info = m.info ∧ fm.file = f.path ∧ fm.pkg = f.pkg := by
  suffices hs : ∃ pre path ml, pre ++ [m.info.name] = q ∧
      ∀ x ∈ flatMsg f.path f.locs f.pkg pre path ml m, x ∈ f.flatMsgs by
    obtain ⟨pre, path, ml, hq, hsub⟩ := hs
    cases m with
    | mk i ns =>
      refine ⟨⟨f.path, f.locs, f.pkg, pre ++ [i.name], path, ml, i⟩, hsub _ ?_, hq, rfl, rfl, rfl⟩
      rw [flatMsg]; exact List.mem_cons_self
  induction h with
  | top hm =>
    obtain ⟨j, hj⟩ := List.getElem?_of_mem hm
    exact ⟨[], [4, j], none, rfl, fun x hx => mem_topMsgs.2 ⟨j, _, hj, by rwa [Nat.zero_add]⟩⟩
  | @nest q m n _ hn ih =>
    obtain ⟨pre, path, ml, hq, hsub⟩ := ih
    cases m with
    | mk i ns =>
      obtain ⟨j, hj⟩ := List.getElem?_of_mem hn
      exact ⟨pre ++ [i.name], path ++ [3, j], _, by rw [← hq]; rfl,
        fun x hx => hsub x (mem_flatMsg.2 (.inr ⟨j, n, hj, hx⟩))⟩

/-- … and every enum nested in such a message. -/
theorem nested_enum_lookup_complete (f : File) (q : QName) (m : Msg) (e : Enum)
    (h : Reach f.messages q m) (he : e ∈ m.info.enums) :
    ∃ fe ∈ f.flatEnums, fe.nested = q ++ [e.name] ∧ fe.enum = e := by
  obtain ⟨fm, hfm, hq, hinfo, _, _⟩ := nested_lookup_complete f q m h
  obtain ⟨j, hj⟩ := exists_indexed_of_mem (hinfo ▸ he)
  refine ⟨⟨f.path, f.locs, f.pkg, fm.nested ++ [e.name], fm.path ++ [4, j], e⟩, ?_, by rw [hq], rfl⟩
  unfold File.flatEnums
  exact List.mem_append_right _ (List.mem_flatMap.2 ⟨fm, hfm, List.mem_map.2 ⟨(j, e), hj, rfl⟩⟩)

/-! ### deletions inside a surviving element -/

/-- deleting a field (no current field has its number) of a message that still exists -/
theorem detects_field_delete (hw : WF cur) {pm cm : FlatMsg} {pf : Field}
    (hpm : pm ∈ allMsgs prev) (hcm : cm ∈ allMsgs cur) (hname : cm.fullName = pm.fullName)
    (hpf : pf ∈ pm.info.fields) (hdel : ∀ cf ∈ cm.info.fields, cf.number ≠ pf.number) :
    Reports "FIELD_NO_DELETE" (msgLoc cm "FIELD_NO_DELETE") cur prev :=
  reports_of_rule (f := fieldNoDelete "FIELD_NO_DELETE" false false)
    (mem_fieldNoDelete hw _ _ _ hpm hcm hname hpf hdel rfl)

/-- multiplicity ("EVERY deletion is reported", although `Ann` does not name the deleted field): in
    every configuration in which FIELD_NO_DELETE is active there are at least as many
    FIELD_NO_DELETE annotations located at the current message as fields of the previous message
    have no current counterpart -/
theorem detects_field_delete_each (hw : WF cur) {pm cm : FlatMsg}
    (hpm : pm ∈ allMsgs prev) (hcm : cm ∈ allMsgs cur) (hname : cm.fullName = pm.fullName)
    (v : Ver) (cat : String) (hc : cat ∈ activeCats "FIELD_NO_DELETE" v) :
    (pm.info.fields.filter fun pf => !cm.info.hasNumber pf.number).length ≤
      (check v cat cur prev).count (msgLoc cm "FIELD_NO_DELETE") := by
  refine Nat.le_trans ?_ (count_le_check _ (active_sound hc))
  rw [runRule_of_mem (f := fieldNoDelete "FIELD_NO_DELETE" false false) cur prev]
  unfold fieldNoDelete msgPairs
  refine Nat.le_trans ?_ (count_le_pairwise FlatMsg.fullName _ _ _ _ pm cm _ hw.msgs hpm hcm hname)
  simp only [Bool.false_and, Bool.or_self, Bool.false_eq_true, if_false]
  rw [count_flatMap_ite]
  exact Nat.le_refl _

/-- `nested_lookup_complete` composed with `detects_field_delete`, i.e. the same statement on the
    message TREES: a message reachable through nesting along the dotted name `q` in a previous file
    and in a current file of the same package, one of whose fields has no current counterpart.
    (The two files need not have the same path: messages are paired by full name.) -/
theorem detects_field_delete_in_tree (hw : WF cur) {pf cf : File} (hpf : pf ∈ prev) (hcf : cf ∈ cur)
    (hpkg : cf.pkg = pf.pkg) {q : QName} {pm cm : Msg}
    (hp : Reach pf.messages q pm) (hc : Reach cf.messages q cm) {f : Field}
    (hf : f ∈ pm.info.fields) (hdel : ∀ g ∈ cm.info.fields, g.number ≠ f.number) :
    ∃ fm ∈ cf.flatMsgs, fm.nested = q ∧ fm.info = cm.info ∧
      Reports "FIELD_NO_DELETE" (msgLoc fm "FIELD_NO_DELETE") cur prev := by
  obtain ⟨fp, hfp, hq, hinfo, _, hpk⟩ := nested_lookup_complete pf q pm hp
  obtain ⟨fc, hfc, hq', hinfo', _, hpk'⟩ := nested_lookup_complete cf q cm hc
  refine ⟨fc, hfc, hq', hinfo', ?_⟩
  exact detects_field_delete hw (List.mem_flatMap.2 ⟨pf, hpf, hfp⟩) (List.mem_flatMap.2 ⟨cf, hcf, hfc⟩)
    (by unfold FlatMsg.fullName; rw [hq, hq', hpk, hpk', hpkg]) (hinfo ▸ hf) (fun g hg => hdel g (hinfo' ▸ hg))

/-- … without reserving its number (WIRE_JSON and WIRE) -/
theorem detects_field_delete_unless_number_reserved (hw : WF cur) {pm cm : FlatMsg} {pf : Field}
    (hpm : pm ∈ allMsgs prev) (hcm : cm ∈ allMsgs cur) (hname : cm.fullName = pm.fullName)
    (hpf : pf ∈ pm.info.fields) (hdel : ∀ cf ∈ cm.info.fields, cf.number ≠ pf.number)
    (hres : ∀ r ∈ cm.info.reservedRanges, ¬ (r.1 ≤ pf.number ∧ pf.number ≤ r.2)) :
    Reports "FIELD_NO_DELETE_UNLESS_NUMBER_RESERVED" (msgLoc cm "FIELD_NO_DELETE_UNLESS_NUMBER_RESERVED") cur prev :=
  reports_of_rule (f := fieldNoDelete "FIELD_NO_DELETE_UNLESS_NUMBER_RESERVED" true false)
    (mem_fieldNoDelete hw _ _ _ hpm hcm hname hpf hdel (by simp [numberReserved_eq_false hres]))

/-- … without reserving its name (WIRE_JSON) -/
theorem detects_field_delete_unless_name_reserved (hw : WF cur) {pm cm : FlatMsg} {pf : Field}
    (hpm : pm ∈ allMsgs prev) (hcm : cm ∈ allMsgs cur) (hname : cm.fullName = pm.fullName)
    (hpf : pf ∈ pm.info.fields) (hdel : ∀ cf ∈ cm.info.fields, cf.number ≠ pf.number)
    (hres : pf.name ∉ cm.info.reservedNames) :
    Reports "FIELD_NO_DELETE_UNLESS_NAME_RESERVED" (msgLoc cm "FIELD_NO_DELETE_UNLESS_NAME_RESERVED") cur prev :=
  reports_of_rule (f := fieldNoDelete "FIELD_NO_DELETE_UNLESS_NAME_RESERVED" false true)
    (mem_fieldNoDelete hw _ _ _ hpm hcm hname hpf hdel (by simp [hres]))

/-- deleting an enum value (all names of a number) of an enum that still exists; the annotation is
    located at the current enum.  `allowNumber/allowName = false/false` is ENUM_VALUE_NO_DELETE. -/
theorem detects_enum_value_delete (hw : WF cur) {pe ce : FlatEnum} {pv : EnumValue}
    (hpe : pe ∈ allEnums prev) (hce : ce ∈ allEnums cur) (hname : ce.fullName = pe.fullName)
    (hpv : pv ∈ pe.enum.values) (hdel : ∀ cv ∈ ce.enum.values, cv.number ≠ pv.number) :
    Reports "ENUM_VALUE_NO_DELETE" (enumLoc ce "ENUM_VALUE_NO_DELETE" pe.file) cur prev :=
  reports_of_rule (f := enumValueNoDelete "ENUM_VALUE_NO_DELETE" false false)
    (mem_enumValueNoDelete hw _ _ _ hpe hce hname hpv hdel rfl)

theorem detects_enum_value_delete_unless_number_reserved (hw : WF cur) {pe ce : FlatEnum} {pv : EnumValue}
    (hpe : pe ∈ allEnums prev) (hce : ce ∈ allEnums cur) (hname : ce.fullName = pe.fullName)
    (hpv : pv ∈ pe.enum.values) (hdel : ∀ cv ∈ ce.enum.values, cv.number ≠ pv.number)
    (hres : ∀ r ∈ ce.enum.reservedRanges, ¬ (r.1 ≤ pv.number ∧ pv.number ≤ r.2)) :
    Reports "ENUM_VALUE_NO_DELETE_UNLESS_NUMBER_RESERVED" (enumLoc ce "ENUM_VALUE_NO_DELETE_UNLESS_NUMBER_RESERVED" pe.file) cur prev :=
  reports_of_rule (f := enumValueNoDelete "ENUM_VALUE_NO_DELETE_UNLESS_NUMBER_RESERVED" true false)
    (mem_enumValueNoDelete hw _ _ _ hpe hce hname hpv hdel (by simp [numberReserved_eq_false hres]))

theorem detects_enum_value_delete_unless_name_reserved (hw : WF cur) {pe ce : FlatEnum} {pv : EnumValue}
    (hpe : pe ∈ allEnums prev) (hce : ce ∈ allEnums cur) (hname : ce.fullName = pe.fullName)
    (hpv : pv ∈ pe.enum.values) (hdel : ∀ cv ∈ ce.enum.values, cv.number ≠ pv.number)
    (hres : pv.name ∉ ce.enum.reservedNames) :
    Reports "ENUM_VALUE_NO_DELETE_UNLESS_NAME_RESERVED" (enumLoc ce "ENUM_VALUE_NO_DELETE_UNLESS_NAME_RESERVED" pe.file) cur prev :=
  reports_of_rule (f := enumValueNoDelete "ENUM_VALUE_NO_DELETE_UNLESS_NAME_RESERVED" false true)
    (mem_enumValueNoDelete hw _ _ _ hpe hce hname hpv hdel (by simpa using ⟨pv, hpv, rfl, hres⟩))

/-- deleting an RPC of a service that still exists: located at the current service -/
theorem detects_rpc_delete (hw : WF cur) {ps cs : FlatSvc} {pm : Method}
    (hps : ps ∈ allSvcs prev) (hcs : cs ∈ allSvcs cur) (hname : cs.fullName = ps.fullName)
    (hpm : pm ∈ ps.svc.methods) (hdel : ∀ cm ∈ cs.svc.methods, cm.name ≠ pm.name) :
    Reports "RPC_NO_DELETE" (svcLoc cs "RPC_NO_DELETE") cur prev := by
  refine reports_of_rule (f := ruleRpcNoDelete) (mem_svcPairs hw hps hcs hname ?_)
  refine List.mem_flatMap.2 ⟨pm, hpm, ?_⟩
  have : pm.name ∉ cs.svc.methods.map (·.name) := by
    intro h
    obtain ⟨cm, hcm, hn⟩ := List.mem_map.1 h
    exact hdel cm hcm hn
  simp [this]

/-- deleting a (non-synthetic) oneof of a message that still exists: located at the current message -/
theorem detects_oneof_delete (hw : WF cur) {pm cm : FlatMsg} {po : Oneof}
    (hpm : pm ∈ allMsgs prev) (hcm : cm ∈ allMsgs cur) (hname : cm.fullName = pm.fullName)
    (hpo : po ∈ pm.info.oneofs) (hreal : po.synthetic = false)
    (hdel : ∀ co ∈ cm.info.oneofs, co.name ≠ po.name) :
    Reports "ONEOF_NO_DELETE" (msgLoc cm "ONEOF_NO_DELETE") cur prev := by
  refine reports_of_rule (f := ruleOneofNoDelete) (mem_msgPairs hw hpm hcm hname ?_)
  refine List.mem_flatMap.2 ⟨po, hpo, ?_⟩
  have : po.name ∉ cm.info.oneofs.map (·.name) := by
    intro h
    obtain ⟨co, hco, hn⟩ := List.mem_map.1 h
    exact hdel co hco hn
  simp [this, hreal]

/-! ### deletions of whole elements (file-level rules: nearest surviving enclosing message) -/

/-- deleting a message (at any depth) from a file that still exists -/
theorem detects_message_delete (hw : WF cur) {pf cf : File} {pm : FlatMsg}
    (hpf : pf ∈ prev) (hcf : cf ∈ cur) (hpath : cf.path = pf.path) (hpm : pm ∈ pf.flatMsgs)
    (hdel : ∀ cm ∈ cf.flatMsgs, cm.nested ≠ pm.nested) :
    Reports "MESSAGE_NO_DELETE" (deletedAnn "MESSAGE_NO_DELETE" cf pm.nested) cur prev :=
  reports_of_rule (f := ruleMessageNoDelete)
    (mem_filePairs hw hpf hcf hpath (mem_pairwise_missing FlatMsg.nested hpm hdel List.mem_cons_self))

theorem detects_enum_delete (hw : WF cur) {pf cf : File} {pe : FlatEnum}
    (hpf : pf ∈ prev) (hcf : cf ∈ cur) (hpath : cf.path = pf.path) (hpe : pe ∈ pf.flatEnums)
    (hdel : ∀ ce ∈ cf.flatEnums, ce.nested ≠ pe.nested) :
    Reports "ENUM_NO_DELETE" (deletedAnn "ENUM_NO_DELETE" cf pe.nested) cur prev :=
  reports_of_rule (f := ruleEnumNoDelete)
    (mem_filePairs hw hpf hcf hpath (mem_pairwise_missing FlatEnum.nested hpe hdel List.mem_cons_self))

theorem detects_extension_delete (hw : WF cur) {pf cf : File} {pe : FlatExt}
    (hpf : pf ∈ prev) (hcf : cf ∈ cur) (hpath : cf.path = pf.path) (hpe : pe ∈ pf.flatExts)
    (hdel : ∀ ce ∈ cf.flatExts, ce.nested ≠ pe.nested) :
    Reports "EXTENSION_NO_DELETE" (deletedAnn "EXTENSION_NO_DELETE" cf pe.nested) cur prev :=
  reports_of_rule (f := ruleExtensionNoDelete)
    (mem_filePairs hw hpf hcf hpath (mem_pairwise_missing FlatExt.nested hpe hdel List.mem_cons_self))

theorem detects_service_delete (hw : WF cur) {pf cf : File} {ps : FlatSvc}
    (hpf : pf ∈ prev) (hcf : cf ∈ cur) (hpath : cf.path = pf.path) (hps : ps ∈ pf.flatSvcs)
    (hdel : ∀ cs ∈ cf.flatSvcs, cs.svc.name ≠ ps.svc.name) :
    Reports "SERVICE_NO_DELETE" ((⟨"SERVICE_NO_DELETE", cf.path, []⟩ : Ann)) cur prev :=
  reports_of_rule (f := ruleServiceNoDelete)
    (mem_filePairs hw hpf hcf hpath (mem_pairwise_missing (fun s : FlatSvc => s.svc.name) hps hdel List.mem_cons_self))

/-- deleting a file: the annotation names no file and no path — there is no current element to point
    at (the against-file name buf attaches is not part of `Ann`; it is checked by the oracle only) -/
theorem detects_file_delete {pf : File} (hpf : pf ∈ prev) (hdel : ∀ cf ∈ cur, cf.path ≠ pf.path) :
    Reports "FILE_NO_DELETE" ((⟨"FILE_NO_DELETE", "", []⟩ : Ann)) cur prev := by
  refine reports_of_rule (f := ruleFileNoDelete) ?_
  unfold ruleFileNoDelete
  exact mem_pairwise_missing File.path hpf hdel List.mem_cons_self

/-- deleting a package (no current file has it): no file, no path -/
theorem detects_package_delete {pf : File} (hpf : pf ∈ prev) (hdel : ∀ cf ∈ cur, cf.pkg ≠ pf.pkg) :
    Reports "PACKAGE_NO_DELETE" ((⟨"PACKAGE_NO_DELETE", "", []⟩ : Ann)) cur prev := by
  refine reports_of_rule (f := rulePackageNoDelete) ?_
  unfold rulePackageNoDelete
  refine List.mem_flatMap.2 ⟨pf, hpf, ?_⟩
  have : pf.pkg ∉ cur.map File.pkg := by
    intro h
    obtain ⟨cf, hcf, hp⟩ := List.mem_map.1 h
    exact hdel cf hcf hp
  simp [this]

/-- PACKAGE category: deleting an enum from a package that still exists (fixed tree; the model of
    the pre-fix code is `rulePackageEnumNoDeleteOld`, see `package_enum_old_counterexample`).
    Location: if the enum's file still exists, the nearest surviving enclosing message of that
    file (`deletedAnn`, characterised by `located_deleted_element`); if the file is gone, nothing. -/
theorem detects_package_enum_delete (hw : WF cur) {pe : FlatEnum} (hpe : pe ∈ allEnums prev)
    (hpkg : pe.pkg ∈ cur.map File.pkg)
    (hdel : ∀ ce ∈ allEnums cur, ¬ (ce.pkg = pe.pkg ∧ ce.nested = pe.nested)) :
    (∀ cf ∈ cur, cf.path = pe.file →
      Reports "PACKAGE_ENUM_NO_DELETE" (deletedAnn "PACKAGE_ENUM_NO_DELETE" cf pe.nested) cur prev) ∧
    ((∀ cf ∈ cur, cf.path ≠ pe.file) →
      Reports "PACKAGE_ENUM_NO_DELETE" ⟨"PACKAGE_ENUM_NO_DELETE", "", []⟩ cur prev) := by
  have hnone : (allEnums cur).find? (fun c => decide (c.pkg = pe.pkg ∧ c.nested = pe.nested)) = none :=
    List.find?_eq_none.2 fun c hc => by simpa using hdel c hc
  refine ⟨fun cf hcf hpath => reports_of_rule (f := rulePackageEnumNoDelete) ?_,
    fun hgone => reports_of_rule (f := rulePackageEnumNoDelete) ?_⟩
  · refine List.mem_flatMap.2 ⟨pe, hpe, ?_⟩
    rw [if_pos hpkg, hnone, find_file_unique hw hcf hpath]
    exact List.mem_cons_self
  · refine List.mem_flatMap.2 ⟨pe, hpe, ?_⟩
    rw [if_pos hpkg, hnone, find_key_none File.path cur pe.file hgone]
    exact List.mem_cons_self

/-- PACKAGE category: deleting a service from a package that still exists.  Location: the file of
    the deleted service if it still exists (no path: the service has no current location),
    otherwise nothing. -/
theorem detects_package_service_delete (hw : WF cur) {ps : FlatSvc} (hps : ps ∈ allSvcs prev)
    (hpkg : ps.pkg ∈ cur.map File.pkg)
    (hdel : ∀ cs ∈ allSvcs cur, ¬ (cs.pkg = ps.pkg ∧ cs.svc.name = ps.svc.name)) :
    (∀ cf ∈ cur, cf.path = ps.file →
      Reports "PACKAGE_SERVICE_NO_DELETE" ⟨"PACKAGE_SERVICE_NO_DELETE", cf.path, []⟩ cur prev) ∧
    ((∀ cf ∈ cur, cf.path ≠ ps.file) →
      Reports "PACKAGE_SERVICE_NO_DELETE" ⟨"PACKAGE_SERVICE_NO_DELETE", "", []⟩ cur prev) := by
  have hnone : (allSvcs cur).find? (fun c => decide (c.pkg = ps.pkg ∧ c.svc.name = ps.svc.name)) = none :=
    List.find?_eq_none.2 fun c hc => by simpa using hdel c hc
  refine ⟨fun cf hcf hpath => reports_of_rule (f := rulePackageServiceNoDelete) ?_,
    fun hgone => reports_of_rule (f := rulePackageServiceNoDelete) ?_⟩
  · refine List.mem_flatMap.2 ⟨ps, hps, ?_⟩
    rw [if_pos hpkg, hnone, find_file_unique hw hcf hpath]
    exact List.mem_cons_self
  · refine List.mem_flatMap.2 ⟨ps, hps, ?_⟩
    rw [if_pos hpkg, hnone, find_key_none File.path cur ps.file hgone]
    exact List.mem_cons_self

/-- PACKAGE category (v2): deleting an extension from a package that still exists -/
theorem detects_package_extension_delete (hw : WF cur) {pe : FlatExt} (hpe : pe ∈ allExts prev)
    (hpkg : pe.pkg ∈ cur.map File.pkg)
    (hdel : ∀ ce ∈ allExts cur, ¬ (ce.pkg = pe.pkg ∧ ce.nested = pe.nested)) :
    (∀ cf ∈ cur, cf.path = pe.file →
      Reports "PACKAGE_EXTENSION_NO_DELETE" (deletedAnn "PACKAGE_EXTENSION_NO_DELETE" cf pe.nested) cur prev) ∧
    ((∀ cf ∈ cur, cf.path ≠ pe.file) →
      Reports "PACKAGE_EXTENSION_NO_DELETE" ⟨"PACKAGE_EXTENSION_NO_DELETE", "", []⟩ cur prev) := by
  have hnone : (allExts cur).find? (fun c => decide (c.pkg = pe.pkg ∧ c.nested = pe.nested)) = none :=
    List.find?_eq_none.2 fun c hc => by simpa using hdel c hc
  refine ⟨fun cf hcf hpath => reports_of_rule (f := rulePackageExtensionNoDelete) ?_,
    fun hgone => reports_of_rule (f := rulePackageExtensionNoDelete) ?_⟩
  · refine List.mem_flatMap.2 ⟨pe, hpe, ?_⟩
    rw [if_pos hpkg, hnone, find_file_unique hw hcf hpath]
    exact List.mem_cons_self
  · refine List.mem_flatMap.2 ⟨pe, hpe, ?_⟩
    rw [if_pos hpkg, hnone, find_key_none File.path cur pe.file hgone]
    exact List.mem_cons_self

/-- PACKAGE category: deleting a message (any depth) from a package that still exists.  Location, as
    coded: the nearest surviving enclosing message among the messages of the PACKAGE (`enclosingIn`,
    possibly in another file of the package), else the file of the deleted message if it still
    exists, else nothing. -/
theorem detects_package_message_delete (hw : WF cur) {pm : FlatMsg} (hpm : pm ∈ allMsgs prev)
    (hpkg : pm.pkg ∈ cur.map File.pkg)
    (hdel : ∀ cm ∈ allMsgs cur, ¬ (cm.pkg = pm.pkg ∧ cm.nested = pm.nested)) :
    (∀ cf ∈ cur, cf.path = pm.file →
      Reports "PACKAGE_MESSAGE_NO_DELETE"
        (match enclosingIn ((allMsgs cur).filter fun cm => decide (cm.pkg = pm.pkg)) pm.nested with
         | some m => annAt "PACKAGE_MESSAGE_NO_DELETE" m.file m.locs ([m.path] ++ m.mapLoc.toList) m.file
         | none => ⟨"PACKAGE_MESSAGE_NO_DELETE", cf.path, []⟩) cur prev) ∧
    ((∀ cf ∈ cur, cf.path ≠ pm.file) →
      Reports "PACKAGE_MESSAGE_NO_DELETE" ⟨"PACKAGE_MESSAGE_NO_DELETE", "", []⟩ cur prev) := by
  have hnone : ((allMsgs cur).filter fun cm => decide (cm.pkg = pm.pkg)).find?
      (fun cm => decide (cm.nested = pm.nested)) = none :=
    List.find?_eq_none.2 fun cm hcm => by
      obtain ⟨h1, h2⟩ := List.mem_filter.1 hcm
      simpa using fun h => hdel cm h1 ⟨of_decide_eq_true h2, h⟩
  refine ⟨fun cf hcf hpath => reports_of_rule (f := rulePackageMessageNoDelete) ?_,
    fun hgone => reports_of_rule (f := rulePackageMessageNoDelete) ?_⟩
  · refine List.mem_flatMap.2 ⟨pm, hpm, ?_⟩
    simp only [hpkg, if_true, hnone, find_file_unique hw hcf hpath]
    cases enclosingIn ((allMsgs cur).filter fun cm => decide (cm.pkg = pm.pkg)) pm.nested <;>
      exact List.mem_cons_self
  · refine List.mem_flatMap.2 ⟨pm, hpm, ?_⟩
    simp only [hpkg, if_true, hnone, find_key_none File.path cur pm.file hgone]
    exact List.mem_cons_self

/-- closed ↔ open enum (ENUM_SAME_TYPE): located at the enum_type feature if written, else the enum -/
theorem detects_enum_closedness_change (hw : WF cur) {pe ce : FlatEnum}
    (hpe : pe ∈ allEnums prev) (hce : ce ∈ allEnums cur) (hname : ce.fullName = pe.fullName)
    (hne : pe.enum.closed ≠ ce.enum.closed) :
    Reports "ENUM_SAME_TYPE" (annOpt "ENUM_SAME_TYPE" ce.file ce.locs (optLoc ce.locs (ce.path ++ [3]) 7 [2]) [ce.path] ce.file) cur prev := by
  refine reports_of_rule (f := ruleEnumSameType) (mem_enumPairs hw hpe hce hname ?_)
  simp [hne]

/-- ENUM_SAME_JSON_FORMAT: an enum stops allowing the legacy JSON format — located at the
    `features.json_format` option if written, else the enum -/
theorem detects_enum_json_format_change (hw : WF cur) {pe ce : FlatEnum}
    (hpe : pe ∈ allEnums prev) (hce : ce ∈ allEnums cur) (hname : ce.fullName = pe.fullName)
    (hp : pe.enum.jsonAllow = true) (hc : ce.enum.jsonAllow = false) :
    Reports "ENUM_SAME_JSON_FORMAT"
      (annOpt "ENUM_SAME_JSON_FORMAT" ce.file ce.locs (optLoc ce.locs (ce.path ++ [3]) 7 [6]) [ce.path] ce.file)
      cur prev := by
  refine reports_of_rule (f := ruleEnumSameJsonFormat) (mem_enumPairs hw hpe hce hname ?_)
  simp [hp, hc]

/-- ENUM_VALUE_SAME_NAME: the number of a previous value still exists, but that value's name is no
    longer one of the number's names (rename, or removal of an alias) — located at the number of
    every current value with that number -/
theorem detects_enum_value_rename (hw : WF cur) {pe ce : FlatEnum} {pv : EnumValue} {jw : Nat × EnumValue}
    (hpe : pe ∈ allEnums prev) (hce : ce ∈ allEnums cur) (hname : ce.fullName = pe.fullName)
    (hpv : pv ∈ pe.enum.values) (hjw : jw ∈ indexed ce.enum.values) (hnum : jw.2.number = pv.number)
    (hren : ∀ cv ∈ ce.enum.values, cv.number = pv.number → cv.name ≠ pv.name) :
    Reports "ENUM_VALUE_SAME_NAME"
      (annAt "ENUM_VALUE_SAME_NAME" ce.file ce.locs [ce.path ++ [2, jw.1, 2]] ce.file) cur prev := by
  refine reports_of_rule (f := ruleEnumValueSameName) (mem_enumPairs hw hpe hce hname ?_)
  refine List.mem_flatMap.2 ⟨pv, hpv, ?_⟩
  have hall : ((pe.enum.values.filter fun w => decide (w.number = pv.number)).map (·.name)).all
      (fun n => decide (n ∈ (ce.enum.values.filter fun w => decide (w.number = pv.number)).map (·.name))) = false := by
    apply Bool.eq_false_iff.2
    intro h
    have := List.all_eq_true.1 h pv.name (List.mem_map.2 ⟨pv, List.mem_filter.2 ⟨hpv, by simp⟩, rfl⟩)
    simp only [decide_eq_true_eq] at this
    obtain ⟨cv, hcv, hn⟩ := List.mem_map.1 this
    obtain ⟨h1, h2⟩ := List.mem_filter.1 hcv
    exact hren cv h1 (by simpa using h2) hn
  simp only [hall]
  exact List.mem_map.2 ⟨jw, List.mem_filter.2 ⟨hjw, by simp [hnum]⟩, rfl⟩

/-- RESERVED_ENUM_NO_DELETE: a reserved name of the enum is no longer reserved -/
theorem detects_enum_reserved_name_delete (hw : WF cur) {pe ce : FlatEnum} {n : Name}
    (hpe : pe ∈ allEnums prev) (hce : ce ∈ allEnums cur) (hname : ce.fullName = pe.fullName)
    (hn : n ∈ pe.enum.reservedNames) (hdel : n ∉ ce.enum.reservedNames) :
    Reports "RESERVED_ENUM_NO_DELETE" (enumLoc ce "RESERVED_ENUM_NO_DELETE") cur prev := by
  refine reports_of_rule (f := ruleReservedEnumNoDelete) (mem_enumPairs hw hpe hce hname ?_)
  apply List.mem_append_right
  refine List.mem_flatMap.2 ⟨n, hn, ?_⟩
  simp [hdel]

/-- RESERVED_ENUM_NO_DELETE: some number `k` of a previously reserved range is in no current
    reserved range -/
theorem detects_enum_reserved_range_delete (hw : WF cur) {pe ce : FlatEnum} {r : Range} {k : Int}
    (hpe : pe ∈ allEnums prev) (hce : ce ∈ allEnums cur) (hname : ce.fullName = pe.fullName)
    (hr : r ∈ pe.enum.reservedRanges) (hk1 : r.1 ≤ k) (hk2 : k ≤ r.2)
    (hdel : ∀ q ∈ ce.enum.reservedRanges, ¬ (q.1 ≤ k ∧ k ≤ q.2)) :
    Reports "RESERVED_ENUM_NO_DELETE" (enumLoc ce "RESERVED_ENUM_NO_DELETE") cur prev := by
  refine reports_of_rule (f := ruleReservedEnumNoDelete) (mem_enumPairs hw hpe hce hname ?_)
  apply List.mem_append_left
  refine List.mem_flatMap.2 ⟨r, hr, ?_⟩
  simp [rangeMissing_of_uncovered _ r k hk1 hk2 hdel]

/-- deleting a required field (MESSAGE_SAME_REQUIRED_FIELDS): located at the current message -/
theorem detects_required_field_delete (hw : WF cur) {pm cm : FlatMsg} {pf : Field}
    (hpm : pm ∈ allMsgs prev) (hcm : cm ∈ allMsgs cur) (hname : cm.fullName = pm.fullName)
    (hpf : pf ∈ pm.info.fields) (hreq : pf.label = .required)
    (hdel : ∀ cf ∈ cm.info.fields, cf.label = .required → cf.number ≠ pf.number) :
    Reports "MESSAGE_SAME_REQUIRED_FIELDS" (msgLoc cm "MESSAGE_SAME_REQUIRED_FIELDS") cur prev := by
  refine reports_of_rule (f := ruleMessageSameRequiredFields) (mem_msgPairs hw hpm hcm hname ?_)
  apply List.mem_append_left
  refine List.mem_flatMap.2 ⟨pf.number, ?_, ?_⟩
  · exact mem_requiredNumbers.2 ⟨pf, hpf, hreq, rfl⟩
  · have : pf.number ∉ cm.info.requiredNumbers := fun h => by
      obtain ⟨cf, hcf, hr, hn⟩ := mem_requiredNumbers.1 h
      exact hdel cf hcf hr hn
    simp [this]

/-- adding a required field: located at the new field -/
theorem detects_required_field_add (hw : WF cur) {pm cm : FlatMsg} {jf : Nat × Field}
    (hpm : pm ∈ allMsgs prev) (hcm : cm ∈ allMsgs cur) (hname : cm.fullName = pm.fullName)
    (hjf : jf ∈ indexed cm.info.fields) (hreq : jf.2.label = .required)
    (hnew : ∀ pf ∈ pm.info.fields, pf.label = .required → pf.number ≠ jf.2.number) :
    Reports "MESSAGE_SAME_REQUIRED_FIELDS" (annAt "MESSAGE_SAME_REQUIRED_FIELDS" cm.file cm.locs ([cm.path ++ [2, jf.1]] ++ cm.mapLoc.toList) cm.file) cur prev := by
  refine reports_of_rule (f := ruleMessageSameRequiredFields) (mem_msgPairs hw hpm hcm hname ?_)
  apply List.mem_append_right
  refine List.mem_flatMap.2 ⟨jf, hjf, ?_⟩
  have : jf.2.number ∉ pm.info.requiredNumbers := fun h => by
    obtain ⟨pf, hpf, hr, hn⟩ := mem_requiredNumbers.1 h
    exact hnew pf hpf hr hn
  simp [hreq, this]

/-- RESERVED_MESSAGE_NO_DELETE: a reserved name of the message is no longer reserved -/
theorem detects_message_reserved_name_delete (hw : WF cur) {pm cm : FlatMsg} {n : Name}
    (hpm : pm ∈ allMsgs prev) (hcm : cm ∈ allMsgs cur) (hname : cm.fullName = pm.fullName)
    (hn : n ∈ pm.info.reservedNames) (hdel : n ∉ cm.info.reservedNames) :
    Reports "RESERVED_MESSAGE_NO_DELETE" (msgLoc cm "RESERVED_MESSAGE_NO_DELETE") cur prev := by
  refine reports_of_rule (f := ruleReservedMessageNoDelete) (mem_msgPairs hw hpm hcm hname ?_)
  apply List.mem_append_right
  refine List.mem_flatMap.2 ⟨n, hn, ?_⟩
  simp [hdel]

/-- RESERVED_MESSAGE_NO_DELETE: some number `k` of a previously reserved range is in no current
    reserved range -/
theorem detects_message_reserved_range_delete (hw : WF cur) {pm cm : FlatMsg} {r : Range} {k : Int}
    (hpm : pm ∈ allMsgs prev) (hcm : cm ∈ allMsgs cur) (hname : cm.fullName = pm.fullName)
    (hr : r ∈ pm.info.reservedRanges) (hk1 : r.1 ≤ k) (hk2 : k ≤ r.2)
    (hdel : ∀ q ∈ cm.info.reservedRanges, ¬ (q.1 ≤ k ∧ k ≤ q.2)) :
    Reports "RESERVED_MESSAGE_NO_DELETE" (msgLoc cm "RESERVED_MESSAGE_NO_DELETE") cur prev := by
  refine reports_of_rule (f := ruleReservedMessageNoDelete) (mem_msgPairs hw hpm hcm hname ?_)
  apply List.mem_append_left
  refine List.mem_flatMap.2 ⟨r, hr, ?_⟩
  simp [rangeMissing_of_uncovered _ r k hk1 hk2 hdel]

/-- EXTENSION_MESSAGE_NO_DELETE: some number `k` of a previous extension range is in no current one -/
theorem detects_extension_range_delete (hw : WF cur) {pm cm : FlatMsg} {r : Range} {k : Int}
    (hpm : pm ∈ allMsgs prev) (hcm : cm ∈ allMsgs cur) (hname : cm.fullName = pm.fullName)
    (hr : r ∈ pm.info.extRanges) (hk1 : r.1 ≤ k) (hk2 : k ≤ r.2)
    (hdel : ∀ q ∈ cm.info.extRanges, ¬ (q.1 ≤ k ∧ k ≤ q.2)) :
    Reports "EXTENSION_MESSAGE_NO_DELETE" (msgLoc cm "EXTENSION_MESSAGE_NO_DELETE") cur prev := by
  refine reports_of_rule (f := ruleExtensionMessageNoDelete) (mem_msgPairs hw hpm hcm hname ?_)
  refine List.mem_flatMap.2 ⟨r, hr, ?_⟩
  simp [rangeMissing_of_uncovered _ r k hk1 hk2 hdel]

/-- MESSAGE_SAME_JSON_FORMAT: a message stops allowing the legacy JSON format — located at the
    `features.json_format` option if written, else the message -/
theorem detects_message_json_format_change (hw : WF cur) {pm cm : FlatMsg}
    (hpm : pm ∈ allMsgs prev) (hcm : cm ∈ allMsgs cur) (hname : cm.fullName = pm.fullName)
    (hp : pm.info.jsonAllow = true) (hc : cm.info.jsonAllow = false) :
    Reports "MESSAGE_SAME_JSON_FORMAT"
      (annOpt "MESSAGE_SAME_JSON_FORMAT" cm.file cm.locs (optLoc cm.locs (cm.path ++ [7]) 12 [6])
        ([cm.path] ++ cm.mapLoc.toList) cm.file) cur prev := by
  refine reports_of_rule (f := ruleMessageSameJsonFormat) (mem_msgPairs hw hpm hcm hname ?_)
  simp [hp, hc]

/-- MESSAGE_NO_REMOVE_STANDARD_DESCRIPTOR_ACCESSOR: `no_standard_descriptor_accessor` switched on —
    located at that option -/
theorem detects_message_std_accessor_removal (hw : WF cur) {pm cm : FlatMsg}
    (hpm : pm ∈ allMsgs prev) (hcm : cm ∈ allMsgs cur) (hname : cm.fullName = pm.fullName)
    (hp : pm.info.noStdAccessor = false) (hc : cm.info.noStdAccessor = true) :
    Reports "MESSAGE_NO_REMOVE_STANDARD_DESCRIPTOR_ACCESSOR"
      (annAt "MESSAGE_NO_REMOVE_STANDARD_DESCRIPTOR_ACCESSOR" cm.file cm.locs [cm.path ++ [7, 2]] cm.file)
      cur prev := by
  refine reports_of_rule (f := ruleMessageNoRemoveStdAccessor) (mem_msgPairs hw hpm hcm hname ?_)
  simp [hp, hc]

/-! ### changes of a field that keeps its number in a message that keeps its name — or of an
    extension that keeps its extendee and number (`FieldPaired`, both halves of the field pair handler) -/

/-- integer, bool and enum defaults (`DefVal.num`: the exact value as canonical text) are equal
    exactly when the values are: no rounding (field_default.go compares them as big.Float with 64
    bits of mantissa, `SetInt64` / `SetUint64`) -/
theorem defaultsEqual_num (a b : String) (za zb : Bool) :
    defaultsEqual (.num a za) (.num b zb) = decide (a = b) := by
  unfold defaultsEqual
  simp only [DefVal.nan, DefVal.rat]
  rfl

example : defaultsEqual (.num "9007199254740993/1" false) (.num "9007199254740992/1" false) = false := by decide
example : defaultsEqual (.num "18446744073709551615/1" false) (.num "18446744073709551614/1" false) = false := by decide
example : defaultsEqual (.num "-9223372036854775807/1" false) (.num "-9223372036854775808/1" false) = false := by decide
/-- string defaults: exact, case-sensitive -/
example : defaultsEqual (.str "616263") (.str "414243") = false := by decide

section field
variable (hw : WF cur) {pf cf : FlatField} (hp : FieldPaired cur prev cf pf)
include hw hp

/-- FIELD_SAME_TYPE: the resolved kind changed — located at the current field's type (name) -/
theorem detects_type_change (hk : pf.field.kind ≠ cf.field.kind) :
    Reports "FIELD_SAME_TYPE" (changedTypeAnn "FIELD_SAME_TYPE" cf) cur prev := by
  refine reports_of_rule (f := ruleFieldSameType) (mem_fieldPairs_paired hw hp ?_)
  simp [hk]

/-- FIELD_SAME_TYPE: same kind, message / enum / group type name changed -/
theorem detects_type_name_change (hk : pf.field.kind = cf.field.kind) (hn : cf.field.ty.named = true)
    (ht : pf.field.typeName ≠ cf.field.typeName) :
    Reports "FIELD_SAME_TYPE" (changedTypeNameAnn "FIELD_SAME_TYPE" cf) cur prev := by
  refine reports_of_rule (f := ruleFieldSameType) (mem_fieldPairs_paired hw hp ?_)
  simp [hk, hn, ht]

/-- FIELD_WIRE_COMPATIBLE_TYPE: the kinds are in different wire groups (regenerated table) and the
    change is not string → bytes -/
theorem detects_wire_type_change (hg : pf.field.kind.wireGroup ≠ cf.field.kind.wireGroup)
    (hsb : ¬ (pf.field.kind = .string ∧ cf.field.kind = .bytes)) :
    Reports "FIELD_WIRE_COMPATIBLE_TYPE" (changedTypeAnn "FIELD_WIRE_COMPATIBLE_TYPE" cf) cur prev := by
  refine reports_of_rule (f := ruleFieldWireCompatibleType) (mem_fieldPairs_paired hw hp ?_)
  rw [if_pos hg, if_neg hsb]
  exact List.mem_cons_self

/-- FIELD_WIRE_JSON_COMPATIBLE_TYPE: the kinds are in different wire+JSON groups -/
theorem detects_wire_json_type_change (hg : pf.field.kind.wireJsonGroup ≠ cf.field.kind.wireJsonGroup) :
    Reports "FIELD_WIRE_JSON_COMPATIBLE_TYPE" (changedTypeAnn "FIELD_WIRE_JSON_COMPATIBLE_TYPE" cf) cur prev := by
  refine reports_of_rule (f := ruleFieldWireJsonCompatibleType) (mem_fieldPairs_paired hw hp ?_)
  rw [if_pos hg]
  exact List.mem_cons_self

/-- FIELD_WIRE_COMPATIBLE_TYPE, type-NAME branch: the kinds are in the same wire group, the current
    field is DECLARED (`FieldDescriptorProto.type`) as a group or a message — a proto2 `group`, or a
    message field of any syntax whether length-prefixed or DELIMITED by an editions feature — and the
    message type name changed: located at the current field's type name -/
theorem detects_wire_message_type_name_change (hg : pf.field.kind.wireGroup = cf.field.kind.wireGroup)
    (hty : cf.field.ty = .group ∨ cf.field.ty = .message) (ht : pf.field.typeName ≠ cf.field.typeName) :
    Reports "FIELD_WIRE_COMPATIBLE_TYPE" (changedTypeNameAnn "FIELD_WIRE_COMPATIBLE_TYPE" cf) cur prev := by
  refine reports_of_rule (f := ruleFieldWireCompatibleType) (mem_fieldPairs_paired hw hp ?_)
  rcases hty with h | h <;> simp [hg, h, ht]

/-- FIELD_WIRE_JSON_COMPATIBLE_TYPE, type-NAME branch: same wire+JSON group, the RESOLVED kind of the
    current field (`protoreflect Kind()`: group for proto2 groups and for delimited editions fields,
    message otherwise) is group or message and the type name changed -/
theorem detects_wire_json_message_type_name_change
    (hg : pf.field.kind.wireJsonGroup = cf.field.kind.wireJsonGroup)
    (hk : cf.field.kind = .group ∨ cf.field.kind = .message) (ht : pf.field.typeName ≠ cf.field.typeName) :
    Reports "FIELD_WIRE_JSON_COMPATIBLE_TYPE" (changedTypeNameAnn "FIELD_WIRE_JSON_COMPATIBLE_TYPE" cf) cur prev := by
  refine reports_of_rule (f := ruleFieldWireJsonCompatibleType) (mem_fieldPairs_paired hw hp ?_)
  rcases hk with h | h <;> simp [hg, h, ht]

/-- A field that is GROUP / DELIMITED encoded on BOTH sides (resolved kind = group: a proto2 `group`,
    declared type group; or an editions message field with `features.message_encoding = DELIMITED`
    set on the field or inherited from the file, declared type message) whose message type name
    changes — number and encoding unchanged — is reported by all three type rules, each at the
    current field's type name. -/
theorem detects_group_encoded_type_name_change (hpk : pf.field.kind = .group) (hck : cf.field.kind = .group)
    (hty : cf.field.ty = .group ∨ cf.field.ty = .message) (ht : pf.field.typeName ≠ cf.field.typeName) :
    Reports "FIELD_SAME_TYPE" (changedTypeNameAnn "FIELD_SAME_TYPE" cf) cur prev ∧
    Reports "FIELD_WIRE_JSON_COMPATIBLE_TYPE" (changedTypeNameAnn "FIELD_WIRE_JSON_COMPATIBLE_TYPE" cf) cur prev ∧
    Reports "FIELD_WIRE_COMPATIBLE_TYPE" (changedTypeNameAnn "FIELD_WIRE_COMPATIBLE_TYPE" cf) cur prev := by
  refine ⟨?_, ?_, ?_⟩
  · exact detects_type_name_change hw hp (by rw [hpk, hck]) (by rcases hty with h | h <;> simp [h, Kind.named]) ht
  · exact detects_wire_json_message_type_name_change hw hp (by rw [hpk, hck]) (Or.inl hck) ht
  · exact detects_wire_message_type_name_change hw hp (by rw [hpk, hck]) hty ht

/-- delimited ↔ length-prefixed flip of a message field (declared type message on both sides, resolved
    kind message vs group): the three type rules report a changed type, located at the type name
    (`changedTypeAnn` of a named kind).  The wire groups of `message` and `group` differ in the
    regenerated tables (`decide`). -/
theorem detects_message_encoding_flip
    (hflip : (pf.field.kind = .message ∧ cf.field.kind = .group) ∨ (pf.field.kind = .group ∧ cf.field.kind = .message)) :
    Reports "FIELD_SAME_TYPE" (changedTypeAnn "FIELD_SAME_TYPE" cf) cur prev ∧
    Reports "FIELD_WIRE_JSON_COMPATIBLE_TYPE" (changedTypeAnn "FIELD_WIRE_JSON_COMPATIBLE_TYPE" cf) cur prev ∧
    Reports "FIELD_WIRE_COMPATIBLE_TYPE" (changedTypeAnn "FIELD_WIRE_COMPATIBLE_TYPE" cf) cur prev := by
  refine ⟨?_, ?_, ?_⟩
  · exact detects_type_change hw hp (by rcases hflip with ⟨a, b⟩ | ⟨a, b⟩ <;> simp [a, b])
  · exact detects_wire_json_type_change hw hp (by rcases hflip with ⟨a, b⟩ | ⟨a, b⟩ <;> rw [a, b] <;> decide)
  · exact detects_wire_type_change hw hp (by rcases hflip with ⟨a, b⟩ | ⟨a, b⟩ <;> rw [a, b] <;> decide)
      (by rcases hflip with ⟨a, b⟩ | ⟨a, b⟩ <;> simp [a, b])

/-- cardinality (FIELD_SAME_CARDINALITY and, with the regenerated group tables, the WIRE_JSON / WIRE
    variants): located at the current field -/
theorem detects_cardinality_change (hm : ¬ (pf.field.inMapEntry = true ∧ cf.field.inMapEntry = true))
    (hc : pf.field.card ≠ cf.field.card) :
    Reports "FIELD_SAME_CARDINALITY" (fieldAnn "FIELD_SAME_CARDINALITY" cf [cf.path]) cur prev :=
  reports_of_rule (mem_cardRule hw hp _ (fun c => c.ctorIdx) hm fun h => hc (by
    -- `ctorIdx` is injective
    generalize pf.field.card = a at h ⊢
    generalize cf.field.card = b at h ⊢
    cases a <;> cases b <;> first | rfl | cases h))

theorem detects_wire_json_cardinality_change (hm : ¬ (pf.field.inMapEntry = true ∧ cf.field.inMapEntry = true))
    (hc : pf.field.card.wireJsonGroup ≠ cf.field.card.wireJsonGroup) :
    Reports "FIELD_WIRE_JSON_COMPATIBLE_CARDINALITY" (fieldAnn "FIELD_WIRE_JSON_COMPATIBLE_CARDINALITY" cf [cf.path]) cur prev :=
  reports_of_rule (mem_cardRule hw hp _ _ hm hc)

theorem detects_wire_cardinality_change (hm : ¬ (pf.field.inMapEntry = true ∧ cf.field.inMapEntry = true))
    (hc : pf.field.card.wireGroup ≠ cf.field.card.wireGroup) :
    Reports "FIELD_WIRE_COMPATIBLE_CARDINALITY" (fieldAnn "FIELD_WIRE_COMPATIBLE_CARDINALITY" cf [cf.path]) cur prev :=
  reports_of_rule (mem_cardRule hw hp _ _ hm hc)

/-- renaming a field: located at the current field's name -/
theorem detects_name_change (hx : pf.field.extendee = "") (hn : pf.field.name ≠ cf.field.name) :
    Reports "FIELD_SAME_NAME" (fieldAnn "FIELD_SAME_NAME" cf [cf.path ++ [1]]) cur prev := by
  refine reports_of_rule (f := ruleFieldSameName) (mem_fieldPairs_paired hw hp ?_)
  simp [hx, hn]

/-- renaming an extension (the fully-qualified name counts): located at the current extension's name -/
theorem detects_extension_name_change (hx : pf.field.extendee ≠ "") (hn : pf.field.fullName ≠ cf.field.fullName) :
    Reports "FIELD_SAME_NAME" (fieldAnn "FIELD_SAME_NAME" cf [cf.path ++ [1]]) cur prev := by
  refine reports_of_rule (f := ruleFieldSameName) (mem_fieldPairs_paired hw hp ?_)
  simp [hx, hn]

/-- changing the JSON name: located at the json_name option if written, else at the field -/
theorem detects_json_name_change (hx : pf.field.extendee = "") (hn : pf.field.jsonName ≠ cf.field.jsonName) :
    Reports "FIELD_SAME_JSON_NAME" (fieldAnn "FIELD_SAME_JSON_NAME" cf [cf.path ++ [10], cf.path]) cur prev := by
  refine reports_of_rule (f := ruleFieldSameJsonName) (mem_fieldPairs_paired hw hp ?_)
  simp [hx, hn]

/-- moving a field into / out of / between (non-synthetic) oneofs: located at the current field -/
theorem detects_oneof_change (hx : pf.field.extendee = "") (ho : pf.field.realOneof ≠ cf.field.realOneof) :
    Reports "FIELD_SAME_ONEOF" (fieldAnn "FIELD_SAME_ONEOF" cf [cf.path]) cur prev := by
  refine reports_of_rule (f := ruleFieldSameOneof) (mem_fieldPairs_paired hw hp ?_)
  simp only [hx]
  cases h1 : pf.field.realOneof <;> cases h2 : cf.field.realOneof <;> simp_all

/-- changing a default value: located at the default if written, else at the field -/
theorem detects_default_change (h1 : pf.field.canHaveDefault = true) (h2 : cf.field.canHaveDefault = true)
    (hz : ¬ (pf.field.dflt.isZero = true ∧ cf.field.dflt.isZero = true))
    (hd : defaultsEqual pf.field.dflt cf.field.dflt = false) :
    Reports "FIELD_SAME_DEFAULT" (fieldAnn "FIELD_SAME_DEFAULT" cf [cf.path ++ [7], cf.path]) cur prev := by
  refine reports_of_rule (f := ruleFieldSameDefault) (mem_fieldPairs_paired hw hp ?_)
  have hz' : (pf.field.dflt.isZero && cf.field.dflt.isZero) = false := by
    apply Bool.eq_false_iff.2; intro h; exact hz (by simpa using h)
  simp [h1, h2, hz', hd]

/-- A changed default of an integer (also bool / enum) field is reported HOWEVER CLOSE the two
    values are — 2^53+1 → 2^53, MaxUint64 → MaxUint64-1, MinInt64+1 → MinInt64: the comparison is
    exact, not through float64. -/
theorem detects_integer_default_change (h1 : pf.field.canHaveDefault = true) (h2 : cf.field.canHaveDefault = true)
    {a b : String} {za zb : Bool} (hpd : pf.field.dflt = .num a za) (hcd : cf.field.dflt = .num b zb)
    (hne : a ≠ b) (hz : ¬ (za = true ∧ zb = true)) :
    Reports "FIELD_SAME_DEFAULT" (fieldAnn "FIELD_SAME_DEFAULT" cf [cf.path ++ [7], cf.path]) cur prev :=
  detects_default_change hw hp h1 h2 (by rw [hpd, hcd]; exact hz)
    (by rw [hpd, hcd, defaultsEqual_num]; exact decide_eq_false hne)

/-- FIELD_SAME_JSTYPE: `jstype` of a 64-bit integer field changed — located at the option if
    written, else the field -/
theorem detects_jstype_change (hp64 : pf.field.ty.is64 = true) (hc64 : cf.field.ty.is64 = true)
    (hne : pf.field.jstype ≠ cf.field.jstype) :
    Reports "FIELD_SAME_JSTYPE" (fieldAnn "FIELD_SAME_JSTYPE" cf [cf.path ++ [8, 6], cf.path]) cur prev := by
  refine reports_of_rule (f := ruleFieldSameJstype) (mem_fieldPairs_paired hw hp ?_)
  simp [hp64, hc64, hne]

/-- FIELD_SAME_UTF8_VALIDATION: resolved `features.utf8_validation` of a string field changed —
    located at the feature if written, else the field -/
theorem detects_utf8_validation_change (hps : pf.field.kind = .string) (hcs : cf.field.kind = .string)
    (hne : pf.field.utf8 ≠ cf.field.utf8) :
    Reports "FIELD_SAME_UTF8_VALIDATION"
      (annOpt "FIELD_SAME_UTF8_VALIDATION" cf.file cf.locs (optLoc cf.locs (cf.path ++ [8]) 21 [4])
        ([cf.path] ++ cf.mapLoc.toList) cf.file) cur prev := by
  refine reports_of_rule (f := ruleFieldSameUtf8Validation) (mem_fieldPairs_paired hw hp ?_)
  simp [hps, hcs, hne]

end field

/-! ### RPC changes -/

section rpc
variable (hw : WF cur) {ps cs : FlatSvc} {pm cm : FlatMethod}
  (hps : ps ∈ allSvcs prev) (hcs : cs ∈ allSvcs cur) (hname : cs.fullName = ps.fullName)
  (hpm : pm ∈ svcMethods ps) (hcm : cm ∈ svcMethods cs) (hn : cm.m.name = pm.m.name)
include hw hps hcs hname hpm hcm hn

/-- any of: request type [2], response type [3], client / server streaming (the method),
    idempotency level [4,34] -/
theorem detects_rpc_change {β : Type} [DecidableEq β] (rule : String) (get : Method → β) (sub : List Nat)
    (htab : ruleTable.lookup rule = some (methodSame rule get sub))
    (hne : get pm.m ≠ get cm.m) :
    Reports rule (annAt rule cm.file cm.locs [cm.path ++ sub] cm.file) cur prev := by
  apply reports_of_run
  rw [runRule_eq htab]
  unfold methodSame
  apply mem_methodPairs hw hps hcs hname hpm hcm hn
  simp [hne]

theorem detects_rpc_request_type_change (hne : pm.m.input ≠ cm.m.input) :
    Reports "RPC_SAME_REQUEST_TYPE"
      (annAt "RPC_SAME_REQUEST_TYPE" cm.file cm.locs [cm.path ++ [2]] cm.file) cur prev :=
  detects_rpc_change hw hps hcs hname hpm hcm hn _ _ _
    ruleTable_lookup hne

theorem detects_rpc_response_type_change (hne : pm.m.output ≠ cm.m.output) :
    Reports "RPC_SAME_RESPONSE_TYPE"
      (annAt "RPC_SAME_RESPONSE_TYPE" cm.file cm.locs [cm.path ++ [3]] cm.file) cur prev :=
  detects_rpc_change hw hps hcs hname hpm hcm hn _ _ _
    ruleTable_lookup hne

theorem detects_rpc_client_streaming_change (hne : pm.m.clientStreaming ≠ cm.m.clientStreaming) :
    Reports "RPC_SAME_CLIENT_STREAMING"
      (annAt "RPC_SAME_CLIENT_STREAMING" cm.file cm.locs [cm.path ++ []] cm.file) cur prev :=
  detects_rpc_change hw hps hcs hname hpm hcm hn _ _ _
    ruleTable_lookup hne

theorem detects_rpc_server_streaming_change (hne : pm.m.serverStreaming ≠ cm.m.serverStreaming) :
    Reports "RPC_SAME_SERVER_STREAMING"
      (annAt "RPC_SAME_SERVER_STREAMING" cm.file cm.locs [cm.path ++ []] cm.file) cur prev :=
  detects_rpc_change hw hps hcs hname hpm hcm hn _ _ _
    ruleTable_lookup hne

theorem detects_rpc_idempotency_change (hne : pm.m.idempotency ≠ cm.m.idempotency) :
    Reports "RPC_SAME_IDEMPOTENCY_LEVEL"
      (annAt "RPC_SAME_IDEMPOTENCY_LEVEL" cm.file cm.locs [cm.path ++ [4, 34]] cm.file) cur prev :=
  detects_rpc_change hw hps hcs hname hpm hcm hn _ _ _
    ruleTable_lookup hne

end rpc

/-! ### file changes -/

section file
variable (hw : WF cur) {pf cf : File} (hpf : pf ∈ prev) (hcf : cf ∈ cur) (hpath : cf.path = pf.path)
include hw hpf hcf hpath

theorem detects_file_package_change (hne : pf.pkg ≠ cf.pkg) :
    Reports "FILE_SAME_PACKAGE" (annAt "FILE_SAME_PACKAGE" cf.path cf.locs [[2]] cf.path) cur prev :=
  reports_of_rule (f := ruleFileSamePackage) (mem_fileSame hw hpf hcf hpath _ _ _ hne)

theorem detects_file_syntax_change (hne : pf.syn.norm ≠ cf.syn.norm) :
    Reports "FILE_SAME_SYNTAX" (annAt "FILE_SAME_SYNTAX" cf.path cf.locs [[12]] cf.path) cur prev :=
  reports_of_rule (f := ruleFileSameSyntax) (mem_fileSame hw hpf hcf hpath _ _ _ hne)

/-- any tracked file option (one parametric rule for the 16 FILE_SAME_<option> ids of
    `fileOptRules`): located at the option if still written -/
theorem detects_file_option_change (rule : String) (n : Nat)
    (hopt : fileOptRules.lookup rule = some n) (hne : pf.opt n ≠ cf.opt n) :
    Reports rule (annAt rule cf.path cf.locs [[8, n]] cf.path) cur prev := by
  apply reports_of_run
  unfold runRule
  rw [fileOpt_not_in_ruleTable (ListLemmas.mem_of_lookup hopt)]; simp only; rw [hopt]
  exact mem_fileSame hw hpf hcf hpath _ _ _ hne

end file

/-! ### "located at it" — what the location terms of the annotations above denote

  DESIGN §6: changed elements → the CURRENT element (its type / type-name / name / option location
  where the rule says so); deleted elements → the nearest surviving enclosing element of the current
  file; deleted files → no location.  Every theorem here is independent of the rule handlers: it
  interprets the location term (`msgLoc`, `fieldAnn`, `enumLoc`, `svcLoc`, `annAt … cm.path …`,
  `deletedAnn`) that a `detects_*` conclusion exhibits.  `msgAt cf p` walks the descriptor tree of
  the current file along the source path `p` (Lemmas/BreakingLocate.lean). -/

/-- message-level annotations (FIELD_NO_DELETE*, ONEOF_NO_DELETE, MESSAGE_SAME_REQUIRED_FIELDS on a
    deletion, RESERVED_MESSAGE_NO_DELETE, EXTENSION_MESSAGE_NO_DELETE): the current message `cm`
    belongs to a file `cf` of the CURRENT image, its source path designates in `cf`'s descriptor
    tree a message with exactly `cm`'s content, and `msgLoc cm rule` is ⟨rule, cf.path, that path⟩
    whenever the path has a source location (file-only if it has none and `cm` is not a synthetic
    map entry). -/
theorem located_message {cm : FlatMsg} (hcm : cm ∈ allMsgs cur) :
    ∃ cf ∈ cur, cm ∈ cf.flatMsgs ∧ cm.file = cf.path ∧ cm.locs = cf.locs ∧
      (∃ n, msgAt cf cm.path = some n ∧ n.info = cm.info) ∧
      (cm.path ∈ cf.locs → ∀ rule, msgLoc cm rule = ⟨rule, cf.path, cm.path⟩) ∧
      (cm.path ∉ cf.locs → cm.mapLoc = none → ∀ rule, msgLoc cm rule = ⟨rule, cf.path, []⟩) := by
  obtain ⟨cf, hcf, hin⟩ := List.mem_flatMap.1 hcm
  obtain ⟨hres, hfile, hlocs⟩ := flatMsgs_path_resolves hin
  refine ⟨cf, hcf, hin, hfile, hlocs, hres, fun hp rule => ?_, fun hp hm rule => ?_⟩
  · unfold msgLoc
    rw [hlocs, hfile, List.singleton_append]
    exact annAt_head hp
  · unfold msgLoc
    rw [hlocs, hfile, hm]
    exact annAt_none (by simpa using hp)

/-- field-level annotations (type, cardinality, name, JSON name, oneof, default, jstype, required
    field added): the current field `c` of the current message `cm` lives in a file `cf` of the
    current image at `cm.path ++ [2, j]`, `j` being its index among `cm`'s fields; an annotation built
    from candidate paths is located, in `cf`, at the first candidate that has a source location
    (e.g. `c.path ++ [5]` type, `[6]` type name, `[1]` name, `[10]` json_name, `[7]` default — else
    the next candidate, the field itself where the rule lists it). -/
theorem located_field {cm : FlatMsg} {c : FlatField} (hcm : cm ∈ allMsgs cur) (hc : c ∈ msgFields cm) :
    ∃ cf ∈ cur, ∃ j, c.file = cf.path ∧ c.locs = cf.locs ∧ c.path = cm.path ++ [2, j] ∧
      cm.info.fields[j]? = some c.field ∧
      (∀ rule p rest, p ∈ cf.locs → fieldAnn rule c (p :: rest) = ⟨rule, cf.path, p⟩) ∧
      (∀ rule p rest, p ∉ cf.locs → fieldAnn rule c (p :: rest) = fieldAnn rule c rest) ∧
      (∀ rule, c.mapLoc = none → fieldAnn rule c [] = ⟨rule, cf.path, []⟩) := by
  obtain ⟨cf, hcf, _, hfile, hlocs, _, _, _⟩ := located_message hcm
  obtain ⟨j, hp, hj, hf, hl⟩ := msgFields_path hc
  refine ⟨cf, hcf, j, hf.trans hfile, hl.trans hlocs, hp, hj, fun rule p rest h => ?_, fun rule p rest h => ?_,
    fun rule hm => ?_⟩
  · unfold fieldAnn
    rw [hl, hlocs, hf, hfile, List.cons_append]
    exact annAt_head h
  · unfold fieldAnn
    rw [hl, hlocs, List.cons_append]
    exact annAt_skip h
  · unfold fieldAnn
    rw [hm, hf, hfile]
    rfl

/-- enum-level annotations (ENUM_VALUE_NO_DELETE*, RESERVED_ENUM_NO_DELETE, ENUM_SAME_TYPE /
    ENUM_SAME_JSON_FORMAT without a written feature): the current enum `ce` belongs to a file `cf`
    of the current image, at `[5, j]` (the `j`-th enum of the file) or `m.path ++ [4, j]` (the `j`-th
    enum of the current message `m` whose nested name prefixes the enum's); `enumLoc` is that path
    in `cf` when it has a location, else file-only on the fallback file the rule names. -/
theorem located_enum {ce : FlatEnum} (hce : ce ∈ allEnums cur) :
    ∃ cf ∈ cur, ce.file = cf.path ∧ ce.locs = cf.locs ∧
      ((∃ j, ce.path = [5, j] ∧ cf.enums[j]? = some ce.enum ∧ ce.nested = [ce.enum.name]) ∨
       (∃ m ∈ cf.flatMsgs, ∃ j, ce.path = m.path ++ [4, j] ∧ m.info.enums[j]? = some ce.enum ∧
          ce.nested = m.nested ++ [ce.enum.name])) ∧
      (ce.path ∈ cf.locs → ∀ rule fb, enumLoc ce rule fb = ⟨rule, cf.path, ce.path⟩) ∧
      (ce.path ∉ cf.locs → ∀ rule fb, enumLoc ce rule fb = ⟨rule, fb, []⟩) := by
  obtain ⟨cf, hcf, hin⟩ := List.mem_flatMap.1 hce
  obtain ⟨hres, hfile, hlocs⟩ := flatEnums_path hin
  refine ⟨cf, hcf, hfile, hlocs, hres, fun hp rule fb => ?_, fun hp rule fb => ?_⟩
  · unfold enumLoc
    rw [hlocs, hfile]
    exact annAt_head hp
  · unfold enumLoc
    rw [hlocs]
    exact annAt_none (by simpa using hp)

/-- an enum VALUE annotation (ENUM_VALUE_SAME_NAME) sits at `enum path ++ [2, j, 2]`: the number
    (EnumValueDescriptorProto.number = 2) of the `j`-th value (EnumDescriptorProto.value = 2) -/
theorem located_enum_value {ce : FlatEnum} {jw : Nat × EnumValue} (hjw : jw ∈ indexed ce.enum.values)
    (hloc : ce.path ++ [2, jw.1, 2] ∈ ce.locs) (rule : String) :
    ce.enum.values[jw.1]? = some jw.2 ∧
    annAt rule ce.file ce.locs [ce.path ++ [2, jw.1, 2]] ce.file = ⟨rule, ce.file, ce.path ++ [2, jw.1, 2]⟩ :=
  ⟨indexed_getElem hjw, annAt_head hloc⟩

/-- service-level annotations (RPC_NO_DELETE): `[6, j]`, the `j`-th service of a current file -/
theorem located_service {cs : FlatSvc} (hcs : cs ∈ allSvcs cur) :
    ∃ cf ∈ cur, ∃ j, cs.file = cf.path ∧ cs.locs = cf.locs ∧ cs.path = [6, j] ∧ cf.services[j]? = some cs.svc ∧
      (cs.path ∈ cf.locs → ∀ rule, svcLoc cs rule = ⟨rule, cf.path, cs.path⟩) ∧
      (cs.path ∉ cf.locs → ∀ rule, svcLoc cs rule = ⟨rule, cf.path, []⟩) := by
  obtain ⟨cf, hcf, hin⟩ := List.mem_flatMap.1 hcs
  obtain ⟨j, hp, hj, hfile, hlocs⟩ := flatSvcs_path hin
  refine ⟨cf, hcf, j, hfile, hlocs, hp, hj, fun h rule => ?_, fun h rule => ?_⟩
  · unfold svcLoc
    rw [hlocs, hfile]
    exact annAt_head h
  · unfold svcLoc
    rw [hlocs, hfile]
    exact annAt_none (by simpa using h)

/-- RPC-level annotations (RPC_SAME_*): the current method is the `j`-th method of the `i`-th service
    of a current file, at `[6, i, 2, j]`; the annotation is at `that path ++ sub` (`[2]` input type,
    `[3]` output type, `[4, 34]` idempotency_level, `[]` the method) when it has a location, else
    file-only -/
theorem located_method {cs : FlatSvc} {c : FlatMethod} (hcs : cs ∈ allSvcs cur) (hc : c ∈ svcMethods cs) :
    ∃ cf ∈ cur, ∃ i j, c.file = cf.path ∧ c.locs = cf.locs ∧ c.path = [6, i, 2, j] ∧
      cf.services[i]? = some cs.svc ∧ cs.svc.methods[j]? = some c.m ∧
      (∀ rule sub, c.path ++ sub ∈ cf.locs →
        annAt rule c.file c.locs [c.path ++ sub] c.file = ⟨rule, cf.path, c.path ++ sub⟩) ∧
      (∀ rule sub, c.path ++ sub ∉ cf.locs →
        annAt rule c.file c.locs [c.path ++ sub] c.file = ⟨rule, cf.path, []⟩) := by
  obtain ⟨cf, hcf, i, hfile, hlocs, hp, hi, _, _⟩ := located_service hcs
  obtain ⟨j, hpj, hj, hf, hl⟩ := svcMethods_path hc
  refine ⟨cf, hcf, i, j, hf.trans hfile, hl.trans hlocs, by rw [hpj, hp]; rfl, hi, hj,
    fun rule sub h => ?_, fun rule sub h => ?_⟩
  · rw [hl, hlocs, hf, hfile]
    exact annAt_head h
  · rw [hl, hlocs, hf, hfile]
    exact annAt_none (by simpa using h)

/-- file-level annotations (FILE_SAME_PACKAGE `[2]`, FILE_SAME_SYNTAX `[12]`, FILE_SAME_<option>
    `[8, n]`): in the current file, at the statement if it (still) has a location, else file-only -/
theorem located_file_statement (cf : File) (rule : String) (p : SPath) :
    (p ∈ cf.locs → annAt rule cf.path cf.locs [p] cf.path = ⟨rule, cf.path, p⟩) ∧
    (p ∉ cf.locs → annAt rule cf.path cf.locs [p] cf.path = ⟨rule, cf.path, []⟩) :=
  ⟨fun h => annAt_head h, fun h => annAt_none (by simpa using h)⟩

/-- deleted elements (MESSAGE / ENUM / EXTENSION_NO_DELETE, PACKAGE_ENUM / PACKAGE_EXTENSION_NO_DELETE
    with a surviving file): `deletedAnn rule cf q` for the nested name `q` of the deleted element is
    located in the current file `cf` at the message `m` of `cf` whose nested name is the LONGEST
    proper non-empty prefix of `q` — the nearest surviving enclosing message — and is file-only
    exactly when no enclosing message survives. -/
theorem located_deleted_element (cf : File) (q : QName) (rule : String) :
    (∃ m ∈ cf.flatMsgs, 1 ≤ m.nested.length ∧ m.nested.length < q.length ∧ m.nested = q.take m.nested.length ∧
        (∀ m' ∈ cf.flatMsgs, m'.nested.length < q.length → m'.nested = q.take m'.nested.length →
          m'.nested.length ≤ m.nested.length) ∧
        (m.path ∈ cf.locs → deletedAnn rule cf q = ⟨rule, cf.path, m.path⟩) ∧
        (m.path ∉ cf.locs → m.mapLoc = none → deletedAnn rule cf q = ⟨rule, cf.path, []⟩)) ∨
    ((∀ m' ∈ cf.flatMsgs, 1 ≤ m'.nested.length → m'.nested.length < q.length →
          m'.nested ≠ q.take m'.nested.length) ∧
      deletedAnn rule cf q = ⟨rule, cf.path, []⟩) := by
  cases h : enclosing cf q with
  | some m =>
    obtain ⟨hm, h1, h2, h3, h4⟩ := enclosing_some h
    refine Or.inl ⟨m, hm, h1, h2, h3, h4, fun hp => ?_, fun hp hml => ?_⟩
    · unfold deletedAnn
      rw [h]; simp only [List.singleton_append]
      exact annAt_head hp
    · unfold deletedAnn
      rw [h]; simp only [hml]
      exact annAt_none (by simpa using hp)
  | none =>
    refine Or.inr ⟨enclosing_none h, ?_⟩
    unfold deletedAnn
    rw [h]

/-- NESTED DELETIONS (the family of harness/cmd/c03/nest.go): the deleted element is named
    `anc ++ mid ++ [x]` — `anc` the dotted name of a message `m` that SURVIVES in the current file
    `cf`, `mid` the `k = mid.length ≥ 0` intermediate ancestors that were deleted together with the
    element (no current message is named `anc ++ mid.take j`, `1 ≤ j ≤ k`).  Then the annotation
    is located at `m` — the CLOSEST SURVIVING ancestor, however many ancestors went (`k` is
    arbitrary) and however many more distant ancestors survive too — never at the file and never
    at a more distant ancestor.  `huniq`: message names are unique in a compiled file (stated on
    the two components the location reads). -/
theorem deleted_element_located_at_closest_surviving_ancestor (cf : File) (rule : String)
    (anc mid : QName) (x : Name) {m : FlatMsg}
    (hm : m ∈ cf.flatMsgs) (hanc : m.nested = anc) (hne : 1 ≤ anc.length)
    (huniq : ∀ m' ∈ cf.flatMsgs, m'.nested = anc → m'.path = m.path ∧ m'.mapLoc = m.mapLoc)
    (hgone : ∀ m' ∈ cf.flatMsgs, ∀ j, 1 ≤ j → j ≤ mid.length → m'.nested ≠ anc ++ mid.take j) :
    (m.path ∈ cf.locs → deletedAnn rule cf (anc ++ mid ++ [x]) = ⟨rule, cf.path, m.path⟩) ∧
    (m.path ∉ cf.locs → m.mapLoc = none → deletedAnn rule cf (anc ++ mid ++ [x]) = ⟨rule, cf.path, []⟩) := by
  subst hanc
  have hqlen : (m.nested ++ mid ++ [x]).length = m.nested.length + mid.length + 1 := by
    simp only [List.length_append, List.length_cons, List.length_nil]
  have htake : (m.nested ++ mid ++ [x]).take m.nested.length = m.nested := by
    rw [List.append_assoc, List.take_left]
  rcases located_deleted_element cf (m.nested ++ mid ++ [x]) rule with
    ⟨m0, hm0, h1, h2, h3, hmax, hloc, hnoloc⟩ | ⟨hnone, _⟩
  · -- the enclosing message found is at least as long as `anc` (maximality) …
    have hge := hmax m hm (by omega) htake.symm
    -- … and not longer: a longer one would be one of the deleted intermediate ancestors
    have hle : m0.nested.length ≤ m.nested.length := Nat.le_of_not_lt fun hlt => by
      obtain ⟨j, hj⟩ := Nat.exists_eq_add_of_lt hlt
      rw [hj, Nat.add_assoc, List.append_assoc, List.take_length_add_append,
        List.take_append_of_le_length (by omega)] at h3
      exact hgone m0 hm0 (j + 1) (by omega) (by omega) h3
    obtain ⟨hp, hml⟩ := huniq m0 hm0 (by rw [h3, Nat.le_antisymm hle hge, htake])
    rw [hp] at hloc hnoloc
    rw [hml] at hnoloc
    exact ⟨hloc, hnoloc⟩
  · exact absurd htake.symm (hnone m hm hne (by omega))

/-- … and when NO ancestor survives (the whole top-level subtree was deleted, or the element was
    top-level) the annotation is at the file: `⟨rule, cf.path, []⟩`. -/
theorem deleted_element_located_at_file_when_no_ancestor_survives (cf : File) (rule : String) (q : QName)
    (hgone : ∀ m' ∈ cf.flatMsgs, ∀ j, 1 ≤ j → j < q.length → m'.nested ≠ q.take j) :
    deletedAnn rule cf q = ⟨rule, cf.path, []⟩ := by
  rcases located_deleted_element cf q rule with ⟨m0, hm0, h1, h2, h3, _, _, _⟩ | ⟨_, h⟩
  · exact absurd h3 (hgone m0 hm0 _ h1 h2)
  · exact h

/-- non-vacuity: `A.B.C.D.E` deleted together with `A.B.C` and `A.B.C.D` (k = 2); `A` and `A.B`
    survive — the annotation is at `A.B` (`[4, 0, 3, 0]`), not at `A`, not at the file. -/
def nestMsg (n : String) : MsgInfo :=
  { name := n, fields := [], extensions := [], enums := [], oneofs := [], reservedRanges := [],
    reservedNames := [], extRanges := [], messageSet := false, noStdAccessor := false, jsonAllow := true,
    mapEntry := false }
def nestCur : File :=
  { path := "a.proto", pkg := ["p"], syn := .proto3, opts := [], locs := [[4, 0], [4, 0, 3, 0]],
    messages := [.mk (nestMsg "A") [.mk (nestMsg "B") []]], enums := [], services := [], extensions := [] }
def nestB : FlatMsg := ⟨"a.proto", nestCur.locs, ["p"], ["A", "B"], [4, 0, 3, 0], none, nestMsg "B"⟩

theorem nestCur_short : ∀ m' ∈ nestCur.flatMsgs, m'.nested.length ≤ 2 := by decide
theorem nestCur_head : ∀ m' ∈ nestCur.flatMsgs, m'.nested.head? = some "A" := by decide

example : deletedAnn "ENUM_NO_DELETE" nestCur (["A", "B"] ++ ["C", "D"] ++ ["E"])
    = ⟨"ENUM_NO_DELETE", "a.proto", [4, 0, 3, 0]⟩ :=
  (deleted_element_located_at_closest_surviving_ancestor nestCur "ENUM_NO_DELETE" ["A", "B"] ["C", "D"] "E"
    (m := nestB) (by decide) rfl (by decide) (by decide)
    (fun m' hm' j h1 _ heq => by
      have := nestCur_short m' hm'
      rw [heq] at this
      simp at this
      omega)).1 (by decide)

example : deletedAnn "MESSAGE_NO_DELETE" nestCur ["X", "Y", "Z"] = ⟨"MESSAGE_NO_DELETE", "a.proto", []⟩ :=
  deleted_element_located_at_file_when_no_ancestor_survives nestCur _ _
    (fun m' hm' j h1 _ heq => by
      have := nestCur_head m' hm'
      rw [heq] at this
      cases j with
      | zero => omega
      | succ n => simp at this)

/-! ### the pre-fix PACKAGE_ENUM_NO_DELETE missed the last enum of a surviving package -/

def cexEnum : Enum :=
  { name := "E", values := [⟨"E_0", 0⟩], reservedRanges := [], reservedNames := [], closed := false,
    jsonAllow := true }
def cexMsg : MsgInfo :=
  { name := "M", fields := [], extensions := [], enums := [], oneofs := [], reservedRanges := [],
    reservedNames := [], extRanges := [], messageSet := false, noStdAccessor := false, jsonAllow := true,
    mapEntry := false }
def cexPrev : Schema :=
  [{ path := "a.proto", pkg := ["p"], syn := .proto3, opts := [], locs := [], messages := [],
     enums := [cexEnum], services := [], extensions := [] }]
def cexCur : Schema :=
  [{ path := "a.proto", pkg := ["p"], syn := .proto3, opts := [], locs := [], messages := [.mk cexMsg []],
     enums := [], services := [], extensions := [] }]

/-- enum p.E deleted, package p survives: the pre-fix handler reports nothing while the fixed one does -/
theorem package_enum_old_counterexample :
    rulePackageEnumNoDeleteOld cexCur cexPrev = [] ∧
    rulePackageEnumNoDelete cexCur cexPrev = [⟨"PACKAGE_ENUM_NO_DELETE", "a.proto", []⟩] := by
  decide +kernel

/-! ### non-vacuity: every `detects_*` theorem instantiated on ONE witness pair

  `W.wPrev → W.wCur` (Lemmas/BreakingWitness.lean) contains all edits at once.  The edited message
  `acme.v1.Outer.Mid.Inner` is nested at depth 3; additive changes (a new first file, message,
  nested message, field, enum, service, RPC) shift every index, so the concrete annotations below
  are visibly located on the CURRENT tree: Inner is `[4,1,3,1,3,1]` (`[4,0,3,0,3,0]` in the previous
  image), Mid is `[4,1,3,1]`, service Api is `[6,1]` (previously `[6,0]`).  Each `example` supplies ALL hypotheses of the
  theorem (`by decide` on the concrete schemas) and states the concrete annotation; the conclusion
  `Reports id a …` covers every configuration in which the rule is active. -/

/-- field 1 `f_del` of Inner is gone -/
example : Reports "FIELD_NO_DELETE" ⟨"FIELD_NO_DELETE", fileA, innerP⟩ wCur wPrev :=
  detects_field_delete wCur_wf pInnerL_mem cInnerL_mem rfl
    (pf := fld 1 "f_del" .int32) (by decide) (by decide)

/-- two fields of Inner (1 `f_del`, 13 `f_del2`) are gone: two annotations at Inner -/
example : 2 ≤ (check .v2 "FILE" wCur wPrev).count ⟨"FIELD_NO_DELETE", fileA, innerP⟩ :=
  detects_field_delete_each wCur_wf pInnerL_mem cInnerL_mem rfl .v2 "FILE" (by decide)

/-- the same on the trees: Outer → Mid → Inner reached through nesting in both files -/
example : ∃ fm ∈ cA.flatMsgs, fm.nested = ["Outer", "Mid", "Inner"] ∧ fm.info = cInnerM.info ∧
    Reports "FIELD_NO_DELETE" (msgLoc fm "FIELD_NO_DELETE") wCur wPrev :=
  detects_field_delete_in_tree wCur_wf pA_mem cA_mem rfl
    (pm := pInnerM) (cm := cInnerM)
    (.nest (.nest (.top (m := pOuterM) (.head _)) (n := pMid) (.head _)) (n := pInnerM) (.head _))
    (.nest (.nest (.top (m := cOuterM) (.tail _ (.head _))) (n := cMid) (.tail _ (.head _))) (n := cInnerM)
      (.tail _ (.head _)))
    (f := fld 1 "f_del" .int32) (by decide) (by decide)

/-- … and the current Inner reserves 30–40 only -/
example : Reports "FIELD_NO_DELETE_UNLESS_NUMBER_RESERVED"
    ⟨"FIELD_NO_DELETE_UNLESS_NUMBER_RESERVED", fileA, innerP⟩ wCur wPrev :=
  detects_field_delete_unless_number_reserved wCur_wf pInnerL_mem cInnerL_mem rfl
    (pf := fld 1 "f_del" .int32) (by decide) (by decide) (by decide)

/-- … and only the name `f_future` -/
example : Reports "FIELD_NO_DELETE_UNLESS_NAME_RESERVED"
    ⟨"FIELD_NO_DELETE_UNLESS_NAME_RESERVED", fileA, innerP⟩ wCur wPrev :=
  detects_field_delete_unless_name_reserved wCur_wf pInnerL_mem cInnerL_mem rfl
    (pf := fld 1 "f_del" .int32) (by decide) (by decide) (by decide)

/-- one concrete configuration spelled out (the others follow the same way from `Reports`) -/
example : ⟨"FIELD_NO_DELETE", fileA, innerP⟩ ∈ check .v1beta1 "PACKAGE" wCur wPrev :=
  detects_field_delete wCur_wf pInnerL_mem cInnerL_mem rfl
    (pf := fld 1 "f_del" .int32) (by decide) (by decide) .v1beta1 "PACKAGE" (by decide)

/-- value BLUE = 2 of the nested enum `Outer.Mid.Color` is gone; Color is the 2nd enum of the current Mid -/
example : Reports "ENUM_VALUE_NO_DELETE" ⟨"ENUM_VALUE_NO_DELETE", fileA, midP ++ [4, 1]⟩ wCur wPrev :=
  detects_enum_value_delete wCur_wf pColorL_mem cColorL_mem rfl (pv := ⟨"BLUE", 2⟩) (by decide) (by decide)

example : Reports "ENUM_VALUE_NO_DELETE_UNLESS_NUMBER_RESERVED"
    ⟨"ENUM_VALUE_NO_DELETE_UNLESS_NUMBER_RESERVED", fileA, midP ++ [4, 1]⟩ wCur wPrev :=
  detects_enum_value_delete_unless_number_reserved wCur_wf pColorL_mem cColorL_mem rfl
    (pv := ⟨"BLUE", 2⟩) (by decide) (by decide) (by decide)

example : Reports "ENUM_VALUE_NO_DELETE_UNLESS_NAME_RESERVED"
    ⟨"ENUM_VALUE_NO_DELETE_UNLESS_NAME_RESERVED", fileA, midP ++ [4, 1]⟩ wCur wPrev :=
  detects_enum_value_delete_unless_name_reserved wCur_wf pColorL_mem cColorL_mem rfl
    (pv := ⟨"BLUE", 2⟩) (by decide) (by decide) (by decide)

/-- RPC `Del` of service Api is gone -/
example : Reports "RPC_NO_DELETE" ⟨"RPC_NO_DELETE", fileA, [6, 1]⟩ wCur wPrev :=
  detects_rpc_delete wCur_wf pApiL_mem cApiL_mem rfl
    (pm := mth "Del" ".acme.v1.Outer" ".acme.v1.Outer") (by decide) (by decide)

/-- oneof `gone` of `Outer.Mid` (depth 2) is gone -/
example : Reports "ONEOF_NO_DELETE" ⟨"ONEOF_NO_DELETE", fileA, midP⟩ wCur wPrev :=
  detects_oneof_delete wCur_wf pMidL_mem cMidL_mem rfl (po := ⟨"gone", false⟩) (by decide) rfl (by decide)

/-- message `Outer.Mid.Gone` (depth 3) is gone: located at the surviving `Outer.Mid` -/
example : Reports "MESSAGE_NO_DELETE" ⟨"MESSAGE_NO_DELETE", fileA, midP⟩ wCur wPrev :=
  detects_message_delete wCur_wf pA_mem cA_mem rfl pGone_mem (by decide)

/-- enum `Outer.Mid.OldEnum` is gone -/
example : Reports "ENUM_NO_DELETE" ⟨"ENUM_NO_DELETE", fileA, midP⟩ wCur wPrev :=
  detects_enum_delete wCur_wf pA_mem cA_mem rfl pOldEnum_mem (by decide)

/-- extension `Outer.Mid.mid_ext` is gone (another extension was added at file level) -/
example : Reports "EXTENSION_NO_DELETE" ⟨"EXTENSION_NO_DELETE", fileA, midP⟩ wCur wPrev :=
  detects_extension_delete wCur_wf pA_mem cA_mem rfl pMidExt_mem (by decide)

/-- service OldSvc is gone (NewSvc was added) -/
example : Reports "SERVICE_NO_DELETE" ⟨"SERVICE_NO_DELETE", fileA, []⟩ wCur wPrev :=
  detects_service_delete wCur_wf pA_mem cA_mem rfl pOldSvc_mem (by decide)

/-- acme/v1/e.proto is gone (acme/v1/new.proto was added) -/
example : Reports "FILE_NO_DELETE" ⟨"FILE_NO_DELETE", "", []⟩ wCur wPrev :=
  detects_file_delete pE_mem (by decide)

/-- package `old` (old/d.proto) is gone -/
example : Reports "PACKAGE_NO_DELETE" ⟨"PACKAGE_NO_DELETE", "", []⟩ wCur wPrev :=
  detects_package_delete pD_mem (by decide)

/-- PACKAGE: `Outer.Mid.OldEnum` left package acme.v1, its file survives → at `Outer.Mid` -/
example : Reports "PACKAGE_ENUM_NO_DELETE" ⟨"PACKAGE_ENUM_NO_DELETE", fileA, midP⟩ wCur wPrev :=
  (detects_package_enum_delete wCur_wf (pA_flatEnums_sub pOldEnum_mem) (by decide) (by decide)).1 cA cA_mem rfl
/-- PACKAGE: enum `EE` of the deleted acme/v1/e.proto, package acme.v1 survives → no location -/
example : Reports "PACKAGE_ENUM_NO_DELETE" ⟨"PACKAGE_ENUM_NO_DELETE", "", []⟩ wCur wPrev :=
  (detects_package_enum_delete wCur_wf pEE_mem (by decide) (by decide)).2 (by decide)

example : Reports "PACKAGE_SERVICE_NO_DELETE" ⟨"PACKAGE_SERVICE_NO_DELETE", fileA, []⟩ wCur wPrev :=
  (detects_package_service_delete wCur_wf (pA_flatSvcs_sub pOldSvc_mem) (by decide) (by decide)).1 cA cA_mem rfl
example : Reports "PACKAGE_SERVICE_NO_DELETE" ⟨"PACKAGE_SERVICE_NO_DELETE", "", []⟩ wCur wPrev :=
  (detects_package_service_delete wCur_wf pES_mem (by decide) (by decide)).2 (by decide)

example : Reports "PACKAGE_EXTENSION_NO_DELETE" ⟨"PACKAGE_EXTENSION_NO_DELETE", fileA, midP⟩ wCur wPrev :=
  (detects_package_extension_delete wCur_wf (pA_flatExts_sub pMidExt_mem) (by decide) (by decide)).1 cA cA_mem rfl
example : Reports "PACKAGE_EXTENSION_NO_DELETE" ⟨"PACKAGE_EXTENSION_NO_DELETE", "", []⟩ wCur wPrev :=
  (detects_package_extension_delete wCur_wf pEExt_mem (by decide) (by decide)).2 (by decide)

example : Reports "PACKAGE_MESSAGE_NO_DELETE" ⟨"PACKAGE_MESSAGE_NO_DELETE", fileA, midP⟩ wCur wPrev :=
  (detects_package_message_delete wCur_wf (pA_flatMsgs_sub pGone_mem) (by decide) (by decide)).1 cA cA_mem rfl
example : Reports "PACKAGE_MESSAGE_NO_DELETE" ⟨"PACKAGE_MESSAGE_NO_DELETE", "", []⟩ wCur wPrev :=
  (detects_package_message_delete wCur_wf pEM_mem (by decide) (by decide)).2 (by decide)

/-- `Outer.Mid.Mode` closed → open; no `features.enum_type` location: falls back to the enum -/
example : Reports "ENUM_SAME_TYPE" ⟨"ENUM_SAME_TYPE", fileA, midP ++ [4, 2]⟩ wCur wPrev :=
  detects_enum_closedness_change wCur_wf pModeL_mem cModeL_mem rfl (by decide)

example : Reports "ENUM_SAME_JSON_FORMAT" ⟨"ENUM_SAME_JSON_FORMAT", fileA, midP ++ [4, 2]⟩ wCur wPrev :=
  detects_enum_json_format_change wCur_wf pModeL_mem cModeL_mem rfl rfl rfl

/-- GREEN = 1 renamed to LIME = 1: located at the number of the 2nd value of Color -/
example : Reports "ENUM_VALUE_SAME_NAME" ⟨"ENUM_VALUE_SAME_NAME", fileA, midP ++ [4, 1, 2, 1, 2]⟩ wCur wPrev :=
  detects_enum_value_rename wCur_wf pColorL_mem cColorL_mem rfl
    (pv := ⟨"GREEN", 1⟩) (jw := (1, ⟨"LIME", 1⟩)) (by decide) (by decide) rfl (by decide)

/-- Color no longer reserves the name OLD … -/
example : Reports "RESERVED_ENUM_NO_DELETE" ⟨"RESERVED_ENUM_NO_DELETE", fileA, midP ++ [4, 1]⟩ wCur wPrev :=
  detects_enum_reserved_name_delete wCur_wf pColorL_mem cColorL_mem rfl (n := "OLD") (by decide) (by decide)
/-- … and 10–20 shrank to 10–15 (18 is free again) -/
example : Reports "RESERVED_ENUM_NO_DELETE" ⟨"RESERVED_ENUM_NO_DELETE", fileA, midP ++ [4, 1]⟩ wCur wPrev :=
  detects_enum_reserved_range_delete wCur_wf pColorL_mem cColorL_mem rfl
    (r := (10, 20)) (k := 18) (by decide) (by decide) (by decide) (by decide)

/-- required field 9 `f_req` of Inner became optional -/
example : Reports "MESSAGE_SAME_REQUIRED_FIELDS" ⟨"MESSAGE_SAME_REQUIRED_FIELDS", fileA, innerP⟩ wCur wPrev :=
  detects_required_field_delete wCur_wf pInnerL_mem cInnerL_mem rfl
    (pf := { fld 9 "f_req" .int32 with label := .required, reqCard := true, hasPresence := true })
    (by decide) rfl (by decide)

/-- required field 10 `f_newreq` was added: located at the new field, the 10th of the current Inner -/
example : Reports "MESSAGE_SAME_REQUIRED_FIELDS"
    ⟨"MESSAGE_SAME_REQUIRED_FIELDS", fileA, innerP ++ [2, 9]⟩ wCur wPrev :=
  detects_required_field_add wCur_wf pInnerL_mem cInnerL_mem rfl
    (jf := (9, { fld 10 "f_newreq" .int32 with label := .required, reqCard := true, hasPresence := true }))
    (by decide) rfl (by decide)

example : Reports "RESERVED_MESSAGE_NO_DELETE" ⟨"RESERVED_MESSAGE_NO_DELETE", fileA, midP⟩ wCur wPrev :=
  detects_message_reserved_name_delete wCur_wf pMidL_mem cMidL_mem rfl (n := "legacy") (by decide) (by decide)
example : Reports "RESERVED_MESSAGE_NO_DELETE" ⟨"RESERVED_MESSAGE_NO_DELETE", fileA, midP⟩ wCur wPrev :=
  detects_message_reserved_range_delete wCur_wf pMidL_mem cMidL_mem rfl
    (r := (50, 60)) (k := 58) (by decide) (by decide) (by decide) (by decide)

/-- `extensions 100 to 200` of Ext shrank to 100–150 -/
example : Reports "EXTENSION_MESSAGE_NO_DELETE" ⟨"EXTENSION_MESSAGE_NO_DELETE", fileA, [4, 2]⟩ wCur wPrev :=
  detects_extension_range_delete wCur_wf pExtL_mem cExtL_mem rfl
    (r := (100, 200)) (k := 160) (by decide) (by decide) (by decide) (by decide)

example : Reports "MESSAGE_SAME_JSON_FORMAT" ⟨"MESSAGE_SAME_JSON_FORMAT", fileA, midP⟩ wCur wPrev :=
  detects_message_json_format_change wCur_wf pMidL_mem cMidL_mem rfl rfl rfl

example : Reports "MESSAGE_NO_REMOVE_STANDARD_DESCRIPTOR_ACCESSOR"
    ⟨"MESSAGE_NO_REMOVE_STANDARD_DESCRIPTOR_ACCESSOR", fileA, [4, 2, 7, 2]⟩ wCur wPrev :=
  detects_message_std_accessor_removal wCur_wf pExtL_mem cExtL_mem rfl rfl rfl

/-! fields of Inner that keep their number (the current indices are shifted by the new first field) -/

/-- field 2: int32 → string; located at the TYPE of the current field -/
example : Reports "FIELD_SAME_TYPE" ⟨"FIELD_SAME_TYPE", fileA, innerP ++ [2, 1, 5]⟩ wCur wPrev :=
  detects_type_change wCur_wf (innerL_paired (n := 2) (by decide))
    (by decide)

/-- field 3: message type acme.v1.Outer → acme.v1.Ext; located at the TYPE NAME -/
example : Reports "FIELD_SAME_TYPE" ⟨"FIELD_SAME_TYPE", fileA, innerP ++ [2, 2, 6]⟩ wCur wPrev :=
  detects_type_name_change wCur_wf (innerL_paired (n := 3) (by decide))
    rfl rfl (by decide)

example : Reports "FIELD_WIRE_COMPATIBLE_TYPE"
    ⟨"FIELD_WIRE_COMPATIBLE_TYPE", fileA, innerP ++ [2, 1, 5]⟩ wCur wPrev :=
  detects_wire_type_change wCur_wf (innerL_paired (n := 2) (by decide))
    (by decide) (by decide)

example : Reports "FIELD_WIRE_JSON_COMPATIBLE_TYPE"
    ⟨"FIELD_WIRE_JSON_COMPATIBLE_TYPE", fileA, innerP ++ [2, 1, 5]⟩ wCur wPrev :=
  detects_wire_json_type_change wCur_wf (innerL_paired (n := 2) (by decide))
    (by decide)

/-- field 4: optional (explicit presence) → repeated -/
example : Reports "FIELD_SAME_CARDINALITY" ⟨"FIELD_SAME_CARDINALITY", fileA, innerP ++ [2, 3]⟩ wCur wPrev :=
  detects_cardinality_change wCur_wf (innerL_paired (n := 4) (by decide))
    (by decide) (by decide)

example : Reports "FIELD_WIRE_JSON_COMPATIBLE_CARDINALITY"
    ⟨"FIELD_WIRE_JSON_COMPATIBLE_CARDINALITY", fileA, innerP ++ [2, 3]⟩ wCur wPrev :=
  detects_wire_json_cardinality_change wCur_wf (innerL_paired (n := 4) (by decide))
    (by decide) (by decide)

example : Reports "FIELD_WIRE_COMPATIBLE_CARDINALITY"
    ⟨"FIELD_WIRE_COMPATIBLE_CARDINALITY", fileA, innerP ++ [2, 3]⟩ wCur wPrev :=
  detects_wire_cardinality_change wCur_wf (innerL_paired (n := 4) (by decide))
    (by decide) (by decide)

/-- field 5: old_name → new_name; located at the NAME -/
example : Reports "FIELD_SAME_NAME" ⟨"FIELD_SAME_NAME", fileA, innerP ++ [2, 4, 1]⟩ wCur wPrev :=
  detects_name_change wCur_wf (innerL_paired (n := 5) (by decide))
    rfl (by decide)

/-- field 6: JSON name fJson → other; no `json_name` location in the current file: at the field -/
example : Reports "FIELD_SAME_JSON_NAME" ⟨"FIELD_SAME_JSON_NAME", fileA, innerP ++ [2, 5]⟩ wCur wPrev :=
  detects_json_name_change wCur_wf (innerL_paired (n := 6) (by decide))
    rfl (by decide)

/-- field 7 moved into oneof `choice` -/
example : Reports "FIELD_SAME_ONEOF" ⟨"FIELD_SAME_ONEOF", fileA, innerP ++ [2, 6]⟩ wCur wPrev :=
  detects_oneof_change wCur_wf (innerL_paired (n := 7) (by decide))
    rfl (by decide)

/-- field 8: default 5 → 7; located at the written default -/
example : Reports "FIELD_SAME_DEFAULT" ⟨"FIELD_SAME_DEFAULT", fileA, innerP ++ [2, 7, 7]⟩ wCur wPrev :=
  detects_default_change wCur_wf (innerL_paired (n := 8) (by decide))
    rfl rfl (by decide) (by decide)

/-- field 11 (int64): jstype JS_NORMAL → JS_STRING; no option location: at the field -/
example : Reports "FIELD_SAME_JSTYPE" ⟨"FIELD_SAME_JSTYPE", fileA, innerP ++ [2, 10]⟩ wCur wPrev :=
  detects_jstype_change wCur_wf (innerL_paired (n := 11) (by decide))
    rfl rfl (by decide)

/-- field 12 (string): utf8_validation VERIFY → NONE -/
example : Reports "FIELD_SAME_UTF8_VALIDATION"
    ⟨"FIELD_SAME_UTF8_VALIDATION", fileA, innerP ++ [2, 11]⟩ wCur wPrev :=
  detects_utf8_validation_change wCur_wf (innerL_paired (n := 12) (by decide))
    rfl rfl (by decide)

/-! extension 102 of acme.v1.Ext keeps extendee and number (the second half of the field pair handler) -/

/-- int32 → string: located at the type of the current extension, `[7,1]` -/
example : Reports "FIELD_SAME_TYPE" ⟨"FIELD_SAME_TYPE", fileA, [7, 1, 5]⟩ wCur wPrev :=
  detects_type_change wCur_wf kept_paired (by decide)
example : Reports "FIELD_WIRE_COMPATIBLE_TYPE" ⟨"FIELD_WIRE_COMPATIBLE_TYPE", fileA, [7, 1, 5]⟩ wCur wPrev :=
  detects_wire_type_change wCur_wf kept_paired (by decide) (by decide)
/-- acme.v1.kept_ext → acme.v1.renamed_ext -/
example : Reports "FIELD_SAME_NAME" ⟨"FIELD_SAME_NAME", fileA, [7, 1, 1]⟩ wCur wPrev :=
  detects_extension_name_change wCur_wf kept_paired (by decide) (by decide)

/-! RPCs of service Api (`[6,1]` in the current file; a new first RPC shifts the method indices) -/

/-- the generic theorem, instantiated with the response type -/
example : Reports "RPC_SAME_RESPONSE_TYPE" ⟨"RPC_SAME_RESPONSE_TYPE", fileA, [6, 1, 2, 2, 3]⟩ wCur wPrev :=
  detects_rpc_change wCur_wf pApiL_mem cApiL_mem rfl (pm := methodOf pApiL "Put") (cm := methodOf cApiL "Put")
    (by decide) (by decide) rfl "RPC_SAME_RESPONSE_TYPE" (·.output) [3]
    ruleTable_lookup (by decide)

example : Reports "RPC_SAME_REQUEST_TYPE" ⟨"RPC_SAME_REQUEST_TYPE", fileA, [6, 1, 2, 1, 2]⟩ wCur wPrev :=
  detects_rpc_request_type_change wCur_wf pApiL_mem cApiL_mem rfl (pm := methodOf pApiL "Get") (cm := methodOf cApiL "Get")
    (by decide) (by decide) rfl (by decide)

example : Reports "RPC_SAME_RESPONSE_TYPE" ⟨"RPC_SAME_RESPONSE_TYPE", fileA, [6, 1, 2, 2, 3]⟩ wCur wPrev :=
  detects_rpc_response_type_change wCur_wf pApiL_mem cApiL_mem rfl (pm := methodOf pApiL "Put") (cm := methodOf cApiL "Put")
    (by decide) (by decide) rfl (by decide)

example : Reports "RPC_SAME_CLIENT_STREAMING" ⟨"RPC_SAME_CLIENT_STREAMING", fileA, [6, 1, 2, 3]⟩ wCur wPrev :=
  detects_rpc_client_streaming_change wCur_wf pApiL_mem cApiL_mem rfl (pm := methodOf pApiL "Up") (cm := methodOf cApiL "Up")
    (by decide) (by decide) rfl (by decide)

example : Reports "RPC_SAME_SERVER_STREAMING" ⟨"RPC_SAME_SERVER_STREAMING", fileA, [6, 1, 2, 4]⟩ wCur wPrev :=
  detects_rpc_server_streaming_change wCur_wf pApiL_mem cApiL_mem rfl (pm := methodOf pApiL "Down") (cm := methodOf cApiL "Down")
    (by decide) (by decide) rfl (by decide)

example : Reports "RPC_SAME_IDEMPOTENCY_LEVEL"
    ⟨"RPC_SAME_IDEMPOTENCY_LEVEL", fileA, [6, 1, 2, 5, 4, 34]⟩ wCur wPrev :=
  detects_rpc_idempotency_change wCur_wf pApiL_mem cApiL_mem rfl (pm := methodOf pApiL "Idem") (cm := methodOf cApiL "Idem")
    (by decide) (by decide) rfl (by decide)

/-- acme/v1/c.proto moved from package acme.v1 to acme.v2 -/
example : Reports "FILE_SAME_PACKAGE" ⟨"FILE_SAME_PACKAGE", "acme/v1/c.proto", [2]⟩ wCur wPrev :=
  detects_file_package_change wCur_wf pC_mem cC_mem rfl (by decide)

/-- acme/v1/b.proto: proto2 → proto3 -/
example : Reports "FILE_SAME_SYNTAX" ⟨"FILE_SAME_SYNTAX", "acme/v1/b.proto", [12]⟩ wCur wPrev :=
  detects_file_syntax_change wCur_wf pB_mem cB_mem rfl (by decide)

/-- acme/v1/b.proto: go_package changed (java_package did not) -/
example : Reports "FILE_SAME_GO_PACKAGE" ⟨"FILE_SAME_GO_PACKAGE", "acme/v1/b.proto", [8, 11]⟩ wCur wPrev :=
  detects_file_option_change wCur_wf pB_mem cB_mem rfl "FILE_SAME_GO_PACKAGE" 11 rfl (by decide)

/-! the location terms on the witness: the nearest SURVIVING ancestor -/

/-- `Outer.Mid.Gone` → `Outer.Mid`; an element two levels below the deleted `Gone` → still `Outer.Mid`;
    a top-level element has no enclosing message -/
example : enclosing cA ["Outer", "Mid", "Gone"] = some cMidF ∧
    enclosing cA ["Outer", "Mid", "Gone", "Deep", "E"] = some cMidF ∧
    enclosing cA ["Status"] = none ∧ cMidF.path = midP ∧ msgAt cA midP = some cMid := by
  have h : enclosing cA ["Outer", "Mid", "Gone"] = some cMidF ∧
      enclosing cA ["Outer", "Mid", "Gone", "Deep", "E"] = some cMidF ∧
      enclosing cA ["Status"] = none ∧ cMidF.path = midP := by decide +kernel
  exact ⟨h.1, h.2.1, h.2.2.1, h.2.2.2, rfl⟩

/-! ### group / delimited encoded fields (witness `gPrev → gCur`)

    `g/e.proto` (edition 2023, file-level `features.message_encoding = DELIMITED`), message `g.M`:
      1 `a`   : `X a = 1;` → `Y a = 1;`            delimited by INHERITANCE on both sides (declared
                                                   type message, resolved kind group), type name changes
      2 `b`   : `X b = 2 [features.message_encoding = LENGTH_PREFIXED];` → the override is removed:
                                                   length-prefixed → delimited, type name unchanged
      3 `c`   : `X c = 3 [features.message_encoding = LENGTH_PREFIXED];` → `Y c = 3 [… LENGTH_PREFIXED]`
                                                   plain message field, type name changes
    `g/p.proto` (proto2), message `g.P`:
      1 `grp1` → `grp2` : `optional group Grp1 = 1 {…}` re-declared as `Grp2` (declared type group)
    a new first field shifts every index of `M`. -/

/-- field 1 of `M`: delimited (inherited) on both sides, `g.X` → `g.Y`: all three type rules, at the
    type name of the CURRENT field (index 1 after the new first field) -/
example :
    Reports "FIELD_SAME_TYPE" ⟨"FIELD_SAME_TYPE", "g/e.proto", [4, 0, 2, 1, 6]⟩ gCur gPrev ∧
    Reports "FIELD_WIRE_JSON_COMPATIBLE_TYPE" ⟨"FIELD_WIRE_JSON_COMPATIBLE_TYPE", "g/e.proto", [4, 0, 2, 1, 6]⟩ gCur gPrev ∧
    Reports "FIELD_WIRE_COMPATIBLE_TYPE" ⟨"FIELD_WIRE_COMPATIBLE_TYPE", "g/e.proto", [4, 0, 2, 1, 6]⟩ gCur gPrev :=
  detects_group_encoded_type_name_change gCur_wf (gM_paired 1 (by decide) (by decide) rfl)
    rfl rfl (Or.inr rfl) (by decide)

/-- the proto2 group `Grp1` re-declared as `Grp2` (declared type group) -/
example :
    Reports "FIELD_SAME_TYPE" ⟨"FIELD_SAME_TYPE", "g/p.proto", [4, 0, 2, 0, 6]⟩ gCur gPrev ∧
    Reports "FIELD_WIRE_JSON_COMPATIBLE_TYPE" ⟨"FIELD_WIRE_JSON_COMPATIBLE_TYPE", "g/p.proto", [4, 0, 2, 0, 6]⟩ gCur gPrev ∧
    Reports "FIELD_WIRE_COMPATIBLE_TYPE" ⟨"FIELD_WIRE_COMPATIBLE_TYPE", "g/p.proto", [4, 0, 2, 0, 6]⟩ gCur gPrev :=
  detects_group_encoded_type_name_change gCur_wf gP_paired rfl rfl (Or.inl rfl) (by decide)

/-- field 2 of `M`: length-prefixed → delimited, same type name: a changed TYPE for all three rules -/
example :
    Reports "FIELD_SAME_TYPE" ⟨"FIELD_SAME_TYPE", "g/e.proto", [4, 0, 2, 2, 6]⟩ gCur gPrev ∧
    Reports "FIELD_WIRE_JSON_COMPATIBLE_TYPE" ⟨"FIELD_WIRE_JSON_COMPATIBLE_TYPE", "g/e.proto", [4, 0, 2, 2, 6]⟩ gCur gPrev ∧
    Reports "FIELD_WIRE_COMPATIBLE_TYPE" ⟨"FIELD_WIRE_COMPATIBLE_TYPE", "g/e.proto", [4, 0, 2, 2, 6]⟩ gCur gPrev :=
  detects_message_encoding_flip gCur_wf (gM_paired 2 (by decide) (by decide) rfl) (Or.inl ⟨rfl, rfl⟩)

/-- field 3 of `M`: a plain (length-prefixed) message field, `g.X` → `g.Y`: the type-NAME branch of
    the two wire rules -/
example : Reports "FIELD_WIRE_COMPATIBLE_TYPE" ⟨"FIELD_WIRE_COMPATIBLE_TYPE", "g/e.proto", [4, 0, 2, 3, 6]⟩ gCur gPrev :=
  detects_wire_message_type_name_change gCur_wf (gM_paired 3 (by decide) (by decide) rfl) rfl (Or.inr rfl) (by decide)

example : Reports "FIELD_WIRE_JSON_COMPATIBLE_TYPE"
    ⟨"FIELD_WIRE_JSON_COMPATIBLE_TYPE", "g/e.proto", [4, 0, 2, 3, 6]⟩ gCur gPrev :=
  detects_wire_json_message_type_name_change gCur_wf (gM_paired 3 (by decide) (by decide) rfl) rfl (Or.inr rfl) (by decide)

/-! ### defaults above 2^53 (witness `dPrev → dCur`, Lemmas/BreakingWitness.lean): int64
    9007199254740993 → 9007199254740992, uint64 MaxUint64 → MaxUint64-1, sint64 MinInt64+1 → MinInt64
    (each pair rounds to ONE float64) and string "abc" → "ABC" -/

example : Reports "FIELD_SAME_DEFAULT" ⟨"FIELD_SAME_DEFAULT", "lim.proto", [4, 0, 2, 0, 7]⟩ dCur dPrev :=
  detects_integer_default_change dCur_wf (dM_paired 1 (by decide) (by decide) rfl) rfl rfl rfl rfl (by decide) (by decide)
example : Reports "FIELD_SAME_DEFAULT" ⟨"FIELD_SAME_DEFAULT", "lim.proto", [4, 0, 2, 1, 7]⟩ dCur dPrev :=
  detects_integer_default_change dCur_wf (dM_paired 2 (by decide) (by decide) rfl) rfl rfl rfl rfl (by decide) (by decide)
example : Reports "FIELD_SAME_DEFAULT" ⟨"FIELD_SAME_DEFAULT", "lim.proto", [4, 0, 2, 2, 7]⟩ dCur dPrev :=
  detects_integer_default_change dCur_wf (dM_paired 3 (by decide) (by decide) rfl) rfl rfl rfl rfl (by decide) (by decide)
example : Reports "FIELD_SAME_DEFAULT" ⟨"FIELD_SAME_DEFAULT", "lim.proto", [4, 0, 2, 3, 7]⟩ dCur dPrev :=
  detects_default_change dCur_wf (dM_paired 4 (by decide) (by decide) rfl) rfl rfl (by decide) (by decide)

/-! ### the ALIAS family of the enum-value rules (witness `alPrev → alCurSome / alCurAll`)

    With `allow_alias` a number has several names.  The three deletion rules pair values by NUMBER
    (a number "is deleted" when NO value carries it any more) and the name rule exempts the deletion
    only when EVERY previous name of the number is reserved; ENUM_VALUE_SAME_NAME speaks about numbers
    that still exist.  `detects_enum_value_delete_unless_name_reserved` above already has the
    all-names reading (its hypothesis is about ONE unreserved name `pv`, whatever happens to the
    other names of the number); the statements below spell the family out. -/

/-- PARTIAL reservation: two names `a`, `b` of one number, every value of the number is gone, `a` is
    reserved and `b` is not ⇒ ENUM_VALUE_NO_DELETE_UNLESS_NAME_RESERVED reports (the regression
    "some name is reserved ⇒ fine" makes exactly this statement false). -/
theorem detects_enum_value_delete_partial_name_reservation (hw : WF cur) {pe ce : FlatEnum} {a b : EnumValue}
    (hpe : pe ∈ allEnums prev) (hce : ce ∈ allEnums cur) (hname : ce.fullName = pe.fullName)
    (_ha : a ∈ pe.enum.values) (hb : b ∈ pe.enum.values) (_hab : a.number = b.number)
    (hdel : ∀ cv ∈ ce.enum.values, cv.number ≠ b.number)
    (_hares : a.name ∈ ce.enum.reservedNames) (hbres : b.name ∉ ce.enum.reservedNames) :
    Reports "ENUM_VALUE_NO_DELETE_UNLESS_NAME_RESERVED"
      (enumLoc ce "ENUM_VALUE_NO_DELETE_UNLESS_NAME_RESERVED" pe.file) cur prev :=
  detects_enum_value_delete_unless_name_reserved hw hpe hce hname hb hdel hbres

theorem enumPairs_nil_of {f : FlatEnum → FlatEnum → List Ann}
    (h : ∀ pe ∈ allEnums prev, ∀ ce ∈ allEnums cur, ce.fullName = pe.fullName → f ce pe = []) :
    enumPairs cur prev f = [] :=
  enumPairs_nil_of_paired h

/-- SILENCE of the name rule: whenever a number is gone from an enum, ALL its previous names are
    reserved ⇒ ENUM_VALUE_NO_DELETE_UNLESS_NAME_RESERVED reports nothing at all. -/
theorem enum_value_delete_all_names_reserved_silent
    (h : ∀ pe ∈ allEnums prev, ∀ ce ∈ allEnums cur, ce.fullName = pe.fullName →
      ∀ pv ∈ pe.enum.values, (∀ cv ∈ ce.enum.values, cv.number ≠ pv.number) →
        ∀ w ∈ pe.enum.values, w.number = pv.number → w.name ∈ ce.enum.reservedNames) :
    runRule "ENUM_VALUE_NO_DELETE_UNLESS_NAME_RESERVED" cur prev = [] := by
  rw [runRule_of_mem (f := enumValueNoDelete "ENUM_VALUE_NO_DELETE_UNLESS_NAME_RESERVED" false true) cur prev]
  refine enumValueNoDelete_nil_of _ _ _ fun pe hpe ce hce hname pv hpv hdel => List.all_eq_true.2 fun w hw => ?_
  obtain ⟨h1, h2⟩ := List.mem_filter.1 hw
  simpa using h pe hpe ce hce hname pv hpv hdel w h1 (by simpa using h2)

/-- SILENCE of the number rule: every number that is gone lies inside a reserved range ⇒
    ENUM_VALUE_NO_DELETE_UNLESS_NUMBER_RESERVED reports nothing. -/
theorem enum_value_delete_number_reserved_silent
    (h : ∀ pe ∈ allEnums prev, ∀ ce ∈ allEnums cur, ce.fullName = pe.fullName →
      ∀ pv ∈ pe.enum.values, (∀ cv ∈ ce.enum.values, cv.number ≠ pv.number) →
        ∃ r ∈ ce.enum.reservedRanges, r.1 ≤ pv.number ∧ pv.number ≤ r.2) :
    runRule "ENUM_VALUE_NO_DELETE_UNLESS_NUMBER_RESERVED" cur prev = [] := by
  rw [runRule_of_mem (f := enumValueNoDelete "ENUM_VALUE_NO_DELETE_UNLESS_NUMBER_RESERVED" true false) cur prev]
  refine enumValueNoDelete_nil_of _ _ _ fun pe hpe ce hce hname pv hpv hdel => ?_
  obtain ⟨r, hr, hin⟩ := h pe hpe ce hce hname pv hpv hdel
  exact List.any_eq_true.2 ⟨r, hr, by simpa [rangeHas] using hin⟩

/-- a number that still has a value is no business of the three deletion rules, whatever happened
    to its other names (removing an alias is ENUM_VALUE_SAME_NAME's business) -/
theorem enum_value_number_kept_silent (rule : String) (allowNumber allowName : Bool)
    (h : ∀ pe ∈ allEnums prev, ∀ ce ∈ allEnums cur, ce.fullName = pe.fullName →
      ∀ pv ∈ pe.enum.values, ∃ cv ∈ ce.enum.values, cv.number = pv.number) :
    enumValueNoDelete rule allowNumber allowName cur prev = [] :=
  enumValueNoDelete_nil_of _ _ _ fun pe hpe ce hce hname pv hpv hdel =>
    have ⟨cv, hcv, heq⟩ := h pe hpe ce hce hname pv hpv
    absurd heq (hdel cv hcv)

/-- the regression "ANY previous name of the deleted number is reserved ⇒ allowed"
    (`slices.ContainsFunc` instead of the all-names loop of `isDeletedEnumValueAllowedWithRules`) -/
def enumValueNoDeleteAnyName (cur prev : Schema) : List Ann :=
  enumPairs cur prev fun c p =>
    p.enum.values.flatMap fun pv =>
      if c.enum.hasNumber pv.number then [] else
      if (p.enum.values.filter fun w => decide (w.number = pv.number)).any fun w => decide (w.name ∈ c.enum.reservedNames)
      then [] else [enumLoc c "ENUM_VALUE_NO_DELETE_UNLESS_NAME_RESERVED" p.file]

/-- On `alPrev → alCurSome` (number 1 = {ON, ENABLED} gone, only ON reserved; nested number 5 =
    {B, C} gone, only C reserved) the rule as coded reports at both enums, the ANY reading reports
    NOTHING; with both names reserved (`alCurAll`, nested enum unchanged) the coded rule still
    reports the nested enum only. -/
theorem enum_value_any_name_reserved_counterexample :
    runRule "ENUM_VALUE_NO_DELETE_UNLESS_NAME_RESERVED" alCurSome alPrev =
      [⟨"ENUM_VALUE_NO_DELETE_UNLESS_NAME_RESERVED", "al.proto", [5, 0]⟩,
       ⟨"ENUM_VALUE_NO_DELETE_UNLESS_NAME_RESERVED", "al.proto", [5, 0]⟩,
       ⟨"ENUM_VALUE_NO_DELETE_UNLESS_NAME_RESERVED", "al.proto", [4, 0, 4, 0]⟩,
       ⟨"ENUM_VALUE_NO_DELETE_UNLESS_NAME_RESERVED", "al.proto", [4, 0, 4, 0]⟩] ∧
    enumValueNoDeleteAnyName alCurSome alPrev = [] ∧
    runRule "ENUM_VALUE_NO_DELETE_UNLESS_NAME_RESERVED" alCurAll alPrev =
      [⟨"ENUM_VALUE_NO_DELETE_UNLESS_NAME_RESERVED", "al.proto", [4, 0, 4, 0]⟩,
       ⟨"ENUM_VALUE_NO_DELETE_UNLESS_NAME_RESERVED", "al.proto", [4, 0, 4, 0]⟩] := by decide +kernel

/-- number 1 of the top-level enum `Mode` had the names ON and ENABLED; both values are gone and only
    ON is reserved: reported at the enum, in every configuration where the rule is active -/
example : Reports "ENUM_VALUE_NO_DELETE_UNLESS_NAME_RESERVED"
    ⟨"ENUM_VALUE_NO_DELETE_UNLESS_NAME_RESERVED", "al.proto", [5, 0]⟩ alCurSome alPrev :=
  detects_enum_value_delete_partial_name_reservation alCurSome_wf alpMode_mem alcMode_mem alMode_name
    (a := ⟨"ON", 1⟩) (b := ⟨"ENABLED", 1⟩) (by decide) (by decide) rfl (by decide) (by decide) (by decide)

/-- the same in the nested enum `Holder.Inner` (number 5 = {B, C}, only C reserved) -/
example : Reports "ENUM_VALUE_NO_DELETE_UNLESS_NAME_RESERVED"
    ⟨"ENUM_VALUE_NO_DELETE_UNLESS_NAME_RESERVED", "al.proto", [4, 0, 4, 0]⟩ alCurSome alPrev :=
  detects_enum_value_delete_partial_name_reservation alCurSome_wf alpInner_mem alcInner_mem alInner_name
    (a := ⟨"C", 5⟩) (b := ⟨"B", 5⟩) (by decide) (by decide) rfl (by decide) (by decide) (by decide)

/-- the whole number is gone: ENUM_VALUE_NO_DELETE, whatever is reserved -/
example : Reports "ENUM_VALUE_NO_DELETE" ⟨"ENUM_VALUE_NO_DELETE", "al.proto", [5, 0]⟩ alCurAll alPrev :=
  detects_enum_value_delete alCurAll_wf alpMode_mem (by decide : enumOf alCurAll ["al", "Mode"] ∈ allEnums alCurAll)
    (by decide) (pv := ⟨"X", 3⟩) (by decide) (by decide)

/-- `reserved 6 to 8;` lies NEXT TO the deleted number 5 of `Inner`: the number rule reports -/
example : Reports "ENUM_VALUE_NO_DELETE_UNLESS_NUMBER_RESERVED"
    ⟨"ENUM_VALUE_NO_DELETE_UNLESS_NUMBER_RESERVED", "al.proto", [4, 0, 4, 0]⟩ alCurSome alPrev :=
  detects_enum_value_delete_unless_number_reserved alCurSome_wf alpInner_mem alcInner_mem alInner_name
    (pv := ⟨"B", 5⟩) (by decide) (by decide) (by decide)

/-- number 3 = {X, Y} of `Mode` is gone with `reserved 3;`, number 1 without: the number rule reports
    the enum exactly twice (ON and ENABLED, number 1), nothing for number 3 -/
example : (runRule "ENUM_VALUE_NO_DELETE_UNLESS_NUMBER_RESERVED" alCurSome alPrev).filter (fun a => a.path == [5, 0]) =
    [⟨"ENUM_VALUE_NO_DELETE_UNLESS_NUMBER_RESERVED", "al.proto", [5, 0]⟩,
     ⟨"ENUM_VALUE_NO_DELETE_UNLESS_NUMBER_RESERVED", "al.proto", [5, 0]⟩] := by decide +kernel

/-- alias OLD of number 2 is gone, LEGACY and ANCIENT stay: ENUM_VALUE_SAME_NAME at the number of
    BOTH remaining names (2nd and 3rd value of the current enum) -/
example : Reports "ENUM_VALUE_SAME_NAME" ⟨"ENUM_VALUE_SAME_NAME", "al.proto", [5, 0, 2, 1, 2]⟩ alCurSome alPrev ∧
    Reports "ENUM_VALUE_SAME_NAME" ⟨"ENUM_VALUE_SAME_NAME", "al.proto", [5, 0, 2, 2, 2]⟩ alCurSome alPrev :=
  ⟨detects_enum_value_rename alCurSome_wf alpMode_mem alcMode_mem alMode_name
      (pv := ⟨"OLD", 2⟩) (jw := (1, ⟨"LEGACY", 2⟩)) (by decide) (by decide) rfl (by decide),
   detects_enum_value_rename alCurSome_wf alpMode_mem alcMode_mem alMode_name
      (pv := ⟨"OLD", 2⟩) (jw := (2, ⟨"ANCIENT", 2⟩)) (by decide) (by decide) rfl (by decide)⟩

/-- `enum_value_delete_all_names_reserved_silent` is not vacuous: the top-level enum of `alCurAll`
    satisfies its hypothesis (numbers 1 and 3 gone, all four names reserved) -/
example : ∀ pv ∈ alpMode.enum.values, (∀ cv ∈ (enumOf alCurAll ["al", "Mode"]).enum.values, cv.number ≠ pv.number) →
    ∀ w ∈ alpMode.enum.values, w.number = pv.number → w.name ∈ (enumOf alCurAll ["al", "Mode"]).enum.reservedNames := by
  decide

end BufProofs.C03
