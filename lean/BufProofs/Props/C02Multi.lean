import BufProofs.Props.C02
import BufProofs.Lemmas.MultiFailLemmas
import BufProofs.Lemmas.MultiClientLemmas
/-
  C02, continued — several failures at once.

  (1) Multi-failure workspaces: the module-dependency traversal (`Module.ModuleDeps()`,
      `ModuleSetToDAG`) fails in two or more dependencies; WHICH failure the error names must not
      depend on the order in which the storage enumerated the files.  Model:
      BufModel.MultiFail (= Graph.depsRec with identities).  Harness family: harness/cmd/c02/multifail.go.
  (2) Multi-client checks: lint / breaking fan out over several check clients of which some fail;
      the combined error must not depend on which client finished first nor on the parallelism.
      Model: BufModel.MultiClient over Parallel.joinedErrors.  Harness family: harness/cmd/c02/multiclient.go.
-/
namespace BufProofs.C02
open BufModel.Path BufModel.Graph BufModel.MultiFail

/-! ## (1) the traversal with several failing dependencies -/

/-- The id-carrying traversal is the traversal of C10's model: forgetting WHICH module / file /
    cycle an error names turns `moduleDepsE` into `Graph.moduleDeps` (for every workspace Graph.lean
    can express: no unparsable files, no documentation files). -/
theorem mf_erase_refines_graph (t : MFWS) (hb : t.broken = []) (hd : t.docs = []) (r : Nat) :
    eraseE (moduleDepsE t r) = moduleDeps t.ws r :=
  mf_moduleDepsE_erase t hb hd r

/-- The result of `ModuleDeps()` as coded — the dependency list, or the error WITH the identity of
    the failing file / module / cycle — is the same for every order in which the storage
    enumerates the files of the modules (`WalkPerm`: same modules, every module's files in another
    order), provided no module has two scan failures of its own (`scanDet`, decidable; see
    `mf_two_scan_failures_walk_order_counterexample` for why it is needed).  However many
    DEPENDENCIES fail, at whatever depth: the descent visits them in OpaqueID order. -/
theorem mf_error_walk_order_irrelevant (t t' : MFWS) (h : WalkPerm t t') (hdet : scanDet t = true) (r : Nat) :
    moduleDepsE t r = moduleDepsE t' r :=
  mf_moduleDepsE_walk_perm h hdet r

/-- … and so is `ModuleSetToDAG`. -/
theorem mf_dag_walk_order_irrelevant (t t' : MFWS) (h : WalkPerm t t') (hdet : scanDet t = true) :
    toDAGE t = toDAGE t' :=
  mf_toDAGE_walk_perm h hdet

/-- The one scan of a module, as coded: it fails with the FIRST scan failure in walk order, and
    otherwise discovers the owners of all imports (`discover`: each new owner once). -/
theorem mf_scan_first_failure_in_walk_order (t : MFWS) (m : Nat) (dir : Bool) (d : DepMap) :
    scanFilesE t m dir (modFiles t.ws m) d [] =
      match (scanErrs t m).head? with
      | some e => .error e
      | none => .ok (d ++ (discover t m ((modFiles t.ws m).flatMap (·.imports)) (DepMap.keys d)).map (fun k => (k, dir)),
                     discover t m ((modFiles t.ws m).flatMap (·.imports)) (DepMap.keys d)) := by
  rw [mf_scanFilesE_eq]
  unfold scanErrs
  cases ((modFiles t.ws m).flatMap (fileErrs t m)).head? <;> simp

/-- the two workspaces of seed C02-m9's demo: module 2 (`m`) imports module 1 (`b`) from x.proto and
    module 0 (`a`) from y.proto; `a` and `b` each have an import nobody provides.  `mfDemo false` is
    the walk x, y; `mfDemo true` the walk y, x. -/
def mfDemo (reversed : Bool) : MFWS :=
  let a : Mod := { files := [{ path := "a/a.proto".toList, imports := ["a/missing_a.proto".toList] }], isTarget := true, isLocal := true }
  let b : Mod := { files := [{ path := "b/b.proto".toList, imports := ["b/missing_b.proto".toList] }], isTarget := true, isLocal := true }
  let x : PFile := { path := "m/x.proto".toList, imports := ["b/b.proto".toList] }
  let y : PFile := { path := "m/y.proto".toList, imports := ["a/a.proto".toList] }
  { ws := { mods := [a, b, { files := if reversed then [y, x] else [x, y], isTarget := true, isLocal := true }], wkt := [] } }

/-- the same with `a` and `b` importing back into `m`: two module cycles through `m`. -/
def mfDemoCycles (reversed : Bool) : MFWS :=
  let a : Mod := { files := [{ path := "a/a.proto".toList, imports := ["m/x.proto".toList] }], isTarget := true, isLocal := true }
  let b : Mod := { files := [{ path := "b/b.proto".toList, imports := ["m/y.proto".toList] }], isTarget := true, isLocal := true }
  let x : PFile := { path := "m/x.proto".toList, imports := ["b/b.proto".toList] }
  let y : PFile := { path := "m/y.proto".toList, imports := ["a/a.proto".toList] }
  { ws := { mods := [a, b, { files := if reversed then [y, x] else [x, y], isTarget := true, isLocal := true }], wkt := [] } }

/-- The stored regression C02-m9 (the sort before the descent dropped): the traversal in DISCOVERY
    order names module `b`'s failure for one walk and module `a`'s for the other … -/
theorem mf_unsorted_walk_order_counterexample :
    moduleDepsUnsorted (mfDemo false) 2 = .error (.importNotExist "b/b.proto".toList "b/missing_b.proto".toList) ∧
    moduleDepsUnsorted (mfDemo true) 2 = .error (.importNotExist "a/a.proto".toList "a/missing_a.proto".toList) := by
  decide +kernel

/-- … and a different module cycle. -/
theorem mf_unsorted_cycle_walk_order_counterexample :
    moduleDepsUnsorted (mfDemoCycles false) 2 = .error (.cycle [2, 1, 2]) ∧
    moduleDepsUnsorted (mfDemoCycles true) 2 = .error (.cycle [2, 0, 2]) := by
  decide +kernel

/-- The code that exists names module `a` (the smaller OpaqueID) for both walks. -/
theorem mf_sorted_demo :
    moduleDepsE (mfDemo false) 2 = .error (.importNotExist "a/a.proto".toList "a/missing_a.proto".toList) ∧
    moduleDepsE (mfDemo true) 2 = moduleDepsE (mfDemo false) 2 ∧
    moduleDepsE (mfDemoCycles false) 2 = .error (.cycle [2, 0, 2]) ∧
    moduleDepsE (mfDemoCycles true) 2 = moduleDepsE (mfDemoCycles false) 2 := by
  decide +kernel

/-- Why `scanDet` is a hypothesis: ONE module with two files that each have an unresolvable import.
    As coded the error names the file the storage enumerated first (storage.ReadBucket.Walk promises
    no order; memory and disk buckets differ for `foo/…` and `foo-bar/…`).  Recorded as an observation
    by the harness family (members of kind `within`). -/
theorem mf_two_scan_failures_walk_order_counterexample :
    let f1 : PFile := { path := "d/foo/one.proto".toList, imports := ["d/missing_one.proto".toList] }
    let f2 : PFile := { path := "d/foo-bar/two.proto".toList, imports := ["d/missing_two.proto".toList] }
    let t (fs : List PFile) : MFWS := { ws := { mods := [{ files := fs, isTarget := true, isLocal := true }], wkt := [] } }
    moduleDepsE (t [f1, f2]) 0 = .error (.importNotExist f1.path "d/missing_one.proto".toList) ∧
    moduleDepsE (t [f2, f1]) 0 = .error (.importNotExist f2.path "d/missing_two.proto".toList) ∧
    scanDet (t [f1, f2]) = false := by
  decide +kernel

-- the hypotheses of `mf_error_walk_order_irrelevant` are satisfiable, on the demo itself
example : moduleDepsE (mfDemo false) 2 = moduleDepsE (mfDemo true) 2 :=
  mf_error_walk_order_irrelevant _ _
    { len := by decide
      files := by
        intro m
        rcases m with _ | _ | _ | m
        · simp [mfDemo, modFiles]
        · simp [mfDemo, modFiles]
        · simp only [mfDemo, modFiles, List.getElem?_cons_succ, List.getElem?_cons_zero, Option.map_some, Option.getD_some]
          exact List.Perm.swap _ _ _
        · simp [mfDemo, modFiles]
      wkt := by intro p; simp [mfDemo, isWkt]
      broken := by decide
      docs := by decide
      targets := by decide }
    (by decide) 2

/-! ## (2) several check clients, some failing -/
section MultiClient
open BufModel.Parallel BufModel.MultiClient BufProofs.MultiClientLemmas

/-- The combined error of `multiClient.Check` as coded: the errors of the failing clients in CONFIG
    order, for EVERY schedule in which all clients with a job have finished (nothing is cancelled, so
    they all do) — whichever client finished first, whatever the parallelism. -/
theorem mc_error_is_failing_clients_in_config_order (os : List Outcome) (finished : List Nat)
    (hall : ∀ c ∈ jobClients os, c ∈ finished) :
    checkErr os finished = ((List.range os.length).filter fun i => os.getD i .noRule == .fails).map .client := by
  unfold checkErr joined
  have hlen : (jobFails os).length = (jobClients os).length := by simp [jobFails]
  rw [parallelize_errors_without_cancel (jobFails os) (toJobs os finished)]
  · rw [List.map_map, hlen]
    have h1 : (itemOfJob os ∘ PErrItem.job) = (MCItem.client ∘ fun j => (jobClients os).getD j os.length) := by
      funext j; rfl
    rw [h1, ← List.map_map]
    unfold jobFails
    rw [mc_filter_getD (jobClients os) (fun i => os.getD i .noRule == .fails) os.length]
    unfold jobClients
    rw [List.filter_filter]
    congr 1
    apply List.filter_congr
    intro i _
    cases h : os.getD i .noRule <;> simp [Outcome.hasJob]
  · intro j hj
    rw [hlen] at hj
    unfold toJobs
    rw [List.mem_flatMap]
    refine ⟨(jobClients os).getD j os.length, hall _ ?_, ?_⟩
    · have : (jobClients os).getD j os.length = (jobClients os)[j] := by
        simp [List.getD_eq_getElem?_getD, hj]
      rw [this]
      exact List.getElem_mem hj
    · rw [List.mem_filter]
      exact ⟨List.mem_range.mpr hj, by simp⟩

/-- Two schedules, one error. -/
theorem mc_error_schedule_irrelevant (os : List Outcome) (finished₁ finished₂ : List Nat)
    (h₁ : ∀ c ∈ jobClients os, c ∈ finished₁) (h₂ : ∀ c ∈ jobClients os, c ∈ finished₂) :
    checkErr os finished₁ = checkErr os finished₂ := by
  rw [mc_error_is_failing_clients_in_config_order os finished₁ h₁,
    mc_error_is_failing_clients_in_config_order os finished₂ h₂]

/-- The call fails exactly when some client fails. -/
theorem mc_error_iff_some_client_fails (os : List Outcome) (finished : List Nat)
    (hall : ∀ c ∈ jobClients os, c ∈ finished) :
    checkErr os finished ≠ [] ↔ ∃ i, i < os.length ∧ os.getD i .noRule = .fails := by
  rw [mc_error_is_failing_clients_in_config_order os finished hall]
  rw [ne_eq, List.map_eq_nil_iff, List.filter_eq_nil_iff]
  constructor
  · intro h
    apply Classical.byContradiction
    intro hn
    apply h
    intro i hi hf
    exact hn ⟨i, List.mem_range.mp hi, by simpa using hf⟩
  · rintro ⟨i, hi, hf⟩ h
    exact h i (List.mem_range.mpr hi) (by rw [hf]; rfl)

/-- The stored regression C02-m10 (`thread.ParallelizeWithCancelOnFailure()` in the fan-out): the
    same two failing clients, four schedules, four different errors — both finish; the dispatch
    loop sees the cancellation before client 1 is started (parallelism 1); client 1 is running when
    client 0 fails and reports the cancellation; the other way round. -/
theorem mc_cancel_on_failure_schedule_counterexample :
    checkErrCancel [.fails, .fails] [0, 1] none [] = [.client 0, .client 1] ∧
    checkErrCancel [.fails, .fails] [0] (some 1) [] = [.client 0, .ctx] ∧
    checkErrCancel [.fails, .fails] [0, 1] none [1] = [.client 0, .cancelled 1] ∧
    checkErrCancel [.fails, .fails] [1, 0] none [0] = [.cancelled 0, .client 1] := by
  decide

/-- … while a HEALTHY client overtaken by the cancellation turns up in the error as well. -/
theorem mc_cancel_on_failure_healthy_client_counterexample :
    checkErrCancel [.ok, .fails] [1, 0] none [0] = [.cancelled 0, .client 1] ∧
    checkErr [.ok, .fails] [1, 0] = [.client 1] := by
  decide

/-- Joining the errors in completion order (a fan-out that collects the errors itself) is
    schedule-dependent too. -/
theorem mc_completion_order_counterexample :
    checkErrCompletionOrder [.fails, .fails] [0, 1] ≠ checkErrCompletionOrder [.fails, .fails] [1, 0] := by
  decide

/-- Why no successful run notices cancel-on-failure: without a failing client the variant reports
    no error either. -/
theorem mc_cancel_invisible_without_failure (os : List Outcome) (finished : List Nat)
    (hok : ∀ i, os.getD i .noRule ≠ .fails) :
    checkErrCancel os finished none [] = [] := by
  unfold checkErrCancel
  rw [List.filterMap_eq_nil_iff]
  intro j _
  have h2 : (os.getD ((jobClients os).getD j os.length) .noRule == Outcome.fails) = false := by
    have h1 := hok ((jobClients os).getD j os.length)
    cases h : os.getD ((jobClients os).getD j os.length) .noRule <;> simp_all
  simp only [List.getD_eq_getElem?_getD] at h2 ⊢
  simp [h2]

example : checkErr [.fails, .noRule, .ok, .fails] [3, 2, 0] = [.client 0, .client 3] := by decide
example : checkErr [.fails, .noRule, .ok, .fails] [0, 2, 3] = [.client 0, .client 3] :=
  (mc_error_schedule_irrelevant _ [0, 2, 3] [3, 2, 0] (by decide) (by decide)).trans (by decide)
example : mustRun [.fails, .noRule, .ok, .fails] = [0, 2, 3] := by decide

end MultiClient

end BufProofs.C02
