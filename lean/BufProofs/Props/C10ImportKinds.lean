import BufProofs.Props.C10
/-
  C10 — import MODIFIERS (seeds C10-m10 / C08-m9).

  `fastscan.Result.Imports` carries `IsPublic` / `IsWeak` next to every path; the code that exists
  (`getModuleDepsRec`, `FileInfo.Imports()`, the image closure) reads the path only.
  `BufModel.Graph.KFile` is a file with its import STATEMENTS (path + modifier), `KFile.scan` what
  the code makes of it — the function Driver/C10 runs on every protocol line.  Every statement
  counts whatever its modifier, and nothing depends on the modifiers.  The COUNTER-MODEL
  `moduleDepsSkipWeak` (a `getModuleDepsRec` that `continue`s on `imp.IsWeak`) agrees with the code on
  every module set without weak imports — why a generator without weak imports cannot see the
  regression — and violates the property on concrete module sets.
-/
namespace BufProofs.C10
open BufModel.Path BufModel.Graph BufModel.Targeting

/-! ### every statement counts -/

/-- the scanned import list is the list of the statements' paths, in source order. -/
theorem ik_scan_imports (f : KFile) : f.scan.imports = f.stmts.map (·.1) := rfl

/-- an import statement of ANY modifier is an import of the scanned file. -/
theorem ik_scan_mem (f : KFile) (p : Str) (kd : ImpKind) (h : (p, kd) ∈ f.stmts) : p ∈ f.scan.imports :=
  List.mem_map.mpr ⟨(p, kd), h, rfl⟩

theorem ik_modFiles_scan (k : KWS) (m : Nat) : modFiles k.scan m = (kmodFiles k m).map KFile.scan := by
  unfold modFiles kmodFiles KWS.scan
  simp only [List.getElem?_map]
  cases k.mods[m]? <;> simp [KMod.scanWith]

/-- an import statement of ANY modifier in a file of module `r` is one of the imports
    `getModuleDepsRec` iterates over for `r`. -/
theorem ik_stmt_mem_allImports (k : KWS) (r : Nat) (f : KFile) (p : Str) (kd : ImpKind)
    (hf : f ∈ kmodFiles k r) (hs : (p, kd) ∈ f.stmts) : p ∈ allImports k.scan r := by
  unfold allImports
  rw [ik_modFiles_scan, List.mem_flatMap]
  exact ⟨f.scan, List.mem_map.mpr ⟨f, hf, rfl⟩, ik_scan_mem f p kd hs⟩

/-- An import statement — plain, public or weak — of a file another module `d` provides is an
    edge `r → d` of the module graph the property talks about. -/
theorem ik_stmt_is_edge (k : KWS) (r d : Nat) (f : KFile) (p : Str) (kd : ImpKind)
    (hf : f ∈ kmodFiles k r) (hs : (p, kd) ∈ f.stmts) (ho : owner k.scan p = .one d) (hne : d ≠ r) :
    d ∈ msucc k.scan r :=
  mem_msucc.mpr ⟨p, ik_stmt_mem_allImports k r f p kd hf hs, ho, hne⟩

/-- In EVERY successful `ModuleDeps()` of `r` (no hypothesis on the module set) the module that
    provides a file `r` imports — through a statement of any modifier, even when that statement
    is the only link between the two modules — is listed, and listed as a DIRECT dependency. -/
theorem ik_stmt_is_direct_dep (k : KWS) (r d : Nat) (f : KFile) (p : Str) (kd : ImpKind)
    (hf : f ∈ kmodFiles k r) (hs : (p, kd) ∈ f.stmts) (ho : owner k.scan p = .one d) (hne : d ≠ r)
    (ds : DepMap) (h : moduleDepsK k r = .ok ds) : (d, true) ∈ ds := by
  have hedge := ik_stmt_is_edge k r d f p kd hf hs ho hne
  obtain ⟨_, hmem, _, hdir⟩ := deps_sound k.scan r ds h
  have hr : ReachPlus (msuccO k.scan) r d := ReachPlus.of_succ (cs := msucc k.scan r) rfl hedge
  have hk : d ∈ DepMap.keys ds := (hmem d).mpr hr
  obtain ⟨e, he, hed⟩ := List.mem_map.mp hk
  obtain ⟨x, b⟩ := e
  simp only at hed; subst hed
  have hb : b = true := (hdir x b he).mpr hedge
  subst hb; exact he

/-- The exactness clause: if everything reachable from `r`
    resolves and `r` lies on no cycle, `ModuleDeps()` succeeds and lists, as a direct dependency,
    the provider of every file `r` imports with ANY modifier. -/
theorem ik_only_link_reported (k : KWS) (r d : Nat) (f : KFile) (p : Str) (kd : ImpKind)
    (hg : Good k.scan r) (hn : ¬ ReachPlus (msuccO k.scan) r r)
    (hf : f ∈ kmodFiles k r) (hs : (p, kd) ∈ f.stmts) (ho : owner k.scan p = .one d) (hne : d ≠ r) :
    ∃ ds, moduleDepsK k r = .ok ds ∧ (d, true) ∈ ds := by
  obtain ⟨ds, h, _⟩ := deps_exact k.scan r hg hn
  exact ⟨ds, h, ik_stmt_is_direct_dep k r d f p kd hf hs ho hne ds h⟩

/-- An import statement of ANY modifier that no module provides and that is no well-known type
    makes `ModuleDeps()` fail (a weak import is not "optional" for dependency resolution). -/
theorem ik_unprovided_stmt_error (k : KWS) (r : Nat) (f : KFile) (p : Str) (kd : ImpKind)
    (hf : f ∈ kmodFiles k r) (hs : (p, kd) ∈ f.stmts) (hn : owner k.scan p = .none)
    (hw : isWkt k.scan p = false) : ∃ e, moduleDepsK k r = .error e :=
  import_not_exist_error k.scan r p (ik_stmt_mem_allImports k r f p kd hf hs) hn hw

/-- Two statements of ANY modifiers `r → d` and `d → r` are a module cycle: `ModuleDeps()` of `r`
    fails (a weak import closes a cycle like any other). -/
theorem ik_cycle_any_modifier (k : KWS) (r d : Nat) (f g : KFile) (p q : Str) (k1 k2 : ImpKind)
    (hf : f ∈ kmodFiles k r) (hs : (p, k1) ∈ f.stmts) (ho : owner k.scan p = .one d) (hne : d ≠ r)
    (hg : g ∈ kmodFiles k d) (ht : (q, k2) ∈ g.stmts) (ho2 : owner k.scan q = .one r) :
    ∃ e, moduleDepsK k r = .error e := by
  have e1 := ik_stmt_is_edge k r d f p k1 hf hs ho hne
  have e2 := ik_stmt_is_edge k d r g q k2 hg ht ho2 (fun h => hne h.symm)
  exact cycle_never_ok k.scan r
    (ReachPlus.tail (cs := msucc k.scan d) (ReachPlus.of_succ (cs := msucc k.scan r) rfl e1) rfl e2)

/-! ### nothing depends on the modifiers -/

theorem ik_scan_reKind (g : Str → ImpKind → ImpKind) (f : KFile) : (f.reKind g).scan = f.scan := by
  unfold KFile.reKind KFile.scan
  simp only [List.map_map]
  congr 1

/-- Re-labelling the modifier of every import statement (any function of path and old modifier:
    all plain, all weak, swap public and weak …) does not change the module set the code sees. -/
theorem ik_scan_modifier_independent (g : Str → ImpKind → ImpKind) (k : KWS) : (k.reKind g).scan = k.scan := by
  unfold KWS.reKind KWS.scan
  simp only [List.map_map]
  congr 1
  apply List.map_congr_left
  intro m _
  simp only [Function.comp, KMod.scanWith, List.map_map]
  congr 1
  apply List.map_congr_left
  intro f _
  exact ik_scan_reKind g f

/-- `ModuleDeps()` (ids, direct flags, error class) does not depend on import modifiers. -/
theorem ik_moduleDeps_modifier_independent (g : Str → ImpKind → ImpKind) (k : KWS) (r : Nat) :
    moduleDepsK (k.reKind g) r = moduleDepsK k r := by
  unfold moduleDepsK; rw [ik_scan_modifier_independent]

/-- the module graph does not depend on import modifiers. -/
theorem ik_msucc_modifier_independent (g : Str → ImpKind → ImpKind) (k : KWS) (m : Nat) :
    msucc (k.reKind g).scan m = msucc k.scan m := by
  rw [ik_scan_modifier_independent]

/-- `ModuleSetToDAG` (`buf dep graph`) does not depend on import modifiers. -/
theorem ik_toDAG_modifier_independent (g : Str → ImpKind → ImpKind) (k : KWS) :
    toDAG (k.reKind g).scan = toDAG k.scan := by
  rw [ik_scan_modifier_independent]

/-- the `ls-files --include-imports` closure does not depend on import modifiers. -/
theorem ik_lsFiles_modifier_independent (g : Str → ImpKind → ImpKind) (k : KWS) (tf : Nat → PFile → Bool) :
    lsFiles (k.reKind g).scan tf = lsFiles k.scan tf := by
  rw [ik_scan_modifier_independent]

/-! ### the counter-model: a scanner that skips weak imports -/

theorem ik_scanSkipWeak_eq (f : KFile) (h : ∀ s ∈ f.stmts, s.2 ≠ .weak) : f.scanSkipWeak = f.scan := by
  unfold KFile.scanSkipWeak KFile.scan
  congr 2
  apply List.filter_eq_self.mpr
  intro s hs
  have := h s hs
  cases hk : s.2 <;> simp_all

/-- The blind spot: on a module set WITHOUT weak imports the counter-model and the code agree on
    everything, so no check whose inputs lack `import weak` can tell them apart. -/
theorem ik_skip_weak_blind_spot (k : KWS)
    (h : ∀ m ∈ k.mods, ∀ f ∈ m.files, ∀ s ∈ f.stmts, s.2 ≠ .weak) (r : Nat) :
    k.scanSkipWeak = k.scan ∧ moduleDepsSkipWeak k r = moduleDepsK k r := by
  have hs : k.scanSkipWeak = k.scan := by
    unfold KWS.scanSkipWeak KWS.scan
    congr 1
    apply List.map_congr_left
    intro m hm
    unfold KMod.scanWith
    congr 1
    apply List.map_congr_left
    intro f hf
    exact ik_scanSkipWeak_eq f (h m hm f hf)
  exact ⟨hs, by unfold moduleDepsSkipWeak moduleDepsK; rw [hs]⟩

def ikWkt : List PFile := [{ path := "google/protobuf/any.proto".toList, imports := [] }]

/-- A (target) reaches B only through `import weak "b/b.proto";`. -/
def ikWeakOnly : KWS :=
  { mods := [ { files := [{ path := "a/a.proto".toList, stmts := [("b/b.proto".toList, .weak), ("google/protobuf/any.proto".toList, .weak)] }], isTarget := true, isLocal := true },
              { files := [{ path := "b/b.proto".toList, stmts := [] }], isTarget := false, isLocal := true } ],
    wkt := ikWkt }

theorem ikWeakOnly_good : Good ikWeakOnly.scan 0 := good_of_goodWs (by decide +kernel) (by decide +kernel)

theorem ikWeakOnly_acyclic : ¬ ReachPlus (msuccO ikWeakOnly.scan) 0 0 := by
  exact (deps_sound ikWeakOnly.scan 0 [(1, true)] (by decide +kernel)).1

/-- Seed C10-m10 as a model: on the weak-only link the hypotheses of `deps_exact` hold, the code
    lists B as a direct dependency, and the counter-model returns the empty list although B is a
    first-hop successor of A — so it violates the conclusion of `deps_exact`. -/
theorem ik_skip_weak_dep_counterexample :
    Good ikWeakOnly.scan 0 ∧ ¬ ReachPlus (msuccO ikWeakOnly.scan) 0 0 ∧
    1 ∈ msucc ikWeakOnly.scan 0 ∧
    moduleDepsK ikWeakOnly 0 = .ok [(1, true)] ∧
    moduleDepsSkipWeak ikWeakOnly 0 = .ok [] ∧
    ¬ (∀ x, x ∈ DepMap.keys ([] : DepMap) ↔ (ReachPlus (msuccO ikWeakOnly.scan) 0 x ∧ x ≠ 0)) := by
  refine ⟨ikWeakOnly_good, ikWeakOnly_acyclic, by decide +kernel, by decide +kernel, by decide +kernel, ?_⟩
  intro h
  have h1 : ReachPlus (msuccO ikWeakOnly.scan) 0 1 :=
    ReachPlus.of_succ (cs := msucc ikWeakOnly.scan 0) rfl (by decide +kernel)
  have := (h 1).mpr ⟨h1, by decide +kernel⟩
  simp [DepMap.keys] at this

/-- `import weak "x/missing.proto";` — a file nobody provides. -/
def ikWeakMissing : KWS :=
  { mods := [ { files := [{ path := "a/a.proto".toList, stmts := [("x/missing.proto".toList, .weak)] }], isTarget := true, isLocal := true } ],
    wkt := ikWkt }

/-- The code reports the unprovided weak import; the counter-model accepts it silently. -/
theorem ik_skip_weak_unprovided_counterexample :
    moduleDepsK ikWeakMissing 0 = .error .importNotExist ∧ toDAG ikWeakMissing.scan = .error .importNotExist ∧
    moduleDepsSkipWeak ikWeakMissing 0 = .ok [] ∧ toDAG ikWeakMissing.scanSkipWeak = .ok ([0], []) := by
  decide +kernel

/-- A plain→ B weak→ A (distinct files, so no file cycle). -/
def ikWeakCycle : KWS :=
  { mods := [ { files := [{ path := "a/a.proto".toList, stmts := [("b/b.proto".toList, .plain)] }, { path := "a/z.proto".toList, stmts := [] }], isTarget := true, isLocal := true },
              { files := [{ path := "b/b.proto".toList, stmts := [] }, { path := "b/y.proto".toList, stmts := [("a/z.proto".toList, .weak)] }], isTarget := false, isLocal := true } ],
    wkt := ikWkt }

/-- The code reports the module cycle closed by a weak import (for both modules and for the DAG);
    the counter-model resolves it silently. -/
theorem ik_skip_weak_cycle_counterexample :
    moduleDepsK ikWeakCycle 0 = .error .cycle ∧ moduleDepsK ikWeakCycle 1 = .error .cycle ∧
    toDAG ikWeakCycle.scan = .error .cycle ∧
    moduleDepsSkipWeak ikWeakCycle 0 = .ok [(1, true)] ∧ moduleDepsSkipWeak ikWeakCycle 1 = .ok [] ∧
    toDAG ikWeakCycle.scanSkipWeak = .ok ([0, 1], [(0, 1)]) := by
  decide +kernel

/-- A weak→ B public→ C. -/
def ikChain : KWS :=
  { mods := [ { files := [{ path := "a/a.proto".toList, stmts := [("b/b.proto".toList, .weak)] }], isTarget := true, isLocal := true },
              { files := [{ path := "b/b.proto".toList, stmts := [("c/c.proto".toList, .pub)] }], isTarget := false, isLocal := true },
              { files := [{ path := "c/c.proto".toList, stmts := [] }], isTarget := false, isLocal := false } ],
    wkt := ikWkt }

/-- In a chain the counter-model loses the weakly imported module AND everything behind it. -/
theorem ik_skip_weak_chain_counterexample :
    moduleDepsK ikChain 0 = .ok [(1, true), (2, false)] ∧ moduleDepsK ikChain 1 = .ok [(2, true)] ∧
    toDAG ikChain.scan = .ok ([0, 1, 2], [(0, 1), (1, 2)]) ∧
    moduleDepsSkipWeak ikChain 0 = .ok [] ∧ toDAG ikChain.scanSkipWeak = .ok ([0], []) := by
  decide +kernel

/-! ### non-vacuity -/

example : ∃ ds, moduleDepsK ikWeakOnly 0 = .ok ds ∧ (1, true) ∈ ds :=
  ik_only_link_reported ikWeakOnly 0 1 _ "b/b.proto".toList .weak ikWeakOnly_good ikWeakOnly_acyclic
    (List.mem_singleton.mpr rfl) (by decide +kernel) (by decide +kernel) (by decide +kernel)

example : ∃ e, moduleDepsK ikWeakMissing 0 = .error e :=
  ik_unprovided_stmt_error ikWeakMissing 0 _ "x/missing.proto".toList .weak (List.mem_singleton.mpr rfl)
    (by decide +kernel) (by decide +kernel) (by decide +kernel)

example : ∃ e, moduleDepsK ikWeakCycle 0 = .error e :=
  ik_cycle_any_modifier ikWeakCycle 0 1 { path := "a/a.proto".toList, stmts := [("b/b.proto".toList, .plain)] }
    { path := "b/y.proto".toList, stmts := [("a/z.proto".toList, .weak)] } "b/b.proto".toList "a/z.proto".toList .plain .weak
    (by decide) (by decide) (by decide) (by decide) (by decide) (by decide) (by decide)

/-- the all-plain and the all-weak spelling of the chain have the same `ModuleDeps()`. -/
example : moduleDepsK (ikChain.reKind (fun _ _ => .plain)) 0 = moduleDepsK (ikChain.reKind (fun _ _ => .weak)) 0 := by
  rw [ik_moduleDeps_modifier_independent, ik_moduleDeps_modifier_independent]

/-- the weak WKT import of `ikWeakOnly` is neither a dependency nor an error. -/
example : owner ikWeakOnly.scan "google/protobuf/any.proto".toList = .none ∧
    isWkt ikWeakOnly.scan "google/protobuf/any.proto".toList = true := by decide +kernel

/-- the hypothesis of `ik_skip_weak_blind_spot` is satisfiable. -/
example : ∀ m ∈ (ikChain.reKind (fun _ _ => .pub)).mods, ∀ f ∈ m.files, ∀ s ∈ f.stmts, s.2 ≠ .weak := by decide

end BufProofs.C10
