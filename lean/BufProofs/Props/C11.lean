import BufProofs.Lemmas.ImagePathsLemmas
import BufProofs.Lemmas.WireLemmas
import BufProofs.Props.C01Wire
/-
  Property C11 — "An image faithfully stands in for its sources, in every encoding"
  (model: BufModel/ImagePaths.lean).  The sections follow its clauses: (1) `build --path and
  --exclude-path` against the image = against the sources, as SETS of files with equal flags
  (the order can differ, which is how the code behaves); (2) image <-> proto image conversion
  loses nothing; (3) the buf extension never occurs twice on the wire; (4) "written in any
  encoding and read back equals the original": the model contributes `encodings_roundtrip_partial`
  only (decode ∘ encode = id is a HYPOTHESIS on the library codec), the rest — every packaging
  builds to the same image, lint/breaking on the image = on the sources — is exercised on the
  real binary by the harness.
-/
namespace BufProofs.C11
open BufModel.Path BufModel.ImagePaths BufProofs.ImagePathsLemmas BufProofs.WireLemmas

/-! ## (1) path targeting: image-level = module-level -/

/-- For every workspace (any number of modules, some possibly untargeted) whose full build
    succeeds, and every selection of normalised paths in which NO `--path` LIES INSIDE (or equals)
    AN `--exclude-path`: filtering the built image (`bufctl.filterImage` →
    `imageWithOnlyPaths … allowNotExist`) and building with module-level targeting
    (`getIsTargetFileForPathUncached` + `BuildImage`) either both fail with "no files"/"no
    targets", or both succeed with the same files carrying the same import flags and dependency
    lists; in particular the same non-imports.  (`Perm`: the two lists can be ordered
    differently, see `targeting_order_counterexample`.)  The files' extension bits (`File.ext`)
    are handed on unchanged by both sides of the MODEL — `build` does not compute them; with the
    bits as the compiler attaches them the statement is
    `extbits_targeting_equivalence_modulo_unused` (Props/C11ExtBits.lean). -/
theorem targeting_equivalence (ws : Workspace) (pths excl : List Str) (img : Image)
    (sc : SideConditions ws pths excl) (hfull : build ws = .ok img) :
    (∃ I M, filterImagePaths img pths excl = .ok I ∧
        build (withTargeting ws pths excl) = .ok M ∧ I.Perm M ∧
        (nonImports I).Perm (nonImports M)) ∨
    (filterImagePaths img pths excl = .error .noFiles ∧
        build (withTargeting ws pths excl) = .error .noTargets) := by
  rcases targeting_main sc hfull with ⟨I, M, hI, hM, hp⟩ | h
  · exact Or.inl ⟨I, M, hI, hM, hp, hp.filter _⟩
  · exact Or.inr h

/-- The DESIGN-level statement: all modules targeted. -/
theorem targeting_equivalence_all_targeted (ws : Workspace) (pths excl : List Str) (img : Image)
    (hall : ∀ m ∈ ws, m.isTarget = true)
    (hplain : Plain ws) (huniq : (paths (allFiles ws)).Nodup)
    (hfk : ∀ f ∈ allFiles ws, IsKey f.path) (hpk : ∀ p ∈ pths, IsKey p) (hek : ∀ e ∈ excl, IsKey e)
    (hpn : pths.Nodup) (hen : excl.Nodup) (hnd : ∀ p ∈ pths, p ≠ dot)
    (hside : ∀ p ∈ pths, ∀ e ∈ excl, equalsOrContainsPath e p = false)
    (hpf : ∀ f ∈ allFiles ws, ∀ g ∈ allFiles ws, equalsOrContainsPath f.path g.path = true → f.path = g.path)
    (hfull : build ws = .ok img) (I : Image) (hI : filterImagePaths img pths excl = .ok I) :
    ∃ M, build (withTargeting ws pths excl) = .ok M ∧ I.Perm M ∧ (nonImports I).Perm (nonImports M) := by
  have sc : SideConditions ws pths excl :=
    ⟨hplain, huniq, hfk, hpk, hek, hpn, hen, hnd, hside, hpf,
      fun m hm hmt => by rw [hall m hm] at hmt; cases hmt⟩
  rcases targeting_equivalence ws pths excl img sc hfull with ⟨I', M, hI', hM, hp, hn⟩ | ⟨hI', _⟩
  · rw [hI] at hI'; cases hI'
    exact ⟨M, hM, hp, hn⟩
  · rw [hI] at hI'; cases hI'

/-! ### concrete workspaces (non-vacuity and necessity of the hypotheses) -/

def k (l : List String) : Str := renderKey (l.map String.toList)

def src (p : Str) (deps : List Str) : File := { path := p, isImport := false, deps := deps }

def modOf (fs : List File) : Module := { isTarget := true, targetPaths := [], excludePaths := [], files := fs }

/-- Two modules: a/b/x.proto imports a/c.proto and the untargeted w/t.proto. -/
def exWs : Workspace :=
  [ modOf [src (k ["a", "b", "x.proto"]) [k ["a", "c.proto"], k ["w", "t.proto"]], src (k ["a", "c.proto"]) []],
    modOf [src (k ["d", "y.proto"]) [k ["a", "c.proto"]]],
    { isTarget := false, targetPaths := [], excludePaths := [], files := [src (k ["w", "t.proto"]) []] } ]

theorem isKey_k (l : List String) (h : AllProper (l.map String.toList)) : IsKey (k l) := ⟨_, h, rfl⟩

set_option maxRecDepth 100000 in
/-- The hypotheses of `targeting_equivalence` are satisfiable: `--path a --exclude-path a/b`
    (an exclude INSIDE a path is fine) on a three-module workspace. -/
example : SideConditions exWs [k ["a"]] [k ["a", "b"]] := by
  refine ⟨by unfold Plain; decide +kernel, by decide +kernel, ?_, ?_, ?_, by decide +kernel, by decide +kernel, by decide +kernel, by decide +kernel, by decide +kernel, by decide +kernel⟩
  · intro f hf
    simp only [exWs, allFiles, modOf, List.flatMap_cons, List.flatMap_nil, List.append_nil,
      List.cons_append, List.nil_append, List.mem_cons, List.not_mem_nil, or_false, src] at hf
    rcases hf with rfl | rfl | rfl | rfl
    · exact isKey_k ["a", "b", "x.proto"] (by unfold AllProper; decide)
    · exact isKey_k ["a", "c.proto"] (by unfold AllProper; decide)
    · exact isKey_k ["d", "y.proto"] (by unfold AllProper; decide)
    · exact isKey_k ["w", "t.proto"] (by unfold AllProper; decide)
  · intro p hp; simp at hp; subst hp; exact isKey_k ["a"] (by unfold AllProper; decide)
  · intro p hp; simp at hp; subst hp; exact isKey_k ["a", "b"] (by unfold AllProper; decide)

set_option maxRecDepth 100000 in
/-- … and on it both sides give a/c.proto as the only non-import. -/
example : (build exWs).toOption.bind (fun img => (filterImagePaths img [k ["a"]] [k ["a", "b"]]).toOption)
      = some [src (k ["a", "c.proto"]) []] ∧
    build (withTargeting exWs [k ["a"]] [k ["a", "b"]]) = .ok [src (k ["a", "c.proto"]) []] := by
  decide +kernel

/-- The side condition is needed: with `--path a/b --exclude-path a` (a path INSIDE an exclude
    path) the image keeps a/b/x.proto (`shouldExcludeFile` only drops a target path that contains
    the exclude path), while the module-level rule lets the exclude win: no target at all. -/
theorem targeting_divergence_example :
    (build exWs).toOption.bind (fun img => (filterImagePaths img [k ["a", "b"]] [k ["a"]]).toOption)
      = some [{ src (k ["a", "c.proto"]) [] with isImport := true },
              { src (k ["w", "t.proto"]) [] with isImport := true },
              src (k ["a", "b", "x.proto"]) [k ["a", "c.proto"], k ["w", "t.proto"]]] ∧
    build (withTargeting exWs [k ["a", "b"]] [k ["a"]]) = .error .noTargets := by
  decide +kernel

/-- x/a.proto imports y/c.proto; y/b.proto stands alone. -/
def exOrderWs : Workspace :=
  [ modOf [src (k ["x", "a.proto"]) [k ["y", "c.proto"]], src (k ["y", "b.proto"]) [], src (k ["y", "c.proto"]) []] ]

/-- Same files, different order: the image-level walk starts from the matching files in IMAGE
    order (y/c.proto was emitted early, as a dependency of x/a.proto), the module-level walk from
    the SORTED targets.  Both orders are topological. -/
theorem targeting_order_counterexample :
    (build exOrderWs).toOption.bind (fun img => (filterImagePaths img [k ["y"]] []).toOption)
      = some [src (k ["y", "c.proto"]) [], src (k ["y", "b.proto"]) []] ∧
    build (withTargeting exOrderWs [k ["y"]] []) = .ok [src (k ["y", "b.proto"]) [], src (k ["y", "c.proto"]) []] := by
  decide +kernel

/-- a.proto is both a file and a directory (impossible on disk, possible in an archive). -/
def exPrefixWs : Workspace :=
  [ modOf [src (k ["a.proto"]) [], src (k ["a.proto", "c.proto"]) []] ]

/-- Prefix-freeness is needed: `--path a.proto` is a direct hit for the image (only that file),
    but a containing path for the module (both files). -/
theorem prefix_free_needed_example :
    (build exPrefixWs).toOption.bind (fun img => (filterImagePaths img [k ["a.proto"]] []).toOption)
      = some [src (k ["a.proto"]) []] ∧
    build (withTargeting exPrefixWs [k ["a.proto"]] []) =
      .ok [src (k ["a.proto"]) [], src (k ["a.proto", "c.proto"]) []] := by
  decide +kernel

/-- The hypothesis on untargeted modules is needed: `--path w` turns the import w/t.proto into a
    non-import of the filtered image, while no source file under w is a target. -/
theorem import_hit_needed_example :
    (build exWs).toOption.bind (fun img => (filterImagePaths img [k ["w"]] []).toOption)
      = some [src (k ["w", "t.proto"]) []] ∧
    build (withTargeting exWs [k ["w"]] []) = .error .noTargets := by
  decide +kernel

/-! ## (2) image file <-> proto image file -/

/-- What `NewImageFile` / `NewImageForProto` guarantee about an image file: unused-dependency
    indexes are in range, a module name has non-empty parts without '/', a commit only comes with
    a name and is a non-nil lower-case dashless UUID. -/
def WFIFile (f : IFile) : Prop :=
  (∀ i ∈ f.unusedDeps, i < f.deps.length) ∧
  (∀ n, f.modName = some n →
    n.registry ≠ [] ∧ n.owner ≠ [] ∧ n.name ≠ [] ∧ '/' ∉ n.owner ∧ '/' ∉ n.name) ∧
  (f.modName = none → f.commit = none) ∧
  (∀ c, f.commit = some c → validDashless c = true ∧ c ≠ nilDashless ∧ c ≠ [] ∧ c.map Char.toLower = c)

/-- `NewImageForProto (ImageToProtoImage i) = i` per file: import flag, syntax-unspecified flag,
    unused-dependency indexes, module name and commit all survive the trip through the buf
    extension (field 8042); the descriptor's unknown bytes come back with a stray field 8042
    stripped (so the extension is never on the wire twice) and are otherwise untouched. -/
theorem protoImage_roundtrip (f : IFile) (h : WFIFile f) :
    toImage (toProto f) = .ok { f with unknown := stripBufExtensionField f.unknown } := by
  obtain ⟨p, deps, pay, unk, imp, su, un, mn, cm⟩ := f
  -- the file is the C11 view (`eraseI`) of a field-resolution file holding only name and imports, so this is
  -- `C01.wire_roundtrip` (`wire_refines_image_paths` holds by `rfl`); `nonEmpty` keeps `Canon` for an empty path
  let g : BufModel.ImageWire.IFileW :=
    ⟨⟨BufModel.ImageWire.nonEmpty (some p), none, deps, [], [], [], [], none, none, [], [], none, none, unk⟩,
      imp, su, un, mn, cm⟩
  have hc : C01.Canon ({ g.d with unknown := stripBufExtensionField g.d.unknown } : BufModel.ImageWire.FDesc) := by
    refine ⟨?_, nofun, nofun, nofun⟩
    cases p <;> exact nofun
  have := C01.wire_read_refines_image_paths (fun _ => pay) (BufModel.ImageWire.toWire g) hc
  rw [C01.wire_roundtrip g h, C01.descOfWire_canon _ hc] at this
  cases p <;> exact this.symm

/-- … in particular the exact identity when the unknown bytes hold no field 8042. -/
theorem protoImage_roundtrip_exact (f : IFile) (h : WFIFile f)
    (hs : stripBufExtensionField f.unknown = f.unknown) : toImage (toProto f) = .ok f := by
  rw [protoImage_roundtrip f h, hs]

def exIFile : IFile :=
  { path := "a/b.proto".toList, deps := ["x.proto".toList, "y.proto".toList], payload := "…".toList,
    unknown := [8, 1, 208, 246, 3, 5, 18, 1, 65], isImport := true, syntaxUnspecified := true,
    unusedDeps := [1], modName := some ⟨"buf.build".toList, "acme".toList, "m".toList⟩,
    commit := some "0123456789abcdef0123456789abcdef".toList }

set_option maxRecDepth 100000 in
/-- Non-vacuity: a well-formed file with module info, an unused dependency and unknown bytes
    `08 01 | d0 f6 03 05 (= field 8042, varint) | 12 01 41`. -/
example : WFIFile exIFile ∧
    toImage (toProto exIFile) = .ok { exIFile with unknown := [8, 1, 18, 1, 65] } := by
  refine ⟨⟨by decide, ?_, by decide, ?_⟩, by decide⟩
  · intro n hn; cases hn; decide
  · intro c hc; cases hc; decide

/-! ## (3) stripBufExtensionField -/

/-- On well-formed unknown-field bytes the result is exactly the top-level fields whose number is
    not 8042, byte for byte and in order — whatever their wire type (varint, fixed32, fixed64,
    bytes, group), and a field 8042 nested inside another field's payload or group is kept. -/
theorem strip_removes_exactly_8042 (u : Bytes) (fs : List Field) (h : parse u = some fs) :
    WireLemmas.render fs = u ∧
    stripBufExtensionField u = WireLemmas.render (fs.filter (fun f => f.num ≠ bufExtensionFieldNumber)) := by
  refine ⟨parseFields_render _ _ _ h, ?_⟩
  unfold stripBufExtensionField
  unfold parse at h
  rw [stripLoop_eq, h]
  simp [keep]

/-- Malformed bytes (truncated, reserved wire type, field number 0, unbalanced group, overlong
    varint, nesting deeper than protowire's limit) are returned unchanged. -/
theorem strip_identity_on_malformed (u : Bytes) (h : parse u = none) :
    stripBufExtensionField u = u := by
  unfold stripBufExtensionField
  unfold parse at h
  rw [stripLoop_eq, h]
  rfl

set_option maxRecDepth 100000 in
/-- Non-vacuity / wire types: 8042 as varint, fixed64, bytes, fixed32 and group is removed;
    field 8041, and an 8042 nested in group 1, stay. -/
example :
    stripBufExtensionField
      ([208, 246, 3, 7] ++ [209, 246, 3, 1, 2, 3, 4, 5, 6, 7, 8] ++ [200, 246, 3, 9] ++
       [210, 246, 3, 2, 65, 66] ++ [11, 208, 246, 3, 1, 12] ++ [213, 246, 3, 1, 2, 3, 4] ++
       [211, 246, 3, 8, 1, 212, 246, 3])
      = [200, 246, 3, 9] ++ [11, 208, 246, 3, 1, 12] ∧
    stripBufExtensionField [208, 246, 3] = [208, 246, 3] ∧          -- truncated value: unchanged
    stripBufExtensionField [208, 246, 3, 7, 14, 0] = [208, 246, 3, 7, 14, 0] := by  -- wire type 6
  decide +kernel

/-- Idempotence.  Unconditional for malformed input.  For well-formed input it is proved from
    `hcomp`: re-reading the concatenation of the kept fields yields those fields (the wire format
    is self-delimiting).  PARTIAL: `hcomp` itself — prefix-stability of `consumeTag` /
    `consumeFieldValue` on the model — is not proved here; the harness checks idempotence of the
    real function on every generated input (oracle class `C11-strip-not-idempotent`). -/
theorem strip_idempotent_partial (u : Bytes)
    (hcomp : ∀ fs, parse u = some fs → parse (WireLemmas.render (keep fs)) = some (keep fs)) :
    stripBufExtensionField (stripBufExtensionField u) = stripBufExtensionField u := by
  cases h : parse u with
  | none => rw [strip_identity_on_malformed u h, strip_identity_on_malformed u h]
  | some fs =>
    obtain ⟨_, h2⟩ := strip_removes_exactly_8042 u fs h
    have hk : stripBufExtensionField u = WireLemmas.render (keep fs) := h2
    rw [hk]
    obtain ⟨_, h3⟩ := strip_removes_exactly_8042 _ _ (hcomp fs h)
    rw [h3]
    congr 1
    unfold keep
    rw [List.filter_filter]
    simp

/-- The result of stripping a well-formed input holds no top-level field 8042 (as a field list). -/
theorem strip_result_has_no_8042 (u : Bytes) (fs : List Field) (h : parse u = some fs) :
    ∃ gs, stripBufExtensionField u = WireLemmas.render gs ∧ gs.Sublist fs ∧
      ∀ g ∈ gs, g.num ≠ bufExtensionFieldNumber := by
  refine ⟨keep fs, (strip_removes_exactly_8042 u fs h).2, List.filter_sublist, ?_⟩
  intro g hg
  simpa [keep] using (List.mem_filter.mp hg).2

/-! ## (4) encodings — what is a parameter -/

/-- PARTIAL (by design, DESIGN §6/§8): the encoders/decoders (protobuf-go wire / JSON / text,
    protoyaml, gzip, zstd) are LIBRARY PARAMETERS.  Given a codec satisfying the round-trip law
    `dec (enc p) = some p` on proto images, an image written and read back is the original image
    (with stray 8042 bytes stripped).  That the real codecs satisfy the law — including the
    two-pass re-parse of custom options — is not proved; the harness exercises it through the real
    binary for every format x compression x flag set. -/
theorem encodings_roundtrip_partial {α : Type} (enc : List PFile → α) (dec : α → Option (List PFile))
    (hlaw : ∀ p, dec (enc p) = some p) (img : List IFile) (hwf : ∀ f ∈ img, WFIFile f) :
    ∃ ps, dec (enc (img.map toProto)) = some ps ∧
      ps.map toImage = img.map (fun f => .ok { f with unknown := stripBufExtensionField f.unknown }) := by
  refine ⟨img.map toProto, hlaw _, ?_⟩
  rw [List.map_map]
  apply List.map_congr_left
  intro f hf
  exact protoImage_roundtrip f (hwf f hf)

end BufProofs.C11
