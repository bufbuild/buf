import BufProofs.Lemmas.PathLemmas
import BufProofs.Lemmas.BucketLemmas
import BufProofs.Lemmas.DiskLemmas
import BufProofs.Lemmas.ArchiveLemmas
import BufProofs.Lemmas.ReaderLemmas
/-
  C14 — All bucket implementations and combinators behave as one path→bytes map.

  The abstract specification is a function `Spec := Key → Option Content`; a key is a list of
  proper path components.  `abs m` reads a memory bucket as such a function, `absE e bs` reads
  a composite read bucket (prefix view / filter / union / overlay / external-path-strip over
  base buckets) as one.  Covered: the memory bucket on every history and every path string; every
  composite (a walk lists exactly what get finds, each once); Copy; archives over the entry-level
  model BufModel/Archive.lean (byte codecs = library parameter); the disk bucket (a file tree) on
  prefix-free histories; the streaming walk and the copy the correspondence driver runs for
  disk-backed composites; reader handles (disk, as coded = POSIX open-file semantics); repeated
  and colliding archive members.
-/
namespace BufProofs.C14
open BufModel.Path BufModel.Bucket BufModel.Archive

abbrev Spec := Key → Option Content

/-- A memory bucket read as an abstract map. -/
def abs (m : Mem) : Spec := fun k => m.find (renderKey k)

inductive Op where
  | get (p : Str)
  | put (p : Str) (c : Content)
  | delete (p : Str)
  | deleteAll (p : Str)
  | walk (p : Str)

inductive Out where
  | done
  | content (c : Content)
  | objs (l : List (Str × Content))
  | err (e : PErr)
  deriving DecidableEq

/-- One step of the memory bucket. Failed operations leave the state unchanged. -/
def memStep (m : Mem) : Op → Mem × Out
  | .get p => match memGet m p with
      | .ok c => (m, .content c) | .error e => (m, .err e)
  | .put p c => match memPut m p c with
      | .ok m' => (m', .done) | .error e => (m, .err e)
  | .delete p => match memDelete m p with
      | .ok m' => (m', .done) | .error e => (m, .err e)
  | .deleteAll p => match memDeleteAll m p with
      | .ok m' => (m', .done) | .error e => (m, .err e)
  | .walk p => match memWalk m p with
      | .ok l => (m, .objs l) | .error e => (m, .err e)

/-- What the abstract map does for each operation (the specification).
    `keyOf` (BufModel/Bucket.lean) reads the path argument: an error class, or the key it denotes.
    A walk result consists of rendered keys only (`KeysRendered`: no junk entries), lists no key
    twice, and holds exactly the map's entries under the prefix key. -/
inductive SpecStep : Spec → Op → Spec → Out → Prop where
  | getOk (σ : Spec) (p : Str) (k : Key) (c : Content) :
      keyOf p = .ok k → k ≠ [] → σ k = some c → SpecStep σ (.get p) σ (.content c)
  | getMissing (σ : Spec) (p : Str) (k : Key) :
      keyOf p = .ok k → k ≠ [] → σ k = none → SpecStep σ (.get p) σ (.err .notExist)
  | putOk (σ σ' : Spec) (p : Str) (k : Key) (c : Content) :
      keyOf p = .ok k → k ≠ [] →
      (∀ k', AllProper k' → σ' k' = if k' = k then some c else σ k') → SpecStep σ (.put p c) σ' .done
  | deleteOk (σ σ' : Spec) (p : Str) (k : Key) :
      keyOf p = .ok k → k ≠ [] → σ k ≠ none →
      (∀ k', AllProper k' → σ' k' = if k' = k then none else σ k') → SpecStep σ (.delete p) σ' .done
  | deleteMissing (σ : Spec) (p : Str) (k : Key) :
      keyOf p = .ok k → k ≠ [] → σ k = none → SpecStep σ (.delete p) σ (.err .notExist)
  | deleteAllOk (σ σ' : Spec) (p : Str) (k : Key) :
      keyOf p = .ok k →
      (∀ k', AllProper k' → σ' k' = if k <+: k' then none else σ k') → SpecStep σ (.deleteAll p) σ' .done
  | walkOk (σ : Spec) (p : Str) (k : Key) (l : List (Str × Content)) :
      keyOf p = .ok k → NodupKeys l → KeysRendered l →
      (∀ k' c, AllProper k' → ((renderKey k', c) ∈ l ↔ (k <+: k' ∧ σ k' = some c))) →
      SpecStep σ (.walk p) σ (.objs l)
  | root (σ : Spec) (op : Op) (p : Str) :
      keyOf p = .ok [] → (op = .get p ∨ (∃ c, op = .put p c) ∨ op = .delete p) → SpecStep σ op σ (.err .root)
  | invalid (σ : Spec) (op : Op) (p : Str) (e : PErr) :
      keyOf p = .error e →
      (op = .get p ∨ (∃ c, op = .put p c) ∨ op = .delete p ∨ op = .deleteAll p ∨ op = .walk p) →
      SpecStep σ op σ (.err e)

/-- mem_refines_spec (one step): every step of the memory bucket, on ANY path string, is a step
    of the abstract map with the same output, and the invariants are kept. -/
theorem mem_refines_spec_step (m : Mem) (hv : KeysValid m) (hn : NodupKeys m) (op : Op) :
    SpecStep (abs m) op (abs (memStep m op).1) (memStep m op).2 ∧
      KeysValid (memStep m op).1 ∧ NodupKeys (memStep m op).1 := by
  cases op with
  | get p =>
    rcases validatePath_cases p with ⟨e, hnv, hvp⟩ | ⟨hnv, hvp⟩ | ⟨k, hk, hne, hnv, hvp⟩
    · simp only [memStep, memGet, hvp]
      exact ⟨.invalid _ _ p e (keyOf_error hnv) (Or.inl rfl), hv, hn⟩
    · simp only [memStep, memGet, hvp]
      exact ⟨.root _ _ p (keyOf_dot hnv) (Or.inl rfl), hv, hn⟩
    · simp only [memStep, memGet, hvp]
      cases hf : m.find (renderKey k) with
      | none => exact ⟨.getMissing _ p k (keyOf_of_validate hk hnv) hne hf, hv, hn⟩
      | some c => exact ⟨.getOk _ p k c (keyOf_of_validate hk hnv) hne hf, hv, hn⟩
  | put p c =>
    rcases validatePath_cases p with ⟨e, hnv, hvp⟩ | ⟨hnv, hvp⟩ | ⟨k, hk, hne, hnv, hvp⟩
    · simp only [memStep, memPut, hvp]
      exact ⟨.invalid _ _ p e (keyOf_error hnv) (Or.inr (Or.inl ⟨c, rfl⟩)), hv, hn⟩
    · simp only [memStep, memPut, hvp]
      exact ⟨.root _ _ p (keyOf_dot hnv) (Or.inr (Or.inl ⟨c, rfl⟩)), hv, hn⟩
    · simp only [memStep, memPut, hvp]
      refine ⟨.putOk _ _ p k c (keyOf_of_validate hk hnv) hne ?_, ?_, nodupKeys_put hn _ c⟩
      · exact fun k' hk' => find_put_key hk hk' m c
      · exact keysValid_cons (keysValid_erase hv _) hk hne c
  | delete p =>
    rcases validatePath_cases p with ⟨e, hnv, hvp⟩ | ⟨hnv, hvp⟩ | ⟨k, hk, hne, hnv, hvp⟩
    · simp only [memStep, memDelete, hvp]
      exact ⟨.invalid _ _ p e (keyOf_error hnv) (Or.inr (Or.inr (Or.inl rfl))), hv, hn⟩
    · simp only [memStep, memDelete, hvp]
      exact ⟨.root _ _ p (keyOf_dot hnv) (Or.inr (Or.inr rfl)), hv, hn⟩
    · simp only [memStep, memDelete, hvp]
      cases hf : m.find (renderKey k) with
      | none => exact ⟨.deleteMissing _ p k (keyOf_of_validate hk hnv) hne hf, hv, hn⟩
      | some c0 =>
        refine ⟨.deleteOk _ _ p k (keyOf_of_validate hk hnv) hne (by unfold abs; rw [hf]; simp) ?_,
          keysValid_erase hv _, nodupKeys_filter hn _⟩
        exact fun k' hk' => find_erase_key hk hk' m
  | deleteAll p =>
    simp only [memStep, memDeleteAll, validatePrefix]
    rcases validate_cases p with ⟨e, hnv⟩ | ⟨k, hk, hnv⟩
    · rw [hnv]
      exact ⟨.invalid _ _ p e (keyOf_error hnv) (Or.inr (Or.inr (Or.inr (Or.inl rfl)))), hv, hn⟩
    · rw [hnv]
      refine ⟨.deleteAllOk _ _ p k (keyOf_of_validate hk hnv) ?_, keysValid_filter hv _, nodupKeys_filter hn _⟩
      exact fun k' hk' => find_deleteAll_key hk hk' m
  | walk p =>
    rcases validate_cases p with ⟨e, hnv⟩ | ⟨k, hk, hnv⟩
    · simp only [memStep, memWalk, validatePrefix, hnv]
      exact ⟨.invalid _ _ p e (keyOf_error hnv) (Or.inr (Or.inr (Or.inr (Or.inr rfl)))), hv, hn⟩
    · obtain ⟨kq, hkq, hnv', hnd, hrend, hall⟩ :=
        memWalk_exact m hv hn p _ (by rw [memWalk, validatePrefix, hnv])
      simp only [memStep, memWalk, validatePrefix, hnv]
      exact ⟨.walkOk _ p kq _ (keyOf_of_validate hkq hnv') hnd hrend hall, hv, hn⟩

def memRun (m : Mem) : List Op → Mem × List Out
  | [] => (m, [])
  | op :: rest =>
    let r := memStep m op
    let rr := memRun r.1 rest
    (rr.1, r.2 :: rr.2)

inductive SpecRun : Spec → List Op → Spec → List Out → Prop where
  | nil (σ : Spec) : SpecRun σ [] σ []
  | cons (σ σ' σ'' : Spec) (op : Op) (o : Out) (ops : List Op) (os : List Out) :
      SpecStep σ op σ' o → SpecRun σ' ops σ'' os → SpecRun σ (op :: ops) σ'' (o :: os)

/-- After ANY finite sequence of put / delete / delete-all / get / walk
    operations with ANY path strings, starting from any bucket that satisfies the invariants (the
    empty one: `mem_refines_spec_from_empty`), the memory bucket has produced exactly the outputs
    the abstract path→bytes map prescribes. -/
theorem mem_refines_spec (ops : List Op) (m : Mem) (hv : KeysValid m) (hn : NodupKeys m) :
    SpecRun (abs m) ops (abs (memRun m ops).1) (memRun m ops).2 ∧
      KeysValid (memRun m ops).1 ∧ NodupKeys (memRun m ops).1 := by
  induction ops generalizing m with
  | nil => exact ⟨.nil _, hv, hn⟩
  | cons op rest ih =>
    obtain ⟨hstep, hv', hn'⟩ := mem_refines_spec_step m hv hn op
    obtain ⟨hrun, hv'', hn''⟩ := ih (memStep m op).1 hv' hn'
    exact ⟨.cons _ _ _ op _ rest _ hstep hrun, hv'', hn''⟩

theorem mem_refines_spec_from_empty (ops : List Op) :
    SpecRun (abs []) ops (abs (memRun [] ops).1) (memRun [] ops).2 :=
  (mem_refines_spec ops [] keysValid_nil (by simp [NodupKeys])).1

/-- Equivalent spellings of a path denote the same object: operations depend on their path
    argument only through its normalised, validated form. -/
theorem spelling_irrelevant (m : Mem) (s₁ s₂ : Str)
    (h : normalizeAndValidate s₁ = normalizeAndValidate s₂) (c : Content) :
    memStep m (.get s₁) = memStep m (.get s₂) ∧ memStep m (.put s₁ c) = memStep m (.put s₂ c) ∧
    memStep m (.delete s₁) = memStep m (.delete s₂) ∧ memStep m (.deleteAll s₁) = memStep m (.deleteAll s₂) ∧
    memStep m (.walk s₁) = memStep m (.walk s₂) := by
  have hvp : validatePath s₁ = validatePath s₂ := by unfold validatePath; rw [h]
  have hpf : validatePrefix s₁ = validatePrefix s₂ := by unfold validatePrefix; rw [h]
  refine ⟨?_, ?_, ?_, ?_, ?_⟩ <;>
    simp only [memStep, memGet, memPut, memDelete, memDeleteAll, memWalk, hvp, hpf]

/-- The same through any view. -/
theorem spelling_irrelevant_view (ls : List Layer) (m : Mem) (s₁ s₂ : Str)
    (h : normalizeAndValidate s₁ = normalizeAndValidate s₂) (c : Content) :
    vGet ls m s₁ = vGet ls m s₂ ∧ vPut ls m s₁ c = vPut ls m s₂ c ∧ vDelete ls m s₁ = vDelete ls m s₂ ∧
    vDeleteAll ls m s₁ = vDeleteAll ls m s₂ ∧ vWalk ls m s₁ = vWalk ls m s₂ := by
  have hvp : validatePath s₁ = validatePath s₂ := by unfold validatePath; rw [h]
  have hpf : validatePrefix s₁ = validatePrefix s₂ := by unfold validatePrefix; rw [h]
  cases ls with
  | nil => simp only [vGet, vPut, vDelete, vDeleteAll, vWalk, memGet, memPut, memDelete, memDeleteAll, memWalk, hvp, hpf, and_self]
  | cons l ls =>
    cases l with
    | pre p => simp only [vGet, vPut, vDelete, vDeleteAll, vWalk, mapFullPath, h, and_self]
    | filt f => simp only [vGet, vPut, vDelete, vDeleteAll, vWalk, h, and_self]

/-- walk_exact through views: a walk through ANY nesting of prefix-mapped views visits exactly
    the objects stored under (view root ++ requested prefix) — component-wise —, each once,
    reporting view-relative paths. -/
theorem walk_exact_through_prefix_views (ls : List KLayer) (hls : KLayersOK ls) (hpre : PreOnly ls)
    (m : Mem) (hv : KeysValid m) (hn : NodupKeys m) (pfx : Str) (objs : List (Str × Content))
    (h : vWalk (ls.map KLayer.toLayer) m pfx = .ok objs) :
    ∃ kq : Key, AllProper kq ∧ normalizeAndValidate pfx = .ok (renderKey kq) ∧
      NodupKeys objs ∧
      ∀ (kk : Key) (c : Content), AllProper kk →
        ((renderKey kk, c) ∈ objs ↔ (kq <+: kk ∧ Mem.find m (renderKey (fullKey ls ++ kk)) = some c)) := by
  obtain ⟨kq, h1, h2, h3, _, h5⟩ := vWalk_pre_exact ls hls hpre m hv hn pfx objs h
  exact ⟨kq, h1, h2, h3, h5⟩

/-- Prefixes are path-wise, not string-wise. -/
theorem prefix_is_pathwise (a b : Key) (ha : AllProper a) (hb : AllProper b) :
    equalsOrContainsPath (renderKey a) (renderKey b) = true ↔ a <+: b := ecp_keys ha hb

example : equalsOrContainsPath "a".toList "ab".toList = false := by decide
example : equalsOrContainsPath "a".toList "a.b".toList = false := by decide
example : equalsOrContainsPath "a".toList "a/b".toList = true := by decide

/-- MapPath then UnmapFullPath is the identity on keys … -/
theorem mapper_inverse (p k : Key) (hp : AllProper p) (hk : AllProper k) :
    unmapPrefix (renderKey p) (join [renderKey p, renderKey k]) = .ok (some (renderKey k)) := by
  rw [join_keys hp hk, unmapPrefix_key hp (allProper_append.mpr ⟨hp, hk⟩),
    if_pos (List.prefix_append p k), List.drop_left]

/-- … and UnmapFullPath then MapPath is the identity on the mapped subtree; full paths outside
    the prefix do not match. -/
theorem mapper_inverse_unmap (p f : Key) (hp : AllProper p) (hf : AllProper f) :
    (p <+: f → ∃ k, AllProper k ∧ unmapPrefix (renderKey p) (renderKey f) = .ok (some (renderKey k)) ∧
        join [renderKey p, renderKey k] = renderKey f) ∧
    (¬ p <+: f → unmapPrefix (renderKey p) (renderKey f) = .ok none) := by
  constructor
  · rintro ⟨k, rfl⟩
    have hkp : AllProper k := (allProper_append.mp hf).2
    exact ⟨k, hkp, by rw [← join_keys hp hkp]; exact mapper_inverse p k hp hkp, join_keys hp hkp⟩
  · intro hnp
    rw [unmapPrefix_key hp hf, if_neg hnp]

/-- A union bucket reports, rather than hides, a path present in two members … -/
theorem multi_reports_duplicates (a b : BExpr) (bs : Bases) (path : Str) (ca cb : Content)
    (ha : rGet a bs path = .ok ca) (hb : rGet b bs path = .ok cb) :
    rGet (.multi a b) bs path = .error .multiple := by
  simp [rGet, ha, hb]

/-- … also when walking … -/
theorem multi_walk_reports_duplicates (a b : BExpr) (bs : Bases) (pfx : Str)
    (oa ob : List (Str × Content)) (k : Str) (ca cb : Content)
    (ha : rWalk a bs pfx = .ok oa) (hb : rWalk b bs pfx = .ok ob)
    (hka : (k, ca) ∈ oa) (hkb : (k, cb) ∈ ob) :
    rWalk (.multi a b) bs pfx = .error .multiple := by
  have hm : mergeMulti oa ob = .error .multiple := mergeMulti_dup oa k ca cb hka ob hkb
  simp [rWalk, ha, hb, hm]

/-- … and a single occurrence is served. -/
theorem multi_single (a b : BExpr) (bs : Bases) (path : Str) (ca : Content)
    (ha : rGet a bs path = .ok ca) (hb : rGet b bs path = .error .notExist) :
    rGet (.multi a b) bs path = .ok ca := by
  simp [rGet, ha, hb]

/-- Overlay: the first member wins. -/
theorem overlay_first_wins (a b : BExpr) (bs : Bases) (path : Str) (ca : Content)
    (ha : rGet a bs path = .ok ca) : rGet (.overlay a b) bs path = .ok ca := by
  simp [rGet, ha]

theorem overlay_falls_through (a b : BExpr) (bs : Bases) (path : Str)
    (ha : rGet a bs path = .error .notExist) : rGet (.overlay a b) bs path = rGet b bs path := by
  simp [rGet, ha]

/-! ### Every composite read bucket behaves as ONE path→bytes map -/

/-- walk_get_coherent (audit S2): for EVERY composite read bucket `e` — any nesting of prefix
    views, filtered views, unions, overlays and external-path-strips over base buckets — a
    successful walk visits exactly the paths a get would find, with the same contents, each once.
    Hypotheses: every `MapOnPrefix` prefix is a normalised validated path (`e.WF`, the documented
    precondition of `MapOnPrefix`), and the base buckets satisfy the memory-bucket invariants
    (`BasesOK`, preserved by every operation: `mem_refines_spec`).  Then, if
    `Walk(pfx) = ok objs`, with `kq` the key `pfx` denotes:
      (a) every listed `(k, c)` is a rendered key `kk` under `kq`, and `Get(k) = ok c`
          provided `kk ≠ []`;
      (b) every non-root key under `kq` with `Get = ok c` is listed with `c`;
      (c) no key is listed twice;
      (d) below the prefix `Get` is `ok` or `not-exist` — no other error.
    The proviso `kk ≠ []` in (a) is the weakest possible: as coded, a prefix view rooted exactly
    AT a stored object path lists that object under the path "." (`prefixMapper.UnmapFullPath`
    returns `Rel(p, p) = "."`), and `Get(".")` is rejected ("cannot get root",
    `walk_lists_root_object_counterexample`).  No hypothesis excludes that state: the theorem
    covers it and says precisely that "." is the only listed path a get does not serve. -/
theorem walk_get_coherent (e : BExpr) (he : e.WF) (bs : Bases) (hbs : BasesOK bs) (pfx : Str)
    (objs : List (Str × Content)) (h : rWalk e bs pfx = .ok objs) :
    ∃ kq : Key, AllProper kq ∧ normalizeAndValidate pfx = .ok (renderKey kq) ∧
      (∀ kc ∈ objs, ∃ kk : Key, AllProper kk ∧ kc.1 = renderKey kk ∧ kq <+: kk ∧
          (kk ≠ [] → rGet e bs kc.1 = .ok kc.2)) ∧
      (∀ (kk : Key) (c : Content), AllProper kk → kk ≠ [] → kq <+: kk →
          rGet e bs (renderKey kk) = .ok c → (renderKey kk, c) ∈ objs) ∧
      NodupKeys objs ∧
      (∀ kk : Key, AllProper kk → kk ≠ [] → kq <+: kk →
          (∃ c, rGet e bs (renderKey kk) = .ok c) ∨ rGet e bs (renderKey kk) = .error .notExist) := by
  obtain ⟨kq, hkq, hnv, hc⟩ := rWalk_coherent e he bs hbs pfx objs h
  refine ⟨kq, hkq, hnv, ?_, hc.complete, hc.nodup, hc.total⟩
  intro kc hkc
  obtain ⟨kk, hkk, hk⟩ := hc.rendered kc hkc
  obtain ⟨h1, h2⟩ := hc.sound kk kc.2 hkk (by rw [← hk]; exact hkc)
  exact ⟨kk, hkk, hk, h1, fun hne => by rw [hk]; exact h2 hne⟩

/-- The same as an equation between the walk result and the composite read as an abstract map
    `absE e bs` (what `Get` finds at each key): the walk lists exactly the map's entries under
    the prefix. -/
theorem walk_lists_exactly_the_map (e : BExpr) (he : e.WF) (bs : Bases) (hbs : BasesOK bs) (pfx : Str)
    (objs : List (Str × Content)) (h : rWalk e bs pfx = .ok objs) :
    ∃ kq : Key, AllProper kq ∧ normalizeAndValidate pfx = .ok (renderKey kq) ∧
      ∀ (kk : Key) (c : Content), AllProper kk → kk ≠ [] →
        ((renderKey kk, c) ∈ objs ↔ (kq <+: kk ∧ absE e bs kk = some c)) := by
  obtain ⟨kq, hkq, hnv, hc⟩ := rWalk_lists e he bs hbs pfx objs h
  refine ⟨kq, hkq, hnv, fun kk c hkk hne => ?_⟩
  rw [hc.mem_iff kk c hkk, absE_eq e he bs hkk hne]
  cases e.look bs kk <;> simp

/-- As coded: a prefix view rooted AT an object lists it as "." and cannot get it. -/
theorem walk_lists_root_object_counterexample :
    rWalk (.pre "a".toList (.base 0)) [[("a".toList, "1")]] [] = .ok [(".".toList, "1")] ∧
    rGet (.pre "a".toList (.base 0)) [[("a".toList, "1")]] ".".toList = .error .root := by decide

/-- For a proper path a composite get/stat finds an object, reports not-exist, or — only below
    a union — reports the path as present in several members: no other outcome. -/
theorem get_is_found_missing_or_duplicate (e : BExpr) (he : e.WF) (bs : Bases) (k : Key)
    (hk : AllProper k) (hne : k ≠ []) :
    (∃ c, rGet e bs (renderKey k) = .ok c) ∨ rGet e bs (renderKey k) = .error .notExist ∨
      rGet e bs (renderKey k) = .error .multiple :=
  rGet_key_cases e he bs hk hne

/-- Equivalent spellings through every composite. -/
theorem spelling_irrelevant_composite (e : BExpr) (bs : Bases) (s₁ s₂ : Str)
    (h : normalizeAndValidate s₁ = normalizeAndValidate s₂) :
    rGet e bs s₁ = rGet e bs s₂ ∧ rWalk e bs s₁ = rWalk e bs s₂ :=
  ⟨rGet_spelling e bs s₁ s₂ h, rWalk_spelling e bs s₁ s₂ h⟩

example : normalizeAndValidate "a//x".toList = normalizeAndValidate "./a/q/../x/".toList := by decide +kernel

/-- Equivalent spellings denote the same object (not a mere congruence): EVERY path string that
    denotes the key `k` (`keyOf s = ok k`: after normalisation and validation) behaves, in every
    memory-bucket operation and through every composite, exactly like the canonical rendering
    of `k`.  So two spellings with the same key are interchangeable, and the key alone decides. -/
theorem spelling_denotes_key (s : Str) (k : Key) (h : keyOf s = .ok k) (m : Mem) (c : Content)
    (e : BExpr) (bs : Bases) :
    memStep m (.get s) = memStep m (.get (renderKey k)) ∧
    memStep m (.put s c) = memStep m (.put (renderKey k) c) ∧
    memStep m (.delete s) = memStep m (.delete (renderKey k)) ∧
    memStep m (.deleteAll s) = memStep m (.deleteAll (renderKey k)) ∧
    memStep m (.walk s) = memStep m (.walk (renderKey k)) ∧
    rGet e bs s = rGet e bs (renderKey k) ∧ rWalk e bs s = rWalk e bs (renderKey k) := by
  obtain ⟨hk, hnv⟩ := keyOf_ok h
  have heq : normalizeAndValidate s = normalizeAndValidate (renderKey k) := by
    rw [hnv, validate_renderKey hk]
  obtain ⟨h1, h2, h3, h4, h5⟩ := spelling_irrelevant m s (renderKey k) heq c
  exact ⟨h1, h2, h3, h4, h5, rGet_spelling e bs _ _ heq, rWalk_spelling e bs _ _ heq⟩

example : keyOf "./a/q/../x/".toList = .ok ["a".toList, "x".toList] := by decide +kernel

/-- Get through prefix views, both directions (audit: completeness / not-exist): for any path
    that validates to a non-root key `kq`, get through ANY nesting of prefix views is `ok c`
    exactly when the base bucket stores `c` at (view root ++ kq), and `not-exist` otherwise. -/
theorem prefix_view_get_complete (ls : List KLayer) (hls : KLayersOK ls) (hpre : PreOnly ls) (m : Mem)
    (path : Str) (kq : Key) (hkq : AllProper kq) (hne : kq ≠ [])
    (hnv : normalizeAndValidate path = .ok (renderKey kq)) :
    vGet (ls.map KLayer.toLayer) m path =
      (match m.find (renderKey (fullKey ls ++ kq)) with
        | some c => .ok c
        | none => .error .notExist) := by
  rw [vGet_key hls m hkq hne hnv, passes_of_preOnly hpre, if_pos rfl]
  rfl

/-- mapView_abs: a prefix view over any composite is the sub-map below the prefix. -/
theorem prefix_view_abs (b : BExpr) (bs : Bases) (p k : Key) (hp : AllProper p) (hk : AllProper k)
    (hne : k ≠ []) : absE (.pre (renderKey p) b) bs k = absE b bs (p ++ k) :=
  absE_pre b bs hp hk hne

/-- filterView_abs: a filtered view is the restriction of the map to the matching paths. -/
theorem filter_view_abs (f : Matcher) (b : BExpr) (bs : Bases) (k : Key) (hk : AllProper k) :
    absE (.filt f b) bs k = if f.matches (renderKey k) then absE b bs k else none :=
  absE_filt f b bs hk

/-- An overlay is the left-biased union of the members' maps. -/
theorem overlay_abs (a b : BExpr) (bs : Bases) (k : Key) (he : a.WF) (hk : AllProper k) (hne : k ≠ [])
    (hm : rGet a bs (renderKey k) ≠ .error .multiple) :
    absE (.overlay a b) bs k = (match absE a bs k with | some c => some c | none => absE b bs k) :=
  absE_overlay a b bs k hm he hk hne

/-- A union is the DISJOINT union of the members' maps; a key present in both is reported. -/
theorem union_abs (a b : BExpr) (bs : Bases) (k : Key) (ha : a.WF) (hb : b.WF) (hk : AllProper k) (hne : k ≠ [])
    (hma : rGet a bs (renderKey k) ≠ .error .multiple) (hmb : rGet b bs (renderKey k) ≠ .error .multiple) :
    absE (.multi a b) bs k =
      (match absE a bs k, absE b bs k with
        | some c, none => some c
        | none, some c => some c
        | _, _ => none) ∧
    ((absE a bs k).isSome → (absE b bs k).isSome → rGet (.multi a b) bs (renderKey k) = .error .multiple) :=
  absE_multi a b bs k ha hb hk hne hma hmb

/-- storage.StripReadBucketExternalPaths changes no path and no content: get and walk are those
    of the wrapped bucket (it only rewrites ExternalPath metadata, which the model — objects are
    (path, content) — does not carry; the harness checks ExternalPath == Path on the real one). -/
theorem strip_external_paths_is_identity (b : BExpr) (bs : Bases) (s : Str) :
    rGet (.strip b) bs s = rGet b bs s ∧ rWalk (.strip b) bs s = rWalk b bs s := by
  simp only [rGet, rWalk, and_self]

/-! ### Copy -/

/-- For an ARBITRARY composite source: if `storage.Copy(e, target)` succeeds
    then the target holds, at every key, the object `Get` finds in the source if there is one,
    else what it held before; every other base is untouched; the invariants are kept; the count
    is the number of objects the source walk listed. -/
theorem copy_is_map_union (e : BExpr) (he : e.WF) (bs : Bases) (hbs : BasesOK bs) (t n : Nat)
    (bs' : Bases) (h : rCopy e bs t = .ok (n, bs')) :
    (∃ objs, rWalk e bs [] = .ok objs ∧ n = objs.length) ∧
    (∀ j, j ≠ t → bs'.get j = bs.get j) ∧ KeysValid (bs'.get t) ∧ NodupKeys (bs'.get t) ∧
    ∀ k : Key, AllProper k → k ≠ [] →
      abs (bs'.get t) k = (match absE e bs k with | some c => some c | none => abs (bs.get t) k) := by
  obtain ⟨objs, hw, h⟩ := bind_ok h
  obtain ⟨m', hp, h⟩ := bind_ok h
  injection h with h
  injection h with hn hb
  subst hb
  have hc := rWalk_all_lists e he bs hbs objs hw
  have hvo := putAll_ok_keysValid hc.rendered hp
  cases (putAll_eq_putList hvo (bs.get t)).symm.trans hp
  refine ⟨⟨objs, hw, hn.symm⟩, fun j hj => Bases.get_set_ne bs t j _ hj, ?_, ?_, ?_⟩
  · rw [Bases.get_set_eq]; exact keysValid_putList (hbs t).1 hvo
  · rw [Bases.get_set_eq]; exact nodupKeys_putList (hbs t).2 objs
  · intro k hk hne
    rw [abs, Bases.get_set_eq, find_putList_of_nodup hc.nodup, hc.find_eq hk List.nil_prefix,
      absE_eq e he bs hk hne]
    cases e.look bs k <;> rfl

/-- … and the copy does succeed whenever the source walk succeeds and does not report the view
    root "." as an object. -/
theorem copy_succeeds (e : BExpr) (he : e.WF) (bs : Bases) (hbs : BasesOK bs) (t : Nat)
    (objs : List (Str × Content)) (hw : rWalk e bs [] = .ok objs) (hroot : ∀ c, (dot, c) ∉ objs) :
    ∃ bs', rCopy e bs t = .ok (objs.length, bs') := by
  have hc := rWalk_all_lists e he bs hbs objs hw
  exact ⟨bs.set t (putList (bs.get t) objs),
    by simp only [rCopy, hw, putAll_eq_putList (keysValid_of_rendered hc.rendered hroot)]⟩

/-- `storage.Copy` of a memory bucket into an empty one reproduces the source
    exactly, as a map. -/
theorem copy_into_empty (src : Mem) (hv : KeysValid src) (hn : NodupKeys src) :
    ∃ n bs', rCopy (.base 0) [src, []] 1 = .ok (n, bs') ∧ n = src.length ∧
      ∀ k : Key, AllProper k → k ≠ [] → abs (bs'.get 1) k = abs src k := by
  have hbs : BasesOK [src, []] := basesOK_pair hv hn keysValid_nil (by simp [NodupKeys])
  have hroot : ∀ c, (dot, c) ∉ src := by
    intro c hin
    obtain ⟨k, hk, hne, hk1⟩ := hv _ hin
    exact renderKey_ne_dot hk hne hk1.symm
  obtain ⟨bs', hcp⟩ := copy_succeeds (.base 0) trivial _ hbs 1 src (walk_all_mem src _) hroot
  obtain ⟨_, _, _, _, hall⟩ := copy_is_map_union (.base 0) trivial _ hbs 1 _ bs' hcp
  refine ⟨src.length, bs', hcp, rfl, ?_⟩
  intro k hk hne
  rw [hall k hk hne, absE_base 0 _ hk hne]
  simp only [Bases.get, List.getD_cons_zero, abs]
  cases Mem.find src (renderKey k) with
  | some c => rfl
  | none => simp [Mem.find]

/-! ### Archives (entry-level model BufModel/Archive.lean) -/

/-- Tar / Zip of any composite: one regular entry per walked object, name = path, content = the
    walked content (the per-object `Get` of `WalkReadObjects` returns it: Walk/Get coherence),
    whenever the walk succeeds and does not report the view root "." … -/
theorem tar_lists_walked_objects (e : BExpr) (he : e.WF) (bs : Bases) (hbs : BasesOK bs)
    (objs : List (Str × Content)) (hw : rWalk e bs [] = .ok objs) (hroot : ∀ c, (dot, c) ∉ objs) :
    tarOf e bs = .ok (entriesOf objs) :=
  tarOf_eq_walk e he bs hbs objs hw hroot

/-- … and a Tar / Zip that succeeds has exactly that shape (a reported "." makes it fail). -/
theorem tar_ok_only_proper_paths (e : BExpr) (he : e.WF) (bs : Bases) (hbs : BasesOK bs) (a : Archive)
    (h : tarOf e bs = .ok a) :
    ∃ objs, rWalk e bs [] = .ok objs ∧ KeysValid objs ∧ NodupKeys objs ∧ a = entriesOf objs :=
  tarOf_ok e he bs hbs a h

/-- untar_tar (audit S1): for every memory bucket `m` (invariants `KeysValid`, `NodupKeys`) without
    "._"-named objects, Tar (resp. Zip) of `m` followed by Untar (resp. Unzip) into the EMPTY
    bucket, strip-components 0 and no matcher, never fails and yields a bucket equal to `m` as a
    map.  (`fmt` = tar or zip: the two extraction loops differ in the order of their checks.)
    The `NoApple` hypothesis is needed: `untar_tar_drops_apple_files_counterexample`. -/
theorem untar_tar (fmt : Fmt) (m : Mem) (hv : KeysValid m) (hn : NodupKeys m) (hna : NoApple m) :
    ∃ a m', tarOfMem m = .ok a ∧ extractInto fmt 0 (fun _ => true) 0 a [] = (none, m') ∧
      ∀ k : Str, Mem.find m' k = Mem.find m k := by
  obtain ⟨m', h1, hfind⟩ := extract_entriesOf_empty fmt 0 (fun _ => true) m hv hna
  rw [stripObjs_zero_all] at hfind
  exact ⟨entriesOf m, m', tarOfMem_eq m hv hn, h1,
    fun k => by rw [hfind k, find_perm hn (List.reverse_perm m)]⟩

/-- As coded, Untar/Unzip skip every entry whose base name starts with "._" (macOS extended
    attribute files; "a reasonable compromise" says the source) although Tar/Zip write them: the
    round trip LOSES such objects.  Hence the `NoApple` hypothesis above. -/
theorem untar_tar_drops_apple_files_counterexample :
    tarOfMem [("a/._x".toList, "1")] = .ok [{ name := "a/._x".toList, content := "1", kind := .reg }] ∧
    untarInto [{ name := "a/._x".toList, content := "1", kind := .reg }] 0 (fun _ => true) [] = (none, []) ∧
    unzipInto [{ name := "a/._x".toList, content := "1", kind := .reg }] 0 (fun _ => true) [] = (none, []) := by
  decide

/-- untar_tar with strip-components `n` and a path matcher: the extraction never fails and the
    result is the map of the stripped, matching objects — archive order, a later object wins
    when two names collide after stripping; the image is explicit: an object at key `kk` lands at
    `kk.drop n` when `n = 0` or `kk` has more than `n` components, and is skipped otherwise. -/
theorem untar_tar_strip (fmt : Fmt) (n : Nat) (f : Str → Bool) (m : Mem) (hv : KeysValid m)
    (hn : NodupKeys m) (hna : NoApple m) :
    ∃ a m', tarOfMem m = .ok a ∧ extractInto fmt n f 0 a [] = (none, m') ∧
      (∀ k : Str, Mem.find m' k = Mem.find (stripObjs n f m).reverse k) ∧
      (∀ (p : Str) (c : Content), (p, c) ∈ stripObjs n f m ↔
        ∃ kk : Key, AllProper kk ∧ kk ≠ [] ∧ (renderKey kk, c) ∈ m ∧ (n = 0 ∨ n < kk.length) ∧
          p = renderKey (kk.drop n) ∧ f p = true) := by
  obtain ⟨m', h1, hfind⟩ := extract_entriesOf_empty fmt n f m hv hna
  exact ⟨entriesOf m, m', tarOfMem_eq m hv hn, h1, hfind, mem_stripObjs n f m hv⟩

/-- The usual use of strip-components — an archive whose objects all live below one top-level
    directory chain `p`: stripping `p.length` components yields exactly the sub-tree below `p`,
    re-keyed relative to it. -/
theorem untar_tar_strip_prefix (fmt : Fmt) (p : Key) (hp : AllProper p) (m : Mem) (hv : KeysValid m)
    (hn : NodupKeys m) (hna : NoApple m)
    (hall : ∀ kv ∈ m, ∃ kk : Key, AllProper kk ∧ kk ≠ [] ∧ kv.1 = renderKey (p ++ kk)) :
    ∃ a m', tarOfMem m = .ok a ∧ extractInto fmt p.length (fun _ => true) 0 a [] = (none, m') ∧
      ∀ kk : Key, AllProper kk → kk ≠ [] → Mem.find m' (renderKey kk) = Mem.find m (renderKey (p ++ kk)) := by
  obtain ⟨m', h1, hfind⟩ := extract_entriesOf_empty fmt p.length (fun _ => true) m hv hna
  obtain ⟨hnd, hfi⟩ := stripObjs_prefix p hp m hv hn hall
  exact ⟨entriesOf m, m', tarOfMem_eq m hv hn, h1,
    fun kk hkk hne => by rw [hfind, find_perm hnd (List.reverse_perm _), hfi kk hkk hne]⟩

/-- untar_tar for an ARBITRARY composite source: whenever Tar/Zip of `e` succeeds and wrote no
    "._"-named entry, extracting it into the empty bucket yields exactly the composite's map
    `absE e bs` (what `Get` finds through `e`). -/
theorem untar_tar_composite (fmt : Fmt) (e : BExpr) (he : e.WF) (bs : Bases) (hbs : BasesOK bs)
    (a : Archive) (h : tarOf e bs = .ok a)
    (hna : ∀ en ∈ a, applePrefix.isPrefixOf (base en.name) = false) :
    ∃ m', extractInto fmt 0 (fun _ => true) 0 a [] = (none, m') ∧
      ∀ k : Key, AllProper k → k ≠ [] → abs m' k = absE e bs k := by
  obtain ⟨objs, hw, hvo, hno, rfl⟩ := tarOf_ok e he bs hbs a h
  have hna' : NoApple objs := fun kv hkv =>
    hna { name := kv.1, content := kv.2, kind := .reg } (List.mem_map.mpr ⟨kv, hkv, rfl⟩)
  obtain ⟨m', h1, hfind⟩ := extract_entriesOf_empty fmt 0 (fun _ => true) objs hvo hna'
  rw [stripObjs_zero_all] at hfind
  refine ⟨m', h1, fun k hk hne => ?_⟩
  rw [abs, hfind, find_perm hno (List.reverse_perm objs),
    (rWalk_all_lists e he bs hbs objs hw).find_eq hk List.nil_prefix, absE_eq e he bs hk hne]

/-- The real memory bucket walks in sorted path order; the driver therefore tars the bases in
    sorted order (`tarOfSorted`).  Order is irrelevant to the result as a map: the round trip of
    the sorted archive still yields exactly the composite's map over the ORIGINAL bases. -/
theorem untar_tar_sorted_composite (fmt : Fmt) (e : BExpr) (he : e.WF) (bs : Bases) (hbs : BasesOK bs)
    (a : Archive) (h : tarOfSorted e bs = .ok a)
    (hna : ∀ en ∈ a, applePrefix.isPrefixOf (base en.name) = false) :
    ∃ m', extractInto fmt 0 (fun _ => true) 0 a [] = (none, m') ∧
      ∀ k : Key, AllProper k → k ≠ [] → abs m' k = absE e bs k := by
  obtain ⟨m', h1, h2⟩ := untar_tar_composite fmt e he (bs.map sortMem) (basesOK_sorted hbs) a h hna
  refine ⟨m', h1, ?_⟩
  intro k hk hne
  rw [h2 k hk hne]
  simp only [absE, rGet_sorted e bs hbs]

/-! ### What the correspondence driver runs for disk-backed composites -/

open BufModel.Disk in
/-- The driver runs the STREAMING walk `rWalkD` (objects are handed to the caller as visited; the
    first error — a failing member or the union's duplicate check — stops it; BufModel/Disk.lean).
    Whenever it completes, with any mix of disk bases, it has visited exactly the list `rWalk`
    computes — so `walk_get_coherent` applies to every successful walk the driver prints. -/
theorem walkD_ok_is_walk (flags : List Bool) (e : BExpr) (bs : Bases) (pfx : Str)
    (objs : List (Str × Content)) (h : rWalkD flags e bs pfx = (objs, none)) : rWalk e bs pfx = .ok objs :=
  rWalkD_ok flags e bs pfx objs h

open BufModel.Disk in
/-- With all flags false (no disk base) `rWalkD` equals `rWalk` on every successful walk: the
    streaming walk completes exactly when `rWalk` succeeds, with the same list.  (When the walk
    fails the two may name different errors only if two different errors compete, which needs a
    disk base's ENOTDIR; error classes are compared by the correspondence run.) -/
theorem walkD_all_memory_is_walk (flags : List Bool) (hf : ∀ i, flags.getD i false = false) (e : BExpr)
    (bs : Bases) (pfx : Str) (objs : List (Str × Content)) :
    rWalkD flags e bs pfx = (objs, none) ↔ rWalk e bs pfx = .ok objs :=
  ⟨rWalkD_ok flags e bs pfx objs, rWalkD_of_rWalk_ok flags hf e bs pfx objs⟩

open BufModel.Disk in
/-- Why the driver needs the streaming walk: in `multi(x, multi(y, z))` a path of `y` already
    seen in `x` is reported as duplicate before the disk bucket `z` is walked below a file. -/
theorem streaming_walk_error_order_counterexample :
    rWalkD [false, true] (.multi (.base 0) (.multi (.base 0) (.base 1)))
        [[("c/d/f".toList, "1")], [("c/d".toList, "2")]] "c/d/f".toList = ([("c/d/f".toList, "1")], some .multiple) ∧
    rWalkD [false, true] (.multi (.base 0) (.base 1))
        [[("c/d/f".toList, "1")], [("c/d".toList, "2")]] "c/d/f".toList = ([("c/d/f".toList, "1")], some .other) := by
  decide

open BufModel.Disk in
/-- The copy the driver runs (walk for the paths, `Get` per path as `copyPaths` /
    `WalkReadObjects` do, put on a memory or disk target) refines `rCopy`: whenever it succeeds,
    count and resulting object map are those of `rCopy` — so `copy_is_map_union` applies. -/
theorem copyD_refines_copy (flags : List Bool) (e : BExpr) (he : e.WF) (bs : Bases) (hbs : BasesOK bs)
    (t : Nat) (isDisk : Bool) (d0 d' : Disk) (n : Nat) (ht : bs.get t = d0.files)
    (h : copyD flags e bs isDisk d0 = .ok (n, d')) :
    rCopy e bs t = .ok (n, bs.set t d'.files) :=
  copyD_refines_rCopy flags e he bs hbs t isDisk d0 d' n ht h

/-! ### The disk bucket (a file tree) refines the same map on prefix-free histories -/

open BufModel.Disk in
def diskStep (d : Disk) : Op → Disk × Out
  | .get p => match diskGet d p with
      | .ok c => (d, .content c) | .error e => (d, .err e)
  | .put p c => match diskPut d p c with
      | .ok d' => (d', .done) | .error e => (d, .err e)
  | .delete p => match diskDelete d p with
      | .ok d' => (d', .done) | .error e => (d, .err e)
  | .deleteAll p => match diskDeleteAll d p with
      | .ok d' => (d', .done) | .error e => (d, .err e)
  | .walk p => match diskWalk d p with
      | .ok l => (d, .objs l) | .error e => (d, .err e)

open BufModel.Disk in
def diskRun (d : Disk) : List Op → Disk × List Out
  | [] => (d, [])
  | op :: rest =>
    let r := diskStep d op
    let rr := diskRun r.1 rest
    (rr.1, r.2 :: rr.2)

open BufModel.Disk in
/-- The prefix-free discipline of a history relative to the set `U` of keys it ever puts:
    puts only put keys of `U`; a delete never addresses a directory or a path below a file; a
    delete-all / walk prefix is not strictly below a file. -/
def OpOK (U : List Key) : Op → Prop
  | .get _ => True
  | .put p _ => ∀ k, AllProper k → k ≠ [] → normalizeAndValidate p = .ok (renderKey k) → k ∈ U
  | .delete p => ∀ k, AllProper k → normalizeAndValidate p = .ok (renderKey k) → Unrelated U k
  | .deleteAll p => ∀ k, AllProper k → normalizeAndValidate p = .ok (renderKey k) → ∀ u ∈ U, ¬ Below u k
  | .walk p => ∀ k, AllProper k → normalizeAndValidate p = .ok (renderKey k) → ∀ u ∈ U, ¬ Below u k

open BufModel.Disk in
theorem disk_step_refines (U : List Key) (hU : UProper U) (hpf : PrefixFree U) (d : Disk)
    (inv : TreeInv U d) (op : Op) (hop : OpOK U op) :
    (diskStep d op).1.files = (memStep d.files op).1 ∧ (diskStep d op).2 = (memStep d.files op).2 ∧
      TreeInv U (diskStep d op).1 := by
  cases op with
  | get p => simp only [diskStep, memStep, diskGet]; cases memGet d.files p <;> exact ⟨rfl, rfl, inv⟩
  | put p c =>
    rcases validatePath_cases p with ⟨e, hnv, hvp⟩ | ⟨hnv, hvp⟩ | ⟨k, hk, hne, hnv, hvp⟩
    · simp only [diskStep, memStep, diskPut, memPut, hvp]; exact ⟨trivial, trivial, inv⟩
    · simp only [diskStep, memStep, diskPut, memPut, hvp]; exact ⟨trivial, trivial, inv⟩
    · obtain ⟨d', h1, h2, h3⟩ := diskPut_eq_mem inv hU hpf p c k hk hvp (hop k hk hne hnv)
      simp only [diskStep, memStep, h1, h2]; exact ⟨trivial, trivial, h3⟩
  | delete p =>
    rcases validatePath_cases p with ⟨e, hnv, hvp⟩ | ⟨hnv, hvp⟩ | ⟨k, hk, hne, hnv, hvp⟩
    · simp only [diskStep, memStep, diskDelete, memDelete, hvp]; exact ⟨trivial, trivial, inv⟩
    · simp only [diskStep, memStep, diskDelete, memDelete, hvp]; exact ⟨trivial, trivial, inv⟩
    · rcases diskDelete_eq_mem inv hU p k hk hvp (hop k hk hnv) with ⟨d', h1, h2, h3⟩ | ⟨h1, h2⟩
      · simp only [diskStep, memStep, h1, h2]; exact ⟨trivial, trivial, h3⟩
      · simp only [diskStep, memStep, h1, h2]; exact ⟨trivial, trivial, inv⟩
  | deleteAll p =>
    rcases validate_cases p with ⟨e, hnv⟩ | ⟨k, hk, hnv⟩
    · simp only [diskStep, memStep, diskDeleteAll, memDeleteAll, validatePrefix, hnv]; exact ⟨trivial, trivial, inv⟩
    · obtain ⟨d', h1, h2, h3⟩ := diskDeleteAll_eq_mem inv hU p k hk hnv (hop k hk hnv)
      simp only [diskStep, memStep, h1, h2]; exact ⟨trivial, trivial, h3⟩
  | walk p =>
    have hw : diskWalk d p = memWalk d.files p := by
      rcases validate_cases p with ⟨e, hnv⟩ | ⟨k, hk, hnv⟩
      · simp [diskWalk, underFile, validatePrefix, hnv]
      · exact diskWalk_eq_mem inv hU p k hk hnv (hop k hk hnv)
    simp only [diskStep, memStep, hw]
    cases memWalk d.files p <;> exact ⟨rfl, rfl, inv⟩

open BufModel.Disk in
/-- On every history that keeps to a prefix-free set `U` of object keys (no
    object name is a directory of another; deletes address objects, not directories; prefixes
    do not point below an object) the disk bucket — a real file TREE with directories, ENOTDIR /
    EISDIR failures and leftover empty directories — gives exactly the outputs of the memory
    bucket and holds exactly the same objects; by `mem_refines_spec` it therefore behaves as
    the abstract path→bytes map. -/
theorem disk_refines_map (U : List Key) (hU : UProper U) (hpf : PrefixFree U) (ops : List Op)
    (hops : ∀ op ∈ ops, OpOK U op) (d : Disk) (inv : TreeInv U d) :
    (diskRun d ops).1.files = (memRun d.files ops).1 ∧ (diskRun d ops).2 = (memRun d.files ops).2 := by
  induction ops generalizing d with
  | nil => exact ⟨rfl, rfl⟩
  | cons op rest ih =>
    obtain ⟨hf, ho, hinv⟩ := disk_step_refines U hU hpf d inv op (hops op (by simp))
    obtain ⟨ihf, iho⟩ := ih (fun o ho => hops o (List.mem_cons_of_mem _ ho)) (diskStep d op).1 hinv
    simp only [diskRun, memRun]
    rw [hf] at ihf iho
    exact ⟨ihf, by rw [ho, iho]⟩

/-- Outside the discipline the tree and the map DO differ (why the hypothesis is needed): a put
    below an existing object fails on disk and succeeds in memory. -/
theorem disk_differs_without_prefix_freedom :
    (diskRun BufModel.Disk.empty [.put "a".toList "1", .put "a/b".toList "2"]).2 ≠
      (memRun [] [.put "a".toList "1", .put "a/b".toList "2"]).2 := by decide

-- non-vacuity: a concrete history with awkward spellings, run through the model: the FULL output
example : (memRun [] [.put "a//x".toList "1", .put "./b".toList "2", .walk "".toList, .deleteAll "a/.".toList,
      .get "b/".toList, .get "a/x".toList, .delete "../b".toList, .put ".".toList "3"]) =
    ([("b".toList, "2")],
     [.done, .done, .objs [("b".toList, "2"), ("a/x".toList, "1")], .done, .content "2", .err .notExist,
      .err .outsideContext, .err .root]) := by
  decide +kernel
example : KeysValid [("a/x".toList, "1")] := by
  intro kv h; simp at h; subst h
  exact ⟨["a".toList, "x".toList], by intro n hn; simp at hn; rcases hn with rfl | rfl <;> decide, by simp, by decide⟩

-- non-vacuity of walk_get_coherent / copy_is_map_union / untar_tar_composite: a composite using
-- every combinator, well-formed, whose walk, get, copy and tar succeed with non-empty results
def exE : BExpr :=
  .overlay (.pre "a".toList (.filt (.ext ".proto".toList) (.base 0)))
    (.strip (.multi (.base 1) (.pre ".".toList (.base 2))))
def exBs : Bases := [[("a/x.proto".toList, "1"), ("a/y".toList, "2")], [("x.proto".toList, "3"), ("z".toList, "4")],
  [("w/v".toList, "5")]]
example : exE.WF := by
  refine ⟨⟨⟨["a".toList], ?_, by decide⟩, trivial⟩, ⟨trivial, ⟨⟨[], allProper_nil, by decide⟩, trivial⟩⟩⟩
  intro n hn; simp at hn; subst hn; decide
example : rWalk exE exBs [] = .ok [("x.proto".toList, "1"), ("z".toList, "4"), ("w/v".toList, "5")] := by decide +kernel
example : rGet exE exBs "x.proto".toList = .ok "1" ∧ rGet exE exBs "w/./v".toList = .ok "5" ∧
    rGet exE exBs "y".toList = .error .notExist := by decide +kernel
example : (rCopy exE exBs 3).map (fun r => (r.1, r.2.get 3)) =
    .ok (3, [("w/v".toList, "5"), ("z".toList, "4"), ("x.proto".toList, "1")]) := by decide +kernel
example : (tarOf exE exBs).map (fun a => a.map (fun en => (en.name, en.content))) =
    .ok [("x.proto".toList, "1"), ("z".toList, "4"), ("w/v".toList, "5")] := by decide +kernel
-- strip-components 1 on a one-directory archive, a hostile entry aborting, a directory entry skipped
example : untarInto [{ name := "top/a".toList, content := "1", kind := .reg },
      { name := "top/d/".toList, content := "", kind := .dir },
      { name := "top/d/b".toList, content := "2", kind := .reg }] 1 (fun _ => true) [] =
    (none, [("d/b".toList, "2"), ("a".toList, "1")]) := by decide +kernel
example : unzipInto [{ name := "ok".toList, content := "1", kind := .reg },
      { name := "../evil".toList, content := "2", kind := .reg }] 0 (fun _ => true) [] =
    (some .outsideContext, [("ok".toList, "1")]) := by decide
-- a hostile "._" name is rejected by both loops (in Untar too the AppleDouble skip stands behind the name check)
example : untarInto [{ name := "../._x".toList, content := "1", kind := .reg }] 0 (fun _ => true) [] =
      (some .outsideContext, []) ∧
    unzipInto [{ name := "../._x".toList, content := "1", kind := .reg }] 0 (fun _ => true) [] =
      (some .outsideContext, []) := by decide
example : NoApple [("a/x".toList, "1")] := by
  intro kv h; simp at h; subst h; decide

/-! ### Names do not matter; an atomic put in flight

  Every theorem above quantifies over ALL keys (`AllProper k`: components that are non-empty,
  slash-free and not "." / ".."), so a base name such as `.tmpl.proto`, `.tmp`, `x~`, `CON`, `..x`
  is covered like any other — the model's walk never inspects a name.  The two statements below
  make that explicit for the disk tree, and describe the one moment at which the directory holds a
  file nobody put: the temp file of an atomic put whose writer is still open. -/

open BufModel.Disk in
/-- Whatever its base name `n` looks like (any proper component — `.tmp`, `.tmpl.proto`, `x~`,
    `..x`, …), an object put on the disk tree where no ancestor is a file and the name is not a
    directory is found by `Get` and listed by `Walk ""` with its content. -/
theorem disk_put_then_walk_lists_any_name (d : Disk) (dirK : Key) (n : Comp) (c : Content)
    (hk : AllProper (dirK ++ [n]))
    (hanc : (ancestors (dirK ++ [n])).any (isFile d) = false) (hnd : isDir d (dirK ++ [n]) = false) :
    ∃ d', diskPut d (renderKey (dirK ++ [n])) c = .ok d' ∧
      diskGet d' (renderKey (dirK ++ [n])) = .ok c ∧
      ∃ l, diskWalk d' [] = .ok l ∧ (renderKey (dirK ++ [n]), c) ∈ l := by
  have hne : dirK ++ [n] ≠ [] := by simp
  have hv := validatePath_renderKey hk hne
  have hkey : keyOfPath (renderKey (dirK ++ [n])) = dirK ++ [n] := cleanComps_renderKey hk
  refine ⟨_, by simp only [diskPut, hv, hkey, hanc, hnd]; rfl, ?_, ?_⟩
  · simp only [diskGet, memGet, hv, find_cons_eq]
  · exact ⟨_, diskWalk_all _, List.mem_cons_self⟩

open BufModel.Disk in
/-- As coded: opening an atomic put on the disk tree (temp file `t` next to the final path, which
    `os.CreateTemp` guarantees to be a fresh name) IS a put of one more object at the temp path —
    so while the writer is open `Walk` lists the temp file and `Get` serves it exactly as the
    memory-bucket theory says for any object (the tree is still one path→bytes map; it just has an
    object nobody asked for).  The property is silent about whether the temp file should be
    visible; the harness oracle only demands that Walk and Get agree about it. -/
theorem inflight_begin_is_put_of_temp (d : Disk) (k : Key) (t : Comp) (c : Content)
    (hk : AllProper k) (hne : k ≠ []) (ht : Proper t)
    (hanc : (ancestors k).any (isFile d) = false) :
    ∃ d', diskBeginAtomic d (renderKey k) (some t) c = .ok d' ∧
      memPut d.files (renderKey (k.dropLast ++ [t])) c = .ok d'.files := by
  have hv := validatePath_renderKey hk hne
  have hkey : keyOfPath (renderKey k) = k := cleanComps_renderKey hk
  have hk2 : AllProper (k.dropLast ++ [t]) := by
    intro x hx
    rcases List.mem_append.mp hx with h | h
    · exact hk x (List.dropLast_subset k h)
    · simp at h; subst h; exact ht
  refine ⟨_, by simp only [diskBeginAtomic, hv, hkey, hanc]; rfl, ?_⟩
  simp only [memPut_key _ hk2 (by simp), tempPath, hkey]

open BufModel.Disk in
/-- Closing the writer publishes: when the final path is not a directory, and the temp name was
    fresh when the put began (`O_EXCL`), then after begin + close
    the tree holds, for EVERY path, exactly what a plain put would have left: the new content at
    the final path, nothing at the temp path, everything else untouched. -/
theorem inflight_close_equals_put (d : Disk) (k : Key) (t : Comp) (c : Content)
    (hk : AllProper k) (hne : k ≠ []) (ht : Proper t)
    (hanc : (ancestors k).any (isFile d) = false) (hnd : isDir d k = false)
    (hfresh : d.files.find (renderKey (k.dropLast ++ [t])) = none) :
    ∃ d1 d2 m, diskBeginAtomic d (renderKey k) (some t) c = .ok d1 ∧
      diskCommitAtomic d1 (renderKey k) (some t) c = (d2, none) ∧
      memPut d.files (renderKey k) c = .ok m ∧ ∀ q, d2.files.find q = m.find q := by
  have hv := validatePath_renderKey hk hne
  have hkey : keyOfPath (renderKey k) = k := cleanComps_renderKey hk
  -- opening the writer creates proper ancestors only: the final path is still no directory
  have hnd1 : (addDirs d.dirs (ancestors k)).contains k = false := by
    rw [← Bool.not_eq_true, List.contains_iff_mem, mem_addDirs_iff]
    rintro (h | h)
    · rw [isDir, List.contains_iff_mem.mpr h] at hnd; cases hnd
    · exact (mem_ancestors h).2.1 rfl
  refine ⟨_, _, _, by simp only [diskBeginAtomic, hv, hkey, hanc]; rfl,
    by simp only [diskCommitAtomic, hv, hkey, isDir, hnd1]; rfl, memPut_key _ hk hne c, fun q => ?_⟩
  rw [show tempPath (renderKey k) t = renderKey (k.dropLast ++ [t]) by rw [tempPath, hkey]]
  -- both trees are a put at the final path; below it, the temp path was put and erased again
  simp only [find_put_erase]
  by_cases hq : renderKey (k.dropLast ++ [t]) = q
  · rw [← hq, find_erase_eq, hfresh]
  · rw [find_erase_ne _ _ _ hq, find_cons_ne _ _ _ _ hq, find_erase_ne _ _ _ hq]

-- non-vacuity: a real object named like the implementation's temp files, and an in-flight put
open BufModel.Disk in
example : (diskPut BufModel.Disk.empty "a/.tmpl.proto".toList "1").map (fun d => diskWalk d "a".toList) =
    .ok (.ok [("a/.tmpl.proto".toList, "1")]) := by decide +kernel
open BufModel.Disk in
example : (diskBeginAtomic { files := [("a/x".toList, "OLD")], dirs := [["a".toList]] } "a/x".toList (some ".tmpx123".toList) "NEW").map
      (fun d => diskWalk d "".toList) = .ok (.ok [("a/.tmpx123".toList, "NEW"), ("a/x".toList, "OLD")]) := by decide +kernel
open BufModel.Disk in
example : (diskCommitAtomic { files := [("a/.tmpx123".toList, "NEW"), ("a/x".toList, "OLD")], dirs := [["a".toList]] }
      "a/x".toList (some ".tmpx123".toList) "NEW").1.files = [("a/x".toList, "NEW")] := by decide

section ReadersAndMembers
open BufModel.Disk BufModel.Reader

/-! ### Reader isolation -/

/-- **A memory reader is a snapshot.**  A reader opened on a memory bucket (`Get`, then `n` bytes
    read) yields, when it is read to the end after ANY sequence of later writes — overwrites of
    the same path, deletes, DeleteAll, puts anywhere, on any base, whatever the trees look like by
    then (`dNow` arbitrary) — exactly the rest of the content the object had at Get time: the
    bytes read before and after are together the old content. -/
theorem read_after_overwrite_is_snapshot (d : Disk) (i : Nat) (path : Str) (n : Nat) (h : Handle)
    (got c : Content) (hget : memGet d.files path = .ok c)
    (hopen : openReader false d i path n = .ok (h, got))
    (ws : List (Disk × Nat × Write)) (dNow : Disk) :
    afterWrites ws [h] = [h] ∧
    finishReader dNow h = dropC c h.off ∧
    got.toList ++ (finishReader dNow h).toList = c.toList := by
  obtain ⟨p, hv, hf⟩ := memGet_ok hget
  simp only [openReader, hv, hf, Bool.false_eq_true, if_false] at hopen
  have hpair := Except.ok.inj hopen
  have hh : h = { base := i, path := p, off := min n c.toList.length, snap := some c } :=
    (congrArg Prod.fst hpair).symm
  have hg : got = takeC c n := (congrArg Prod.snd hpair).symm
  have hsnap : h.snap = some c := by rw [hh]
  refine ⟨afterWrites_snapshot ws h c hsnap, ?_, ?_⟩
  · simp only [finishReader, hsnap]
  · simp only [finishReader, hsnap, hg, takeC, dropC, String.toList_ofList]
    rw [hh]
    exact take_append_drop_min c.toList n

/-- Disk, as coded (POSIX): after the file is replaced by rename (atomic put), unlinked (Delete)
    or removed with its directory (DeleteAll) the open reader stays on the old inode — from then
    on it is a snapshot of the content the file had at that moment, whatever is written later
    (also a new file at the same path). -/
theorem disk_reader_after_rename_or_unlink_is_snapshot (d : Disk) (i : Nat) (w : Write) (h : Handle)
    (c : Content) (hb : h.base = i) (hatt : h.snap = none) (hsel : w.sel h.path = true)
    (hc : d.files.find h.path = some c) (ws : List (Disk × Nat × Write)) (dNow : Disk) :
    ∃ h', afterWrites ((d, i, w) :: ws) [h] = [h'] ∧ finishReader dNow h' = dropC c h.off := by
  refine ⟨{ h with snap := some c }, ?_, ?_⟩
  · have h1 : afterWrite d i w [h] = [{ h with snap := some c }] := by
      simp [afterWrite, detach, hb, hatt, hsel, hc]
    simp only [afterWrites, h1]
    exact afterWrites_snapshot ws _ c rfl
  · simp [finishReader]

/-- Disk, as coded (POSIX): a NON-atomic put truncates and rewrites the same inode, so a reader
    that is still attached continues at its offset in whatever the file holds NOW. -/
theorem disk_reader_after_plain_put_reads_new_content (d : Disk) (i : Nat) (path : Str) (h : Handle)
    (hatt : h.snap = none) (dNow : Disk) (cNew : Content) (hnew : dNow.files.find h.path = some cNew) :
    afterWrite d i (.putPlain path) [h] = [h] ∧ finishReader dNow h = dropC cNew h.off := by
  constructor
  · simp [afterWrite, detach, Write.sel]
  · simp [finishReader, hatt, hnew]

-- non-vacuity: open on "a/x" = "old-content", read 3 bytes, overwrite, finish
example : (openReader false { files := [("a/x".toList, "old-content")], dirs := [] } 0 "a/x".toList 3).map
    (fun hg => (hg.2, finishReader { files := [("a/x".toList, "NEW")], dirs := [] } hg.1)) = .ok ("old", "-content") := by
  decide +kernel
example : (openReader true { files := [("a/x".toList, "old-content")], dirs := [] } 0 "a/x".toList 3).map
    (fun hg => (hg.2, finishReader { files := [("a/x".toList, "NEWNEWNEW")], dirs := [] } hg.1)) = .ok ("old", "NEWNEW") := by
  decide

/-! ### Duplicate archive members -/

/-- **The later member wins.**  After a successful extraction (tar or zip, any strip-components,
    matcher, size limit, into a bucket `m0` holding anything) every path holds the content of the
    LAST member written to it — repeated member names and members that collide only after
    strip-components / normalisation alike — and what `m0` held where no member is written. -/
theorem extract_last_member_wins (fmt : Fmt) (strip : Nat) (matcher : Str → Bool) (mx : Nat)
    (a : Archive) (m0 m' : Mem) (h : extractInto fmt strip matcher mx a m0 = (none, m')) (q : Str) :
    m'.find q = match lastMember fmt strip matcher q a with
      | some c => some c
      | none => m0.find q := by
  rw [extractInto_ok h, find_putList, lastMember_eq_find]
  cases Mem.find _ q <;> rfl

/-- The clause as the duplicate-member oracle states it: a member `e2` written to `q` after which
    no other member is written to `q` determines the content, however many earlier members
    (`before`, arbitrary) were written there. -/
theorem untar_duplicate_member_last_wins (fmt : Fmt) (strip : Nat) (matcher : Str → Bool) (mx : Nat)
    (before after : Archive) (e2 : Entry) (m0 m' : Mem) (q : Str)
    (h : extractInto fmt strip matcher mx (before ++ e2 :: after) m0 = (none, m'))
    (h2 : entryTarget fmt strip matcher e2 = some q)
    (hafter : ∀ e ∈ after, entryTarget fmt strip matcher e ≠ some q) :
    m'.find q = some e2.content := by
  rw [extract_last_member_wins fmt strip matcher mx _ m0 m' h q, lastMember_append]
  simp [lastMember, lastMember_none_of_no_target fmt strip matcher q after hafter, h2]

/-- "first member wins" (seed C11-m10) is NOT what the extraction does: `a/x` twice. -/
theorem first_member_wins_counterexample :
    (extractInto .tar 0 (fun _ => true) 0
      [{ name := "a/x".toList, content := "v1", kind := .reg }, { name := "a/x".toList, content := "v2", kind := .reg }] []).2.find "a/x".toList
      = some "v2" := by decide

-- non-vacuity: members colliding only after strip-components 1 and normalisation, into a bucket
-- that already holds the path
example : extractInto .zip 1 (fun _ => true) 0
    [{ name := "top/a/x".toList, content := "v1", kind := .reg },
     { name := "other//a/./x".toList, content := "v2", kind := .reg },
     { name := "top/a/x".toList, content := "", kind := .other }] [("a/x".toList, "OLD")]
    = (none, [("a/x".toList, "v2")]) := by decide

end ReadersAndMembers

end BufProofs.C14
