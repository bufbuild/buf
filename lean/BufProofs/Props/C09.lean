import BufProofs.Lemmas.CacheLemmas
/-
  C09 — The module cache never serves wrong content: crashes, faults, races, tampering.

  Reader side: a load that returns content, from ANY entry (or tar object), returns the files the
  key pins; the provider never hands on a miss.

  Writer side (handoff/AUDIT.md, C09 S2): the directory-layout writer is the step machine of
  BufModel.Cache — files written in ANY order, several in flight, each holding an arbitrary
  prefix — for any number of writers, from any leftover entry of (torn, missing or complete)
  payload objects without a valid marker; a store that has returned writes nothing more and the
  entry changes only under the lock; "a failed write is reported before the marker" is
  derived from the C15 fault model (`storeRun` over `copyAll` / `atomicRun`); the tar layout is
  one atomic object.

  At the end the recorded counterexamples, and the lock hypothesis made explicit: histories in
  which a held lock may be handed out again, where the invariant is lost.
-/
namespace BufProofs.C09
open BufModel.Path BufModel.Bucket BufModel.Cache

/-- In ANY entry state whatsoever — half-written by a crashed or
    failed store, modified by any number of concurrent writers, tampered with in any way — a
    load that returns content returns exactly the module files the key's digest pins (and the
    marker carries the pinned deps).  Everything else is a miss or a digest-mismatch error. -/
theorem served_content_matches_key (exp : Expected) (entry : Mem) (fs : List (Str × Content))
    (h : load exp entry = .hit fs) :
    sameSet fs (exp.files.filter fun f => isModuleFile f.1) = true ∧
      entry.find markerPath = some markerCanonical := by
  unfold load at h
  cases hm : entry.find markerPath with
  | none => rw [hm] at h; cases h
  | some tok =>
    rw [hm] at h
    simp only at h
    split at h
    · cases h
    · split at h
      · cases h
      · split at h
        · rename_i hc
          injection h with h
          simp only [Bool.and_eq_true, decide_eq_true_eq] at hc
          subst h
          exact ⟨hc.1, by rw [hc.2]⟩
        · cases h

/-- The same for the tar layout; an undecodable archive is a miss (and is removed). -/
theorem served_content_matches_key_tar (exp : Expected) (t : Option (Option Mem)) (fs : List (Str × Content))
    (h : (loadTar exp t).1 = .hit fs) :
    sameSet fs (exp.files.filter fun f => isModuleFile f.1) = true := by
  unfold loadTar at h
  cases t with
  | none => cases h
  | some o =>
    cases o with
    | none => cases h
    | some e => exact (served_content_matches_key exp e fs h).1

theorem corrupt_tar_is_miss_and_removed (exp : Expected) : loadTar exp (some none) = (.miss, none) := rfl

/-- The initial system: ANY entry `e` left behind by earlier processes (torn prefixes, missing
    files, complete files in any combination), nobody holds the lock, `n` writers about to store
    the same module. -/
def initFrom (e : Mem) (n : Nat) : Sys := { entry := e, lock := none, writers := List.replicate n .start }

/-- The empty (or absent) entry. -/
def init (n : Nat) : Sys := initFrom [] n

theorem initFrom_inv (exp : Expected) (e : Mem) (n : Nat)
    (hk : OnlyPayloadKeys exp e) (hn : NodupKeys e) (hm : markerOK e = false) : Inv exp (initFrom e n) := by
  refine ⟨?_, ?_, ?_, hk, hn⟩
  · intro h; simp only [initFrom] at h; rw [hm] at h; cases h
  · intro w d f h
    simp only [initFrom] at h
    by_cases hw : w < n
    · rw [List.getElem?_replicate] at h; simp [hw] at h
    · rw [List.getElem?_replicate] at h; simp [hw] at h
  · intro w h; cases h

theorem init_inv (exp : Expected) (n : Nat) : Inv exp (init n) :=
  initFrom_inv exp [] n (by intro kv h; cases h) (by simp [NodupKeys]) (by simp [markerOK, Mem.find])

/-- Start from ANY entry of payload objects without a valid marker
    (`OnlyPayloadKeys`; whatever earlier crashed/failed stores left: torn prefixes, missing or
    complete files) and take any
    interleaving of any number of writers storing the module — files written in parallel in any
    order, crashes at any step, failures of any write.  Whenever the commit marker is valid, every
    file and side file is present in full. -/
theorem marker_implies_complete (exp : Expected) (wf : WF exp) (e : Mem)
    (hk : OnlyPayloadKeys exp e) (hn : NodupKeys e) (hm : markerOK e = false) (n : Nat) (acts : List Act)
    (h : markerOK (runActs exp (initFrom e n) acts).entry = true) :
    Complete exp (runActs exp (initFrom e n) acts).entry ∧
      (runActs exp (initFrom e n) acts).entry.find markerPath = some markerCanonical :=
  (runActs_inv wf acts (initFrom e n) (initFrom_inv exp e n hk hn hm)).markerComplete h

/-- At most one writer is ever between acquiring the lock and releasing it. -/
theorem writers_exclusive (exp : Expected) (wf : WF exp) (e : Mem)
    (hk : OnlyPayloadKeys exp e) (hn : NodupKeys e) (hm : markerOK e = false) (n : Nat) (acts : List Act)
    (w w' : Nat) (d d' : List Nat) (f f' : List (Nat × Nat))
    (h : (runActs exp (initFrom e n) acts).writers[w]? = some (.writing d f))
    (h' : (runActs exp (initFrom e n) acts).writers[w']? = some (.writing d' f')) : w = w' :=
  writing_unique (runActs_inv wf acts (initFrom e n) (initFrom_inv exp e n hk hn hm)) h h'

/-- What a reader (or a crash) can find while a store is in progress: every object the writer has
    closed is there in full, and every object in flight holds exactly a prefix of its content —
    never bytes of anything else. -/
theorem inflight_is_prefix (exp : Expected) (wf : WF exp) (e : Mem)
    (hk : OnlyPayloadKeys exp e) (hn : NodupKeys e) (hm : markerOK e = false) (n : Nat) (acts : List Act)
    (w : Nat) (d : List Nat) (f : List (Nat × Nat))
    (h : (runActs exp (initFrom e n) acts).writers[w]? = some (.writing d f)) :
    (∀ i ∈ d, ∀ pc, exp.payload[i]? = some pc → (runActs exp (initFrom e n) acts).entry.find pc.1 = some pc.2) ∧
    (∀ ik ∈ f, ik.1 ∉ d ∧ ∃ pc, exp.payload[ik.1]? = some pc ∧ ik.2 ≤ pc.2.length ∧
      (runActs exp (initFrom e n) acts).entry.find pc.1 = some (takeStr ik.2 pc.2)) :=
  ((runActs_inv wf acts (initFrom e n) (initFrom_inv exp e n hk hn hm)).writing w d f h).2.2

/-- Once the marker is valid no step of any writer modifies the entry, so
    readers may stream the files without holding the lock. -/
theorem complete_is_stable (exp : Expected) (s : Sys) (inv : Inv exp s) (hm : markerOK s.entry = true) (a : Act) :
    (step exp s a).entry = s.entry :=
  step_entry_stable exp s inv hm a

/-- failed_store_not_complete (marker_needs_success): for any number of concurrent writers and any
    interleaving with crashes and failures, the entry is marked complete only if some store
    returned success; a failed or interrupted store never leaves the entry marked complete. -/
theorem failed_store_not_complete (exp : Expected) (wf : WF exp) (e : Mem) (hm : markerOK e = false)
    (n : Nat) (acts : List Act)
    (h : ∀ w : Nat, (runActs exp (initFrom e n) acts).writers[w]? ≠ some (WPc.finished true)) :
    markerOK (runActs exp (initFrom e n) acts).entry = false := by
  cases hmk : markerOK (runActs exp (initFrom e n) acts).entry with
  | false => rfl
  | true =>
    exfalso
    obtain ⟨w, hw⟩ := marker_needs_success exp wf acts (initFrom e n)
      (by intro h; simp only [initFrom] at h; rw [hm] at h; cases h) hmk
    exact h w hw

/-- In every reachable state (any interleaving, crashes, failures, any
    starting entry of payload objects without a valid marker) in which the marker is valid, a load
    is a HIT and serves exactly the pinned module files.  `OnlyPayloadKeys` is needed: no store
    ever deletes, so a foreign `.proto` object left under files/ stays and every later load is a
    digest mismatch. -/
theorem store_success_then_hit (exp : Expected) (wf : WF exp) (hside : SidesOutsideFiles exp) (e : Mem)
    (hk : OnlyPayloadKeys exp e) (hn : NodupKeys e) (hm : markerOK e = false)
    (n : Nat) (acts : List Act)
    (h : markerOK (runActs exp (initFrom e n) acts).entry = true) :
    load exp (runActs exp (initFrom e n) acts).entry = .hit (moduleFilesOf (runActs exp (initFrom e n) acts).entry) ∧
      sameSet (moduleFilesOf (runActs exp (initFrom e n) acts).entry) (exp.files.filter fun f => isModuleFile f.1) = true := by
  have inv := runActs_inv wf acts (initFrom e n) (initFrom_inv exp e n hk hn hm)
  obtain ⟨hc, hmc⟩ := inv.markerComplete h
  exact complete_loads_hit exp hside _ hc hmc inv.keys inv.nodupKeys

/-- "store returned nil ⇒ the next load is a hit": in every reachable state in which SOME store
    has returned success — at that moment and at any later one, whatever the other writers do —
    the marker is valid and a load serves exactly the pinned module files. -/
theorem store_returned_nil_then_hit (exp : Expected) (wf : WF exp) (hside : SidesOutsideFiles exp) (e : Mem)
    (hk : OnlyPayloadKeys exp e) (hn : NodupKeys e) (hm : markerOK e = false)
    (n : Nat) (acts : List Act) (w : Nat)
    (h : (runActs exp (initFrom e n) acts).writers[w]? = some (WPc.finished true)) :
    markerOK (runActs exp (initFrom e n) acts).entry = true ∧
    load exp (runActs exp (initFrom e n) acts).entry = .hit (moduleFilesOf (runActs exp (initFrom e n) acts).entry) := by
  have hmk := success_needs_marker exp wf acts (initFrom e n) (initFrom_inv exp e n hk hn hm)
    (by intro w0 h0
        simp only [initFrom] at h0
        rw [List.getElem?_replicate] at h0
        split at h0 <;> cases h0) w h
  exact ⟨hmk, (store_success_then_hit exp wf hside e hk hn hm n acts hmk).1⟩

/-- As coded: a `module.yaml` that is present but not parsable makes `putModuleData` return the
    YAML error — the store neither takes the lock nor writes anything, so such an entry is NOT
    repaired by later stores (the reader treats it as a miss every time).  Only tampering can
    produce it: `runActs_garbled` shows no writer history does. -/
theorem unparsable_marker_blocks_store (exp : Expected) (s : Sys) (w : Nat)
    (hw : s.writers[w]? = some WPc.start) (hlock : s.lock = none) (hg : markerGarbled s.entry = true) :
    (step exp s (.acquire w)).writers[w]? = some (WPc.finished false) ∧
      (step exp s (.acquire w)).entry = s.entry ∧ (step exp s (.acquire w)).lock = none := by
  rw [(Fires.intro hw (.acquireGarbled hlock (markerOK_of_garbled hg) hg)).step_eq]
  exact ⟨getElem?_setPc_self hw _, rfl, hlock⟩

/-- No history of writers (crashes, failures, anything) produces an unparsable marker. -/
theorem writers_never_garble_marker (exp : Expected) (wf : WF exp) (e : Mem) (hg : markerGarbled e = false)
    (n : Nat) (acts : List Act) : markerGarbled (runActs exp (initFrom e n) acts).entry = false :=
  runActs_garbled exp wf acts (initFrom e n) hg

/-! ### "A store that has returned is over" and "the entry only changes under the lock" -/

/-- The writer (process) an action belongs to. -/
def actWriter : Act → Nat
  | .acquire w => w | .truncate w _ => w | .grow w _ _ => w | .fill w _ => w
  | .fail w => w | .commit w => w | .commitFail w => w | .crash w => w

private theorem actWriter_row {exp : Expected} {s : Sys} {w : Nat} {a : Act} {pc pc' : WPc} {e' : Mem} {l' : Option Nat}
    (h : Row exp s w a pc pc' e' l') : actWriter a = w := by
  cases h <;> rfl

/-- Once a store has RETURNED (with nil or with an error) or its process
    has died, no action of that writer is enabled any more — no Put, no Write, no Close, no marker
    put, no second acquire: the whole system (entry, lock, every pc) stays as it is.  A primitive
    of a writer observed after its store returned is therefore outside the model (the harness
    oracle `write-after-store-returned`; the `run` lines replay it as a no-op and disagree with
    the entry the implementation really has). -/
theorem finished_writer_is_inert (exp : Expected) (s : Sys) (w : Nat)
    (hw : (∃ b, s.writers[w]? = some (WPc.finished b)) ∨ s.writers[w]? = some WPc.crashed)
    (a : Act) (ha : actWriter a = w) : step exp s a = s := by
  refine step_ind rfl fun _ ⟨hw', row⟩ => ?_
  rw [← ha, actWriter_row row, hw'] at hw
  rcases hw with ⟨b, hw⟩ | hw
  · exact absurd (Option.some.inj hw) (row.active.1 b)
  · exact absurd (Option.some.inj hw) row.active.2.1

/-- … for any number of such late actions (a failed store's leftover copy jobs). -/
theorem returned_store_writes_nothing (exp : Expected) (w : Nat) (acts : List Act)
    (hacts : ∀ a ∈ acts, actWriter a = w) (s : Sys)
    (hw : (∃ b, s.writers[w]? = some (WPc.finished b)) ∨ s.writers[w]? = some WPc.crashed) :
    runActs exp s acts = s := by
  induction acts with
  | nil => rfl
  | cons a rest ih =>
    rw [runActs_cons, finished_writer_is_inert exp s w hw a (hacts a List.mem_cons_self)]
    exact ih (fun x hx => hacts x (List.mem_cons_of_mem _ hx))

/-- In every reachable state, an action that modifies the entry is an
    action of the writer that holds the exclusive lock (harness oracle
    `write-without-exclusive-lock`). -/
theorem entry_changes_only_under_lock (exp : Expected) (s : Sys) (inv : Inv exp s) (a : Act)
    (h : (step exp s a).entry ≠ s.entry) : s.lock = some (actWriter a) := by
  revert h
  refine step_ind (fun h => absurd rfl h) fun _ ⟨hw, row⟩ h => ?_
  obtain ⟨d, f, rfl, _⟩ := row.entry.resolve_left h
  rw [actWriter_row row]; exact (inv.writing _ d f hw).1

private theorem actWriter_of_own {w : Nat} {a : Act} (ha : OwnWrite w a) : actWriter a = w := by
  cases a with
  | truncate | grow | fill => exact ha
  | _ => exact ha.elim

/-- Take ANY entry whose keys are payload paths (or the marker), without a
    valid marker and whose marker, if any, parses — whatever torn prefixes, missing files or
    complete files it holds, in particular "a later file complete, an earlier one torn" — then any
    history `hist` of further stores that crashed or failed, leaving the lock free.  One
    fault-free store by a fresh writer, writing the files in ANY order with any number in flight
    and growing by arbitrary prefixes (`FaultFree`), returns success, releases the lock, leaves
    every file and side file in full with the canonical marker, and a load HITS with exactly the
    pinned module files. -/
theorem later_store_repairs (exp : Expected) (wf : WF exp) (hside : SidesOutsideFiles exp) (e : Mem)
    (hk : OnlyPayloadKeys exp e) (hn : NodupKeys e) (hm : markerOK e = false) (hg : markerGarbled e = false)
    (n : Nat) (hist : List Act) (w : Nat)
    (hlock : (runActs exp (initFrom e n) hist).lock = none)
    (hw : (runActs exp (initFrom e n) hist).writers[w]? = some WPc.start)
    (acts : List Act) (hff : FaultFree exp w acts) :
    let s' := runActs exp (runActs exp (initFrom e n) hist) (storeWith w acts)
    markerOK s'.entry = true ∧ s'.writers[w]? = some (WPc.finished true) ∧ s'.lock = none ∧
      Complete exp s'.entry ∧ load exp s'.entry = .hit (moduleFilesOf s'.entry) ∧
      sameSet (moduleFilesOf s'.entry) (exp.files.filter fun f => isModuleFile f.1) = true := by
  have inv := runActs_inv wf hist (initFrom e n) (initFrom_inv exp e n hk hn hm)
  have hg' := runActs_garbled exp wf hist (initFrom e n) hg
  intro s'
  obtain ⟨h1, h2, h3⟩ : markerOK s'.entry = true ∧ s'.writers[w]? = some (WPc.finished true) ∧ s'.lock = none := by
    cases hm' : markerOK (runActs exp (initFrom e n) hist).entry with
    | false => exact store_completes exp wf _ inv w hlock hw hm' hg' acts hff
    | true =>
      -- an earlier store has completed the entry: this one returns at once, the rest are actions
      -- of a writer that has returned
      simp only [s', storeWith]
      rw [runActs_cons, (Fires.intro hw (.acquireValid hlock hm')).step_eq,
        returned_store_writes_nothing exp w _ (fun a ha => ?_) _ (Or.inl ⟨true, getElem?_setPc_self hw _⟩)]
      · exact ⟨hm', getElem?_setPc_self hw _, hlock⟩
      · rcases List.mem_append.mp ha with h | h
        · exact actWriter_of_own (hff.own a h)
        · rw [List.mem_singleton.mp h]; rfl
  have inv' := runActs_inv wf (storeWith w acts) _ inv
  obtain ⟨hc, hmc⟩ := inv'.markerComplete h1
  obtain ⟨l1, l2⟩ := complete_loads_hit exp hside _ hc hmc inv'.keys inv'.nodupKeys
  exact ⟨h1, h2, h3, hc, l1, l2⟩

/-! ### "A failed write is reported before the marker" — derived from the C15 model -/

open BufModel.Faults in
/-- Run the store's write phase (`storage.Copy` of the files =
    C15 `copyAll`, `PutPath` of the side files, atomic `PutPath` of the marker = C15 `atomicRun`)
    under ANY fault schedule.  If it reports success then no scheduled fault fired, no step of
    the marker put failed, every payload object is in the entry in full and the marker is the one
    that was put. -/
theorem marker_only_after_reported_success (exp : Expected) (wf : WF exp) (hv : PayloadValid exp)
    (chunk : Content → List Content) (hchunk : ∀ c, joinContent (chunk c) = c)
    (s : Sched) (mch : List Content) (mfail : Option Nat) (hr : FailAtInRange mch mfail) (d d' : Dest)
    (h : storeRun Facts.allTrue s mch mfail d (fileJobs exp chunk) (sideJobs exp chunk) = (false, d')) :
    d'.fired = d.fired ∧ mfail = none ∧ Complete exp d'.mem ∧
      d'.mem.find markerPath = some (joinContent mch) := by
  obtain ⟨hnone, rfl⟩ := storeRun_ok_eq exp hv chunk hchunk s mch mfail hr d d' h
  refine ⟨rfl, hnone, fun pc hpc => ?_, find_putObj_eq _ _ _⟩
  have hne : markerPath ≠ pc.1 := fun e => wf.noMarker (e ▸ List.mem_map.mpr ⟨pc, hpc, rfl⟩)
  exact (find_putObj_ne _ _ _ _ hne).trans ((find_putList_nodup wf.nodup d.mem).1 pc hpc)

open BufModel.Faults in
/-- If any scheduled fault fires while the files or side files are
    written, the store reports an error … -/
theorem fault_fires_then_store_errors (exp : Expected) (wf : WF exp) (hv : PayloadValid exp)
    (chunk : Content → List Content) (hchunk : ∀ c, joinContent (chunk c) = c)
    (s : Sched) (mch : List Content) (mfail : Option Nat) (hr : FailAtInRange mch mfail) (d : Dest)
    (hfired : (storeRun Facts.allTrue s mch mfail d (fileJobs exp chunk) (sideJobs exp chunk)).2.fired ≠ d.fired) :
    (storeRun Facts.allTrue s mch mfail d (fileJobs exp chunk) (sideJobs exp chunk)).1 = true := by
  cases he : (storeRun Facts.allTrue s mch mfail d (fileJobs exp chunk) (sideJobs exp chunk)).1 with
  | true => rfl
  | false =>
    exact absurd (congrArg Dest.fired (storeRun_ok_eq exp hv chunk hchunk s mch mfail hr d _ (Prod.ext he rfl)).2) hfired

open BufModel.Faults in
/-- … and store_error_leaves_marker_untouched: a store that reports an error — whichever phase
    failed, with whatever defer plumbing (`fx`) — has not written the marker: the object at
    `module.yaml` is the one that was there before, so an entry without a valid marker stays
    without one. -/
theorem store_error_leaves_marker_untouched (exp : Expected) (wf : WF exp) (hv : PayloadValid exp)
    (chunk : Content → List Content) (fx : Facts)
    (s : Sched) (mch : List Content) (mfail : Option Nat) (d : Dest)
    (h : (storeRun fx s mch mfail d (fileJobs exp chunk) (sideJobs exp chunk)).1 = true) :
    markerOK (storeRun fx s mch mfail d (fileJobs exp chunk) (sideJobs exp chunk)).2.mem = markerOK d.mem := by
  unfold markerOK
  rw [storeRun_err_marker_untouched exp wf hv chunk fx s mch mfail d h]

/-! ### Tar layout: one atomic object -/

/-- At every instant of a tar store — what a concurrent reader sees and what a crash leaves — the
    object at the tar path is the previous one (or absent) or the complete new archive. -/
theorem tar_instant_old_or_new (old : Option Content) (chunks : List Content) (j : Nat) :
    (tarCrash old chunks j).final = old ∨ (tarCrash old chunks j).final = some (BufModel.Faults.joinContent chunks) :=
  BufProofs.C15.atomic_prefix_old_or_new old chunks j

/-- A tar store in which any step fails reports an error and leaves the previous object. -/
theorem tar_failed_put_leaves_old (old : Option Content) (chunks : List Content) (k : Nat)
    (hk : k ≤ chunks.length + 2) :
    tarStore old chunks (some k) = (true, { final := old, temp := none }) :=
  BufProofs.C15.atomic_failed_leaves_old old chunks k hk

/-- A fault-free tar store (over anything: absent, garbage, an older archive) reports success and
    the archive then loads as a HIT with exactly the pinned module files. -/
theorem tar_store_then_hit (exp : Expected) (wf : WF exp) (hside : SidesOutsideFiles exp)
    (decode : Content → Option Mem) (old : Option Content) (chunks : List Content)
    (hdec : decode (BufModel.Faults.joinContent chunks) = some (tarEntry exp)) :
    (tarStore old chunks none).1 = false ∧
      (loadTar exp (tarView decode (tarStore old chunks none).2)).1 = .hit (moduleFilesOf (tarEntry exp)) ∧
      sameSet (moduleFilesOf (tarEntry exp)) (exp.files.filter fun f => isModuleFile f.1) = true := by
  have hs : tarStore old chunks none = (false, { final := some (BufModel.Faults.joinContent chunks), temp := none }) :=
    BufProofs.C15.atomic_success old chunks
  obtain ⟨l1, l2⟩ := complete_loads_hit exp hside (tarEntry exp) (tarEntry_complete wf) (tarEntry_marker exp)
    (tarEntry_onlyKeys exp) (tarEntry_nodup wf)
  rw [hs]
  refine ⟨rfl, ?_, l2⟩
  simp only [tarView, Option.map, hdec, loadTar]
  exact l1

/-- At every crash point of a tar store a load behaves exactly as on the previous object, or is a
    HIT with the pinned module files — never anything in between. -/
theorem tar_crash_old_or_hit (exp : Expected) (wf : WF exp) (hside : SidesOutsideFiles exp)
    (decode : Content → Option Mem) (old : Option Content) (chunks : List Content)
    (hdec : decode (BufModel.Faults.joinContent chunks) = some (tarEntry exp)) (j : Nat) :
    loadTar exp (tarView decode (tarCrash old chunks j)) = loadTar exp (old.map decode) ∨
      (loadTar exp (tarView decode (tarCrash old chunks j))).1 = .hit (moduleFilesOf (tarEntry exp)) := by
  rcases tar_instant_old_or_new old chunks j with h | h
  · left; simp only [tarView, h]
  · right
    obtain ⟨l1, _⟩ := complete_loads_hit exp hside (tarEntry exp) (tarEntry_complete wf) (tarEntry_marker exp)
      (tarEntry_onlyKeys exp) (tarEntry_nodup wf)
    simp only [tarView, h, Option.map, hdec, loadTar]
    exact l1

/-- An archive that does not decode is a miss and is removed (so the next store starts clean). -/
theorem tar_corrupt_is_miss_and_removed (exp : Expected) (decode : Content → Option Mem) (c : Content)
    (h : decode c = none) :
    loadTar exp (tarView decode { final := some c, temp := none }) = (.miss, none) := by
  simp [tarView, h, loadTar]

/-- The cache provider either yields a load result that is not a
    miss, or an error. -/
theorem provider_never_returns_missing (r1 : LoadResult) (putOk : Bool) (r2 : LoadResult) :
    provider r1 putOk r2 ≠ .value .miss := by
  unfold provider
  cases r1 <;> cases putOk <;> cases r2 <;> simp

def exExp : Expected :=
  { files := [("a.proto".toList, "AAAA"), ("x.txt".toList, "X")], sides := [("v1_buf_yaml/buf.yaml".toList, "Y")] }
theorem exExp_wf : WF exExp := ⟨by decide +kernel, by decide +kernel⟩
example : WF exExp := exExp_wf
example : SidesOutsideFiles exExp := by intro s hs; simp [exExp] at hs; subst hs; decide

/-- A leftover entry: the LATER file is complete, the EARLIER one is torn, the side file is
    missing, and a parsable-but-invalid marker is present. -/
def exTorn : Mem :=
  [("files/x.txt".toList, "X"), ("files/a.proto".toList, "AA"), (markerPath, "Minvalid0")]
example : OnlyPayloadKeys exExp exTorn := by unfold OnlyPayloadKeys; decide +kernel
example : NodupKeys exTorn := by unfold NodupKeys; decide +kernel
example : markerOK exTorn = false ∧ markerGarbled exTorn = false := by decide +kernel

/-- parallel copy: everything in flight at once, prefixes growing, closed in another order -/
def exActs : List Act :=
  [.truncate 1 2, .truncate 1 0, .truncate 1 1, .grow 1 0 2, .fill 1 1, .grow 1 0 3, .fill 1 2, .fill 1 0]
example : FaultFree exExp 1 exActs :=
  ⟨by decide +kernel, by
    intro i hi
    have : i = 0 ∨ i = 1 ∨ i = 2 := by simp [exExp, Expected.payload] at hi; omega
    rcases this with e | e | e <;> subst e
    · exact ⟨[.truncate 1 2], [.truncate 1 1, .grow 1 0 2, .fill 1 1, .grow 1 0 3, .fill 1 2], [], rfl⟩
    · exact ⟨[.truncate 1 2, .truncate 1 0], [.grow 1 0 2], [.grow 1 0 3, .fill 1 2, .fill 1 0], rfl⟩
    · exact ⟨[], [.truncate 1 0, .truncate 1 1, .grow 1 0 2, .fill 1 1, .grow 1 0 3], [.fill 1 0], rfl⟩⟩
example : FaultFree exExp 1 (seqSchedule 1 [2, 0, 1]) :=
  seqSchedule_faultFree exExp 1 [2, 0, 1] (by decide)
example : FaultFree exExp 1 (parSchedule 1 [2, 0, 1] [1, 2, 0]) :=
  parSchedule_faultFree exExp 1 _ _ (by decide) (by decide)
-- the hypotheses of later_store_repairs: writer 0 crashes mid-store on the torn entry, writer 1 is fresh
example : (runActs exExp (initFrom exTorn 2) [.acquire 0, .truncate 0 1, .truncate 0 0, .grow 0 0 1, .crash 0]).lock = none ∧
    (runActs exExp (initFrom exTorn 2) [.acquire 0, .truncate 0 1, .truncate 0 0, .grow 0 0 1, .crash 0]).writers[1]? = some .start := by
  decide +kernel
example : (runActs exExp (runActs exExp (initFrom exTorn 2) [.acquire 0, .truncate 0 1, .truncate 0 0, .grow 0 0 1, .crash 0])
    (storeWith 1 exActs)).entry.find markerPath = some markerCanonical := by decide +kernel
example : (match load exExp (runActs exExp (runActs exExp (initFrom exTorn 2) [.acquire 0, .truncate 0 1, .truncate 0 0, .grow 0 0 1, .crash 0])
    (storeWith 1 exActs)).entry with | .hit _ => true | _ => false) = true := by decide +kernel
-- a state with two files in flight (inflight_is_prefix, writers_exclusive are not vacuous)
example : (runActs exExp (init 2) [.acquire 0, .acquire 1, .truncate 0 1, .truncate 0 0, .grow 0 0 3]).writers[0]? =
    some (.writing [] [(0, 3), (1, 0)]) := by decide
-- a failed store and an unparsable marker
example : markerOK (runActs exExp (init 1) [.acquire 0, .truncate 0 0, .fill 0 0, .fail 0]).entry = false := by decide +kernel
example : markerGarbled [(markerPath, markerUnparsable)] = true := by decide
-- the fault link
example : PayloadValid exExp := by unfold PayloadValid; decide +kernel
example : ∀ c, BufModel.Faults.joinContent ((fun c => [c]) c) = c := by intro c; simp [BufModel.Faults.joinContent]
example : FailAtInRange ["M:", "canonical"] (some 4) ∧ FailAtInRange ["M:", "canonical"] none := by
  constructor <;> intro k h <;> simp at h <;> (subst h; decide)

def exChunk : Content → List Content := fun c => [c]

/-- cache_poison_counterexample (the recorded finding, fixed in /repo a3d0d8c): with the pre-fix
    `copyPath` (its deferred Close joined a stale variable) a failed file Put is reported as
    success by `storage.Copy`, so the store writes the marker over an entry that lacks the file:
    every later load is a digest mismatch and — the marker being valid — no later store repairs
    it.  This is exactly the step `marker_only_after_reported_success` rules out for the current
    facts. -/
theorem cache_poison_counterexample :
    let fx : BufModel.Faults.Facts := { BufModel.Faults.Facts.allTrue with copyPath := false }
    let s : BufModel.Faults.Sched := [⟨"files/a.proto".toList, .put, 0⟩]
    let r := storeRun fx s [markerCanonical] none ⟨[], []⟩ (fileJobs exExp exChunk) (sideJobs exExp exChunk)
    r.1 = false ∧ r.2.mem.find markerPath = some markerCanonical ∧ r.2.mem.find "files/a.proto".toList = none ∧
      (match load exExp r.2.mem with | .mismatch => true | _ => false) = true := by decide +kernel

set_option maxRecDepth 100000 in
example :
    let s : BufModel.Faults.Sched := [⟨"files/a.proto".toList, .put, 0⟩]
    let r := storeRun BufModel.Faults.Facts.allTrue s [markerCanonical] none ⟨[], []⟩ (fileJobs exExp exChunk) (sideJobs exExp exChunk)
    r.1 = true ∧ r.2.fired ≠ [] ∧ markerOK r.2.mem = false := by decide +kernel

set_option maxRecDepth 100000 in
example : (storeRun BufModel.Faults.Facts.allTrue [] [markerCanonical] none ⟨[], []⟩
    (fileJobs exExp exChunk) (sideJobs exExp exChunk)).1 = false := by decide +kernel

/-- The entry the stored regression (seed C09-m8) produces: writer 1 has stored the module
    completely; then a leftover copy job of writer 0 — whose store had already returned its error —
    does its Put (os.Create truncates) on `files/a.proto`.  The marker is valid, the file is empty:
    a fresh load is a digest mismatch although nobody tampered with the entry, and a reader that
    had verified the digest before streams an empty file. -/
theorem late_truncate_counterexample :
    let done := runActs exExp (init 2) (Act.acquire 0 :: Act.truncate 0 1 :: Act.fail 0 :: storeWith 1 (seqSchedule 1 [0, 1, 2]))
    let torn := putObj done.entry "files/a.proto".toList ""
    done.writers[0]? = some (WPc.finished false) ∧ done.writers[1]? = some (WPc.finished true) ∧
    markerOK done.entry = true ∧ markerOK torn = true ∧
      (match load exExp done.entry with | .hit _ => true | _ => false) = true ∧
      (match load exExp torn with | .mismatch => true | _ => false) = true ∧
      -- whereas in the model writer 0's late Put is a no-op
      (step exExp done (Act.truncate 0 0)).entry = done.entry := by decide +kernel

-- finished_writer_is_inert / entry_changes_only_under_lock: a returned (failed) store exists, and an
-- action that does change the entry exists (by the lock holder)
example : (runActs exExp (init 1) [.acquire 0, .truncate 0 0, .fail 0]).writers[0]? = some (.finished false) := by decide
example : (step exExp (runActs exExp (init 1) [.acquire 0]) (.truncate 0 0)).entry ≠ (runActs exExp (init 1) [.acquire 0]).entry ∧
    (runActs exExp (init 1) [.acquire 0]).lock = some (actWriter (.truncate 0 0)) := by decide
-- store_returned_nil_then_hit: a reachable state in which a store has returned success
example : (runActs exExp (initFrom exTorn 2) (storeWith 1 exActs)).writers[1]? = some (.finished true) := by decide +kernel
-- unparsable_marker_blocks_store: its hypotheses hold in the initial system over a garbled entry
example : (initFrom [(markerPath, markerUnparsable)] 1).writers[0]? = some .start ∧
    (initFrom [(markerPath, markerUnparsable)] 1).lock = none ∧
    markerGarbled (initFrom [(markerPath, markerUnparsable)] 1).entry = true := by decide
-- tar layout: a codec under which the archive decodes to the serialised entry
example : (fun c : Content => if c = "abcd" then some (tarEntry exExp) else none)
    (BufModel.Faults.joinContent ["ab", "cd"]) = some (tarEntry exExp) := by decide +kernel
example : (fun c : Content => if c = "abcd" then some (tarEntry exExp) else none) "garbage" = none := by decide
example : (tarStore (some "OLD") ["ab", "cd"] none).2.final = some "abcd" := by decide
example : tarStore (some "OLD") ["ab", "cd"] (some 2) = (true, { final := some "OLD", temp := none }) := by decide

/-! ### The lock hypothesis made explicit: what breaks when the lock is handed out twice

  Everything above that speaks about writers (`Inv`, `marker_implies_complete`, `writers_exclusive`,
  `complete_is_stable`, `entry_changes_only_under_lock`, …) rests on ONE fact about the lock file:
  `acquire` is enabled only when nobody holds the lock (`s.lock = none` in `step`).  For
  `filelock.lockForFunc` as coded this is: a Lock call on a held lock times out, the caller gets an
  error and does nothing — the disabled `acquire` (a no-op).  The stored regression C09-m9
  ("abandoned lock recovery": after the timeout a lock file older than an hour is unlinked and the
  lock taken on the NEW inode) grants the lock although it is held.  This section names the
  assumption, restates preservation with it as a hypothesis, and shows that it is necessary. -/

/-- How a Lock call answers when the lock is HELD by a live process. -/
inductive LockRule where
  /-- as coded: the call times out, the store returns the lock error, nothing is written -/
  | asCoded
  /-- seed C09-m9: the waiter unlinks the holder's lock file and locks a new inode: granted -/
  | abandonedRecovery
  deriving DecidableEq, Repr

/-- The lock handed out without looking at who holds it: `acquire` minus its `lock = none` test
    (the marker re-check under the "lock" is still made). -/
def stealLock (_exp : Expected) (s : Sys) (w : Nat) : Sys :=
  match s.writers[w]? with
  | some .start =>
    if markerOK s.entry then { s with writers := setPc s.writers w (.finished true) }
    else if markerGarbled s.entry then { s with writers := setPc s.writers w (.finished false) }
    else { s with lock := some w, writers := setPc s.writers w (.writing [] []) }
  | _ => s

/-- Writer `w` asks for the exclusive lock under a rule. -/
def acquireWith : LockRule → Expected → Sys → Nat → Sys
  | .asCoded, exp, s, w => step exp s (.acquire w)
  | .abandonedRecovery, exp, s, w => stealLock exp s w

/-- Histories in which the lock may also be stolen. -/
inductive XAct where
  | act (a : Act)
  | steal (w : Nat)
  deriving Repr

def xstep (exp : Expected) (s : Sys) : XAct → Sys
  | .act a => step exp s a
  | .steal w => stealLock exp s w

def xrun (exp : Expected) (s : Sys) (xs : List XAct) : Sys := xs.foldl (xstep exp) s

/-- "flock gives mutual exclusion", as a property of a history: whenever the lock is handed out
    by `steal`, nobody holds it at that moment. -/
def LockRespected (exp : Expected) : Sys → List XAct → Prop
  | _, .nil => True
  | s, x :: rest => (∀ w, x = .steal w → s.lock = none) ∧ LockRespected exp (xstep exp s x) rest

/-- The two rules differ ONLY when the lock is held: on a free lock the steal is the coded acquire. -/
theorem steal_is_acquire_when_free (exp : Expected) (s : Sys) (w : Nat) (h : s.lock = none) :
    stealLock exp s w = step exp s (.acquire w) := by
  unfold stealLock
  simp only [step, h]
  cases hw : s.writers[w]? with
  | none => rfl
  | some pc => cases pc <;> rfl

/-- As coded, a waiter that meets a held lock does not proceed: its store changes nothing (harness:
    a contender of a live holder issues no primitive and its Lock call reports an error). -/
theorem timed_out_waiter_does_nothing (exp : Expected) (s : Sys) (w h : Nat) (hl : s.lock = some h) :
    acquireWith .asCoded exp s w = s := by
  simp only [acquireWith, step, hl]
  cases s.writers[w]? with
  | none => rfl
  | some pc => cases pc <;> rfl

/-- The invariant behind every writer theorem is preserved along any history —
    crashes, failures, any interleaving — PROVIDED the lock is respected (`LockRespected`: the
    flock assumption as a named hypothesis).  Histories of plain `Act`s (the real model) satisfy
    it trivially, see `plain_history_respects_lock`. -/
theorem no_steal_preserves {exp : Expected} (wf : WF exp) (xs : List XAct) (s : Sys) (inv : Inv exp s)
    (h : LockRespected exp s xs) : Inv exp (xrun exp s xs) := by
  induction xs generalizing s with
  | nil => exact inv
  | cons x rest ih =>
    obtain ⟨h1, h2⟩ := h
    refine ih (xstep exp s x) ?_ h2
    cases x with
    | act a => exact step_inv wf s inv a
    | steal w =>
      simp only [xstep]
      rw [steal_is_acquire_when_free exp s w (h1 w rfl)]
      exact step_inv wf s inv (.acquire w)

theorem plain_history_respects_lock (exp : Expected) (acts : List Act) (s : Sys) :
    LockRespected exp s (acts.map XAct.act) ∧ xrun exp s (acts.map XAct.act) = runActs exp s acts := by
  induction acts generalizing s with
  | nil => exact ⟨trivial, rfl⟩
  | cons a rest ih =>
    obtain ⟨i1, i2⟩ := ih (step exp s a)
    refine ⟨⟨?_, i1⟩, i2⟩
    intro w hw
    exact XAct.noConfusion hw

/-- The hypothesis of `no_steal_preserves` cannot be dropped.  There is a
    reachable state satisfying `Inv` (writer 0 inside its store) whose successor under the
    abandoned-lock rule violates it: two writers are in their critical section, the lock names
    only one of them. -/
theorem mutual_exclusion_needed :
    ∃ (exp : Expected) (s : Sys) (w : Nat), WF exp ∧ Inv exp s ∧ s.lock ≠ none ∧
      ¬ Inv exp (acquireWith .abandonedRecovery exp s w) ∧
      (∃ w' d d' f f', w' ≠ w ∧ (acquireWith .abandonedRecovery exp s w).writers[w]? = some (.writing d f) ∧
        (acquireWith .abandonedRecovery exp s w).writers[w']? = some (.writing d' f')) := by
  refine ⟨exExp, runActs exExp (init 2) [.acquire 0], 1, exExp_wf,
    runActs_inv exExp_wf _ _ (init_inv exExp 2), by decide, ?_, ⟨0, [], [], [], [], by decide, by decide, by decide⟩⟩
  intro hinv
  have h0 := (hinv.writing 0 [] [] (by decide)).1
  exact absurd h0 (by decide)

/-- overlapping_writers_counterexample (the stored regression C09-m9, step by step).  Writer 0 holds
    the lock and is slow; writer 1 is granted the lock as well (`steal`) and stores the module
    completely: valid canonical marker, every file in full, a load is a HIT — a reader's digest
    check has passed.  Then the slow writer goes on: its next Put truncates `files/a.proto`.
    The entry that was complete is MODIFIED (the conclusion of `complete_is_stable` fails — its
    hypothesis `Inv` is what the steal destroyed), the marker is still valid, a fresh load is a
    digest mismatch, and the reader that had verified now reads an empty file.  Under the coded
    rule the same request of writer 1 is a no-op and writer 0's store ends in a hit. -/
theorem overlapping_writers_counterexample :
    let held := xrun exExp (init 2) [.act (.acquire 0), .steal 1]
    let done := xrun exExp held ((storeWith 1 (seqSchedule 1 [0, 1, 2])).map .act)
    let torn := step exExp done (.truncate 0 0)
    -- both in their critical section
    held.writers[0]? = some (.writing [] []) ∧ held.writers[1]? = some (.writing [] []) ∧
    -- writer 1 completed: what a reader verifies
    done.writers[1]? = some (.finished true) ∧ markerOK done.entry = true ∧
      done.entry.find "files/a.proto".toList = some "AAAA" ∧
      (match load exExp done.entry with | .hit _ => true | _ => false) = true ∧
    -- the slow writer's next primitive modifies the complete entry
    torn.entry ≠ done.entry ∧ markerOK torn.entry = true ∧
      torn.entry.find "files/a.proto".toList = some "" ∧
      (match load exExp torn.entry with | .mismatch => true | _ => false) = true ∧
    -- as coded: writer 1's request while the lock is held changes nothing
    acquireWith .asCoded exExp (runActs exExp (init 2) [.acquire 0]) 1 = runActs exExp (init 2) [.acquire 0] := by
  intro held done torn
  have hB := timed_out_waiter_does_nothing exExp (runActs exExp (init 2) [.acquire 0]) 1 0 (by decide)
  -- the last conjunct is no decidable proposition (`Sys` has no `DecidableEq`); the others are
  -- evaluated together, so that `held` and `done` are computed once
  rw [hB, eq_self, and_true]
  decide +kernel

-- LockRespected is satisfiable by a history that DOES contain a steal (on a free lock), and fails
-- for the counterexample's history
example : LockRespected exExp (init 2) [.steal 0, .act (.truncate 0 0), .act (.fail 0), .steal 1] := by
  refine ⟨?_, ?_, ?_, ?_, trivial⟩
  · intro w _; decide
  · intro w hw; exact XAct.noConfusion hw
  · intro w hw; exact XAct.noConfusion hw
  · intro w _; decide
example : ¬ LockRespected exExp (init 2) [.act (.acquire 0), .steal 1] := by
  intro h
  exact absurd (h.2.1 1 rfl) (by decide)

end BufProofs.C09
