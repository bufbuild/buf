import BufProofs.Lemmas.LintSpec2
/-
  C05 — the COMMENT-SHAPE family of the seven COMMENT_* rules.

  `validLeadingComment` (lint_util.go) walks `strings.Split(comment, "\n")`: EVERY piece between
  two newlines is a line, the text before the first newline and the text AFTER THE LAST newline
  included.  `// x` comments always end in a newline, but the text of a block comment ends where
  `*/` stands: `/* Doc. */` is the one unterminated line ` Doc. `, and a block comment with its
  text on the line of the `*/` has it after the last newline (seed C05-m10: a loop over
  `IndexByte('\n')` that stops when no newline is left never looks at that text).

  A comment `Join(ls, "\n")` is valid iff a non-blank, non-directive line stands ANYWHERE in
  `ls`, the last line included.  A walk that drops the text after the last newline accepts NO
  newline-free comment, and agrees with the real function on every comment that ends in a newline
  (all `//` comments).
-/
namespace BufProofs.C05
open BufModel.Case BufModel.Lint

/-! ## strings.Split(s, "\n") -/

theorem splitLines_ne_nil (s : Str) : splitLines s ≠ [] :=
  splitLines_eq s ▸ splitBy_ne_nil '\n' s

theorem splitLines_cons_newline (cs : Str) : splitLines ('\n' :: cs) = [] :: splitLines cs := by
  rw [splitLines_eq, splitLines_eq, splitBy, if_pos rfl]

theorem splitLines_cons_other (c : Char) (cs : Str) (hc : c ≠ '\n') :
    splitLines (c :: cs) = (c :: (splitLines cs).headD []) :: (splitLines cs).tail := by
  rw [splitLines_eq, splitLines_eq, splitBy, if_neg hc]

/-- a text without newline is ONE line (the whole text) -/
theorem splitLines_no_newline (s : Str) (h : '\n' ∉ s) : splitLines s = [s] :=
  (splitLines_eq s).trans (splitBy_of_not_mem '\n' h)

/-- `Split(a ++ "\n" ++ b, "\n") = Split(a, "\n") ++ Split(b, "\n")` -/
theorem splitLines_append (a b : Str) : splitLines (a ++ '\n' :: b) = splitLines a ++ splitLines b := by
  rw [splitLines_eq, splitLines_eq, splitLines_eq, splitBy_append]

/-- strings.Join(ls, "\n") -/
def joinLines (ls : List Str) : Str := joinWith ['\n'] ls

/-- the lines of `Join(ls, "\n")` are `ls` (no line contains a newline, at least one line) -/
theorem splitLines_joinLines (ls : List Str) (hne : ls ≠ []) (h : ∀ l ∈ ls, '\n' ∉ l) :
    splitLines (joinLines ls) = ls := by
  rw [splitLines_eq, joinLines, joinWith_singleton, splitBy_joinBy '\n' ls hne h]

/-! ## validLeadingComment on comment shapes -/

/-- a line "documents": it has a non-space character and, trimmed, does not start with the
    exclude prefix (`buf:lint:ignore`) -/
def Documents (ex line : Str) : Prop :=
  (∃ ch ∈ line, isSpace ch = false) ∧ ¬ ∃ rest, trimSpace line = ex ++ rest

/-- **A documented line anywhere makes the comment valid**: first, middle or LAST line (the text
    after the last newline — where the text of `/* x */` and of a block comment closed on its text
    line sits). -/
theorem comment_valid_of_documented_line (ex : Str) (ls : List Str) (h : ∀ l ∈ ls, '\n' ∉ l)
    (line : Str) (hl : line ∈ ls) (hd : Documents ex line) :
    validLeadingComment [ex] (joinLines ls) = true := by
  rw [validLeadingComment_single_iff, splitLines_joinLines ls (List.ne_nil_of_mem hl) h]
  exact ⟨line, hl, hd.1, hd.2⟩

/-- the LAST line counts: `init` arbitrary (blank lines, `*` gutters, directives, nothing) -/
theorem comment_valid_of_documented_last_line (ex : Str) (init : List Str) (last : Str)
    (h : ∀ l ∈ init ++ [last], '\n' ∉ l) (hd : Documents ex last) :
    validLeadingComment [ex] (joinLines (init ++ [last])) = true :=
  comment_valid_of_documented_line ex _ h last (by simp) hd

/-- the FIRST line counts, whatever follows -/
theorem comment_valid_of_documented_first_line (ex : Str) (first : Str) (rest : List Str)
    (h : ∀ l ∈ first :: rest, '\n' ∉ l) (hd : Documents ex first) :
    validLeadingComment [ex] (joinLines (first :: rest)) = true :=
  comment_valid_of_documented_line ex _ h first List.mem_cons_self hd

/-- the one-line block comment `/* x */` (text without any newline): valid iff the text documents -/
theorem comment_one_line_valid_iff (ex c : Str) (h : '\n' ∉ c) :
    validLeadingComment [ex] c = true ↔ Documents ex c := by
  rw [validLeadingComment_single_iff, splitLines_no_newline c h]
  simp [Documents]

/-- **exactness**: a comment is NOT valid iff every one of its lines is blank or a directive -/
theorem comment_invalid_iff_every_line_blank_or_directive (ex : Str) (ls : List Str) (hne : ls ≠ [])
    (h : ∀ l ∈ ls, '\n' ∉ l) :
    validLeadingComment [ex] (joinLines ls) = false ↔ ∀ l ∈ ls, ¬ Documents ex l := by
  rw [← Bool.not_eq_true, validLeadingComment_single_iff, splitLines_joinLines ls hne h]
  constructor
  · intro hn l hl hd; exact hn ⟨l, hl, hd.1, hd.2⟩
  · rintro hn ⟨l, hl, h1, h2⟩; exact hn l hl ⟨h1, h2⟩

/-! ## the walk that never looks behind the last newline (seed C05-m10) -/

/-- `for { i := IndexByte(comment, '\n'); if i < 0 { return false }; … }`: the lines of
    `Split` without the last one -/
def validLeadingCommentNoLast (excludes : List Str) (comment : Str) : Bool :=
  (splitLines comment).dropLast.any fun line =>
    let l := trimSpace line
    excludes.any fun ex => !l.isEmpty && !(hasPrefix ex l)

/-- it accepts NO comment without newline — every `/* x */` is "undocumented" -/
theorem no_last_line_blind_spot (ex : List Str) (c : Str) (h : '\n' ∉ c) :
    validLeadingCommentNoLast ex c = false := by
  unfold validLeadingCommentNoLast
  rw [splitLines_no_newline c h]
  rfl

/-- … and on comments that END in a newline (every `// …` comment) it is the real function:
    such comments cannot tell the two apart -/
theorem no_last_line_same_on_terminated (ex : List Str) (c : Str) :
    validLeadingCommentNoLast ex (c ++ ['\n']) = validLeadingComment ex (c ++ ['\n']) := by
  unfold validLeadingCommentNoLast validLeadingComment
  rw [splitLines_append c []]
  simp [splitLines, trimSpace, trimBoth, dropEnd]

theorem no_last_line_counterexample :
    validLeadingComment ["buf:lint:ignore".toList] " Doc. ".toList = true ∧
    validLeadingCommentNoLast ["buf:lint:ignore".toList] " Doc. ".toList = false ∧
    validLeadingComment ["buf:lint:ignore".toList] "\n\n Doc. ".toList = true ∧
    validLeadingCommentNoLast ["buf:lint:ignore".toList] "\n\n Doc. ".toList = false := by
  decide +kernel

/-! ## non-vacuity -/

example : validLeadingComment ["buf:lint:ignore".toList]
    (joinLines ["".toList, " * ".toList, " buf:lint:ignore X".toList, " Doc. ".toList]) = true :=
  comment_valid_of_documented_last_line _ ["".toList, " * ".toList, " buf:lint:ignore X".toList] " Doc. ".toList
    (by decide) ⟨⟨'D', by decide, by decide⟩, by
      rintro ⟨rest, hr⟩
      have e : trimSpace " Doc. ".toList = ['D', 'o', 'c', '.'] := by decide
      have e2 : "buf:lint:ignore".toList = 'b' :: "uf:lint:ignore".toList := by decide
      rw [e, e2] at hr
      simp at hr⟩

example : validLeadingComment ["buf:lint:ignore".toList]
    (joinLines ["".toList, "  ".toList, " buf:lint:ignore X".toList]) = false := by decide +kernel

end BufProofs.C05
