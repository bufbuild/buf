import BufProofs.Lemmas.GenerateArchiveLemmas
/-
  C17 — archive outs (`.jar` / `.zip`), `bufprotopluginos.responseWriter.writeZip`.

  `runResponsesA fs cwd ps` is the response writer with all three kinds of out (directory, zip,
  jar); `fs` is what `os.Stat` reports before the run.  A bucket of the result is one OUTPUT
  LOCATION: an out directory, or ONE archive (keyed by the archive's own absolute path - two
  archives in one directory, or an archive inside another plugin's out directory, are distinct
  locations; two spellings of one archive are the same location).  `flushedA` is what the flush
  leaves on disk.
-/
namespace BufProofs.C17
open BufModel.Path BufModel.Bucket BufModel.Generate

/-- The writer with archive outs is a conservative extension of the directory-only writer that
    all other response-side theorems of C17 are about: when no out is an archive it returns the
    same error or the same buckets, and flushes the same files. -/
theorem archive_model_conservative (fs : FS) (cwd : Str) (ps : List PluginResp)
    (hd : ∀ p ∈ ps, outKind (absPath cwd p.out) = .dir) :
    runResponsesA fs cwd ps = liftG (runResponses cwd ps) ∧
    ∀ bs, runResponses cwd ps = .ok bs →
      flushedA bs = (flushed bs).map fun x => Obj.file (diskPath x.1 x.2.1) x.2.2 := by
  have h1 : runResponsesA fs cwd ps = liftG (runResponses cwd ps) := by
    unfold runResponsesA runResponses runResponsesWith
    cases validatePluginResponses (dupKey cwd) ps [] with
    | error e => rfl
    | ok seen => exact addResponsesA_dir fs cwd ps [] hd
  refine ⟨h1, ?_⟩
  intro bs hbs
  apply flushedA_dir
  intro o m hm
  have hA : runResponsesA fs cwd ps = .ok bs := by rw [h1, hbs]; rfl
  unfold runResponsesA at hA
  split at hA
  · cases hA
  · obtain ⟨⟨p, hp, ho⟩, _⟩ := (addResponsesA_run hA).result.1 o m hm
    rw [← ho]; exact hd p hp

/-- Plugin output stays in the plugin's own output location, directories and archives alike.
    If the run succeeds then
    (1) every output location is the (absolute) out of a plugin of this run, and there is
        exactly one bucket per location - distinct archives are distinct outputs, even in one
        directory;
    (2) every entry of a location was returned as a plain file by a plugin configured with
        exactly that location (its validated name is the entry), or is the manifest of a jar:
        nothing lands in an archive or directory other than its plugin's own;
    (3) every file a plugin returned (plain or insertion point) is in that plugin's own location;
    (4) every configured archive exists after the run as ONE object at its own path. -/
theorem archive_writes_in_own_output (fs : FS) (cwd : Str) (ps : List PluginResp) (bs : Buckets)
    (h : runResponsesA fs cwd ps = .ok bs) :
    ((∀ o m, (o, m) ∈ bs → ∃ p ∈ ps, o = absPath cwd p.out) ∧ (bkeys bs).Nodup) ∧
    (∀ o m, (o, m) ∈ bs → ∀ k ∈ m.keys,
      (∃ p ∈ ps, absPath cwd p.out = o ∧
        ∃ f ∈ p.files, f.getIP = [] ∧ validatePath f.getName = .ok k) ∨
      (outKind o = .jar ∧ k = manifestKey)) ∧
    (∀ p ∈ ps, ∀ f ∈ p.files, ∃ k, validatePath f.getName = .ok k ∧ HasKey bs (absPath cwd p.out) k) ∧
    (∀ p ∈ ps, outKind (absPath cwd p.out) ≠ .dir →
      ∃ m, Obj.archive (absPath cwd p.out) m ∈ flushedA bs) := by
  unfold runResponsesA at h
  split at h
  · cases h
  · have hrun := addResponsesA_run h
    obtain ⟨hback, hfwd⟩ := hrun.result
    refine ⟨⟨fun o m hm => ?_, hrun.nodup List.nodup_nil⟩, fun o m hm k hk => ?_, fun p hp f hf => ?_, fun p hp hk => ?_⟩
    · obtain ⟨⟨p, hp, ho⟩, _⟩ := hback o m hm
      exact ⟨p, hp, ho.symm⟩
    · obtain ⟨_, m0, hnew, hw⟩ := hback o m hm
      rcases ((writeResponse_keys _ _ _ hw).1 k).mp hk with hk0 | ⟨f, hf, hip, hv⟩
      · exact Or.inr (newBucket_keys hnew k hk0)
      · obtain ⟨p, hp, hpo, hfp⟩ := mem_filesAt.mp hf
        exact Or.inl ⟨p, hp, hpo, f, hfp, hip, hv⟩
    · obtain ⟨_, m, _, hw, hfind⟩ := hfwd p hp
      obtain ⟨k, hk, hkm⟩ := (writeResponse_keys _ _ _ hw).2 f (mem_filesAt.mpr ⟨p, hp, rfl, hf⟩)
      exact ⟨k, hk, m, hfind, hkm⟩
    · obtain ⟨_, m, _, _, hfind⟩ := hfwd p hp
      exact ⟨m, archive_mem_flushedA (find_mem hfind) hk⟩

/-- The same output path produced twice is an error, also inside an archive: two plain files
    (of two plugins sharing one archive, or of one plugin) whose `Abs(Join(out, name))` coincide
    - "gen/a.zip" + "x/y.go" and "./gen//a.zip" + "x//y.go" - make the run fail with the
    duplicate error before anything is written. -/
theorem duplicate_in_archive_is_error (fs : FS) (cwd : Str) (ps : List PluginResp)
    (hdup : ¬ (allKeys (dupKey cwd) ps).Nodup) : runResponsesA fs cwd ps = .error (.gen .duplicate) := by
  unfold runResponsesA
  rw [validate_duplicate (dupKey cwd) ps hdup]

/-! ### Non-vacuity: concrete runs -/

/-- Two archives in ONE directory, one of them a jar inside another plugin's out directory, and a
    second plugin writing into the first archive under another spelling: three locations, the
    jar starts with its manifest. -/
example :
    runResponsesA [("/w/gen".toList, true)] "/w".toList
      [⟨"gen".toList, [rf "a.txt".toList [] ("one".toList)]⟩,
       ⟨"gen/a.zip".toList, [rf "x/y.go".toList [] ("two".toList)]⟩,
       ⟨"gen/b.jar".toList, [rf "z.go".toList [] ("three".toList)]⟩,
       ⟨"./gen//a.zip".toList, [rf "q.go".toList [] ("four".toList)]⟩] =
      .ok [("/w/gen".toList, [("a.txt".toList, "one")]),
           ("/w/gen/a.zip".toList, [("q.go".toList, "four"), ("x/y.go".toList, "two")]),
           ("/w/gen/b.jar".toList, [("z.go".toList, "three"), (manifestKey, manifestContent)])] := by
  repeat rw [String.toList_ofList]
  decide +kernel

/-- The same name returned twice into one archive (two spellings of the archive): duplicate. -/
example :
    runResponsesA [("/w/gen".toList, true)] "/w".toList
      [⟨"gen/a.zip".toList, [rf "x/y.go".toList [] ("one".toList)]⟩,
       ⟨"/w/gen/sub/../a.zip".toList, [rf "x//y.go".toList [] ("two".toList)]⟩] =
      .error (.gen .duplicate) := by
  repeat rw [String.toList_ofList]
  decide +kernel

/-- ... but the same name in two DIFFERENT archives of one directory is fine. -/
example :
    runResponsesA [("/w/gen".toList, true)] "/w".toList
      [⟨"gen/a.zip".toList, [rf "x.go".toList [] ("one".toList)]⟩,
       ⟨"gen/b.zip".toList, [rf "x.go".toList [] ("two".toList)]⟩] =
      .ok [("/w/gen/a.zip".toList, [("x.go".toList, "one")]),
           ("/w/gen/b.zip".toList, [("x.go".toList, "two")])] := by
  repeat rw [String.toList_ofList]
  decide +kernel

/-- As coded: an archive whose parent directory does not exist fails the run (the directory is
    created, the stat error is returned all the same); a parent that is a file likewise. -/
example :
    runResponsesA [] "/w".toList [⟨"new/x.zip".toList, [rf "a".toList [] ("1".toList)]⟩] = .error .parentMissing ∧
    runResponsesA [("/w/f.txt".toList, false)] "/w".toList [⟨"f.txt/x.zip".toList, []⟩] = .error .parentNotDir := by
  repeat rw [String.toList_ofList]
  constructor <;> decide +kernel

end BufProofs.C17
