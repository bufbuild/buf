import BufProofs.Lemmas.CacheDigestLemmas
import BufProofs.Props.C08
import BufProofs.Props.C09
/-
  C09 — digest link (audit item S1): the abstract gate of `BufModel.Cache.load`
  ("module-file sets equal ∧ marker token canonical") is tied to the REAL b5 digest computation
  of the C08 model (`BufModel.Digest.moduleB5`) through `BufModel.CacheDigest.loadD`, which
  follows getModuleDataForModuleKey + moduleData.checkDigest as coded.

  `H : Bytes → Digest` (SHAKE256) is a parameter; soundness carries C08's explicit
  `NoCollision` hypothesis on the byte strings the compared computations actually hash.
-/
namespace BufProofs.C09
open BufModel.Path BufModel.Bucket BufModel.Manifest BufModel.Cache BufModel.CacheDigest
open BufModel.Digest (MDigest moduleB5 filterModule docPath BucketOK NoNewline b5Inputs)
open BufProofs.C08 (NoCollision)

/-- digest_gate_sound (the link to C08): in ANY entry state, if the reader that really
    recomputes the b5 digest returns content, then — provided SHAKE256 does not collide on the
    byte strings the two digest computations hash (`NoCollision`, exactly C08's hypothesis) —
    the module files served are exactly the module files of the honest content the key's digest
    was computed from, and the dependency digests declared by the marker are a permutation of
    the honest ones.

    Hypotheses: `BucketOK` = paths distinct and validated (what a real bucket guarantees).
    There is NO line-feed hypothesis: `bufcas.NewFileNode` rejects a path containing U+000A
    (C08, handoff/C08-newline-fix.diff), so a successful digest computation implies that no
    module-file path contains a line feed, and both computations compared here succeeded (`hload`
    is a hit, `hpin`).  With the pre-fix `NewFileNode` the gate is NOT sound for such entries
    (`C08.newline_collision_counterexample`: a `.proto` path containing a line feed can spell a
    second manifest line).  That the dependency digests are b5 is not a
    hypothesis either: it follows from the digest computations having succeeded. -/
theorem digest_gate_sound (H : Bytes → Digest) (pinned : MDigest)
    (depsOf : Content → Option (List MDigest)) (sides : List Str) (entry : Mem)
    (got : List (Str × Content)) (honest : BufModel.Digest.Bucket) (hdeps : List MDigest)
    (hload : loadD H pinned depsOf sides entry = .hit got)
    (hpin : moduleB5 H honest hdeps = .ok pinned)
    (ok1 : BucketOK (toBucket (entryFiles entry))) (ok2 : BucketOK honest)
    (hH : ∀ tok deps, entry.find markerPath = some tok → depsOf tok = some deps →
      NoCollision H (b5Inputs H (toBucket (entryFiles entry)) deps ++ b5Inputs H honest hdeps)) :
    got = servedFiles (entryFiles entry) ∧
    (∀ e, e ∈ toBucket got ↔ e ∈ filterModule honest) ∧
    (∀ e, e ∈ filterModule (toBucket (entryFiles entry)) ↔ e ∈ filterModule honest) ∧
    ∃ tok deps, entry.find markerPath = some tok ∧ depsOf tok = some deps ∧ deps.Perm hdeps := by
  obtain ⟨tok, deps, hm, hd, _, hdig, hgot⟩ := loadD_hit_inv H pinned depsOf sides entry got hload
  have hs := C08.digest_sensitive H _ honest deps hdeps ok1 ok2 (hH tok deps hm hd) pinned hdig hpin
  refine ⟨hgot, ?_, hs.1, tok, deps, hm, hd, hs.2⟩
  intro e
  rw [hgot, toBucket_servedFiles]
  exact hs.1 e

/-- The same for the tar layout. -/
theorem digest_gate_sound_tar (H : Bytes → Digest) (pinned : MDigest)
    (depsOf : Content → Option (List MDigest)) (sides : List Str) (t : Option (Option Mem))
    (got : List (Str × Content)) (honest : BufModel.Digest.Bucket) (hdeps : List MDigest)
    (hload : (loadTarD H pinned depsOf sides t).1 = .hit got)
    (hpin : moduleB5 H honest hdeps = .ok pinned) (ok2 : BucketOK honest)
    (hent : ∀ e, t = some (some e) →
      BucketOK (toBucket (entryFiles e)) ∧
      ∀ tok deps, e.find markerPath = some tok → depsOf tok = some deps →
        NoCollision H (b5Inputs H (toBucket (entryFiles e)) deps ++ b5Inputs H honest hdeps)) :
    ∀ e, e ∈ toBucket got ↔ e ∈ filterModule honest := by
  unfold loadTarD at hload
  cases t with
  | none => cases hload
  | some o =>
    cases o with
    | none => cases hload
    | some e =>
      obtain ⟨ok1, hH⟩ := hent e rfl
      exact (digest_gate_sound H pinned depsOf sides e got honest hdeps hload hpin ok1 ok2 hH).2.1

/-- `.mismatch` of `loadD` also covers "the digest computation itself failed" (`LoadResult` has
    no constructor for it).  On a well-formed entry whose marker declares b5 digests and whose
    module files have no line feed in their paths (`nl1`: since the C08 line-feed fix such a path
    makes the digest computation itself fail — `C08.digest_rejects_line_feed`) that case does not
    arise: `.mismatch` means a digest WAS computed and differs from the pinned one — the
    `DigestMismatchError` of `checkDigest`. -/
theorem loadD_mismatch_is_digest_mismatch (H : Bytes → Digest) (pinned : MDigest)
    (depsOf : Content → Option (List MDigest)) (sides : List Str) (entry : Mem)
    (h : loadD H pinned depsOf sides entry = .mismatch)
    (ok1 : BucketOK (toBucket (entryFiles entry)))
    (nl1 : NoNewline (filterModule (toBucket (entryFiles entry))))
    (hb5 : ∀ tok deps, entry.find markerPath = some tok → depsOf tok = some deps →
      deps.all (fun d => d.type = .b5) = true) :
    ∃ tok deps actual, entry.find markerPath = some tok ∧ depsOf tok = some deps ∧
      moduleB5 H (toBucket (entryFiles entry)) deps = .ok actual ∧ actual ≠ pinned := by
  rcases loadD_miss_or_gate H pinned depsOf sides entry with e | ⟨tok, deps, hm, hd, hs⟩
  · rw [e] at h; cases h
  · have heq := BufModel.Digest.moduleB5_eq H _ deps ok1 nl1 (hb5 tok deps hm hd)
    rw [loadD_eq_gate H pinned depsOf sides entry tok deps hm hd hs] at h
    split at h
    · cases h
    · rename_i hne
      exact ⟨tok, deps, _, hm, hd, heq, fun e => hne (by rw [heq, e])⟩

/-- An entry that holds exactly the honest payload under files/ (every
    honest file with its content, nothing else under files/ — keys outside files/ are
    unrestricted), whose side files are present and whose marker declares the honest dependency
    digests (in any order) loads as a HIT under the real digest recomputation, for EVERY hash
    function `H`, and serves exactly the honest module files. -/
theorem complete_entry_hits (H : Bytes → Digest) (pinned : MDigest)
    (depsOf : Content → Option (List MDigest)) (sides : List Str) (exp : Expected)
    (hdeps deps : List MDigest) (entry : Mem) (tok : Content)
    (hpin : moduleB5 H (toBucket exp.files) hdeps = .ok pinned)
    (okH : BucketOK (toBucket exp.files))
    (hm : entry.find markerPath = some tok) (hd : depsOf tok = some deps) (hperm : deps.Perm hdeps)
    (hfiles : ∀ f ∈ exp.files, entry.find (filesPrefix ++ f.1) = some f.2)
    (hsides : ∀ s ∈ sides, (entry.find s).isSome = true)
    (honly : ∀ kv ∈ entry, ∀ rel, stripFiles kv.1 = some rel → rel ∈ exp.files.map (·.1))
    (hn : NodupKeys entry) :
    loadD H pinned depsOf sides entry = .hit (servedFiles (entryFiles entry)) ∧
      ∀ e, e ∈ toBucket (servedFiles (entryFiles entry)) ↔ e ∈ filterModule (toBucket exp.files) := by
  -- the objects under files/ are exactly the honest files
  have hsame : ∀ x, x ∈ entryFiles entry ↔ x ∈ exp.files := fun x =>
    mem_entryFiles.trans (under_files_iff hn hfiles honly x)
  have hsameB := (toBucket_mem_iff _ _).mp hsame
  have okE : BucketOK (toBucket (entryFiles entry)) := by
    refine ⟨?_, fun e he => okH.2 e ((hsameB e).mp he)⟩
    rw [toBucket_paths]
    exact entryFiles_nodup hn
  have hdig : moduleB5 H (toBucket (entryFiles entry)) deps = .ok pinned := by
    rw [C08.digest_perm_deps H _ deps hdeps hperm,
      C08.digest_is_function_of_module_files H _ (toBucket exp.files) hdeps okE okH
        (BufModel.Digest.filterModule_congr_mem hsameB)]
    exact hpin
  constructor
  · rw [loadD_eq_gate H pinned depsOf sides entry tok deps hm hd (List.all_eq_true.mpr hsides), if_pos hdig]
  · intro e
    rw [toBucket_servedFiles]
    exact BufModel.Digest.filterModule_congr_mem hsameB e

/-- The same in the vocabulary of the writer invariant (`Complete`, `OnlyPayloadKeys`,
    `NodupKeys`, `SidesOutsideFiles` of CacheLemmas): every entry the store protocol marks
    complete (`marker_implies_complete`) is a hit of the REAL digest gate. -/
theorem complete_payload_entry_hits (H : Bytes → Digest) (pinned : MDigest)
    (depsOf : Content → Option (List MDigest)) (exp : Expected)
    (hdeps : List MDigest) (entry : Mem)
    (hpin : moduleB5 H (toBucket exp.files) hdeps = .ok pinned)
    (okH : BucketOK (toBucket exp.files))
    (hcan : depsOf markerCanonical = some hdeps)
    (hside : SidesOutsideFiles exp)
    (hc : Complete exp entry) (hm : entry.find markerPath = some markerCanonical)
    (hk : OnlyPayloadKeys exp entry) (hn : NodupKeys entry) :
    loadD H pinned depsOf (exp.sides.map (·.1)) entry = .hit (servedFiles (entryFiles entry)) ∧
      ∀ e, e ∈ toBucket (servedFiles (entryFiles entry)) ↔ e ∈ filterModule (toBucket exp.files) := by
  apply complete_entry_hits H pinned depsOf _ exp hdeps hdeps entry markerCanonical hpin okH hm hcan
    (List.Perm.refl _)
  · intro f hf
    exact hc (filesPrefix ++ f.1, f.2) (List.mem_append.mpr (Or.inl (List.mem_map.mpr ⟨f, hf, rfl⟩)))
  · intro s hs
    obtain ⟨sc, hsc, rfl⟩ := List.mem_map.mp hs
    rw [hc sc (List.mem_append.mpr (Or.inr hsc))]; rfl
  · intro kv hkv rel hst
    obtain ⟨f0, hf0, _, hrel⟩ := files_key_of_onlyKeys hside hk hkv hst
    exact List.mem_map.mpr ⟨f0, hf0, hrel.symm⟩
  · exact hn

/-- load_abstracts_loadD (audit item S1): the abstract reader `Cache.load` — whose
    gate is "module-file sets equal ∧ marker token canonical" — returns THE SAME RESULT
    (miss / mismatch / hit, and on hit the same list of files) as the reader that really
    recomputes the b5 digest, `loadD`, for every entry state whatsoever, when
      * `exp.files` is the honest content and `pinned` its b5 digest with the honest deps `hdeps`;
      * the three-token marker abstraction is interpreted as intended: `markerCanonical`
        declares `hdeps`, `markerOtherDeps` declares some `odeps` that is not a permutation of
        `hdeps`, every other byte string is not a valid marker;
      * SHAKE256 does not collide on the strings hashed (`NoCollision`, C08's hypothesis), paths
        are distinct and validated (`BucketOK`); no line-feed hypothesis (see `digest_gate_sound`:
        an entry with a line feed in a module-file path has no digest, which both readers report
        as `.mismatch`);
      * `docOnlyBufMd`: `Cache.isModuleFile` knows only `buf.md` as documentation file while
        the real storage matcher takes the first PRESENT path of `buf.md, README.md,
        README.markdown`; the two agree exactly when that choice is `buf.md` or nothing, i.e.
        README.md / README.markdown occur in files/ (resp. in the honest content) only next to a
        `buf.md`.  This is a decidable predicate of the entry; the C09 harness generator only
        produces such entries (its only documentation file is `buf.md`), and
        `docOnlyBufMd_of_noOtherDocPath` gives the simpler path-wise sufficient condition.
        Without it the theorem is false (`load_abstraction_readme_counterexample`).
    Hence every theorem proved about `Cache.load` (the gate theorem, the writer-protocol
    invariant, `store_success_then_hit`) is a theorem about the digest-recomputing reader.
    `odeps` need not be b5: a non-b5 dependency digest makes the real computation fail, which
    both sides report as `.mismatch`. -/
theorem load_abstracts_loadD (H : Bytes → Digest) (pinned : MDigest)
    (depsOf : Content → Option (List MDigest)) (exp : Expected) (hdeps odeps : List MDigest)
    (entry : Mem)
    (hpin : moduleB5 H (toBucket exp.files) hdeps = .ok pinned)
    (hcan : depsOf markerCanonical = some hdeps) (hoth : depsOf markerOtherDeps = some odeps)
    (hinv : ∀ tok, markerValid tok = false → depsOf tok = none)
    (hnp : ¬ odeps.Perm hdeps)
    (okE : BucketOK (toBucket (entryFiles entry))) (okH : BucketOK (toBucket exp.files))
    (docE : docOnlyBufMd (entryFiles entry) = true) (docH : docOnlyBufMd exp.files = true)
    (hH : ∀ deps, deps = hdeps ∨ deps = odeps →
      NoCollision H (b5Inputs H (toBucket (entryFiles entry)) deps ++ b5Inputs H (toBucket exp.files) hdeps)) :
    loadD H pinned depsOf (exp.sides.map (·.1)) entry = load exp entry := by
  have hgot : moduleFilesOf entry = servedFiles (entryFiles entry) := by
    rw [moduleFilesOf_eq, servedFiles_eq _ docE okE]
  -- the abstract comparison is the comparison of the two storage-matcher selections
  have hset : sameSet (moduleFilesOf entry) (exp.files.filter fun f => BufModel.Cache.isModuleFile f.1) = true ↔
      ∀ e, e ∈ filterModule (toBucket (entryFiles entry)) ↔ e ∈ filterModule (toBucket exp.files) := by
    rw [sameSet_iff, toBucket_mem_iff, hgot, toBucket_servedFiles, ← servedFiles_eq _ docH okH,
      toBucket_servedFiles]
  -- the real gate is the abstract one: the digest is the pinned one iff the module files are the honest
  -- ones and the declared deps the honest deps in some order (C08: sensitivity, and purity with `hpin`)
  have hgate : ∀ deps, deps = hdeps ∨ deps = odeps →
      (moduleB5 H (toBucket (entryFiles entry)) deps = .ok pinned ↔
        sameSet (moduleFilesOf entry) (exp.files.filter fun f => BufModel.Cache.isModuleFile f.1) = true ∧
          deps.Perm hdeps) := by
    intro deps hdd
    constructor
    · intro hdig
      have := C08.digest_sensitive H _ _ deps hdeps okE okH (hH deps hdd) pinned hdig hpin
      exact ⟨hset.mpr this.1, this.2⟩
    · rintro ⟨hss, hp⟩
      rw [C08.digest_perm_deps H _ deps hdeps hp,
        C08.digest_is_function_of_module_files H _ (toBucket exp.files) hdeps okE okH (hset.mp hss)]
      exact hpin
  cases hm : entry.find markerPath with
  | none =>
    unfold loadD load
    rw [hm]
  | some tok =>
    by_cases hv : markerValid tok = true
    · -- a valid marker declares the honest deps (up to order) iff it is the canonical one
      obtain ⟨deps, hd, hdd, hc⟩ : ∃ deps, depsOf tok = some deps ∧ (deps = hdeps ∨ deps = odeps) ∧
          (tok = markerCanonical ↔ deps.Perm hdeps) := by
        rcases (by simpa [markerValid] using hv : tok = markerCanonical ∨ tok = markerOtherDeps) with rfl | rfl
        · exact ⟨hdeps, hcan, Or.inl rfl, iff_of_true rfl (.refl _)⟩
        · exact ⟨odeps, hoth, Or.inr rfl, iff_of_false (by decide) hnp⟩
      have hsideq : ((exp.sides.map (·.1)).all fun s => (entry.find s).isSome) =
          (exp.sides.all fun s => (entry.find s.1).isSome) := by
        rw [List.all_map]; rfl
      cases hs : (exp.sides.all fun s => (entry.find s.1).isSome) with
      | false =>
        simp [loadD, load, hm, hd, hv, hsideq, hs]
      | true =>
        rw [load_eq_gate exp entry tok hm hv hs, loadD_eq_gate H pinned depsOf _ entry tok deps hm hd (hsideq.trans hs)]
        simp only [hgate deps hdd, hgot, hc, Bool.and_eq_true, decide_eq_true_eq]
    · have hv' : markerValid tok = false := by simpa using hv
      simp [loadD, load, hm, hinv tok hv', hv']

/-! ### Non-vacuity (toy hash of Props/C08) and the recorded limit of the abstraction -/

def exDeps : List MDigest := [⟨.b5, C08.zeroDigest⟩]

/-- the intended reading of the three-token marker abstraction -/
def exDepsOf (tok : Content) : Option (List MDigest) :=
  if tok = markerCanonical then some exDeps else if tok = markerOtherDeps then some [] else none

def exExpD : Expected :=
  { files := [("a.proto".toList, "A"), ("buf.md".toList, "D"), ("x.txt".toList, "X")],
    sides := [("v1_buf_yaml/buf.yaml".toList, "Y")] }

def exPinned : MDigest :=
  match moduleB5 C08.toyH (toBucket exExpD.files) exDeps with
  | .ok d => d
  | .error _ => ⟨.b5, C08.zeroDigest⟩

/-- a complete entry, plus a stray object outside files/ -/
def exGood : Mem :=
  [(markerPath, markerCanonical), ("files/a.proto".toList, "A"), ("files/buf.md".toList, "D"),
   ("files/x.txt".toList, "X"), ("v1_buf_yaml/buf.yaml".toList, "Y"), ("stray".toList, "S")]

/-- one byte of one module file flipped -/
def exTampered : Mem :=
  [(markerPath, markerCanonical), ("files/a.proto".toList, "B"), ("files/buf.md".toList, "D"),
   ("files/x.txt".toList, "X"), ("v1_buf_yaml/buf.yaml".toList, "Y")]

theorem exDepsOf_rejects_invalid : ∀ tok, markerValid tok = false → exDepsOf tok = none := by
  intro tok h
  unfold markerValid at h
  simp only [Bool.or_eq_false_iff, decide_eq_false_iff_not] at h
  unfold exDepsOf
  rw [if_neg h.1, if_neg h.2]

private theorem exGood_files : entryFiles exGood = exExpD.files := by decide +kernel

private theorem exFiles_ok :
    BucketOK (toBucket exExpD.files) ∧ NoNewline (filterModule (toBucket exExpD.files)) := by
  unfold BucketOK NoNewline; decide +kernel

theorem exPinned_is_digest : moduleB5 C08.toyH (toBucket exExpD.files) exDeps = .ok exPinned := by
  unfold exPinned
  rw [BufModel.Digest.moduleB5_eq C08.toyH _ exDeps exFiles_ok.1 exFiles_ok.2 (by decide)]

/-- Non-vacuity: every hypothesis of `load_abstracts_loadD` / `digest_gate_sound` is satisfiable
    (toy hash; an entry on which a hit occurs, see the examples below). -/
theorem load_abstracts_loadD_nonvacuous :
    BucketOK (toBucket (entryFiles exGood)) ∧ BucketOK (toBucket exExpD.files) ∧
    docOnlyBufMd (entryFiles exGood) = true ∧ docOnlyBufMd exExpD.files = true ∧
    ¬ ([] : List MDigest).Perm exDeps ∧
    ∀ deps, deps = exDeps ∨ deps = [] →
      NoCollision C08.toyH (b5Inputs C08.toyH (toBucket (entryFiles exGood)) deps ++
        b5Inputs C08.toyH (toBucket exExpD.files) exDeps) := by
  have hdoc : docOnlyBufMd exExpD.files = true := by decide +kernel
  rw [exGood_files]
  refine ⟨exFiles_ok.1, exFiles_ok.1, hdoc, hdoc, by simp [exDeps], ?_⟩
  -- one evaluation (closed form of what is hashed, `utf8` as a list function) serves both cases
  have hT : NoCollision C08.toyH (b5Inputs C08.toyH (toBucket exExpD.files) [] ++
      b5Inputs C08.toyH (toBucket exExpD.files) exDeps) := by
    rw [BufModel.Digest.b5Inputs_eq C08.toyH _ [] exFiles_ok.1 exFiles_ok.2 rfl,
      BufModel.Digest.b5Inputs_eq C08.toyH _ exDeps exFiles_ok.1 exFiles_ok.2 (by decide)]
    simp only [utf8_eq_flatMap]
    exact BufModel.Digest.noCollision_of_pairwise (by decide +kernel)
  rintro deps (rfl | rfl)
  · exact hT.mono fun x hx => List.mem_append_right _ ((List.mem_append.mp hx).elim id id)
  · exact hT

-- the theorem applies to it
example : loadD C08.toyH exPinned exDepsOf (exExpD.sides.map (·.1)) exGood = load exExpD exGood :=
  load_abstracts_loadD C08.toyH exPinned exDepsOf exExpD exDeps [] exGood exPinned_is_digest
    (by decide) (by decide) exDepsOf_rejects_invalid
    load_abstracts_loadD_nonvacuous.2.2.2.2.1
    load_abstracts_loadD_nonvacuous.1 load_abstracts_loadD_nonvacuous.2.1
    load_abstracts_loadD_nonvacuous.2.2.1 load_abstracts_loadD_nonvacuous.2.2.2.1
    load_abstracts_loadD_nonvacuous.2.2.2.2.2

-- an entry without marker is a miss
example : kindOf (loadD C08.toyH exPinned exDepsOf (exExpD.sides.map (·.1)) exGood.tail) = 0 := by
  decide +kernel

-- the abstract reader on the same entries (hit with the same files / mismatch when one byte of
-- a module file is flipped / miss without marker)
example : kindOf (load exExpD exGood) = 1 ∧
    servedOf (load exExpD exGood) = [("a.proto".toList, "A"), ("buf.md".toList, "D")] ∧
    kindOf (load exExpD exTampered) = 2 ∧ kindOf (load exExpD exGood.tail) = 0 := by
  decide +kernel

/-- Non-vacuity: the hypotheses of `complete_entry_hits` are satisfiable (with an extra key
    "stray" outside files/). -/
theorem complete_entry_hits_nonvacuous :
    (∀ f ∈ exExpD.files, exGood.find (filesPrefix ++ f.1) = some f.2) ∧
    (∀ s ∈ exExpD.sides.map (·.1), (exGood.find s).isSome = true) ∧
    (∀ kv ∈ exGood, ∀ rel, stripFiles kv.1 = some rel → rel ∈ exExpD.files.map (·.1)) ∧
    NodupKeys exGood := by
  refine ⟨by decide +kernel, by decide +kernel, ?_, by unfold NodupKeys; decide +kernel⟩
  intro kv hkv rel h
  have := (by decide +kernel : ∀ kv ∈ exGood, ∀ r ∈ stripFiles kv.1, r ∈ exExpD.files.map (·.1)) kv hkv rel
  exact this h

-- …and a HIT actually occurs under the real digest recomputation, serving the module files
-- only (not x.txt, not the stray object)
example : loadD C08.toyH exPinned exDepsOf (exExpD.sides.map (·.1)) exGood =
    .hit [("a.proto".toList, "A"), ("buf.md".toList, "D")] := by
  have h := (complete_entry_hits C08.toyH exPinned exDepsOf (exExpD.sides.map (·.1)) exExpD exDeps
    exDeps exGood markerCanonical exPinned_is_digest load_abstracts_loadD_nonvacuous.2.1
    (by decide) (by decide) (List.Perm.refl _) complete_entry_hits_nonvacuous.1
    complete_entry_hits_nonvacuous.2.1 complete_entry_hits_nonvacuous.2.2.1
    complete_entry_hits_nonvacuous.2.2.2).1
  rw [h]
  exact congrArg _ (by decide +kernel)

def cexExp : Expected := { files := [("a.proto".toList, "A")], sides := [] }
def cexPinned : MDigest :=
  match moduleB5 C08.toyH (toBucket cexExp.files) [] with
  | .ok d => d
  | .error _ => ⟨.b5, C08.zeroDigest⟩
def cexEntry : Mem :=
  [(markerPath, markerCanonical), ("files/a.proto".toList, "A"), ("files/README.md".toList, "R")]

/-- The `docOnlyBufMd` hypothesis of `load_abstracts_loadD` cannot be dropped: with a
    `files/README.md` and no `files/buf.md` the real storage matcher counts README.md as a module
    file (digest mismatch), while `Cache.isModuleFile` ignores it (abstract hit).  This is a
    limit of the ABSTRACT model `Cache.load`, not of the code: `loadD` is right.  (Audit C09,
    "isModuleFile knows only buf.md"; the harness generator never produces such an entry.) -/
theorem load_abstraction_readme_counterexample :
    moduleB5 C08.toyH (toBucket cexExp.files) [] = .ok cexPinned ∧
    docOnlyBufMd (entryFiles cexEntry) = false ∧
    kindOf (load cexExp cexEntry) = 1 ∧
    kindOf (loadD C08.toyH cexPinned (fun tok => if tok = markerCanonical then some [] else none)
      (cexExp.sides.map (·.1)) cexEntry) = 2 := by
  obtain ⟨okH, nlH⟩ : BucketOK (toBucket cexExp.files) ∧ NoNewline (filterModule (toBucket cexExp.files)) := by
    unfold BucketOK NoNewline; decide +kernel
  obtain ⟨okE, nlE⟩ : BucketOK (toBucket (entryFiles cexEntry)) ∧
      NoNewline (filterModule (toBucket (entryFiles cexEntry))) := by
    unfold BucketOK NoNewline; decide +kernel
  have hpin : moduleB5 C08.toyH (toBucket cexExp.files) [] = .ok cexPinned := by
    unfold cexPinned
    rw [BufModel.Digest.moduleB5_eq C08.toyH _ [] okH nlH rfl]
  refine ⟨hpin, by decide +kernel, by decide +kernel, ?_⟩
  -- the gate of `loadD` compares the two digests: closed forms, then evaluation
  rw [loadD_eq_gate C08.toyH cexPinned _ _ cexEntry markerCanonical [] (by decide +kernel) (by decide +kernel)
    (by decide +kernel), if_neg]
  · rfl
  · rw [← hpin, BufModel.Digest.moduleB5_eq _ _ _ okE nlE rfl, BufModel.Digest.moduleB5_eq _ _ _ okH nlH rfl]
    simp only [utf8_eq_flatMap]
    decide +kernel

/-- The writer machine composed with the REAL digest gate: in every reachable state of any number
    of concurrent / crashed / failed stores, started from any entry of payload objects
    (`OnlyPayloadKeys`) without a valid marker, a valid marker implies that the digest-recomputing load `loadD` hits and serves exactly the
    honest module files. -/
theorem store_success_then_real_hit (H : Bytes → Digest) (pinned : MDigest)
    (depsOf : Content → Option (List MDigest)) (hdeps : List MDigest)
    (exp : Expected) (wf : WF exp) (hside : SidesOutsideFiles exp)
    (hpin : moduleB5 H (toBucket exp.files) hdeps = .ok pinned)
    (okH : BucketOK (toBucket exp.files)) (hcan : depsOf markerCanonical = some hdeps)
    (e0 : Mem) (hk : OnlyPayloadKeys exp e0) (hn : NodupKeys e0) (hm0 : markerOK e0 = false)
    (n : Nat) (acts : List Act)
    (h : markerOK (runActs exp (initFrom e0 n) acts).entry = true) :
    loadD H pinned depsOf (exp.sides.map (·.1)) (runActs exp (initFrom e0 n) acts).entry =
        .hit (servedFiles (entryFiles (runActs exp (initFrom e0 n) acts).entry)) ∧
      ∀ e, e ∈ toBucket (servedFiles (entryFiles (runActs exp (initFrom e0 n) acts).entry)) ↔
        e ∈ filterModule (toBucket exp.files) := by
  have inv := runActs_inv wf acts (initFrom e0 n) (initFrom_inv exp e0 n hk hn hm0)
  obtain ⟨hc, hm⟩ := inv.markerComplete h
  exact complete_payload_entry_hits H pinned depsOf exp hdeps _ hpin okH hcan hside hc hm inv.keys
    inv.nodupKeys

end BufProofs.C09
