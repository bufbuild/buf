import BufProofs.Lemmas.RulesWorkspaceLemmas
/-
  C06 — several modules in one buf.yaml, and the directive parser.

  (1) SEVERAL MODULES in one v2 buf.yaml.  Every module's `LintConfig` / `BreakingConfig` is
      `convertModule lint ws (path, ownSection)`: a function of the workspace-level section VALUE
      and of the module's own entry — never of the other modules, of their order, or of how often
      the file is read.  A workspace-level `ignore` / `ignore_only` path reaches a module iff it
      lies inside that module's directory.  (Seed C06-m9: an in-place filter of the shared slice
      made the second module read the first module's relative paths; documented by
      `in_place_filter_leaks_counterexample`.)
  (2) The DIRECTIVE PARSER: which rule ids a leading comment names.  `parseIgnoreDirectives`
      is what `commentIgnoresAt` (hence `ignoreFileLocation`) applies to the leading comment of
      every associated source path; white space around a directive line is irrelevant, a line
      carries at most one directive, the id is matched as a prefix of the directive text.
      (Seed C06-m10: only one leading blank was stripped.)
-/
namespace BufProofs.C06
open BufModel.Path BufModel.Rules BufGen.RuleTables

/-! ## several modules in one v2 buf.yaml -/

/-- The loop over the modules succeeds with `out` iff `out` lists, entry by entry and in file
    order, the conversion of every module entry — each computed from the SAME workspace-level
    section value `ws`. -/
theorem multi_module_configs_entrywise (lint : Bool) (ws : YSection) (mods : List (Str × YSection))
    (out : List (Str × EffConfig)) :
    readYamlModules lint ws mods = .ok out ↔ mods.map (convertModule lint ws) = out.map Except.ok :=
  readYamlModules_ok_iff_map lint ws mods out

/-- What one module gets: its normalised directory and — when its own section is empty — the
    workspace-level section converted for ITS directory (outside paths skipped), otherwise its
    own section (outside paths are errors).  Nothing else enters. -/
theorem module_config_is_own_or_workspace_section (lint : Bool) (ws : YSection) (p : Str) (sec : YSection)
    (d : Str) (eff : EffConfig) :
    convertModule lint ws (p, sec) = .ok (d, eff) ↔
      moduleDirOf p = .ok d ∧
      (if sec.isEmpty then sectionToEff lint true d false ws else sectionToEff lint true d true sec) = .ok eff := by
  unfold convertModule
  simp only [moduleEff_v2]
  cases moduleDirOf p with
  | error e => simp
  | ok d' =>
    simp only [Except.ok.injEq]
    constructor
    · intro h
      split at h
      · cases h
      · cases h; exact ⟨rfl, ‹_›⟩
    · rintro ⟨rfl, h⟩
      rw [h]

/-- The configurations of a file are exactly the conversions of its entries. -/
theorem module_config_depends_on_own_entry_only (lint : Bool) (ws : YSection) (mods : List (Str × YSection))
    (out : List (Str × EffConfig)) (h : readYamlModules lint ws mods = .ok out) (o : Str × EffConfig) :
    o ∈ out ↔ ∃ m ∈ mods, convertModule lint ws m = .ok o :=
  readYamlModules_mem_out lint ws mods out h o

/-- A module entry gets the same configuration in every file with the same workspace-level
    section, whatever other modules are listed before or after it. -/
theorem module_config_same_in_every_file (lint : Bool) (ws : YSection) (mods mods' : List (Str × YSection))
    (out out' : List (Str × EffConfig)) (h : readYamlModules lint ws mods = .ok out)
    (h' : readYamlModules lint ws mods' = .ok out') (m : Str × YSection) (hm : m ∈ mods) (hm' : m ∈ mods') :
    ∃ o, convertModule lint ws m = .ok o ∧ o ∈ out ∧ o ∈ out' := by
  obtain ⟨o, ho⟩ := (readYamlModules_ok_iff lint ws mods).1 ⟨out, h⟩ m hm
  exact ⟨o, ho, (readYamlModules_mem_out lint ws mods out h o).2 ⟨m, hm, ho⟩,
    (readYamlModules_mem_out lint ws mods' out' h' o).2 ⟨m, hm', ho⟩⟩

/-- Listing the modules in another order permutes the configurations and changes none. -/
theorem multi_module_order_irrelevant (lint : Bool) (ws : YSection) (mods mods' : List (Str × YSection))
    (hp : mods.Perm mods') (out : List (Str × EffConfig)) (h : readYamlModules lint ws mods = .ok out) :
    ∃ out', readYamlModules lint ws mods' = .ok out' ∧ out.Perm out' :=
  readYamlModules_perm lint ws hp out h

/-- The read fails iff the conversion of some module entry fails (on its own). -/
theorem multi_module_read_fails_iff_a_module_fails (lint : Bool) (ws : YSection) (mods : List (Str × YSection)) :
    (∃ e, readYamlModules lint ws mods = .error e) ↔ ∃ m ∈ mods, ∃ e, convertModule lint ws m = .error e := by
  -- failing is not succeeding, on both sides of `readYamlModules_ok_iff`
  simp only [except_error_iff_not_ok, readYamlModules_ok_iff, Classical.not_forall, exists_prop]

/-- `readYamlMulti` (what a `ymulti` line runs): the module configurations are the conversions
    of the entries (sorted by directory), the top-level configuration is `topLevelEff` of the
    workspace-level section — whatever the modules are. -/
theorem readYamlMulti_spec (lint : Bool) (ws : YSection) (mods : List (Str × YSection))
    (ms : List (Str × EffConfig)) (top : Option EffConfig) (h : readYamlMulti lint ws mods = .ok (ms, top)) :
    (∀ o, o ∈ ms ↔ ∃ m ∈ effectiveModules mods, convertModule lint ws m = .ok o) ∧
      topLevelEff lint true ws = .ok top := by
  unfold readYamlMulti at h
  cases hr : readYamlModules lint ws (effectiveModules mods) with
  | error e => rw [hr] at h; cases h
  | ok out =>
    cases ht : topLevelEff lint true ws with
    | error e => rw [hr, ht] at h; cases h
    | ok t =>
      rw [hr, ht] at h
      cases h
      refine ⟨fun o => ?_, rfl⟩
      unfold sortModuleConfigs
      rw [mem_sortS]
      exact readYamlModules_mem_out lint ws _ out hr o

/-- A workspace-relative path list, made relative to one module: the module sees `r` iff some
    listed path normalises to a path INSIDE (or equal to) the module directory whose relative
    form is `r`.  Paths outside the module never contribute. -/
theorem workspace_paths_reach_module_iff_inside (dir : Str) (req : Bool) (ps rs : List Str)
    (h : relPathsFor dir req ps = .ok rs) (r : Str) :
    r ∈ rs ↔ ∃ p ∈ ps, ∃ n, normalizeAndValidate p = .ok n ∧ equalsOrContainsPath dir n = true ∧
      rel dir n = some r :=
  relPathsFor_mem_iff dir req ps rs h r

/-! ### the witness of seed C06-m9 -/

/-- `version: v2 / modules: [proto, vendor] / lint: {use: [ENUM_PASCAL_CASE], ignore: [proto/vendor]}` -/
def exWsLeak : YSection := { use := ["ENUM_PASCAL_CASE"], ignore := ["proto/vendor".toList] }
def exModsLeak : List (Str × YSection) := [("proto".toList, {}), ("vendor".toList, {})]

/-- What matters of one module's configuration in the examples. -/
structure ModSummary where
  dir : Str
  disabled : Bool
  ignore : List Str
  ignoreOnly : List (BufModel.Rules.Id × List Str)
  deriving DecidableEq, Repr

def multiSummary (r : Except RErr (List (Str × EffConfig) × Option EffConfig)) : Option (List ModSummary) :=
  match r with
  | .ok (ms, _) => some (ms.map fun m => ⟨m.1, m.2.disabled, m.2.check.ignore, m.2.check.ignoreOnly⟩)
  | .error _ => none

/-- `proto/vendor` is a directory of module `proto`: it becomes `vendor` THERE and says nothing
    about the module `vendor` (not disabled, no ignore path), in either order of the modules. -/
theorem workspace_ignore_inside_first_module_does_not_reach_second :
    multiSummary (readYamlMulti true exWsLeak exModsLeak) =
        some [⟨"proto".toList, false, ["vendor".toList], []⟩, ⟨"vendor".toList, false, [], []⟩] ∧
      multiSummary (readYamlMulti true exWsLeak exModsLeak.reverse) =
        some [⟨"proto".toList, false, ["vendor".toList], []⟩, ⟨"vendor".toList, false, [], []⟩] := by
  decide +kernel

/-- The same for `ignore_only: {ENUM_PASCAL_CASE: [proto/vendor/w.proto]}`. -/
theorem workspace_ignore_only_inside_first_module_does_not_reach_second :
    multiSummary (readYamlMulti true
        { use := ["ENUM_PASCAL_CASE"], ignoreOnly := [("ENUM_PASCAL_CASE", ["proto/vendor/w.proto".toList])] } exModsLeak) =
      some [⟨"proto".toList, false, [], [("ENUM_PASCAL_CASE", ["vendor/w.proto".toList])]⟩,
            ⟨"vendor".toList, false, [], []⟩] := by
  decide +kernel

/-- Documentation of the seeded defect: filtering the shared `ignore` slice in place hands the
    second module the FIRST module's relative path `vendor`, which equals the second module's
    directory (`isLintOrBreakingDisabledBasedOnIgnores` then disables lint for the whole module);
    the pure conversion hands it nothing. -/
theorem in_place_filter_leaks_counterexample :
    inPlaceLeftover ["proto/vendor".toList] ["vendor".toList] = ["vendor".toList] ∧
      disabledByIgnores "vendor".toList (inPlaceLeftover ["proto/vendor".toList] ["vendor".toList]) = .ok true ∧
      disabledByIgnores "vendor".toList ["proto/vendor".toList] = .ok false ∧
      relPathsFor "vendor".toList false ["proto/vendor".toList] = .ok [] ∧
      secondModuleIgnoreInPlace "proto".toList "vendor".toList ["proto/vendor/w.proto".toList] = .ok ["w.proto".toList] := by
  decide +kernel

/-- As coded (counted by the harness, not demanded by the oracle; a candidate finding): a
    workspace-level ignore path that is a strict ANCESTOR of a module directory
    (`ignore: [libs]`, modules `libs/a`, `libs/b`) is "not contained within the module" and is
    skipped: neither module is disabled nor gets an ignore path, although all their files lie
    under `libs`. -/
theorem workspace_ignore_above_module_root_skipped_counterexample :
    multiSummary (readYamlMulti true { ignore := ["libs".toList] } [("libs/a".toList, {}), ("libs/b".toList, {})]) =
      some [⟨"libs/a".toList, false, [], []⟩, ⟨"libs/b".toList, false, [], []⟩] := by
  decide +kernel

/-! ## the directive parser -/

/-- `commentIgnoresAt` — the test `ignoreFileLocation` applies to every associated source path —
    is `commentNames` on the element's leading comment. -/
theorem comment_ignore_is_directive_parser (f : FileInfo) (pre : Str) (r : Id) (p : SPath) :
    commentIgnoresAt f pre r p = commentNames pre (leadingComments f p) r := by
  rw [commentNames_eq]; rfl

/-- A comment names a rule iff one of its lines, trimmed, starts with `<prefix> <id>`. -/
theorem comment_names_iff (pre comment : Str) (r : Id) :
    commentNames pre comment r = true ↔
      ∃ line ∈ splitOnChar '\n' comment, (pre ++ ' ' :: r.toList).isPrefixOf (trimSpace line) = true := by
  unfold commentNames parseIgnoreDirectives
  rw [any_filterMap_eq, List.any_eq_true]
  constructor
  · rintro ⟨line, hl, h⟩
    rw [directiveOfLine_names] at h
    exact ⟨line, hl, h⟩
  · rintro ⟨line, hl, h⟩
    exact ⟨line, hl, by rw [directiveOfLine_names]; exact h⟩

/-- The directives of a comment given by its lines: one `directiveOfLine` per line. -/
theorem directives_linewise (pre : Str) (ls : List Str) (hne : ls ≠ []) (hnl : ∀ l ∈ ls, '\n' ∉ l) :
    parseIgnoreDirectives pre (joinLines ls) = ls.filterMap (directiveOfLine pre) :=
  parseIgnoreDirectives_joinLines pre ls hne hnl

/-- At most one directive per comment line. -/
theorem one_directive_per_line (pre : Str) (ls : List Str) (hne : ls ≠ []) (hnl : ∀ l ∈ ls, '\n' ∉ l) :
    (parseIgnoreDirectives pre (joinLines ls)).length ≤ ls.length := by
  rw [parseIgnoreDirectives_joinLines pre ls hne hnl]
  exact List.length_filterMap_le _ _

/-- WHITE-SPACE INSENSITIVITY.  Every line of the comment may be preceded and followed by any
    white space (blanks, tabs, CR, any Unicode space — everything `unicode.IsSpace` accepts
    except the newline that separates lines): the directives are the same. -/
theorem directives_whitespace_insensitive (pre : Str) (ts : List (Str × Str × Str)) (hne : ts ≠ [])
    (hpad : ∀ t ∈ ts, ∀ c ∈ t.1 ++ t.2.2, isSpaceChar c = true ∧ c ≠ '\n')
    (hnl : ∀ t ∈ ts, '\n' ∉ t.2.1) :
    parseIgnoreDirectives pre (joinLines (ts.map fun t => t.1 ++ t.2.1 ++ t.2.2)) =
      parseIgnoreDirectives pre (joinLines (ts.map fun t => t.2.1)) := by
  rw [parseIgnoreDirectives_joinLines pre _ (by simpa using hne)
      (List.forall_mem_map.2 fun t ht => noNewline_pad (hpad t ht) (hnl t ht)),
    parseIgnoreDirectives_joinLines pre _ (by simpa using hne) (List.forall_mem_map.2 hnl),
    List.filterMap_map, List.filterMap_map]
  exact BufProofs.ListLemmas.filterMap_congr (fun t ht => directiveOfLine_pad pre t.1 t.2.1 t.2.2
    (fun c hc => (hpad t ht c (List.mem_append.2 (Or.inl hc))).1)
    (fun c hc => (hpad t ht c (List.mem_append.2 (Or.inr hc))).1))

/-- Seed C06-m10 as a statement: a directive line `<prefix> <id><tail>` names the rule wherever
    it stands in the comment (first / middle / last line) and however it is indented or padded. -/
theorem indented_directive_recognised (pre : Str) (rule : Id) (before after : List Str) (lead trail tail : Str)
    (hpad : ∀ c ∈ lead ++ trail, isSpaceChar c = true ∧ c ≠ '\n')
    (hbody : trimSpace (pre ++ ' ' :: rule.toList ++ tail) = pre ++ ' ' :: rule.toList ++ tail)
    (hnl : ∀ l ∈ before ++ [pre ++ ' ' :: rule.toList ++ tail] ++ after, '\n' ∉ l) :
    commentNames pre (joinLines (before ++ [lead ++ (pre ++ ' ' :: rule.toList ++ tail) ++ trail] ++ after)) rule = true := by
  rw [comment_names_iff]
  have hne : before ++ [lead ++ (pre ++ ' ' :: rule.toList ++ tail) ++ trail] ++ after ≠ [] := by simp
  have hnl' : ∀ l ∈ before ++ [lead ++ (pre ++ ' ' :: rule.toList ++ tail) ++ trail] ++ after, '\n' ∉ l := by
    simp only [List.forall_mem_append, List.forall_mem_singleton] at hnl ⊢
    exact ⟨⟨hnl.1.1, noNewline_pad hpad hnl.1.2⟩, hnl.2⟩
  rw [splitOnChar_joinLines _ hne hnl']
  refine ⟨lead ++ (pre ++ ' ' :: rule.toList ++ tail) ++ trail, by simp, ?_⟩
  rw [trimSpace_pad lead _ trail (fun c hc => (hpad c (List.mem_append.2 (Or.inl hc))).1)
    (fun c hc => (hpad c (List.mem_append.2 (Or.inr hc))).1), hbody]
  have : pre ++ ' ' :: rule.toList ++ tail = (pre ++ ' ' :: rule.toList) ++ tail := by simp
  rw [this, List.isPrefixOf_iff_prefix]
  exact List.prefix_append _ _

/-- The id is matched as a PREFIX of the directive text (documented in the code comment of
    `checkCommentLineForCheckIgnore`): a directive naming `r₂` names every id `r₁` that is a
    prefix of `r₂`. -/
theorem directive_id_matched_as_prefix (r₁ r₂ : Id) (text : Str) (hp : r₁.toList <+: r₂.toList)
    (h : textNames r₂ text = true) : textNames r₁ text = true := by
  unfold textNames at *
  rw [List.isPrefixOf_iff_prefix] at *
  exact hp.trans h

/-- Spellings that are no-ops as coded: no id, no separating blank, two blanks, a tab as
    separator, another case, not at the start of the line, a second directive on the same line;
    and spellings that work: tight `//`, indentation by blanks and tabs, trailing prose, a comma
    list (first id only), CR at the end of the line, a `*`-less block comment line. -/
theorem directive_spellings_as_coded :
    let names (c : String) (r : Id) := commentNames lintCommentIgnorePrefix c.toList r
    names " buf:lint:ignore\n" "ENUM_PASCAL_CASE" = false ∧
    names " buf:lint:ignoreENUM_PASCAL_CASE\n" "ENUM_PASCAL_CASE" = false ∧
    names " buf:lint:ignore  ENUM_PASCAL_CASE\n" "ENUM_PASCAL_CASE" = false ∧
    names " buf:lint:ignore\tENUM_PASCAL_CASE\n" "ENUM_PASCAL_CASE" = false ∧
    names " Buf:lint:ignore ENUM_PASCAL_CASE\n" "ENUM_PASCAL_CASE" = false ∧
    names " see buf:lint:ignore ENUM_PASCAL_CASE\n" "ENUM_PASCAL_CASE" = false ∧
    names " buf:lint:ignore ENUM_PASCAL_CASE buf:lint:ignore COMMENT_ENUM\n" "COMMENT_ENUM" = false ∧
    names " buf:lint:ignore ENUM_PASCAL_CASE, COMMENT_ENUM\n" "COMMENT_ENUM" = false ∧
    names "buf:lint:ignore ENUM_PASCAL_CASE\n" "ENUM_PASCAL_CASE" = true ∧
    names "   buf:lint:ignore ENUM_PASCAL_CASE\n" "ENUM_PASCAL_CASE" = true ∧
    names "\tbuf:lint:ignore ENUM_PASCAL_CASE  \r\n" "ENUM_PASCAL_CASE" = true ∧
    names " Docs.\n \t buf:lint:ignore ENUM_PASCAL_CASE because reasons\n More.\n" "ENUM_PASCAL_CASE" = true ∧
    names " buf:lint:ignore ENUM_PASCAL_CASE, COMMENT_ENUM\n" "ENUM_PASCAL_CASE" = true ∧
    names " buf:lint:ignore COMMENT_ENUM_VALUE\n" "COMMENT_ENUM" = true ∧
    names "\n   buf:lint:ignore ENUM_PASCAL_CASE\n " "ENUM_PASCAL_CASE" = true := by
  dsimp only
  unfold lintCommentIgnorePrefix
  -- a literal `"…"` is `String.ofList […]`: rewriting gives the kernel the characters, which it would
  -- otherwise decode from the byte array, at a cost quadratic in the length of the literal
  repeat rw [String.toList_ofList]
  decide +kernel

/-! ## non-vacuity -/

example : commentNames lintCommentIgnorePrefix
    (joinLines ([" Heading:".toList] ++ ["   \t".toList ++ ("buf:lint:ignore".toList ++ ' ' :: "ENUM_PASCAL_CASE".toList ++ ", X".toList) ++ " ".toList] ++ []))
    "ENUM_PASCAL_CASE" = true :=
  indented_directive_recognised _ _ _ _ _ _ _ (by decide +kernel) (by decide +kernel) (by decide +kernel)

example : readYamlModules true exWsLeak exModsLeak ≠ .error .config := by decide

example : ∃ o, convertModule true exWsLeak ("vendor".toList, {}) = .ok o ∧ o.2.disabled = false := ⟨_, rfl, by decide⟩

end BufProofs.C06
