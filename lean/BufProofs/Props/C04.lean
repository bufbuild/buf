import BufProofs.Lemmas.BreakingWitness
import BufProofs.Lemmas.BreakingEdits
import BufProofs.Lemmas.BreakingImports
/-
  C04 — Compatible changes are never reported and breaking categories are ordered.
  Helper lemmas: BufProofs/Lemmas/Breaking*.lean.  The model is
  BufModel/Breaking.lean; rule → category membership and the compatibility groups are the
  REGENERATED BufGen/BreakingTables.lean, so the `decide`s below are re-run against /repo's tables.

  `additive_clean` is stated for the relation `⊑ₐ` on the model datatype (its doc comment says exactly
  what that is and which source-level edits it does and does not cover); `additive_edits_clean` is the
  same statement for sequences of the additive EDIT OPERATORS of Lemmas/BreakingEdits.lean;
  `additive_first_enum_value_counterexample` is the source-additive edit that is NOT covered and that
  buf does report.  Non-vacuity: the chain `W.aS0 → W.aS1 → W.aS2` and the pairs `W.aDel`,
  `W.wPrev → W.wCur` of Lemmas/BreakingWitness.lean; hypotheses are established by the executable
  checkers `wfB`, `schemaExtB`, `kindsOkB` through their soundness theorems (`WF_of_wfB`,
  Lemmas/BreakingClean.lean; `schemaExtB_sound`, `KindsOK_of_kindsOkB`, Lemmas/BreakingDecide.lean).
-/
namespace BufProofs.C04
open BufModel.Schema BufModel.Breaking BufProofs.Breaking

/-- Comparing a schema with itself reports nothing, in every category and config version.
    `WF` = the uniqueness of file paths / full names / field numbers / method names that a compiled
    image has (the Go map builders return an error otherwise). -/
theorem self_clean (v : Ver) (cat : String) (s : Schema) (hw : WF s) : check v cat s s = [] := by
  unfold check
  exact flatMap_nil _ _ fun id _ => runRule_nil hw (SchemaExt.refl s).flat id

/-- A version that only adds things reports nothing in any category and config version.

    WHAT `prev ⊑ₐ cur` SAYS (Lemmas/BreakingAdditive.lean, `SchemaExt` / `FileExt` / `MsgExt`,
    Lemmas/BreakingClean.lean `InfoExt` / `EnumExt` / `SvcExt`).  It is a relation on the MODEL
    datatype — the descriptors as bufprotosource / protoreflect present them to the rule handlers,
    DERIVED facts included — not on `.proto` source text.  Every previous file has a current file
    with the same path, package, syntax and tracked option values in which
    * every previous message, at any depth, has a same-named counterpart under the counterpart of
      its parent, whose previous FIELD RECORDS are all still present UNCHANGED — number, name, JSON
      name, label, type, resolved kind, type name, oneof, presence, jstype and also the resolved
      `features.utf8_validation` and the resolved `Default()` —, whose other fields have fresh
      numbers and are not `required`; previous oneofs (by name), reserved ranges / names, extension
      ranges and nested extensions are still there; `no_standard_descriptor_accessor` and the
      resolved JSON format are unchanged;
    * every previous enum has a same-named counterpart with the same closedness and JSON format
      that still has every previous (name, number) value, reserved range and reserved name;
    * every previous service has a same-named counterpart with every previous method unchanged;
    * declaration ORDER is free everywhere (all clauses are by membership), new elements may be
      inserted anywhere.
    SOURCE-LEVEL edits this covers: adding files, messages (any depth), enums, services, RPCs,
    oneofs, non-required fields with fresh numbers (also as new members of an existing oneof),
    reserved ranges / names, extension ranges, extensions, enum values and aliases — PROVIDED the
    edit leaves every derived fact of every old element as it was.
    SOURCE-LEVEL additive edits it does NOT cover, because they change a derived fact of an old field:
    inserting a new FIRST value into a CLOSED (proto2 / editions `enum_type = CLOSED`) enum changes
    `Default()` of every optional field of that enum type without an explicit default — the old
    field record is no longer a member of the new message, `⊑ₐ` fails, and buf v2 really reports
    FIELD_SAME_DEFAULT in all four categories: `additive_first_enum_value_counterexample`.
    (Appending the value, or inserting it first into an OPEN enum whose first value stays 0, is
    covered.)  Covered although arguably breaking: adding an editions field with
    `features.field_presence = LEGACY_REQUIRED` — its proto label stays `optional`, buf's
    MESSAGE_SAME_REQUIRED_FIELDS reads the label and is silent, and the model follows the code.

    Proved through "the handlers iterate over the PREVIOUS schema only": every previous element has
    an only-extended counterpart. -/
theorem additive_clean (v : Ver) (cat : String) (prev cur : Schema) (hw : WF cur) (h : prev ⊑ₐ cur) :
    check v cat cur prev = [] := by
  unfold check
  exact flatMap_nil _ _ fun id _ => runRule_nil hw h.flat id

/-- The same statement on EDIT OPERATORS: any sequence of the additive operators of
    Lemmas/BreakingEdits.lean (`SchemaEdit`: add a file / top-level or nested message / enum / service /
    extension / RPC / oneof / non-required field with a fresh number / enum value or alias / reserved
    range or name / extension range, at any list position and any nesting depth; re-locate) applied to
    `prev` yields a version that is clean against `prev` in every category and config version. -/
theorem additive_edits_clean (v : Ver) (cat : String) (prev cur : Schema) (hw : WF cur)
    (h : SchemaEdits prev cur) : check v cat cur prev = [] :=
  additive_clean v cat prev cur hw h.sound

/-- `⊑ₐ` is reflexive and closed under composition, so in a chain S₀ → S₁ → … → Sₙ of additive
    edits every Sᵢ compared against every earlier Sⱼ is clean. -/
theorem additive_refl (s : Schema) : s ⊑ₐ s := SchemaExt.refl s

theorem additive_trans (a b c : Schema) (h1 : a ⊑ₐ b) (h2 : b ⊑ₐ c) : a ⊑ₐ c := SchemaExt.trans h1 h2

/-- Cosmetic edits.  Comments, whitespace and positions are not part of the schema datatype at all;
    the only source-text dependent component is `locs` (which source paths have a location), and
    `⊑ₐ` does not look at it — nor at the ORDER of declarations, since it is stated by membership.
    So a re-commented / reformatted / re-located copy is an only-adds extension, hence clean. -/
theorem cosmetic_relocate (s : Schema) (g : File → List SPath) :
    s ⊑ₐ s.map fun f => { f with locs := g f } := by
  intro f hf
  refine ⟨{ f with locs := g f }, List.mem_map.2 ⟨f, hf, rfl⟩, ⟨rfl, rfl, rfl, rfl, ?_, ?_, fun _ h => h, ?_⟩⟩
  · exact MsgsExt_of_forall _ _ fun n hn => ⟨n, hn, MsgExt.refl n⟩
  · intro e he; exact ⟨e, he, rfl, EnumExt.refl e⟩
  · intro sv hs; exact ⟨sv, hs, SvcExt.refl sv⟩

theorem cosmetic_clean (v : Ver) (cat : String) (s : Schema) (g : File → List SPath)
    (hw : WF (s.map fun f => { f with locs := g f })) :
    check v cat (s.map fun f => { f with locs := g f }) s = [] :=
  additive_clean v cat s _ hw (cosmetic_relocate s g)

/-- a chain S₀ → S₁ → … of additive edits -/
def AddChain : Schema → List Schema → Prop
  | _, [] => True
  | a, b :: rest => a ⊑ₐ b ∧ AddChain b rest

theorem chain_all (a : Schema) : ∀ (rest : List Schema), AddChain a rest → ∀ s ∈ rest, a ⊑ₐ s
  | [], _, s, hs => by cases hs
  | b :: rest, h, s, hs => by
    rw [AddChain] at h
    rcases List.mem_cons.1 hs with rfl | hs'
    · exact h.1
    · exact SchemaExt.trans h.1 (chain_all b rest h.2 s hs')

/-- In a chain of additive edits every version is an only-adds extension of every EARLIER one … -/
theorem additive_chain_pairwise : ∀ (s0 : Schema) (chain : List Schema), AddChain s0 chain →
    List.Pairwise (· ⊑ₐ ·) (s0 :: chain)
  | s0, [], _ => List.pairwise_singleton _ _
  | s0, b :: rest, h => by
    refine List.pairwise_cons.2 ⟨fun s hs => chain_all s0 _ h s hs, ?_⟩
    rw [AddChain] at h
    exact additive_chain_pairwise b rest h.2

/-- … hence comparing any later version of the chain against any earlier one is clean. -/
theorem additive_chain_clean (v : Ver) (cat : String) (s0 : Schema) (chain : List Schema)
    (hc : AddChain s0 chain) (hw : ∀ s ∈ s0 :: chain, WF s) :
    List.Pairwise (fun earlier later => check v cat later earlier = []) (s0 :: chain) := by
  have hp := additive_chain_pairwise s0 chain hc
  have hp' : List.Pairwise (fun earlier later => later ∈ s0 :: chain ∧ earlier ⊑ₐ later) (s0 :: chain) := by
    refine List.Pairwise.imp_of_mem (fun {a b} _ hb hab => ⟨hb, hab⟩) hp
  exact hp'.imp fun {a b} hab => additive_clean v cat a b (hw b hab.1) hab.2

/-- the rules whose report is implied by a report of the given rule -/
def implies : String → List String
  | "PACKAGE_ENUM_NO_DELETE" => ["FILE_NO_DELETE", "ENUM_NO_DELETE", "FILE_SAME_PACKAGE"]
  | "PACKAGE_EXTENSION_NO_DELETE" => ["FILE_NO_DELETE", "EXTENSION_NO_DELETE", "FILE_SAME_PACKAGE"]
  | "PACKAGE_MESSAGE_NO_DELETE" => ["FILE_NO_DELETE", "MESSAGE_NO_DELETE", "FILE_SAME_PACKAGE"]
  | "PACKAGE_SERVICE_NO_DELETE" => ["FILE_NO_DELETE", "SERVICE_NO_DELETE", "FILE_SAME_PACKAGE"]
  | "PACKAGE_NO_DELETE" => ["FILE_NO_DELETE", "FILE_SAME_PACKAGE"]
  | "ENUM_VALUE_NO_DELETE_UNLESS_NAME_RESERVED" => ["ENUM_VALUE_NO_DELETE"]
  | "ENUM_VALUE_NO_DELETE_UNLESS_NUMBER_RESERVED" => ["ENUM_VALUE_NO_DELETE"]
  | "FIELD_NO_DELETE_UNLESS_NAME_RESERVED" => ["FIELD_NO_DELETE"]
  | "FIELD_NO_DELETE_UNLESS_NUMBER_RESERVED" => ["FIELD_NO_DELETE"]
  | "FIELD_WIRE_JSON_COMPATIBLE_CARDINALITY" => ["FIELD_SAME_CARDINALITY"]
  | "FIELD_WIRE_COMPATIBLE_CARDINALITY" => ["FIELD_WIRE_JSON_COMPATIBLE_CARDINALITY"]
  | "FIELD_WIRE_JSON_COMPATIBLE_TYPE" => ["FIELD_SAME_TYPE"]
  | "FIELD_WIRE_COMPATIBLE_TYPE" => ["FIELD_WIRE_JSON_COMPATIBLE_TYPE"]
  | _ => []

/-- regenerated tables: kinds in one wire+JSON group are in one wire group -/
theorem kind_groups_refine : (Kind.all.all fun a => Kind.all.all fun b =>
    (a.wireGroup == b.wireGroup) || (a.wireJsonGroup != b.wireJsonGroup)) = true := by decide +kernel

/-- regenerated tables: cardinalities in one wire+JSON group are in one wire group -/
theorem card_groups_refine : (Card.all.all fun a => Card.all.all fun b =>
    (a.wireGroup == b.wireGroup) || (a.wireJsonGroup != b.wireJsonGroup)) = true := by decide +kernel

theorem kind_refine (a b : Kind) (h : a.wireGroup ≠ b.wireGroup) : a.wireJsonGroup ≠ b.wireJsonGroup := by
  have := List.all_eq_true.1 (List.all_eq_true.1 kind_groups_refine a (Kind.mem_all a)) b (Kind.mem_all b)
  simp at this
  rcases this with h1 | h1
  · exact absurd h1 h
  · exact h1

theorem card_refine (a b : Card) (h : a.wireGroup ≠ b.wireGroup) : a.wireJsonGroup ≠ b.wireJsonGroup := by
  have := List.all_eq_true.1 (List.all_eq_true.1 card_groups_refine a (Card.mem_all a)) b (Card.mem_all b)
  simp at this
  rcases this with h1 | h1
  · exact absurd h1 h
  · exact h1

/-! ### the category order PER FIELD (subject level) for the three type rules

    `hierarchy` (below) says "stricter category clean ⇒ laxer category clean" for the pair of
    schemas as a whole.  For the type family FIELD_SAME_TYPE (FILE, PACKAGE) ⇐ FIELD_WIRE_JSON_COMPATIBLE_TYPE
    (WIRE_JSON) ⇐ FIELD_WIRE_COMPATIBLE_TYPE (WIRE) the order holds at every single FIELD PAIR: the
    three rules are `fieldPairs` of the three bodies below (`type_rules_are_per_field`), each body
    only ever produces an annotation of the CURRENT field `c` (`type_annotations_are_about_the_field`),
    and for one and the same pair `(c, p)` a laxer body that reports forces the stricter body to
    report (`type_rules_ordered_per_field`).  This is the statement the C04 harness checks per
    subject on every pair of the edit catalogue; `same_type_skipping_groups_counterexample` is the
    regression it guards against. -/

/-- body of handleBreakingFieldSameType for one field pair -/
def sameTypeAt (c p : FlatField) : List Ann :=
  if p.field.kind ≠ c.field.kind then [changedTypeAnn "FIELD_SAME_TYPE" c]
  else if c.field.ty.named ∧ p.field.typeName ≠ c.field.typeName then
    [changedTypeNameAnn "FIELD_SAME_TYPE" c]
  else []

/-- body of handleBreakingFieldWireJSONCompatibleType for one field pair -/
def wireJsonTypeAt (cur prev : Schema) (c p : FlatField) : List Ann :=
  if p.field.kind.wireJsonGroup ≠ c.field.kind.wireJsonGroup then [changedTypeAnn "FIELD_WIRE_JSON_COMPATIBLE_TYPE" c]
  else if c.field.kind = .enum then
    if p.field.typeName ≠ c.field.typeName then enumWireCompatible "FIELD_WIRE_JSON_COMPATIBLE_TYPE" cur prev c p else []
  else if c.field.kind = .group ∨ c.field.kind = .message then
    if p.field.typeName ≠ c.field.typeName then [changedTypeNameAnn "FIELD_WIRE_JSON_COMPATIBLE_TYPE" c] else []
  else []

/-- body of handleBreakingFieldWireCompatibleType for one field pair -/
def wireTypeAt (cur prev : Schema) (c p : FlatField) : List Ann :=
  if p.field.kind.wireGroup ≠ c.field.kind.wireGroup then
    if p.field.kind = .string ∧ c.field.kind = .bytes then [] else [changedTypeAnn "FIELD_WIRE_COMPATIBLE_TYPE" c]
  else if c.field.ty = .enum then
    if p.field.typeName ≠ c.field.typeName then enumWireCompatible "FIELD_WIRE_COMPATIBLE_TYPE" cur prev c p else []
  else if c.field.ty = .group ∨ c.field.ty = .message then
    if p.field.typeName ≠ c.field.typeName then [changedTypeNameAnn "FIELD_WIRE_COMPATIBLE_TYPE" c] else []
  else []

theorem type_rules_are_per_field (cur prev : Schema) :
    ruleFieldSameType cur prev = fieldPairs cur prev sameTypeAt ∧
    ruleFieldWireJsonCompatibleType cur prev = fieldPairs cur prev (wireJsonTypeAt cur prev) ∧
    ruleFieldWireCompatibleType cur prev = fieldPairs cur prev (wireTypeAt cur prev) :=
  ⟨rfl, rfl, rfl⟩

theorem enumWireCompatible_about_field (r : String) (cur prev : Schema) (c p : FlatField) :
    ∀ a ∈ enumWireCompatible r cur prev c p, a = changedTypeNameAnn r c :=
  Breaking.enumWireCompatible_about_field r cur prev c p

theorem type_annotations_are_about_the_field (cur prev : Schema) (c p : FlatField) :
    (∀ a ∈ sameTypeAt c p, a = changedTypeAnn "FIELD_SAME_TYPE" c ∨ a = changedTypeNameAnn "FIELD_SAME_TYPE" c) ∧
    (∀ a ∈ wireJsonTypeAt cur prev c p, a = changedTypeAnn "FIELD_WIRE_JSON_COMPATIBLE_TYPE" c ∨
      a = changedTypeNameAnn "FIELD_WIRE_JSON_COMPATIBLE_TYPE" c) ∧
    (∀ a ∈ wireTypeAt cur prev c p, a = changedTypeAnn "FIELD_WIRE_COMPATIBLE_TYPE" c ∨
      a = changedTypeNameAnn "FIELD_WIRE_COMPATIBLE_TYPE" c) := by
  refine ⟨fun a ha => ?_, fun a ha => ?_, fun a ha => ?_⟩
  · unfold sameTypeAt at ha
    split at ha
    · exact .inl (by simpa using ha)
    · split at ha
      · exact .inr (by simpa using ha)
      · cases ha
  · change a ∈ if _ then _ else typeNameAt _ c.field.kind cur prev c p at ha
    split at ha
    · exact .inl (by simpa using ha)
    · exact .inr (typeNameAt_about a ha)
  · change a ∈ if _ then _ else typeNameAt _ c.field.ty cur prev c p at ha
    split at ha
    · split at ha
      · cases ha
      · exact .inl (by simpa using ha)
    · exact .inr (typeNameAt_about a ha)

/-- FILE ⊇ PACKAGE ⊇ WIRE_JSON ⊇ WIRE at the level of ONE field pair, for the type family: if the
    WIRE rule reports about `(c, p)` so does the WIRE_JSON rule, and if that one reports so does
    FIELD_SAME_TYPE - for every pair of schemas, every pair of fields, with the compiled-image
    hypothesis on the current field only (`kindOk`: Kind() = Type() except delimited messages). -/
theorem type_rules_ordered_per_field (cur prev : Schema) (c p : FlatField) (hok : kindOk c.field) :
    (wireTypeAt cur prev c p ≠ [] → wireJsonTypeAt cur prev c p ≠ []) ∧
    (wireJsonTypeAt cur prev c p ≠ [] → sameTypeAt c p ≠ []) := by
  constructor
  · intro hx
    change (if _ then _ else typeNameAt _ c.field.ty cur prev c p) ≠ [] at hx
    change (if _ then _ else typeNameAt _ c.field.kind cur prev c p) ≠ []
    by_cases hj : p.field.kind.wireJsonGroup ≠ c.field.kind.wireJsonGroup
    · simp [hj]
    · have hw : ¬ p.field.kind.wireGroup ≠ c.field.kind.wireGroup := fun hw => hj (kind_refine _ _ hw)
      rw [if_neg hw] at hx
      rw [if_neg hj]
      exact typeNameAt_kind hok hx
  · intro hx
    change (if _ then _ else typeNameAt _ c.field.kind cur prev c p) ≠ [] at hx
    unfold sameTypeAt
    by_cases hkind : p.field.kind ≠ c.field.kind
    · simp [hkind]
    · have hj : ¬ p.field.kind.wireJsonGroup ≠ c.field.kind.wireJsonGroup := by
        rw [Classical.not_not.1 hkind]; simp
      rw [if_neg hj] at hx
      obtain ⟨hk, ht⟩ := typeNameAt_ne_nil hx
      -- the resolved kind is enum, group or message, so the declared type is a named one
      have named : c.field.ty.named = true := by
        rcases hok with h1 | ⟨h1, _⟩
        · rw [← h1]; rcases hk with h2 | h2 | h2 <;> rw [h2] <;> decide
        · rw [h1]; decide
      simp [hkind, named, ht]

/-- the regression: FIELD_SAME_TYPE switching on the resolved `Kind()` with arms for enum and
    message only - the type NAME of a delimited ("group" encoded) message field is not compared -/
def sameTypeAtSkippingGroups (c p : FlatField) : List Ann :=
  if p.field.kind ≠ c.field.kind then [changedTypeAnn "FIELD_SAME_TYPE" c]
  else if (c.field.kind = .enum ∨ c.field.kind = .message) ∧ p.field.typeName ≠ c.field.typeName then
    [changedTypeNameAnn "FIELD_SAME_TYPE" c]
  else []

/-- Field 1 of `g.M` (witness `gPrev → gCur`: edition 2023, delimited by the FILE default on both
    sides, type `g.X` → `g.Y`): the WIRE and WIRE_JSON bodies report the field's type name, the
    coded FIELD_SAME_TYPE body does too, the regressed one is silent - FILE and PACKAGE would be
    clean for this field while WIRE_JSON and WIRE are not. -/
theorem same_type_skipping_groups_counterexample :
    wireTypeAt W.gCur W.gPrev (W.fieldOf W.gcM 1) (W.fieldOf W.gpM 1) =
      [⟨"FIELD_WIRE_COMPATIBLE_TYPE", "g/e.proto", [4, 0, 2, 1, 6]⟩] ∧
    wireJsonTypeAt W.gCur W.gPrev (W.fieldOf W.gcM 1) (W.fieldOf W.gpM 1) =
      [⟨"FIELD_WIRE_JSON_COMPATIBLE_TYPE", "g/e.proto", [4, 0, 2, 1, 6]⟩] ∧
    sameTypeAt (W.fieldOf W.gcM 1) (W.fieldOf W.gpM 1) = [⟨"FIELD_SAME_TYPE", "g/e.proto", [4, 0, 2, 1, 6]⟩] ∧
    sameTypeAtSkippingGroups (W.fieldOf W.gcM 1) (W.fieldOf W.gpM 1) = [] := by
  decide

/-- `type_rules_ordered_per_field` is not vacuous on that pair -/
example : kindOk (W.fieldOf W.gcM 1).field := Or.inr ⟨by decide, by decide⟩

/-- Per-rule implication: whenever a rule with a non-empty `implies` list reports something on ANY
    pair of schemas, one of the listed rules reports something as well.
    (`KindsOK cur`: protoreflect's Kind() equals the declared Type() except delimited messages.) -/
theorem implies_sound (id : String) (cur prev : Schema) (hk : KindsOK cur)
    (h : runRule id cur prev ≠ []) (hne : implies id ≠ []) : ∃ j ∈ implies id, runRule j cur prev ≠ [] := by
  unfold implies at hne ⊢
  split at hne <;> simp only [List.mem_cons, List.not_mem_nil, or_false, exists_eq_or_imp, exists_eq_left]
  · exact (package_enum_implied cur prev (handler_ne_nil h)).imp (runRule_ne_nil ·)
      (Or.imp (runRule_ne_nil ·) (runRule_ne_nil ·))
  · exact (package_extension_implied cur prev (handler_ne_nil h)).imp (runRule_ne_nil ·)
      (Or.imp (runRule_ne_nil ·) (runRule_ne_nil ·))
  · exact (package_message_implied cur prev (handler_ne_nil h)).imp (runRule_ne_nil ·)
      (Or.imp (runRule_ne_nil ·) (runRule_ne_nil ·))
  · exact (package_service_implied cur prev (handler_ne_nil h)).imp (runRule_ne_nil ·)
      (Or.imp (runRule_ne_nil ·) (runRule_ne_nil ·))
  · exact (package_implied cur prev (handler_ne_nil h)).imp (runRule_ne_nil ·) (runRule_ne_nil ·)
  · exact runRule_ne_nil (enum_value_no_delete_implied _ _ _ cur prev (handler_ne_nil h))
  · exact runRule_ne_nil (enum_value_no_delete_implied _ _ _ cur prev (handler_ne_nil h))
  · exact runRule_ne_nil (field_no_delete_implied _ _ _ cur prev (handler_ne_nil h))
  · exact runRule_ne_nil (field_no_delete_implied _ _ _ cur prev (handler_ne_nil h))
  · exact runRule_ne_nil (card_implied _ _ Card.wireJsonGroup (fun c => c.ctorIdx)
      (fun a b hab hidx => hab (by cases a <;> cases b <;> first | rfl | cases hidx)) cur prev
      (handler_ne_nil h))
  · exact runRule_ne_nil (card_implied _ _ Card.wireGroup Card.wireJsonGroup card_refine cur prev
      (handler_ne_nil h))
  · exact runRule_ne_nil (f := ruleFieldSameType)
      (fieldPairs_on.mono (f₁ := wireJsonTypeAt cur prev) (f₂ := sameTypeAt)
        (fun c p hv => (type_rules_ordered_per_field cur prev c p (hk c hv.isCur)).2)
        (handler_ne_nil (f := ruleFieldWireJsonCompatibleType) h))
  · exact runRule_ne_nil (f := ruleFieldWireJsonCompatibleType)
      (fieldPairs_on.mono (f₁ := wireTypeAt cur prev) (f₂ := wireJsonTypeAt cur prev)
        (fun c p hv => (type_rules_ordered_per_field cur prev c p (hk c hv.isCur)).1)
        (handler_ne_nil (f := ruleFieldWireCompatibleType) h))
  · exact absurd rfl hne

def tableOk (v : Ver) (strict lax : String) : Bool :=
  (rulesOf v lax).all fun id =>
    (rulesOf v strict).contains id ||
      (!(implies id).isEmpty && (implies id).all fun j => (rulesOf v strict).contains j)

def exEnum : Enum :=
  { name := "E", values := [⟨"E_0", 0⟩], reservedRanges := [], reservedNames := [], closed := false,
    jsonAllow := true }
def exMsg (name : String) : MsgInfo :=
  { name := name, fields := [], extensions := [], enums := [], oneofs := [], reservedRanges := [],
    reservedNames := [], extRanges := [], messageSet := false, noStdAccessor := false, jsonAllow := true,
    mapEntry := false }
def exFile (msgs : List Msg) (enums : List Enum) : File :=
  { path := "a.proto", pkg := ["p"], syn := .proto3, opts := [], locs := [[4, 0], [4, 1], [5, 0]],
    messages := msgs, enums := enums, services := [], extensions := [] }
def exS0 : Schema := [exFile [.mk (exMsg "M") []] [exEnum]]
def exS1 : Schema := [exFile [.mk (exMsg "M") [], .mk (exMsg "N") []] [exEnum]]
def exD : Schema := [exFile [.mk (exMsg "M") []] []]

/-- `z.proto` with `package p;` (a target) against `z.proto` without package, an import -/
def xPrev : Schema :=
  [{ path := "z.proto", pkg := ["p"], syn := .proto3, opts := [], locs := [[12], [2]], messages := [],
     enums := [], services := [], extensions := [] }]
def xCur : Schema :=
  [{ path := "z.proto", pkg := [], syn := .proto3, opts := [], locs := [[12]], messages := [],
     enums := [], services := [], extensions := [], isImport := true }]

/-- The table sweep of `tables_ordered` and every evaluated `check` of this file, in ONE evaluation:
    each evaluation of `rulesOf` / `check` decodes the rule tables of its config version again, whatever
    the schemas are.  The theorems and examples below that state these facts are its components:
    `.1` the sweep, `.2.1` the closed-enum pair, `.2.2.1` the hierarchy witnesses (four parts), `.2.2.2`
    the exclude-imports pair. -/
private theorem witness_checks :
    -- .1
    ([Ver.v1beta1, Ver.v1, Ver.v2].all fun v =>
      tableOk v "FILE" "PACKAGE" && tableOk v "PACKAGE" "WIRE_JSON" && tableOk v "WIRE_JSON" "WIRE") = true ∧
    -- .2.1
    (wfB W.cxC = true ∧
      (∀ cat ∈ allCats, check .v2 cat W.cxC W.cxP = [⟨"FIELD_SAME_DEFAULT", "cfg.proto", [4, 0, 2, 0]⟩]) ∧
      (∀ cat ∈ allCats, check .v1 cat W.cxC W.cxP = [] ∧ check .v1beta1 cat W.cxC W.cxP = [])) ∧
    -- .2.2.1: `.1` aS1 → aDel, `.2.1` exS0 → exD, `.2.2.1` aS1 → aS0, `.2.2.2` wPrev → wCur
    ((check .v2 "FILE" W.aDel W.aS1 = [⟨"FIELD_NO_DELETE", "shop/v1/order.proto", [4, 1]⟩] ∧
      check .v2 "PACKAGE" W.aDel W.aS1 = [⟨"FIELD_NO_DELETE", "shop/v1/order.proto", [4, 1]⟩] ∧
      check .v2 "WIRE_JSON" W.aDel W.aS1 = []) ∧
     (check .v2 "FILE" exD exS0 = [⟨"ENUM_NO_DELETE", "a.proto", []⟩] ∧
      check .v2 "PACKAGE" exD exS0 = [⟨"PACKAGE_ENUM_NO_DELETE", "a.proto", []⟩] ∧
      check .v2 "WIRE_JSON" exD exS0 = [] ∧ check .v2 "WIRE" exD exS0 = []) ∧
     check .v2 "WIRE" W.aS0 W.aS1 ≠ [] ∧ check .v2 "WIRE" W.wCur W.wPrev ≠ []) ∧
    -- .2.2.2
    (check .v1 "FILE" xCur xPrev ≠ [] ∧
     checkX true .v1 "FILE" xCur xPrev = [] ∧
     checkX true .v1 "PACKAGE" xCur xPrev = [⟨"PACKAGE_NO_DELETE", "", []⟩]) := by
  decide +kernel

/-- the regenerated rule → category tables of all three config versions respect the order -/
theorem tables_ordered :
    ([Ver.v1beta1, Ver.v1, Ver.v2].all fun v =>
      tableOk v "FILE" "PACKAGE" && tableOk v "PACKAGE" "WIRE_JSON" && tableOk v "WIRE_JSON" "WIRE") = true :=
  witness_checks.1

theorem step (v : Ver) (strict lax : String) (hok : tableOk v strict lax = true) (cur prev : Schema)
    (hk : KindsOK cur) (h : check v strict cur prev = []) : check v lax cur prev = [] := by
  unfold check at h ⊢
  apply flatMap_nil
  intro id hid
  have hstrict : ∀ j ∈ rulesOf v strict, runRule j cur prev = [] := List.flatMap_eq_nil_iff.1 h
  have := List.all_eq_true.1 hok id hid
  simp only [Bool.or_eq_true, Bool.and_eq_true, List.contains_iff_mem, Bool.not_eq_true',
    List.isEmpty_eq_false_iff, List.all_eq_true] at this
  rcases this with hin | ⟨hne, hall⟩
  · exact hstrict id hin
  · by_cases hnil : runRule id cur prev = []
    · exact hnil
    · obtain ⟨j, hj, hjne⟩ := implies_sound id cur prev hk hnil hne
      exact absurd (hstrict j (hall j hj)) hjne

/-- FILE clean ⇒ PACKAGE clean ⇒ WIRE_JSON clean ⇒ WIRE clean, for ALL pairs of schemas (also
    arbitrarily breaking ones) and all three config versions. -/
theorem hierarchy (v : Ver) (cur prev : Schema) (hk : KindsOK cur) :
    (check v "FILE" cur prev = [] → check v "PACKAGE" cur prev = []) ∧
    (check v "PACKAGE" cur prev = [] → check v "WIRE_JSON" cur prev = []) ∧
    (check v "WIRE_JSON" cur prev = [] → check v "WIRE" cur prev = []) := by
  have ht := tables_ordered
  simp only [List.all_cons, List.all_nil, Bool.and_true, Bool.and_eq_true] at ht
  cases v
  · exact ⟨step _ _ _ ht.1.1.1 cur prev hk, step _ _ _ ht.1.1.2 cur prev hk, step _ _ _ ht.1.2 cur prev hk⟩
  · exact ⟨step _ _ _ ht.2.1.1.1 cur prev hk, step _ _ _ ht.2.1.1.2 cur prev hk, step _ _ _ ht.2.1.2 cur prev hk⟩
  · exact ⟨step _ _ _ ht.2.2.1.1 cur prev hk, step _ _ _ ht.2.2.1.2 cur prev hk, step _ _ _ ht.2.2.2 cur prev hk⟩

/-! ### the source-additive edit that is NOT `⊑ₐ` (and that buf reports) -/

/-- proto2 `enum Level { LOW = 1; HIGH = 2; }  message Cfg { optional Level level = 1; }` versus the
    same file with `NONE = 0;` inserted in FRONT of the enum (`W.cxP`, `W.cxC`).  At the source level
    nothing but one enum value was added: the enum pair satisfies `EnumExt`, every message, field and
    enum name and number is unchanged.  But `Default()` of `level` moved from LOW = 1 to NONE = 0, so
    the previous field record is not a field of the current message: `cxP ⊑ₐ cxC` is FALSE, and the
    detector — like buf with a v2 config (`extra.head_insert_enum_value_reports` of the C04 harness) —
    reports FIELD_SAME_DEFAULT at the field in all four categories.  Configs v1beta1 / v1 do not have
    the rule and stay silent. -/
theorem additive_first_enum_value_counterexample :
    EnumExt (W.enm "Level" [⟨"LOW", 1⟩, ⟨"HIGH", 2⟩]) (W.enm "Level" [⟨"NONE", 0⟩, ⟨"LOW", 1⟩, ⟨"HIGH", 2⟩]) ∧
    WF W.cxC ∧
    (∀ cat ∈ allCats, check .v2 cat W.cxC W.cxP = [⟨"FIELD_SAME_DEFAULT", "cfg.proto", [4, 0, 2, 0]⟩]) ∧
    (∀ cat ∈ allCats, check .v1 cat W.cxC W.cxP = [] ∧ check .v1beta1 cat W.cxC W.cxP = []) ∧
    ¬ (W.cxP ⊑ₐ W.cxC) := by
  obtain ⟨hwf, h2, h1⟩ := witness_checks.2.1
  have hw : WF W.cxC := WF_of_wfB _ hwf
  refine ⟨by decide, hw, h2, h1, fun h => ?_⟩
  have := additive_clean .v2 "WIRE" _ _ hw h
  rw [h2 "WIRE" (by decide)] at this
  cases this

section chain
open W

/-- `additive_clean` on the concrete chain `aS0 → aS1 → aS2` (Lemmas/BreakingWitness.lean: new first
    file / message / field / RPC, a message and a field at depth 3, a nested enum at depth 2, enum
    value + alias, oneof, reserved range and name, extension range, new enum and service): both
    hypotheses hold (`aS1_wf : WF aS1`, `aS01 : aS0 ⊑ₐ aS1`, established by the executable checkers
    `wfB`, `schemaExtB` and their soundness theorems), hence every category of every version is clean -/
example : ∀ v cat, check v cat aS1 aS0 = [] := fun v cat => additive_clean v cat aS0 aS1 aS1_wf aS01
example : ∀ v cat, check v cat aS2 aS1 = [] := fun v cat => additive_clean v cat aS1 aS2 aS2_wf aS12
/-- … which is not because `check` is silent on these schemas: the reverse comparison is dirty -/
example : check .v2 "WIRE" aS0 aS1 ≠ [] := witness_checks.2.2.1.2.2.1

/-- `additive_chain_clean` on the chain of three: the hypotheses `AddChain aS0 [aS1, aS2]` and `WF` of
    all three hold, and the conclusion contains the NON-adjacent comparison `aS2` against `aS0` -/
example : ∀ v cat, check v cat aS1 aS0 = [] ∧ check v cat aS2 aS0 = [] ∧ check v cat aS2 aS1 = [] := by
  intro v cat
  have hc : AddChain aS0 [aS1, aS2] := ⟨aS01, aS12, trivial⟩
  have hw : ∀ s ∈ [aS0, aS1, aS2], WF s := by
    intro s hs
    simp only [List.mem_cons, List.not_mem_nil, or_false] at hs
    rcases hs with rfl | rfl | rfl
    · exact aS0_wf
    · exact aS1_wf
    · exact aS2_wf
  have h := additive_chain_clean v cat aS0 [aS1, aS2] hc hw
  simp only [List.pairwise_cons, List.mem_cons, List.not_mem_nil, or_false, forall_eq_or_imp, forall_eq] at h
  exact ⟨h.1.1, h.1.2, h.2.1⟩

/-- `additive_edits_clean` / the operator catalogue: two operators in sequence on `aS1` — a new file in
    front, then a field added to `Order.Line.Tax` at depth 3 (`FileEdit.message` ∘ `MsgEdit.nested` ∘
    `MsgEdit.nested` ∘ `MsgEdit.info` ∘ `InfoEdit.addField`); the resulting schema is computed by the
    operators -/
example : ∃ s', SchemaEdits aS1 s' ∧ (allMsgs s').map (fun m => (m.nested, m.info.fields.map (·.name))) =
    [(["Payment"], ["amount"]), (["Audit"], []), (["Order"], ["note", "id", "status"]), (["Order", "Line"], ["sku"]),
     (["Order", "Line", "Tax"], ["rate"])] :=
  ⟨_, .step (.step (.refl _) (.addFile [] _ payFile))
      (.file [payFile] [] _ _ (.message _ [.mk (info "Audit") []] [] _ _ rfl
        (.nested _ [] [] _ _ (.nested _ [] [] _ _
          (.info _ _ _ (.addField _ [] [] (fld 1 "rate" .double) rfl (by decide) (by decide))))))),
   by decide⟩

/-- `cosmetic_clean`: dropping every source location of `aS2` (a copy without SourceCodeInfo) -/
example : ∀ v cat, check v cat (aS2.map fun f => { f with locs := [] }) aS2 = [] :=
  fun v cat => cosmetic_clean v cat aS2 (fun _ => []) (WF_of_wfB _ (by decide))

/-- `hierarchy` instantiated: its hypothesis `KindsOK` holds for a schema with fields, enums-typed
    fields included (`KindsOK_of_kindsOkB`, the driver's `kinds=1`).  `aDel` is `aS1` with field 3 of
    Order deleted and its number and name reserved: dirty under FILE and PACKAGE … -/
example : check .v2 "FILE" aDel aS1 = [⟨"FIELD_NO_DELETE", "shop/v1/order.proto", [4, 1]⟩] ∧
    check .v2 "PACKAGE" aDel aS1 = [⟨"FIELD_NO_DELETE", "shop/v1/order.proto", [4, 1]⟩] :=
  ⟨witness_checks.2.2.1.1.1, witness_checks.2.2.1.1.2.1⟩
/-- … clean under WIRE_JSON, and THEREFORE (by `hierarchy`, not by evaluation) clean under WIRE -/
example : check .v2 "WIRE" aDel aS1 = [] :=
  (hierarchy .v2 aDel aS1 (KindsOK_of_kindsOkB _ (by decide))).2.2 witness_checks.2.2.1.1.2.2
/-- the contrapositive direction on the big C03 witness pair (every edit family at once): it is dirty
    under WIRE, therefore dirty under WIRE_JSON, PACKAGE and FILE -/
example : check .v2 "WIRE_JSON" wCur wPrev ≠ [] ∧ check .v2 "PACKAGE" wCur wPrev ≠ [] ∧
    check .v2 "FILE" wCur wPrev ≠ [] := by
  have hk : KindsOK wCur := KindsOK_of_kindsOkB _ (by decide)
  have h := hierarchy .v2 wCur wPrev hk
  have hwire : check .v2 "WIRE" wCur wPrev ≠ [] := witness_checks.2.2.1.2.2.2
  have hj : check .v2 "WIRE_JSON" wCur wPrev ≠ [] := fun e => hwire (h.2.2 e)
  have hp : check .v2 "PACKAGE" wCur wPrev ≠ [] := fun e => hj (h.2.1 e)
  exact ⟨hj, hp, fun e => hp (h.1 e)⟩

end chain

private theorem exS1_wf : WF exS1 := by constructor <;> decide
private theorem exS01 : exS0 ⊑ₐ exS1 := by
  intro pf hpf
  simp only [exS0, List.mem_singleton] at hpf
  subst hpf
  refine ⟨_, List.mem_singleton.2 rfl, ⟨rfl, rfl, rfl, rfl, ?_, ?_, fun _ h => h, fun _ h => by cases h⟩⟩
  · exact MsgsExt_of_forall _ _ fun n hn => by
      simp only [exFile, List.mem_singleton] at hn
      subst hn
      exact ⟨_, List.mem_cons_self, MsgExt.refl _⟩
  · intro e he; exact ⟨e, he, rfl, EnumExt.refl e⟩
example : WF exS1 := exS1_wf
example : exS0 ⊑ₐ exS1 := exS01
/-- the hierarchy is not trivially true: deleting the enum is reported under FILE and PACKAGE
    but the comparison is clean under WIRE_JSON and WIRE -/
example : check .v2 "FILE" exD exS0 = [⟨"ENUM_NO_DELETE", "a.proto", []⟩] ∧
    check .v2 "PACKAGE" exD exS0 = [⟨"PACKAGE_ENUM_NO_DELETE", "a.proto", []⟩] ∧
    check .v2 "WIRE_JSON" exD exS0 = [] ∧ check .v2 "WIRE" exD exS0 = [] := witness_checks.2.2.1.2.1
example : check .v1 "FILE" exS1 exS0 = [] := additive_clean .v1 "FILE" exS0 exS1 exS1_wf exS01

/-! ### images with import files; the exclude-imports option

  `checkX excl` is `bufcheck.Client.Breaking` without / with `BreakingWithExcludeImports`
  (BufModel/Breaking.lean, last section).  `File.isImport` is part of `Schema`, so every theorem
  above (`self_clean`, `additive_clean`, `hierarchy`, all `C03.detects_*`) already holds for images
  in which any files are imports: no rule handler reads the flag. -/

/-- Without `--exclude-imports` the import flags play no role: the result is `check`, which does
    not read them — an edit inside an import file is reported like any other. -/
theorem imports_are_compared (v : Ver) (cat : String) (cur prev : Schema) :
    checkX false v cat cur prev = check v cat cur prev := rfl

/-- `--exclude-imports` only REMOVES annotations. -/
theorem exclude_imports_only_removes (v : Ver) (cat : String) (cur prev : Schema) (a : Ann)
    (h : a ∈ checkX true v cat cur prev) : a ∈ check v cat cur prev :=
  checkX_subset v cat cur prev a h

/-- With `--exclude-imports` no annotation is located in an import file of the current image. -/
theorem exclude_imports_drops_import_files (v : Ver) (cat : String) (cur prev : Schema) (a : Ann)
    (h : a ∈ checkX true v cat cur prev) : a.file = "" ∨ impOf cur a.file = false := by
  rcases mem_exclFilter h with ⟨t, _, rfl, hd⟩
  unfold dropped at hd
  rw [Bool.or_eq_false_iff, Bool.and_eq_false_iff] at hd
  rcases hd.1 with h1 | h1
  · left; simpa using h1
  · right; exact h1

/-- When neither image has an import file the option changes nothing. -/
theorem exclude_imports_without_imports (v : Ver) (cat : String) (cur prev : Schema)
    (hc : NoImports cur) (hp : NoImports prev) : checkX true v cat cur prev = check v cat cur prev := by
  show exclFilter cur prev (checkT v cat cur prev) = _
  rw [exclFilter_noImports hc hp, checkT_ann]

/-- Comparing an image with itself is clean whatever files are imports, without and with
    `--exclude-imports`. -/
theorem self_clean_with_imports (excl : Bool) (v : Ver) (cat : String) (s : Schema) (hw : WF s) :
    checkX excl v cat s s = [] :=
  checkX_nil_of_check_nil excl v cat s s (self_clean v cat s hw)

/-- A version that only adds things is clean whatever files are imports on either side, without
    and with `--exclude-imports`. -/
theorem additive_clean_with_imports (excl : Bool) (v : Ver) (cat : String) (prev cur : Schema) (hw : WF cur)
    (h : prev ⊑ₐ cur) : checkX excl v cat cur prev = [] :=
  checkX_nil_of_check_nil excl v cat cur prev (additive_clean v cat prev cur hw h)

/-- The category order holds for images with import files (default mode: imports are compared). -/
theorem hierarchy_with_imports (v : Ver) (cur prev : Schema) (hk : KindsOK cur) :
    (checkX false v "FILE" cur prev = [] → checkX false v "PACKAGE" cur prev = []) ∧
    (checkX false v "PACKAGE" cur prev = [] → checkX false v "WIRE_JSON" cur prev = []) ∧
    (checkX false v "WIRE_JSON" cur prev = [] → checkX false v "WIRE" cur prev = []) :=
  hierarchy v cur prev hk

/-- WITH `--exclude-imports` the category order can fail when the two images DISAGREE on which
    files are imports (not what `--path` or a dependency module produce, but possible through the
    API): the package of a file that is an import in the CURRENT image only was changed.  FILE: FILE_SAME_PACKAGE sits
    in the current file, an import, and is dropped — clean.  PACKAGE: PACKAGE_NO_DELETE has no file
    location and its against file is not an import — reported.  (The C04 harness counts these pairs
    as `observe:exclude-imports-order-broken-with-asymmetric-import-flags`.) -/
theorem exclude_imports_order_counterexample :
    check .v1 "FILE" xCur xPrev ≠ [] ∧
    checkX true .v1 "FILE" xCur xPrev = [] ∧
    checkX true .v1 "PACKAGE" xCur xPrev = [⟨"PACKAGE_NO_DELETE", "", []⟩] :=
  witness_checks.2.2.2

end BufProofs.C04
