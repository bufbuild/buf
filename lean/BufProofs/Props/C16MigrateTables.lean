import BufProofs.Lemmas.MigrateRulesTables
/-
  C16 migration theorems, part "facts about the REGENERATED rule tables": the parts of `TableFacts`,
  which Lemmas/MigrateRulesTables.lean checks by kernel evaluation, once per rule type.
-/
namespace BufProofs.C16
open BufModel.Path BufModel.Rules BufModel.MigrateRules BufGen.RuleTables

/-- The rules without a v2 counterpart, on the regenerated tables: a non-deprecated rule of
    v1beta1 / v1 that v2 does not have is the v1beta1 lint rule FIELD_NO_DESCRIPTOR. -/
theorem rules_without_v2_counterpart : ∀ (v : Version), v ≠ .v2 → ∀ (lint : Bool),
    ∀ r ∈ oldRules v lint, r.deprecated = false → hasV2Counterpart lint r.id = false →
      v = .v1beta1 ∧ lint = true ∧ r.id = "FIELD_NO_DESCRIPTOR" :=
  fun v hv lint => (tableFacts v hv lint).2.2.1

/-- On the regenerated tables: every id a configuration can name (rule ids — deprecated or not,
    with or without a v2 counterpart —, categories, the empty id) is translated faithfully
    EXCEPT the `driftingCategories`; in particular every v1 breaking key is. -/
theorem unfaithful_keys_are_drifting_categories : ∀ (v : Version), v ≠ .v2 → ∀ (lint : Bool),
    keyFaithful v lint "" = true ∧
    ∀ k ∈ idUniverse (oldRules v lint), keyFaithful v lint k = false ↔ k ∈ driftingCategories v lint :=
  faithful_keys

/-- Rule ids are unique within a version and rule type (regenerated tables). -/
theorem tables_ids_unique : ∀ (v : Version), v ≠ .v2 → ∀ (lint : Bool),
    ∀ a ∈ oldRules v lint, ∀ b ∈ oldRules v lint, a.id = b.id → a = b :=
  fun v hv lint => eq_of_id_eq (tableFacts v hv lint).1.1

end BufProofs.C16
