import BufProofs.Lemmas.RulesKeysLemmas
/-
  C06 — the configuration-KEY family: which ids `use`, `except` and `ignore_only` accept.

  `newRulesConfig` validates every entry against the table of the REQUESTED rule type only
  (`rulesForType`): `acceptedKeys rs` = rule ids of the type (deprecated ones included) ++ the
  categories carried by a rule of the type.  The theorems below state, for ALL lists and
  tables, that the validation steps accept exactly these keys (blank entries are skipped as
  coded), and — over the REGENERATED tables of v1beta1 / v1 / v2 — that the lint keys and the
  breaking keys are disjoint, so that every id of the OTHER rule type (rule id, deprecated rule
  id or category) is rejected wherever it is written; ids are case-sensitive.
-/
namespace BufProofs.C06
open BufModel.Path BufModel.Rules BufGen.RuleTables

/-! ## the validation steps accept exactly `acceptedKeys` -/

/-- An id is unknown (for a table) iff it is non-empty and not an accepted key. -/
theorem unknown_iff_not_accepted_key (rs : List RuleRow) (id : Id) :
    Unknown rs id ↔ id ≠ "" ∧ id ∉ acceptedKeys rs := by
  rw [mem_acceptedKeys_iff]
  unfold Unknown
  simp only [not_or, Bool.not_eq_true, Classical.not_not]

/-- One entry passes the lookup of `transformRuleOrCategoryIDsToRuleIDs` /
    `transformRuleOrCategoryIDToIgnoreRootPathsToRuleIDs` iff it is empty (skipped) or an
    accepted key of the table. -/
theorem key_lookup_succeeds_iff (rs : List RuleRow) (id : Id) :
    (expandOne rs id).isSome = true ↔ id = "" ∨ id ∈ acceptedKeys rs := by
  rw [Option.isSome_iff_ne_none, ne_eq, expandOne_none_iff, unknown_iff_not_accepted_key,
    Classical.not_and_iff_not_or_not, Classical.not_not, Classical.not_not]

/-- `use` / `except` (any list): the expansion step succeeds iff EVERY entry is empty or an
    accepted key — one foreign entry anywhere in the list fails the whole configuration. -/
theorem use_except_validation_accepts_iff (rs : List RuleRow) (ids : List Id) :
    (∃ l, transformIds rs ids = .ok l) ↔ ∀ id ∈ ids, id = "" ∨ id ∈ acceptedKeys rs := by
  simp only [transformIds_eq, exists_ite_ok, ← key_lookup_succeeds_iff, Option.isSome_iff_ne_none]

/-- `ignore_only` (any map): the expansion step succeeds iff EVERY key is empty or an accepted
    key of the table of the requested type. -/
theorem ignore_only_validation_accepts_iff (rs : List RuleRow) (io : List (Id × List Str)) :
    (∃ m, expandIgnoreOnly rs io = .ok m) ↔ ∀ e ∈ io, e.1 = "" ∨ e.1 ∈ acceptedKeys rs := by
  simp only [expandIgnoreOnly_eq, exists_ite_ok, ← key_lookup_succeeds_iff, Option.isSome_iff_ne_none]

/-! ## the two rule types share no key (regenerated tables) -/

/-- In every config version the ids the lint sections accept (lint rule ids, deprecated ones
    included, and the categories carried by lint rules) and the ids the breaking sections accept
    are DISJOINT, none of them is empty, and both types have rules. -/
theorem lint_breaking_keys_disjoint (v : Version) :
    (∀ id ∈ acceptedKeys (rulesForType (rulesOf v) true), id ∉ acceptedKeys (rulesForType (rulesOf v) false)) ∧
    "" ∉ acceptedKeys (rulesForType (rulesOf v) true) ∧ "" ∉ acceptedKeys (rulesForType (rulesOf v) false) ∧
    rulesForType (rulesOf v) true ≠ [] ∧ rulesForType (rulesOf v) false ≠ [] := by
  revert v
  apply forall_version
  decide +kernel

/-- A rule id / deprecated rule id / category of the OTHER rule type is an unknown id. -/
theorem other_type_key_unknown (v : Version) (lint : Bool) (id : Id)
    (h : id ∈ acceptedKeys (rulesForType (rulesOf v) (!lint))) :
    Unknown (rulesForType (rulesOf v) lint) id := by
  rw [unknown_iff_not_accepted_key]
  have hd := lint_breaking_keys_disjoint v
  cases lint with
  | true =>
    refine ⟨fun h0 => hd.2.2.1 (h0 ▸ h), fun hl => hd.1 id hl h⟩
  | false =>
    refine ⟨fun h0 => hd.2.1 (h0 ▸ h), fun hb => hd.1 id h hb⟩

theorem tables_have_both_types (v : Version) (lint : Bool) : rulesForType (rulesOf v) lint ≠ [] :=
  tables_nonempty v lint

/-- Seed C06-m8 as a statement: a key of `ignore_only` that belongs to the OTHER rule type (a
    breaking rule id or category under `lint.ignore_only`, a lint one under
    `breaking.ignore_only`) makes `newRulesConfig` fail — whatever else the configuration
    says. -/
theorem ignore_only_key_of_other_type_rejected (v : Version) (lint : Bool) (c : CheckConfig) (k : Id)
    (hk : k ∈ acceptedKeys (rulesForType (rulesOf v) (!lint))) (hin : k ∈ c.ignoreOnly.map (·.1)) :
    ∃ e, newRulesConfig (rulesOf v) lint c = .error e :=
  unknown_key_rejected (rulesOf v) lint c (tables_have_both_types v lint) k (other_type_key_unknown v lint k hk)
    (Or.inr (Or.inr hin))

/-- The same for an `except` entry (`hb`: the entry is not made of blanks only — blank entries of
    `use` / `except` are dropped before anything else, as coded). -/
theorem except_key_of_other_type_rejected (v : Version) (lint : Bool) (c : CheckConfig) (k : Id)
    (hk : k ∈ acceptedKeys (rulesForType (rulesOf v) (!lint))) (hin : k ∈ c.except) (hb : blankId k = false) :
    ∃ e, newRulesConfig (rulesOf v) lint c = .error e :=
  unknown_key_rejected (rulesOf v) lint c (tables_have_both_types v lint) k (other_type_key_unknown v lint k hk)
    (Or.inr (Or.inl ⟨hin, hb⟩))

/-- The same for a `use` entry (`use` then has a non-blank entry, so it is not replaced by the
    defaults). -/
theorem use_key_of_other_type_rejected (v : Version) (lint : Bool) (c : CheckConfig) (k : Id)
    (hk : k ∈ acceptedKeys (rulesForType (rulesOf v) (!lint))) (hin : k ∈ c.use) (hb : blankId k = false) :
    ∃ e, newRulesConfig (rulesOf v) lint c = .error e :=
  unknown_key_rejected (rulesOf v) lint c (tables_have_both_types v lint) k (other_type_key_unknown v lint k hk)
    (Or.inl ⟨hin, hb⟩)

/-- … and at the level the driver runs (`ykeys` lines): `Client.ConfiguredRules` on a
    configuration read from a buf.yaml fails when a key of `ignore_only` that survived the
    reader belongs to the other rule type (builtin rules enabled). -/
theorem configuredEff_rejects_other_type_ignore_only_key (v : Version) (lint : Bool) (eff : EffConfig) (k : Id)
    (hdb : eff.check.disableBuiltin = false)
    (hk : k ∈ acceptedKeys (rulesForType (rulesOf v) (!lint))) (hin : k ∈ eff.check.ignoreOnly.map (·.1)) :
    ∃ e, configuredEff (rulesOf v) lint eff = .error e := by
  rcases ignore_only_key_of_other_type_rejected v lint eff.check k hk hin with ⟨e, he⟩
  exact ⟨e, by unfold configuredEff; simp only [hdb, Bool.false_eq_true, if_false, he]⟩

/-! ## ids are compared byte for byte -/

/-- Nothing but the literal keys is accepted: an id that is not, byte for byte, a rule id of the
    type or a category carried by such a rule is unknown — in particular every spelling that
    differs by case only (`enum_pascal_case`, `Enum_Pascal_Case`, `basic`; see the examples
    below), padded ids and prefixes. -/
theorem ids_are_compared_exactly (rs : List RuleRow) (id : Id) (h0 : id ≠ "")
    (h : ∀ k ∈ acceptedKeys rs, k ≠ id) : Unknown rs id :=
  (unknown_iff_not_accepted_key rs id).2 ⟨h0, fun hm => h id hm rfl⟩

/-! ## the reader drops `ignore_only` keys that have no path (as coded) -/

/-- `ignore_only: {K: []}` (or, for a workspace-level v2 section, a key all of whose paths lie
    outside the module): the reader drops the key before anything looks at it — such a key is
    never validated. -/
theorem yaml_ignore_only_key_without_paths_dropped (dir : Str) (req : Bool) (k : Id) (rest : List (Id × List Str))
    (r : List (Id × List Str)) (h : relIgnoreOnlyFor dir req rest = .ok r) :
    relIgnoreOnlyFor dir req ((k, []) :: rest) = .ok r := by
  simp [relIgnoreOnlyFor, relPathsFor, h]

/-- …so an unknown id without paths is accepted (documented here as coded; the harness counts
    these cases, the oracle does not demand a rejection). -/
theorem unknown_key_without_paths_accepted_counterexample :
    ∃ eff top, readYaml true true dot { ignoreOnly := [("NOPE", [])] } {} = .ok (eff, top) ∧
      eff.check.ignoreOnly = [] ∧ Unknown (rulesForType (rulesOf .v2) true) "NOPE" := by
  refine ⟨_, _, rfl, ?_, by decide +kernel⟩
  decide

/-! ## non-vacuity -/

example : "FIELD_NO_DELETE" ∈ acceptedKeys (rulesForType (rulesOf .v1beta1) false) ∧ "FILE" ∈ acceptedKeys (rulesForType (rulesOf .v2) false) ∧
    "ENUM_PASCAL_CASE" ∈ acceptedKeys (rulesForType (rulesOf .v1) true) ∧ "BASIC" ∈ acceptedKeys (rulesForType (rulesOf .v2) true) ∧
    "FIELD_SAME_LABEL" ∈ acceptedKeys (rulesForType (rulesOf .v1) false) := by decide +kernel

example : ∃ e, newRulesConfig (rulesOf .v1beta1) true
    { use := [], except := [], ignore := [], ignoreOnly := [("FIELD_NO_DELETE", ["a".toList])], disableBuiltin := false } = .error e :=
  ignore_only_key_of_other_type_rejected .v1beta1 true _ "FIELD_NO_DELETE" (by decide) (by decide)

example : Unknown (rulesForType (rulesOf .v2) true) "enum_pascal_case" ∧ Unknown (rulesForType (rulesOf .v1) false) "Wire_Json" ∧
    Unknown (rulesForType (rulesOf .v2) true) "ENUM_PASCAL_CASE " := by decide +kernel

end BufProofs.C06
