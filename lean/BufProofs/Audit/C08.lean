import BufProofs.Props.C08
#print axioms BufProofs.C08.WF.valid
#print axioms BufProofs.C08.WF.no_newline
#print axioms BufProofs.C08.consts_match_model
#print axioms BufProofs.C08.manifest_roundtrip
#print axioms BufProofs.C08.manifestString_injective
#print axioms BufProofs.C08.digest_is_function_of_module_files
#print axioms BufProofs.C08.digest_walk_order
#print axioms BufProofs.C08.digest_ignores_non_module_files
#print axioms BufProofs.C08.digest_perm_deps
#print axioms BufProofs.C08.NoCollision.mono
#print axioms BufProofs.C08.digest_ok_newline_free
#print axioms BufProofs.C08.digest_rejects_line_feed
#print axioms BufProofs.C08.newFileNode_rejects_line_feed
#print axioms BufProofs.C08.fix_only_affects_line_feed_paths
#print axioms BufProofs.C08.digest_sensitive
#print axioms BufProofs.C08.digest_sensitive_module_files
#print axioms BufProofs.C08.digest_changes
#print axioms BufProofs.C08.digest_sensitive_of_eq
#print axioms BufProofs.C08.digest_changes_module_files
#print axioms BufProofs.C08.moduleDigest_fuel
#print axioms BufProofs.C08.moduleDigest_fuel_any_numbering
#print axioms BufProofs.C08.moduleDigest_fuel_length
#print axioms BufProofs.C08.moduleDigest_congr
#print axioms BufProofs.C08.moduleSet_changed_module
#print axioms BufProofs.C08.moduleSet_sensitive
#print axioms BufProofs.C08.b4_is_function_of_module_files
#print axioms BufProofs.C08.b4_sensitive
#print axioms BufProofs.C08.roundtrip_old_counterexample
#print axioms BufProofs.C08.roundtrip_newline_counterexample
#print axioms BufProofs.C08.newline_collision_counterexample
#print axioms BufProofs.C08.digest_history_independent
#print axioms BufProofs.C08.healthy_step_after_any_history
#print axioms BufProofs.C08.content_digest_after_any_history
#print axioms BufProofs.C08.moduleB5_after_any_history
#print axioms BufProofs.C08.same_answer_in_any_two_processes
#print axioms BufProofs.C08.pooled_reset_first_history_independent
#print axioms BufProofs.C08.pooled_history_dependent_counterexample
#print axioms BufProofs.C08.utf8_append
#print axioms BufProofs.C08.newFileNode_path_literal
#print axioms BufProofs.C08.parseFileNode_path_literal
#print axioms BufProofs.C08.fileNodeString_path_injective
#print axioms BufProofs.C08.manifestString_path_literal
#print axioms BufProofs.C08.manifest_order_literal
#print axioms BufProofs.C08.distinct_spellings_distinct_manifests
#print axioms BufProofs.C08.spelling_changes_digest
