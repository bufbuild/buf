import BufProofs.Props.C04
#print axioms BufProofs.C04.self_clean
#print axioms BufProofs.C04.additive_clean
#print axioms BufProofs.C04.additive_edits_clean
#print axioms BufProofs.C04.additive_refl
#print axioms BufProofs.C04.additive_trans
#print axioms BufProofs.C04.cosmetic_relocate
#print axioms BufProofs.C04.cosmetic_clean
#print axioms BufProofs.C04.chain_all
#print axioms BufProofs.C04.additive_chain_pairwise
#print axioms BufProofs.C04.additive_chain_clean
#print axioms BufProofs.C04.kind_groups_refine
#print axioms BufProofs.C04.card_groups_refine
#print axioms BufProofs.C04.kind_refine
#print axioms BufProofs.C04.card_refine
#print axioms BufProofs.C04.type_rules_are_per_field
#print axioms BufProofs.C04.enumWireCompatible_about_field
#print axioms BufProofs.C04.type_annotations_are_about_the_field
#print axioms BufProofs.C04.type_rules_ordered_per_field
#print axioms BufProofs.C04.same_type_skipping_groups_counterexample
#print axioms BufProofs.C04.implies_sound
#print axioms BufProofs.C04.tables_ordered
#print axioms BufProofs.C04.step
#print axioms BufProofs.C04.hierarchy
#print axioms BufProofs.C04.additive_first_enum_value_counterexample
#print axioms BufProofs.C04.imports_are_compared
#print axioms BufProofs.C04.exclude_imports_only_removes
#print axioms BufProofs.C04.exclude_imports_drops_import_files
#print axioms BufProofs.C04.exclude_imports_without_imports
#print axioms BufProofs.C04.self_clean_with_imports
#print axioms BufProofs.C04.additive_clean_with_imports
#print axioms BufProofs.C04.hierarchy_with_imports
#print axioms BufProofs.C04.exclude_imports_order_counterexample
