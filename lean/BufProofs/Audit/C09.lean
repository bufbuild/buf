import BufProofs.Props.C09
import BufProofs.Props.C09Digest
#print axioms BufProofs.C09.served_content_matches_key
#print axioms BufProofs.C09.served_content_matches_key_tar
#print axioms BufProofs.C09.corrupt_tar_is_miss_and_removed
#print axioms BufProofs.C09.initFrom_inv
#print axioms BufProofs.C09.init_inv
#print axioms BufProofs.C09.marker_implies_complete
#print axioms BufProofs.C09.writers_exclusive
#print axioms BufProofs.C09.inflight_is_prefix
#print axioms BufProofs.C09.complete_is_stable
#print axioms BufProofs.C09.failed_store_not_complete
#print axioms BufProofs.C09.store_success_then_hit
#print axioms BufProofs.C09.store_returned_nil_then_hit
#print axioms BufProofs.C09.unparsable_marker_blocks_store
#print axioms BufProofs.C09.writers_never_garble_marker
#print axioms BufProofs.C09.finished_writer_is_inert
#print axioms BufProofs.C09.returned_store_writes_nothing
#print axioms BufProofs.C09.entry_changes_only_under_lock
#print axioms BufProofs.C09.later_store_repairs
#print axioms BufProofs.C09.marker_only_after_reported_success
#print axioms BufProofs.C09.fault_fires_then_store_errors
#print axioms BufProofs.C09.store_error_leaves_marker_untouched
#print axioms BufProofs.C09.tar_instant_old_or_new
#print axioms BufProofs.C09.tar_failed_put_leaves_old
#print axioms BufProofs.C09.tar_store_then_hit
#print axioms BufProofs.C09.tar_crash_old_or_hit
#print axioms BufProofs.C09.tar_corrupt_is_miss_and_removed
#print axioms BufProofs.C09.provider_never_returns_missing
#print axioms BufProofs.C09.exExp_wf
#print axioms BufProofs.C09.cache_poison_counterexample
#print axioms BufProofs.C09.late_truncate_counterexample
#print axioms BufProofs.C09.steal_is_acquire_when_free
#print axioms BufProofs.C09.timed_out_waiter_does_nothing
#print axioms BufProofs.C09.no_steal_preserves
#print axioms BufProofs.C09.plain_history_respects_lock
#print axioms BufProofs.C09.mutual_exclusion_needed
#print axioms BufProofs.C09.overlapping_writers_counterexample
#print axioms BufProofs.C09.digest_gate_sound
#print axioms BufProofs.C09.digest_gate_sound_tar
#print axioms BufProofs.C09.loadD_mismatch_is_digest_mismatch
#print axioms BufProofs.C09.complete_entry_hits
#print axioms BufProofs.C09.complete_payload_entry_hits
#print axioms BufProofs.C09.load_abstracts_loadD
#print axioms BufProofs.C09.exDepsOf_rejects_invalid
#print axioms BufProofs.C09.exPinned_is_digest
#print axioms BufProofs.C09.load_abstracts_loadD_nonvacuous
#print axioms BufProofs.C09.complete_entry_hits_nonvacuous
#print axioms BufProofs.C09.load_abstraction_readme_counterexample
#print axioms BufProofs.C09.store_success_then_real_hit
